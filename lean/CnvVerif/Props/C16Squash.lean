/-
  C16: `squash_genes` fills a squashed row BY POSITION (proposed_fixes/C16-squash-column-order.md): what is
  promised for ANY order of the optional columns, and what is not.  `Squash16.headSpec / xfields / sumField` are tied
  to the source text of `squash_rows` (Generated/ExprsSquashGenes.lean, harness/extractors/exprs_squashgenes.py).

  Promised (`squash_labels_required_columns`): on a table whose first five columns are chromosome, start, end, gene,
  log2 -- as every reader and `from_rows` produce -- a squashed row carries, under THOSE names, the group's chromosome,
  its first start, its last end, the gene's name and the summary of log2, whatever further columns follow in whatever
  order.  Promised too (`squash_labels_append_order`): when the further columns stand in the order the code appends
  them, every column gets its own summary.  NOT promised (`squash_swapped_*`): in any other order the summaries land
  under each other's names, and a further column the code does not know leaves the squashed row too short.
-/
import CnvVerif.Model.SquashExt5
import CnvVerif.Generated.ExprsSquashGenes
namespace CnvVerif.C16
open CnvVerif CnvVerif.Squash16 CnvVerif.Generated

/-- the head of `outrow` is the list literal of the source, value by value (start = FIRST start, end = LAST end, …) -/
theorem squash_head_is_the_source : headSpec = src_squash_head := rfl

/-- the optional fields and their order are the tuple the source loops over; the summed field is the source's -/
theorem squash_fields_are_the_source : xfields = src_squash_xfields ∧ sumField = src_squash_total := ⟨rfl, rfl⟩

/-- **coordinates, gene and log2 for ANY further columns in ANY order**: when the call does not raise, the first five
    labelled values are the group's chromosome, first start, last end, the gene name, the summary of log2 -/
theorem squash_labels_required_columns (rest : List String) (l : List (String × Desc))
    (h : labelled (required ++ rest) = some l) :
    l.take 5 = [("chromosome", ("chromosome", "unique")), ("start", ("start", "first")), ("end", ("end", "last")),
                ("gene", ("gene", "name")), ("log2", ("log2", "summary"))] := by
  unfold labelled at h
  split at h
  · cases h
    -- the first five columns are `required`, the first five values `headSpec`
    rw [List.zip, List.take_zipWith, List.take_left' (l₁ := required) (i := 5) rfl, outrow, List.append_assoc,
      List.take_left' (l₁ := headSpec) (i := 5) rfl]
    rfl
  · cases h

theorem required_lacks (x : String) (hx : x ∈ xfields ∨ x = sumField.1) : required.contains x = false := by
  have h : ∀ y ∈ sumField.1 :: xfields, required.contains y = false := by decide +kernel
  rcases hx with hx | rfl
  · exact h x (List.mem_cons_of_mem _ hx)
  · exact h _ List.mem_cons_self

theorem outrow_required (rest : List String) :
    outrow (required ++ rest) = headSpec ++ (appendOrder rest).map
      (fun x => if x = sumField.1 then sumField else (x, "summary")) := by
  -- the required columns are none of the optional ones, so only `rest` decides which are appended
  have hc : ∀ y, (y ∈ xfields ∨ y = sumField.1) → (required ++ rest).contains y = rest.contains y :=
    fun y hy => by rw [List.contains_append, required_lacks y hy, Bool.false_or]
  have hne : ∀ y ∈ xfields, y ≠ sumField.1 := by decide +kernel
  have hmap : (xfields.filter (fun x => rest.contains x)).map
        (fun x => if x = sumField.1 then sumField else (x, "summary")) =
      (xfields.filter (fun x => rest.contains x)).map (fun x => (x, "summary")) :=
    List.map_congr_left (fun x hx => if_neg (hne x (List.mem_filter.mp hx).1))
  rw [outrow, appendOrder, List.filter_congr (fun x hx => hc x (Or.inl hx)), hc _ (Or.inr rfl),
    List.map_append, hmap, List.append_assoc]
  split <;> rfl

/-- **every column gets its own value when the further columns stand in the order the code appends them** (depth, gc,
    rmask, spread, weight, then probes; missing ones left out) -/
theorem squash_labels_append_order (rest : List String) (h : rest = appendOrder rest) :
    ∃ l, labelled (required ++ rest) = some l ∧ ∀ p ∈ l, p.2.1 = p.1 := by
  have hlen : (outrow (required ++ rest)).length = (required ++ rest).length := by
    rw [outrow_required]; simp only [List.length_append, List.length_map]
    conv => rhs; rw [h]
    rfl
  refine ⟨_, by unfold labelled; rw [if_pos hlen], ?_⟩
  intro p hp
  rw [outrow_required] at hp
  have hz : (required ++ rest).zip (headSpec ++ (appendOrder rest).map
      (fun x => if x = sumField.1 then sumField else (x, "summary"))) =
      required.zip headSpec ++ rest.zip ((appendOrder rest).map
        (fun x => if x = sumField.1 then sumField else (x, "summary"))) := by
    rw [List.zip_append]; rfl
  rw [hz] at hp
  rcases List.mem_append.mp hp with hp | hp
  · simp only [required, headSpec, List.zip_cons_cons, List.zip_nil_right, List.mem_cons, List.mem_nil_iff,
      or_false] at hp
    rcases hp with rfl | rfl | rfl | rfl | rfl <;> rfl
  · rw [← h, List.zip_map_right] at hp
    obtain ⟨q, hq, rfl⟩ := List.mem_map.mp hp
    -- a column zipped with itself: pairs `(x, x)`
    rw [show rest.zip rest = rest.map (fun x => (x, id x)) from
      (congrArg rest.zip (List.map_id rest).symm).trans List.map_prod_left_eq_zip.symm] at hq
    obtain ⟨x, _, rfl⟩ := List.mem_map.mp hq
    show (if x = "probes" then (("probes", "total") : Desc) else (x, "summary")).1 = x
    by_cases hs : x = "probes"
    · rw [if_pos hs, hs]
    · rw [if_neg hs]

/-- NOT promised, 1: `weight` before `depth` -- each gets the other's summary -/
theorem squash_swapped_weight_depth :
    (labelled (required ++ ["weight", "depth"])).map (·.drop 5) =
      some [("weight", ("depth", "summary")), ("depth", ("weight", "summary"))] := by decide +kernel

/-- NOT promised, 2: the order `segment` writes and a file reader produces (depth, probes, weight) -- `probes` gets the
    summary of weight, `weight` the summed probes (coordinates, gene, log2 and depth stay right) -/
theorem squash_swapped_reader_order_with_probes :
    (labelled (required ++ ["depth", "probes", "weight"])).map (·.drop 5) =
      some [("depth", ("depth", "summary")), ("probes", ("weight", "summary")), ("weight", ("probes", "total"))] := by
  decide +kernel

/-- NOT promised, 3: a further column the code does not know -- the squashed row is SHORTER than the table (measured on
    /repo: the trailing columns of that row are NaN when the table also has a single-bin row, `ValueError` otherwise) -/
theorem squash_unknown_column_short_row : labelled (required ++ ["depth", "baf"]) = none := by decide +kernel

/-- non-vacuity of the hypotheses: the reader's order without `probes` is the append order; a call that succeeds -/
example : ["depth", "gc", "weight"] = appendOrder ["depth", "gc", "weight"] := by decide +kernel
example : (labelled (required ++ ["weight", "gc", "depth"])).isSome = true := by decide +kernel

end CnvVerif.C16
