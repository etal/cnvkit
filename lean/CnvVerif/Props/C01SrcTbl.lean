/-
  C01: tie of the DECISION TABLES to the source text.  `Generated/ExprsTbl.lean` is re-translated from
  cnvlib/call.py and cnvlib/cnary.py on every run (typed reader of harness/exprtrans.py): the (reference, expect) table as
  the sequence of masked column assignments the code performs, the four mask functions (`chr_x_filter`, `chr_y_filter`,
  `parx_filter`, `pary_filter`), and `_reference_copies_pure`.  These
  theorems state that the model's `refExpect ∘ classOf` and `refCopiesPure` are those definitions — for every ploidy
  (not a finite table), every chromosome name and coordinate, every flag.
-/
import CnvVerif.Props.C01
import CnvVerif.Lemmas.SrcTbl
namespace CnvVerif.C01
open CnvVerif

-- the script after `rfl` serves an equivalent respelling of the source and is dead while `rfl` closes the goal
set_option linter.unusedTactic false in
set_option linter.unreachableTactic false in
/-- `_reference_copies_pure` (pure / threshold paths): the model's table is the source's `if/else` -/
theorem reference_copies_pure_is_the_source (chrom : String) (ploidy : Nat) (hapX : Bool) :
    refCopiesPure chrom ploidy hapX = Generated.src_reference_copies_pure chrom ploidy hapX := by
  unfold refCopiesPure Generated.src_reference_copies_pure
  first
  | rfl
  | (simp only []; cases hapX <;> split_ifs <;> simp_all)

/-- `get_as_dframe_and_set_reference_and_expect_copies` (purity path): the (reference, expect) copies the model assigns
    to a row — class by `classOf`, copies by `refExpect` — are what the source's masked assignments, fed with the source's
    own `chr_x_filter` / `chr_y_filter` / `parx_filter` / `pary_filter`, leave in that row.  `x1 x2 y1 y2` are the PAR ranges
    of the genome in `Generated.PAR_TABLE` (no genome given: no hypothesis). -/
theorem reference_expect_table_is_the_source (first : String) (par : Option String) (chrom : String) (s e : Int)
    (ploidy : Nat) (hapX female : Bool) (x1 x2 y1 y2 : Int × Int)
    (hx1 : ∀ g, par = some g → Src.ParCoords g "PAR1X" x1.1 x1.2) (hx2 : ∀ g, par = some g → Src.ParCoords g "PAR2X" x2.1 x2.2)
    (hy1 : ∀ g, par = some g → Src.ParCoords g "PAR1Y" y1.1 y1.2) (hy2 : ∀ g, par = some g → Src.ParCoords g "PAR2Y" y2.1 y2.2) :
    refExpect ploidy hapX female (classOf first par chrom s e) =
      Generated.src_reference_expect ploidy hapX female par.isSome
        (Src.srcMasks first par chrom s e x1 x2 y1 y2).1 (Src.srcMasks first par chrom s e x1 x2 y1 y2).2.1
        (Src.srcMasks first par chrom s e x1 x2 y1 y2).2.2 := by
  -- a row is on X or on Y, never both: with the two label tests and the two PAR tests as Booleans, both sides are tables
  have hxy := onX_and_onY_false first chrom
  unfold Src.srcMasks Generated.src_reference_expect Generated.src_chr_x_filter Generated.src_chr_y_filter classOf
  cases par with
  | none =>
    generalize (chrom == xLabel first) = X at hxy ⊢
    generalize (chrom == yLabel first) = Y at hxy ⊢
    cases X <;> cases Y <;> first | rfl | cases hxy
  | some g =>
    have ex := Src.inPar_is_source Generated.src_parx_filter Src.parx_mask_shape g "PAR1X" "PAR2X" chrom (xLabel first) s e _ _ _ _
      (hx1 g rfl) (hx2 g rfl)
    have ey := Src.inPar_is_source Generated.src_pary_filter Src.pary_mask_shape g "PAR1Y" "PAR2Y" chrom (yLabel first) s e _ _ _ _
      (hy1 g rfl) (hy2 g rfl)
    simp only [Option.getD_some, ← ex, ← ey]
    generalize (chrom == xLabel first) = X at hxy ⊢
    generalize (chrom == yLabel first) = Y at hxy ⊢
    generalize inPar g "PAR1X" "PAR2X" s e = px
    generalize inPar g "PAR1Y" "PAR2Y" s e = py
    cases X <;> cases Y <;> cases px <;> cases py <;> first | rfl | cases hxy

/-- what the table function passes to the masks it reads as parameters: every mask gets the genome option -/
theorem reference_expect_mask_arguments :
    Generated.src_reference_expect_calls =
      ["chr_x_filter(diploid_parx_genome)", "chr_y_filter(diploid_parx_genome)", "pary_filter(diploid_parx_genome)"] ∧
    Generated.src_chr_x_filter_calls = ["parx_filter(genome_build=diploid_parx_genome)"] ∧
    Generated.src_chr_y_filter_calls = ["pary_filter(genome_build=diploid_parx_genome)"] := ⟨rfl, rfl, rfl⟩

/-- the PAR coordinates are looked up in `params.PSEUDO_AUTSOMAL_REGIONS` (the table `Generated.PAR_TABLE` is read from)
    under the lower-cased genome name and the keys the model uses -/
theorem par_lookup_keys :
    Generated.src_parx_filter_lookups =
      ["PSEUDO_AUTSOMAL_REGIONS[genome_build.toLower][PAR1X]", "PSEUDO_AUTSOMAL_REGIONS[genome_build.toLower][PAR2X]"] ∧
    Generated.src_pary_filter_lookups =
      ["PSEUDO_AUTSOMAL_REGIONS[genome_build.toLower][PAR1Y]", "PSEUDO_AUTSOMAL_REGIONS[genome_build.toLower][PAR2Y]"] :=
  ⟨rfl, rfl⟩

/-! non-vacuity: the PAR hypotheses hold for both supported genomes, in either spelling -/
example : Src.ParCoords "GRCh38" "PAR1X" 10000 2781479 ∧ Src.ParCoords "grch38" "PAR2X" 155701382 156030895 ∧
    Src.ParCoords "grch37" "PAR1Y" 10000 2649520 ∧ Src.ParCoords "GRCh37" "PAR2Y" 59034049 59363566 := by
  unfold Src.ParCoords; decide +kernel
example : Generated.src_reference_expect 4 true false true false true false = (2, 2) := by decide +kernel

end CnvVerif.C01
