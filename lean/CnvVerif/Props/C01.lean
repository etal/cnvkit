/-
  C01 — clonal calls invert the purity/ploidy mixing model; cn is never negative.
  Lemmas in Lemmas/Call.lean and Lemmas/CallRescale.lean (ℚ model); ℝ layer at the end.
  Fix and finding letters: DESIGN.md 9.3.
-/
import CnvVerif.Model.Call
import CnvVerif.Lemmas.CallRescale
import CnvVerif.Lemmas.CallReal
namespace CnvVerif.C01
open CnvVerif

/-! The model works in *ratio space*: a row carries `t`, the value of `2^log2`.  Every double is a
    rational, so quantifying over `t : ℚ`, `p : ℚ` covers every float input; the ℝ statements at the
    end justify reading `t` as `2^v` for a real log2 value `v`. -/

/-- the (reference, germline) copy numbers of each chromosome class are those the property names:
    ploidy on autosomes and diploid-PAR X; X: half the ploidy in a male reference / male sample;
    Y: half the ploidy in every reference, none in a female sample; PAR on Y: not covered at all -/
theorem ref_expect_table (ploidy : Nat) (hapX female : Bool) :
    refExpect ploidy hapX female .auto = (ploidy, ploidy) ∧
    refExpect ploidy hapX female .parx = (ploidy, ploidy) ∧
    refExpect ploidy hapX female .x =
      (if hapX then ploidy / 2 else ploidy, if female then ploidy else ploidy / 2) ∧
    refExpect ploidy hapX female .y = (ploidy / 2, if female then 0 else ploidy / 2) ∧
    refExpect ploidy hapX female .pary = (0, 0) := ⟨rfl, rfl, rfl, rfl, rfl⟩

/-- the purity-adjusted formula inverts the mixing model exactly, for every purity in (0,1),
    every n, and every class the reference carries (r > 0) -/
theorem absolute_inverts (r x n : Nat) (p : Rat) (hp0 : 0 < p) (hp1 : p < 1) (hr : 0 < r) :
    absoluteOf r x (some p) ((p * (n : Rat) + (1 - p) * (x : Rat)) / (r : Rat)) = (n : Rat) :=
  absoluteOf_inverts r x n p hp0 hp1 hr

/-- `call` with the clonal method and purity p reports cn = n -/
theorem clonal_reports_n (cfg : CallCfg) (p : Rat) (hcfg : cfg.purity = some p)
    (hp0 : 0 < p) (hp1 : p < 1) (thr : List Rat) (first : String) (hasBaf : Bool) (row : SegRow) (n : Nat)
    (hr : 0 < (refExpect cfg.ploidy cfg.hapX cfg.female (classOf first cfg.par row.chrom row.s row.e)).1)
    (ht : row.t = (p * (n : Rat) +
            (1 - p) * ((refExpect cfg.ploidy cfg.hapX cfg.female (classOf first cfg.par row.chrom row.s row.e)).2 : Rat)) /
          ((refExpect cfg.ploidy cfg.hapX cfg.female (classOf first cfg.par row.chrom row.s row.e)).1 : Rat)) :
    (callRow cfg .clonal thr first hasBaf row).cn = some (n : Int) := by
  have hpa := purityActive_some hcfg hp0 hp1
  unfold callRow
  simp only [hpa]
  rw [hcfg, ht, absoluteOf_inverts _ _ n p hp0 hp1 hr]
  have : ((n : Nat) : Rat) = ((n : Int) : Rat) := by norm_cast
  rw [this, roundHE_eq, roundHalfEven_intCast]

/-- … and, for even ploidy, rewrites log2 to the ratio a pure sample with n copies would show
    against that reference, floored at `min_abs_val` (0.001) of the ploidy -/
theorem rescaled_ratio_even_ploidy (cfg : CallCfg) (p : Rat) (hcfg : cfg.purity = some p)
    (hp0 : 0 < p) (hp1 : p < 1) (heven : cfg.ploidy % 2 = 0) (hpl : 0 < cfg.ploidy)
    (m : Method) (thr : List Rat) (first : String) (hasBaf : Bool) (row : SegRow) (n : Nat)
    (hcls : classOf first cfg.par row.chrom row.s row.e ≠ .pary)
    (ht : row.t = (p * (n : Rat) +
            (1 - p) * ((refExpect cfg.ploidy cfg.hapX cfg.female (classOf first cfg.par row.chrom row.s row.e)).2 : Rat)) /
          ((refExpect cfg.ploidy cfg.hapX cfg.female (classOf first cfg.par row.chrom row.s row.e)).1 : Rat)) :
    (callRow cfg m thr first hasBaf row).ratio =
      some (max ((n : Rat) / ((refExpect cfg.ploidy cfg.hapX cfg.female (classOf first cfg.par row.chrom row.s row.e)).1 : Rat))
                (Generated.MIN_ABS_VAL * (cfg.ploidy : Rat) /
                  ((refExpect cfg.ploidy cfg.hapX cfg.female (classOf first cfg.par row.chrom row.s row.e)).1 : Rat))) :=
  by
  have hr : 0 < (refExpect cfg.ploidy cfg.hapX cfg.female (classOf first cfg.par row.chrom row.s row.e)).1 := by
    rw [refExpect_fst _ _ _ _ hcls]; split <;> omega
  rw [callRow_rescaled_ratio_any cfg p hcfg hp0 hp1 hpl m thr first hasBaf row n hr ht,
    assumedRefCopies_vs_table _ _ cfg.female _ hcls, if_neg (fun h => absurd h.1 (by omega)), add_zero]

/-- the floor constant the property names -/
theorem min_abs_val_is_one_thousandth : Generated.MIN_ABS_VAL_dec = 1 / 1000 := by decide +kernel

/-- without a purity, cn is the nearest integer to r·2^log2 -/
theorem pure_nearest_integer (cfg : CallCfg) (h : purityActive cfg.purity = none) (thr : List Rat)
    (first : String) (hasBaf : Bool) (row : SegRow) :
    ∃ c : Int, (callRow cfg .clonal thr first hasBaf row).cn = some c ∧
      (c : Rat) - (refCopiesPure row.chrom cfg.ploidy cfg.hapX : Rat) * row.t ≤ 1/2 ∧
      (refCopiesPure row.chrom cfg.ploidy cfg.hapX : Rat) * row.t - (c : Rat) ≤ 1/2 := by
  refine ⟨roundHE ((refCopiesPure row.chrom cfg.ploidy cfg.hapX : Rat) * row.t), ?_, roundHalfEven_nearest _⟩
  unfold callRow
  simp only [h]

/-- whatever log2 (ratio t ≥ 0), purity, ploidy, method and sex configuration are given, every
    reported copy number is an integer ≥ 0 (repaired code: fix A) -/
theorem cn_nonneg (cfg : CallCfg) (m : Method) (thr : List Rat) (first : String)
    (hasBaf : Bool) (row : SegRow) (ht : 0 ≤ row.t) :
    ∀ c, (callRow cfg m thr first hasBaf row).cn = some c → 0 ≤ c :=
  callRow_cn_nonneg cfg m thr first hasBaf row ht

/-- before fix A the docstring formula, unclipped, is negative for a small ratio at low purity -/
theorem prefix_counterexample : absoluteRaw 2 2 (3/10) (1 / 2 ^ 30) < -4 := by decide +kernel

/-- ℝ layer: with `v = log2((p·n + (1−p)·x)/r)` the formula applied to `2^v` gives `n` -/
theorem clonal_inverts_real (n r x : ℕ) (p v : ℝ) (hp : 0 < p) (hr : 0 < r)
    (hm : 0 < p * n + (1 - p) * x)
    (hv : v = Real.logb 2 ((p * n + (1 - p) * x) / r)) :
    ((r : ℝ) * (2 : ℝ) ^ v - (x : ℝ) * (1 - p)) / p = (n : ℝ) :=
  CnvVerif.clonal_inverts_real n r x p v hp hr hm hv

theorem pure_inverts_real (n r : ℕ) (v : ℝ) (hn : 0 < n) (hr : 0 < r)
    (hv : v = Real.logb 2 ((n : ℝ) / r)) : (r : ℝ) * (2 : ℝ) ^ v = (n : ℝ) := by
  have hr' : (0 : ℝ) < r := by exact_mod_cast hr
  have hn' : (0 : ℝ) < n := by exact_mod_cast hn
  rw [hv, Real.rpow_logb (by norm_num) (by norm_num) (div_pos hn' hr')]
  field_simp

/-! non-vacuity: a male sample (x = 1) against a male reference (r = 1) on chrX, purity 1/2, n = 3 -/
example : (callRow { ploidy := 2, purity := some (1/2), hapX := true, female := false, par := none }
    .clonal [] "chr1" false { chrom := "chrX", s := 0, e := 10, v := none, t := 2, baf := none }).cn = some 3 := by
  decide +kernel
example : classOf "chr1" (some "grch38") "chrX" 10000 2781479 = .parx ∧
          classOf "chr1" (some "grch38") "chrX" 9999 2781479 = .x ∧
          classOf "chr1" (some "grch38") "chrY" 10000 2781479 = .pary := by decide +kernel

end CnvVerif.C01
