/-
  C14: the glue between the filters -- `require_column` guards, the columns a squash keeps, and the order in
  which `do_call` applies a filter list (Model/SegFilterExt.lean), with lemmas in Lemmas/SegFilterExt.lean; then
  conservation through a whole filter list and the runs `ampdel` keeps, which rest on Lemmas/SegFilter.lean.
-/
import CnvVerif.Lemmas.SegFilterExt
namespace CnvVerif.C14
open CnvVerif

/-- what the source names: the guards of the four filters, and the filters `do_call` runs before calling -/
theorem guards_are : Filt.cn.needs = ["cn"] ∧ Filt.ampdel.needs = ["cn"] ∧ Filt.ci.needs = ["ci_lo", "ci_hi"] ∧
    Filt.sem.needs = ["sem"] ∧ preFilters = [Filt.ci, Filt.sem] :=
  ⟨by decide +kernel, by decide +kernel, needs_ci, needs_sem, preFilters_eq⟩

/-- a filter whose required column is missing raises (ValueError naming the filter) instead of filtering -/
theorem missing_column_raises (f : Filt) (t : Tab) (c : String) (hc : c ∈ f.needs) (hm : t.cols.contains c = false) :
    f.run t = .error f.name := run_missing_column f t c hc hm

/-- a squash writes its rows from scratch: the segmetrics columns ci_lo / ci_hi / sem never survive one … -/
theorem squash_drops_segmetrics_columns (cols : List String) :
    (colsAfterSquash cols).contains "ci_lo" = false ∧ (colsAfterSquash cols).contains "ci_hi" = false ∧
    (colsAfterSquash cols).contains "sem" = false :=
  ⟨colsAfterSquash_drops _ _ (segmetrics_not_written _ (by simp)),
   colsAfterSquash_drops _ _ (segmetrics_not_written _ (by simp)),
   colsAfterSquash_drops _ _ (segmetrics_not_written _ (by simp))⟩

/-- … which is why a list holding BOTH ci and sem cannot be honoured: `do_call` raises for every table and every
    calling step ("each consumes the columns the other needs") -/
theorem ci_and_sem_exclude_each_other (call : Tab → Tab) (fs : List Filt) (t : Tab)
    (h1 : Filt.ci ∈ fs) (h2 : Filt.sem ∈ fs) : ∃ e, doCallFiltersE call fs t = .error e := by
  rw [doCallFiltersE_eq, if_pos h1]
  cases hr : Filt.ci.run t with
  | error e => exact ⟨e, rfl⟩
  | ok t' =>
    dsimp only [Except.bind]
    rw [if_pos h2, run_after_squash_raises hr (g := Filt.sem) (c := "sem") (by rw [needs_sem]; exact List.mem_cons_self)
      (segmetrics_not_written _ (by simp))]
    exact ⟨_, rfl⟩

/-- ORDER, for every list of distinct filters holding at most one of ci/sem and every calling step: that one filter
    (if any) acts on the un-called table wherever it stands in the list, then the table is called, then the other
    filters act in the order given -/
theorem filter_order (call : Tab → Tab) (fs : List Filt) (t : Tab) (hnd : fs.Nodup)
    (hx : ¬ (Filt.ci ∈ fs ∧ Filt.sem ∈ fs)) :
    doCallFiltersE call fs t =
      match (if Filt.ci ∈ fs then Filt.ci.run t else if Filt.sem ∈ fs then Filt.sem.run t else .ok t) with
      | .error e => .error e
      | .ok t1 => runChain (postFilters fs) (call t1) := by
  -- the code erases the filter it has run; on a list without repeats `erase` is the spec's `filter (· != ·)`
  have hpost : (fs.erase Filt.ci).erase Filt.sem = postFilters fs := by
    rw [(hnd.sublist List.erase_sublist).erase_eq_filter, hnd.erase_eq_filter, List.filter_filter]
    exact List.filter_congr fun f _ => Bool.and_comm _ _
  rw [doCallFiltersE_eq, hpost]
  by_cases h1 : Filt.ci ∈ fs
  · simp only [if_pos h1, if_neg fun h2 => hx ⟨h1, h2⟩]
    cases Filt.ci.run t <;> rfl
  · by_cases h2 : Filt.sem ∈ fs
    · simp only [if_neg h1, if_pos h2]
      dsimp only [Except.bind]
      cases Filt.sem.run t <;> rfl
    · simp only [if_neg h1, if_neg h2]
      rfl

/-- non-vacuity: `ampdel, ci, cn` -- ci first although it is named second; ampdel then cn on the called table -/
example : [Filt.ampdel, Filt.ci, Filt.cn].Nodup ∧ ¬ (Filt.ci ∈ [Filt.ampdel, Filt.ci, Filt.cn] ∧ Filt.sem ∈ [Filt.ampdel, Filt.ci, Filt.cn]) ∧
    postFilters [Filt.ampdel, Filt.ci, Filt.cn] = [Filt.ampdel, Filt.cn] := by decide

/-- every squashing filter conserves total probes and total weight on EVERY table -- any row order, any levels
    (missing ones included), with or without allele-specific columns: `groupby` only rearranges the rows and
    `squash_region` sums over its group -/
theorem squash_conserves_on_every_table (h : Bool) (t : List Seg) (f : Seg → Option Rat) :
    sumInt ((squashByGroups h t (t.map f)).map (·.probes)) = sumInt (t.map (·.probes)) ∧
    sumRat ((squashByGroups h t (t.map f)).map (·.weight)) = sumRat (t.map (·.weight)) :=
  Prod.mk.inj (squashByGroups_conserves h t f)

/-- COMPOSITION: whatever list of cn / ci / sem filters runs through, in whatever order and however often, the table
    that comes out carries every probe and all the weight of the table that went in -/
theorem chain_conserves_probes_and_weight (fs : List Filt) (hfs : Filt.ampdel ∉ fs) (t t' : Tab)
    (hr : runChain fs t = .ok t') :
    sumInt (t'.rows.map (·.probes)) = sumInt (t.rows.map (·.probes)) ∧
    sumRat (t'.rows.map (·.weight)) = sumRat (t.rows.map (·.weight)) :=
  Prod.mk.inj (runChain_conserves fs hfs t t' hr)

/-- … and so does `do_call` with such a list, when the calling step itself leaves probes and weight alone -/
theorem do_call_conserves_probes_and_weight (call : Tab → Tab) (fs : List Filt) (hfs : Filt.ampdel ∉ fs) (t t' : Tab)
    (hnd : fs.Nodup) (hx : ¬ (Filt.ci ∈ fs ∧ Filt.sem ∈ fs))
    (hcall : ∀ u, sumInt ((call u).rows.map (·.probes)) = sumInt (u.rows.map (·.probes)) ∧
                  sumRat ((call u).rows.map (·.weight)) = sumRat (u.rows.map (·.weight)))
    (hr : doCallFiltersE call fs t = .ok t') :
    sumInt (t'.rows.map (·.probes)) = sumInt (t.rows.map (·.probes)) ∧
    sumRat (t'.rows.map (·.weight)) = sumRat (t.rows.map (·.weight)) := by
  -- the order of the filters does not matter here: each of the three stages of the normal form conserves the totals
  rw [doCallFiltersE_eq] at hr
  cases h1 : (if Filt.ci ∈ fs then Filt.ci.run t else .ok t) with
  | error e => rw [h1] at hr; cases hr
  | ok t1 =>
    rw [h1] at hr
    dsimp only [Except.bind] at hr
    cases h2 : (if Filt.sem ∈ fs then Filt.sem.run t1 else .ok t1) with
    | error e => rw [h2] at hr; cases hr
    | ok t2 =>
      rw [h2] at hr
      exact Prod.mk.inj ((runChain_conserves _ (fun h => hfs (List.mem_of_mem_erase (List.mem_of_mem_erase h))) _ t' hr).trans
        ((Prod.ext (hcall t2).1 (hcall t2).2).trans ((optRun_conserves (by decide) h2).trans (optRun_conserves (by decide) h1))))

/-- `ampdel` as the property words it: on a chromosome-contiguous table the filter returns exactly the maximal runs of
    equal deleted / amplified / neutral status (and equal allele-specific copy numbers), the neutral runs dropped,
    every other run squashed to one row -/
theorem ampdel_is_the_extreme_runs (h : Bool) (t : List Seg) (hc : ChromContig t)
    (h1 : h = true → ∀ r ∈ t, r.cn1 ≠ some (-1) ∧ r.cn2 ≠ some (-1)) :
    filterAmpdel h t = specAmpdel h t := by
  rw [filterAmpdel_def, taggedGroups_eq_runs h levelAmpdel t hc (fun r _ => ⟨_, rfl⟩) h1, filterMap_ampdelPick]
  rfl

/-- … and every run it keeps consists only of amplified (cn ≥ 5) or only of deleted (cn = 0) segments -/
theorem ampdel_kept_runs_are_all_amplified_or_all_deleted (h : Bool) (t : List Seg) :
    ∀ g ∈ (splitRuns (fullLevel h levelAmpdel) t).filter ampdelKeep,
      (∀ r ∈ g, levelAmpdel r = some 1) ∨ (∀ r ∈ g, levelAmpdel r = some (-1)) := by
  intro g hg
  obtain ⟨hg1, hg2⟩ := List.mem_filter.mp hg
  have hu := splitRuns_uniform (fullLevel h levelAmpdel) t g hg1
  cases g with
  | nil => simp [ampdelKeep] at hg2
  | cons x xs =>
    have hx : levelAmpdel x ≠ some 0 := by
      simpa [ampdelKeep] using hg2
    have hlv : ∀ r ∈ x :: xs, levelAmpdel r = levelAmpdel x := by
      intro r hr
      have := congrArg (·.1) (hu r hr x List.mem_cons_self).2
      rwa [fullLevel_fst, fullLevel_fst] at this
    rcases levelAmpdel_cases x with h1 | h1 | h1
    · left; intro r hr; rw [hlv r hr, h1]
    · right; intro r hr; rw [hlv r hr, h1]
    · exact absurd h1 hx

/-- non-vacuity: a chain that runs (ci then cn on a table carrying ci_lo, ci_hi and cn) -/
example : (match runChain [Filt.ci, Filt.cn]
    { cols := ["chromosome", "start", "end", "gene", "log2", "probes", "weight", "cn", "ci_lo", "ci_hi"],
      rows := [ { chrom := "chr1", s := 0, e := 10, gene := "a", log2 := 0, probes := 3, weight := 1, cn := some 2, ciLo := some (-1), ciHi := some 1 },
                { chrom := "chr1", s := 10, e := 20, gene := "b", log2 := 0, probes := 4, weight := 2, cn := some 2, ciLo := some (-1), ciHi := some 1 } ] } with
    | .ok t' => t'.rows.map (·.probes)
    | .error _ => []) = [7] := by decide +kernel

end CnvVerif.C14
