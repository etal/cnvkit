/-
  C18 — VCF genotypes become allele frequencies and per-segment BAF as defined.
  Property theorems only; helper lemmas, and the well-formedness predicates the statements use (`Biallelic`,
  `PedsValid`, `WFRows`, `ChromGrouped`), live in Lemmas/VcfTable.lean, VcfChoose.lean and VcfBaf.lean.  Findings AD/AE: DESIGN.md 9.3.
-/
import CnvVerif.Model.Vcf
import CnvVerif.Lemmas.VcfBaf
import CnvVerif.Lemmas.VcfChoose
namespace CnvVerif.C18
open CnvVerif CnvVerif.Vcf

/-! ### reading: one row per record, 0-based start, alt_freq = count/depth, zygosity from the genotype

    `Biallelic r`: the record has exactly one ALT allele (not the gVCF placeholder).
    `recRow si ni r` is the row the property describes for record `r`, sample column `si` and normal
    column `ni`: chromosome, start = POS − 1, the SOMATIC flag, and the genotype columns `genoOf`. -/

/-- a file of biallelic sites gives exactly one row per record, in file order, before filters and sort -/
theorem one_row_per_record (si : Nat) (ni : Option Nat) (recs : List Rec)
    (h : ∀ r ∈ recs, Biallelic r) :
    parseRecords si ni false recs = recs.map (recRow si ni) := by
  induction recs with
  | nil => simp [parseRecords]
  | cons r t ih =>
    have ih' := ih (fun x hx => h x (List.mem_cons_of_mem _ hx))
    simp only [parseRecords, Bool.false_and, Bool.not_false, List.filter_true] at ih' ⊢
    rw [List.flatMap_cons, ih', rowsOfRec_biallelic si ni r (h r (by simp))]
    simp

/-- that row sits at the record's chromosome and 0-based start, carries its SOMATIC flag and the
    genotype columns of the chosen sample and of the paired normal, if any -/
theorem start_zero_based (si : Nat) (ni : Option Nat) (r : Rec) :
    (recRow si ni r).chrom = r.chrom ∧ (recRow si ni r).s = r.pos - 1 ∧
    (recRow si ni r).somatic = r.somatic ∧
    (recRow si ni r).t = genoOf (r.smps[si]?.getD default) r ∧
    (recRow si ni r).n = ni.map (fun j => genoOf (r.smps[j]?.getD default) r) :=
  ⟨rfl, rfl, rfl, rfl, rfl⟩

/-- alt_freq = alt count / depth wherever a depth was counted -/
theorem alt_freq_def (s : Smp) (r : Rec) (h : (genoOf s r).depth ≠ 0) :
    (genoOf s r).altFreq = .fin ((genoOf s r).altCount / (genoOf s r).depth) := by
  unfold genoOf at h ⊢
  cases hd : depthOf s r with
  | none => simp [hd] at h
  | some d =>
    have hd0 : d ≠ 0 := fun e => by simp [hd, e] at h
    cases altCountOf s <;> simp [freqOf, hd0]

/-- the zygosity column is `zygosityOf` of the genotype … -/
theorem zygosity_from_genotype (s : Smp) (r : Rec) : (genoOf s r).zyg = zygosityOf s.gt := rfl

/-- … which is 0.5 exactly for a genotype naming two different alleles, 0 exactly for an
    all-reference genotype, 1 exactly for one non-reference allele throughout — and nothing else -/
theorem zygosity_table (gt : List (Option Int)) (hne : gt ≠ []) :
    (zygosityOf gt = 0 ∨ zygosityOf gt = 1/2 ∨ zygosityOf gt = 1) ∧
    (zygosityOf gt = 1/2 ↔ ∃ a ∈ gt, ∃ b ∈ gt, a ≠ b) ∧
    (zygosityOf gt = 0 ↔ ∀ a ∈ gt, a = some 0) ∧
    (zygosityOf gt = 1 ↔ (∀ a ∈ gt, ∀ b ∈ gt, a = b) ∧ ∃ a ∈ gt, a ≠ some 0) :=
  ⟨zygosityOf_values gt, zygosityOf_half gt, zygosityOf_zero gt hne, zygosityOf_one gt hne⟩

/-! ### sample choice: PEDIGREE pairs first, else the given ids, else the first sample -/

/-- on a header with distinct sample names whose PEDIGREE tags name sample columns, and for ids
    that name sample columns, `_choose_samples` returns the pair the documented rules describe
    (`specPair`) and refuses exactly when they leave no tumour sample -/
theorem sample_choice_rules (samples : List String) (peds : List (String × String))
    (sid nid : Option String) (hnd : samples.Nodup)
    (hs : selOk samples sid = true) (hn : selOk samples nid = true) (hp : PedsValid samples peds) :
    chooseNames samples peds sid nid =
      match specPair samples peds (truthy sid) (truthy nid) with
      | some p => .ok p
      | none => .error .indexError := chooseNames_spec samples peds sid nid hnd hs hn hp

/-- the rules themselves, case by case -/
theorem rules_pedigree_first (samples : List String) (p : String × String) (ps : List (String × String))
    (n : Option String) : specPair samples (p :: ps) none n = some (p.1, some p.2) := rfl

theorem rules_given_ids (samples : List String) (x y : String) (h : x ≠ y) :
    specPair samples [] (some x) (some y) = some (x, some y) := by
  simp [specPair, h]

theorem rules_first_sample (a : String) (t : List String) :
    specPair (a :: t) [] none none = some (a, none) := rfl

/-! ### the table: exactly the records that pass the filters asked for, sorted, values attached -/

/-- the table read from a biallelic file: the records' rows, depth-filtered, SOMATIC-filtered, sorted -/
theorem read_table (samples : List String) (tags : List PedTag) (recs : List Rec) (o : ReadOpts)
    (sid : String) (nid : Option String)
    (hc : chooseSamples samples tags o.sid o.nid = .ok (sid, nid))
    (hr : o.skipReject = false) (hb : ∀ r ∈ recs, Biallelic r) :
    ∃ tb, readVcf samples tags recs o = .ok tb ∧
      tb.rows = sortV (somaticFilter o.skipSomatic (depthFilter o.minDepth
        (recs.map (recRow (samples.idxOf sid) ((truthy nid).map (fun n => samples.idxOf n)))))) := by
  unfold readVcf
  rw [hc]
  refine ⟨_, rfl, ?_⟩
  simp only [hr]
  rw [one_row_per_record _ _ recs hb]

/-- the sort neither loses nor invents rows and leaves them in cnvkit's order -/
theorem sort_is_a_sorted_permutation (rows : List VRow) :
    (sortV rows).Perm rows ∧ SortedV (sortV rows) := ⟨sortV_perm rows, sortV_sorted rows⟩

/-- depth filter: with a non-zero minimum and depths in the file, exactly the rows whose depth
    (the normal's, when paired) reaches it; SOMATIC filter: exactly the unflagged rows -/
theorem filters_exact (m : Int) (hm : m ≠ 0) (rows : List VRow) (hany : ∃ x ∈ rows, x.t.depth ≠ 0)
    (skipSomatic : Bool) (r : VRow) :
    r ∈ somaticFilter skipSomatic (depthFilter (some m) rows) ↔
      r ∈ rows ∧ filterDepth r ≥ (m : Rat) ∧ (skipSomatic = true → r.somatic = false) := by
  rw [mem_somaticFilter, mem_depthFilter m hm rows hany]
  exact and_assoc

theorem no_filter_asked (rows : List VRow) : somaticFilter false (depthFilter none rows) = rows := by
  simp [somaticFilter, depthFilter]

/-- every row of the table read is the row of one of the file's records: its frequency, depth,
    zygosity and flag stay attached to that record's coordinates through filters and sort -/
theorem freqs_stay_attached (samples : List String) (tags : List PedTag) (recs : List Rec) (o : ReadOpts)
    (sid : String) (nid : Option String) (tb : VTable)
    (hc : chooseSamples samples tags o.sid o.nid = .ok (sid, nid))
    (hr : o.skipReject = false) (hb : ∀ r ∈ recs, Biallelic r)
    (ht : readVcf samples tags recs o = .ok tb) :
    ∀ row ∈ tb.rows, ∃ r ∈ recs,
      row = recRow (samples.idxOf sid) ((truthy nid).map (fun n => samples.idxOf n)) r := by
  obtain ⟨tb', h1, h2⟩ := read_table samples tags recs o sid nid hc hr hb
  rw [ht] at h1
  cases h1
  intro row hrow
  rw [h2, mem_sortV, mem_somaticFilter] at hrow
  have := mem_depthFilter_sub _ _ _ hrow.1
  obtain ⟨r, hr', rfl⟩ := List.mem_map.mp this
  exact ⟨r, hr', rfl⟩

/-! ### load_het_snps keeps exactly the germline-heterozygous records -/

/-- heterozygous = germline zygosity 0.5 (the normal's when paired) -/
theorem het_is_half (r : VRow) (hv : germZyg r = 0 ∨ germZyg r = 1/2 ∨ germZyg r = 1) :
    isHet r = true ↔ germZyg r = 1/2 := by
  rw [isHet_iff]
  rcases hv with h | h | h <;> rw [h] <;> norm_num

/-- when the table read (depth filter, SOMATIC records dropped) has a germline-heterozygous row,
    `load_het_snps` returns exactly its germline-heterozygous rows, in order -/
theorem het_keeps_exactly_hets (samples : List String) (tags : List PedTag) (recs : List Rec)
    (o : HetOpts) (tb : VTable)
    (hr : readVcf samples tags recs
            { sid := o.sid, nid := o.nid, minDepth := o.minDepth,
              skipReject := false, skipSomatic := true } = .ok tb)
    (hz : o.zygFreq = none) (hb : o.tumorBoost = false)
    (hn : tb.paired = true → ∃ r ∈ tb.rows, ∃ g, r.n = some g ∧ g.zyg ≠ 0)
    (hh : ∃ r ∈ tb.rows, isHet r = true) :
    loadHetSnps samples tags recs o = .ok { paired := tb.paired, rows := tb.rows.filter isHet } := by
  rw [loadHetSnps_of_read samples tags recs o tb hr, effectiveZygFreq_none o tb hz hn, hb]
  simp only [retype, boostStage, hetStage_eq tb.paired tb.rows hh, bind, Except.bind, pure, Except.pure]
  rfl

/-- the same with genotypes taken from the allele frequencies (`zygosity_freq`) -/
theorem het_keeps_exactly_hets_by_freq (samples : List String) (tags : List PedTag) (recs : List Rec)
    (o : HetOpts) (tb : VTable) (het hom : Rat)
    (hr : readVcf samples tags recs
            { sid := o.sid, nid := o.nid, minDepth := o.minDepth,
              skipReject := false, skipSomatic := true } = .ok tb)
    (hz : o.zygFreq = some (het, hom)) (hv : 0 ≤ het ∧ het ≤ hom ∧ hom ≤ 1) (hb : o.tumorBoost = false)
    (hh : ∃ r ∈ zygosityFromFreq het hom tb.rows, isHet r = true) :
    loadHetSnps samples tags recs o =
      .ok { paired := tb.paired, rows := (zygosityFromFreq het hom tb.rows).filter isHet } := by
  rw [loadHetSnps_of_read samples tags recs o tb hr, hb]
  simp only [effectiveZygFreq, hz, retype, hv, and_self, if_true, boostStage, hetStage_eq tb.paired _ hh, bind,
    Except.bind, pure, Except.pure]
  rfl

/-- the excluded point (open findings AD/AE, documented in the source): with no heterozygous row at all
    `heterozygous()` hands back every row instead of none -/
theorem het_fallback_returns_all (rows : List VRow) (h : ∀ r ∈ rows, isHet r = false) :
    heterozygous rows = rows := by
  have : rows.any isHet = false := List.any_eq_false.mpr (fun r hr => by simp [h r hr])
  simp [heterozygous, this]

/-! ### BAF of a segment: median of the heterozygous frequencies inside it, mirrored to one side -/

/-- mirrored values lie on one side of 0.5 -/
theorem mirror_one_side (vals : List (Option Rat)) (a : Option Bool) :
    (∀ q, some q ∈ mirroredBaf vals a → 1/2 ≤ q) ∨ (∀ q, some q ∈ mirroredBaf vals a → q ≤ 1/2) := by
  have key : ∀ q, some q ∈ mirroredBaf vals a → if mirrorAbove vals a then 1/2 ≤ q else q ≤ 1/2 := fun q hq => by
    obtain ⟨x, _, rfl⟩ := mem_mirroredBaf hq
    exact mirrorOne_side _ x
  cases h : mirrorAbove vals a <;> rw [h] at key
  · exact Or.inr key
  · exact Or.inl key

/-- the side asked for, when one is -/
theorem mirror_side_asked (vals : List (Option Rat)) (b : Bool) (q : Rat)
    (hq : some q ∈ mirroredBaf vals (some b)) : if b then 1/2 ≤ q else q ≤ 1/2 := by
  obtain ⟨x, _, rfl⟩ := mem_mirroredBaf hq
  exact mirrorOne_side b x

/-- each mirrored value lies at the distance from 0.5 its frequency had -/
theorem mirror_keeps_distance (b : Bool) (v : Rat) : absQ (mirrorOne b v - 1/2) = absQ (v - 1/2) := by
  rw [absQ_eq_abs, absQ_eq_abs, mirrorOne_sub]
  cases b
  · exact (abs_neg _).trans (abs_abs _)
  · exact abs_abs _

/-- `WFRows`: the table is in cnvkit's order with rows of positive length at coordinates ≥ 0 (what
    `tabio.read` returns); `ChromGrouped`: each chromosome's ranges are adjacent.  Then for every
    range, in the order given, `baf_by_ranges` returns the property's BAF: the median of the mirrored
    frequencies of the heterozygous rows inside the range -/
theorem baf_is_median_of_mirrored (tb : VTable) (segs : List (String × Int × Int)) (boost : Bool)
    (hwf : WFRows tb.rows) (hseg : ∀ g ∈ segs, 0 ≤ g.2.1) (hg : ChromGrouped segs)
    (hh : ∃ r ∈ tb.rows, isHet r = true) :
    bafByRanges tb segs none boost = segs.map (specBaf tb.paired boost none tb.rows) := by
  rw [bafByRanges_eq tb segs none boost hwf, regroupSegs_of_grouped segs hg,
    heterozygous_eq_filter tb.rows hh]
  apply List.map_congr_left
  intro g _
  rw [series2value_none]
  rfl

/-- without the grouping hypothesis the same values come back chromosome by chromosome
    (`regroupSegs`), and with a forced side a range holding a single value reports it unmirrored
    (`series2value`): the code as it is, for every segment table -/
theorem baf_by_ranges_general (tb : VTable) (segs : List (String × Int × Int)) (above : Option Bool)
    (boost : Bool) (hwf : WFRows tb.rows) (hseg : ∀ g ∈ segs, 0 ≤ g.2.1) :
    bafByRanges tb segs above boost =
      (regroupSegs segs).map (fun g =>
        series2value above (((heterozygous tb.rows).filter (overlaps g)).map (bafFreq tb.paired boost))) :=
  bafByRanges_eq tb segs above boost hwf

/-- the BAF is missing exactly where no heterozygous row with a finite frequency lies inside -/
theorem baf_missing_iff_no_het (paired boost : Bool) (a : Option Bool) (rows : List VRow)
    (g : String × Int × Int) :
    specBaf paired boost a rows g = none ↔
      ∀ r ∈ (rows.filter isHet).filter (overlaps g), bafFreq paired boost r = none := by
  unfold specBaf
  rw [summarize_eq_none]
  constructor
  · intro h r hr
    exact h _ (List.mem_map.mpr ⟨r, hr, rfl⟩)
  · intro h v hv
    obtain ⟨r, hr, rfl⟩ := List.mem_map.mp hv
    exact h r hr

/-- "median": the values put in non-decreasing order; the middle one, or the mean of the two middle
    ones; missing for no values -/
theorem median_is_middle_of_sorted (l : List Rat) :
    ∃ s : List Rat, s.Perm l ∧ s.Pairwise (· ≤ ·) ∧
      median l = (if s.length = 0 then none
                  else if s.length % 2 = 1 then s[s.length / 2]?
                  else match s[s.length / 2 - 1]?, s[s.length / 2]? with
                    | some a, some b => some ((a + b) / 2)
                    | _, _ => none) := ⟨Vcf.sortQ l, Vcf.sortQ_perm l, Vcf.sortQ_sorted l, rfl⟩

/-- a range holding one heterozygous frequency reports that frequency -/
theorem baf_of_single_value (v : Option Rat) : summarize none [v] = v := summarize_single v

/-! ### TumorBoost and purity rescaling follow their formulas -/

/-- boosted = t / (2n) below the normal's frequency … -/
theorem tumorboost_formula_below (t n : Rat) (h : t < n) (hn : n ≠ 0) :
    ∃ b, tumorBoost t n = some b ∧ b * (2 * n) = t :=
  ⟨t / (2 * n), by rw [tumorBoost_of_lt h, if_neg hn], div_mul_cancel₀ t (mul_ne_zero two_ne_zero hn)⟩

/-- … and 1 − (1 − t) / (2 (1 − n)) from it on -/
theorem tumorboost_formula_above (t n : Rat) (h : ¬ t < n) (hn : n ≠ 1) :
    ∃ b, tumorBoost t n = some b ∧ (1 - b) * (2 * (1 - n)) = 1 - t :=
  ⟨1 - (1 - t) / (2 * (1 - n)), by rw [tumorBoost_of_not_lt h, if_neg hn], by
    rw [sub_sub_cancel, div_mul_cancel₀ _ (mul_ne_zero two_ne_zero (sub_ne_zero.mpr (Ne.symm hn)))]⟩

/-- a normal at exactly 0.5 changes nothing -/
theorem tumorboost_neutral_normal (t : Rat) : tumorBoost t (1/2) = some t := by
  by_cases h : t < 1/2
  · rw [tumorBoost_of_lt h]
    norm_num
  · rw [tumorBoost_of_not_lt h]
    norm_num

/-- inside `load_het_snps` every boosted value stays on the row it was computed from -/
theorem tumorboost_stays_attached (rows out : List VRow) (h : boostStage true true rows = .ok out) :
    out.length = rows.length ∧
    ∀ i (hi : i < rows.length) (ho : i < out.length),
      out[i].chrom = rows[i].chrom ∧ out[i].s = rows[i].s ∧ out[i].e = rows[i].e ∧
      out[i].n = rows[i].n ∧ out[i].t.zyg = rows[i].t.zyg ∧ out[i].t.altFreq = boostRow rows[i] := by
  simp only [boostStage, if_true, Except.ok.injEq] at h
  subst h
  refine ⟨by simp, ?_⟩
  intro i hi ho
  simp

/-- … and that value is the formula applied to the row's own tumour and normal frequencies -/
theorem tumorboost_row_formula (r : VRow) (g : Geno) (t n : Rat) (hn : r.n = some g)
    (ht : r.t.altFreq = .fin t) (hg : g.altFreq = .fin n) (h1 : t ≤ 1) :
    boostRow r = ofOpt (tumorBoost t n) := by
  have : ¬ (n = 1 ∧ t > 1) := fun h => absurd h.2 (not_lt.mpr h1)
  simp [boostRow, hn, ht, hg, Freq.toOpt, this]

/-- purity rescaling inverts the mixture: t·p + n·(1 − p) = observed -/
theorem rescale_formula (p obs n : Rat) (hp : p ≠ 0) : rescaleBaf p obs n * p + n * (1 - p) = obs := by
  unfold rescaleBaf
  rw [div_mul_cancel₀ _ hp, sub_add_cancel]

/-- a pure sample is unchanged -/
theorem rescale_pure_sample (obs n : Rat) : rescaleBaf 1 obs n = obs := by
  unfold rescaleBaf
  norm_num

/-! ### non-vacuity -/

def exSmp (gt : List (Option Int)) (ref alt dp : Int) : Smp :=
  { gt := gt, hasDP := true, dp := some dp, ad := .tuple [some ref, some alt] }

def exRecs : List Rec :=
  [ { chrom := "chr1", pos := 11, ref := "A", alts := ["G"], filt := ["PASS"], infoDP := none, somatic := false,
      smps := [exSmp [some 0, some 1] 20 12 32, exSmp [some 0, some 1] 16 16 32] },
    { chrom := "chr1", pos := 21, ref := "A", alts := ["ACGT"], filt := [], infoDP := some 30, somatic := true,
      smps := [exSmp [some 1, some 1] 0 32 32, exSmp [some 0, some 0] 32 0 32] },
    { chrom := "chr2", pos := 5, ref := "AT", alts := ["A"], filt := ["q10"], infoDP := none, somatic := false,
      smps := [exSmp [some 0, some 1] 8 24 32, exSmp [some 1, some 0] 12 20 32] } ]

example : ∀ r ∈ exRecs, Biallelic r := by
  intro r hr
  simp only [exRecs, List.mem_cons, List.not_mem_nil, or_false] at hr
  rcases hr with rfl | rfl | rfl
  · exact ⟨"G", rfl, by decide +kernel⟩
  · exact ⟨"ACGT", rfl, by decide +kernel⟩
  · exact ⟨"A", rfl, by decide +kernel⟩

example : chooseSamples ["T", "N"] [[("Derived", "T"), ("Original", "N")]] .unset .unset = .ok ("T", some "N") := by
  decide +kernel
example : chooseSamples ["T", "N"] [] .unset (.name "N") = .ok ("T", some "N") := by decide +kernel
example : chooseSamples ["T", "N"] [] (.idx (-1)) .unset = .ok ("N", none) := by decide +kernel
example : chooseSamples ["N"] [] .unset (.name "N") = .error .indexError := by decide +kernel
example : ["T", "N"].Nodup ∧ PedsValid ["T", "N"] [("T", "N")] := by
  refine ⟨by decide +kernel, ?_⟩
  unfold PedsValid
  decide +kernel

/-- the rows of the example records for tumour column 0 and normal column 1: 0-based starts,
    frequencies 12/32, 32/32, 24/32 -/
example : (parseRecords 0 (some 1) false exRecs).map (fun r => (r.chrom, r.s, r.somatic, r.t.zyg, r.t.altFreq)) =
    [("chr1", 10, false, 1/2, .fin (3/8)), ("chr1", 20, true, 1, .fin 1), ("chr2", 4, false, 1/2, .fin (3/4))] := by
  decide +kernel

def exGeno (z f : Rat) : Geno := { zyg := z, depth := 32, altCount := f * 32, altFreq := .fin f }

/-- a paired table on one chromosome: het, hom, het, het -/
def exRows : List VRow :=
  [ { chrom := "chr1", s := 10, e := 11, ref := "A", alt := "G", somatic := false, t := exGeno (1/2) (3/8), n := some (exGeno (1/2) (1/2)) },
    { chrom := "chr1", s := 20, e := 21, ref := "A", alt := "G", somatic := false, t := exGeno 1 1, n := some (exGeno 1 1) },
    { chrom := "chr1", s := 30, e := 31, ref := "A", alt := "G", somatic := false, t := exGeno (1/2) (1/4), n := some (exGeno (1/2) (3/8)) },
    { chrom := "chr1", s := 40, e := 41, ref := "A", alt := "G", somatic := false, t := exGeno (1/2) (3/4), n := some (exGeno (1/2) (5/8)) } ]

example : WFRows exRows := by
  constructor
  · have k : ∀ a b : VRow, a.chrom = b.chrom → a.s < b.s → keyLe a b = true := by
      intro a b hc hs
      rw [keyLe_iff, hc]
      exact Or.inr ⟨rfl, Or.inl hs⟩
    simp only [exRows, SortedV, List.pairwise_cons, List.mem_cons, List.not_mem_nil, or_false, forall_eq_or_imp,
      forall_eq, List.Pairwise.nil, and_true, IsEmpty.forall_iff, implies_true]
    refine ⟨⟨?_, ?_, ?_⟩, ⟨?_, ?_⟩, ?_⟩ <;> exact k _ _ rfl (by decide +kernel)
  · intro r hr
    simp only [exRows, List.mem_cons, List.not_mem_nil, or_false] at hr
    rcases hr with rfl | rfl | rfl | rfl <;> decide +kernel

example : ∃ r ∈ exRows, isHet r = true := by
  unfold exRows
  exact ⟨_, List.mem_cons_self, by decide +kernel⟩

example : ChromGrouped [("chr1", 0, 25), ("chr1", 25, 100), ("chr2", 0, 9)] := by
  refine ⟨?_, ?_, ?_, trivial⟩ <;> decide +kernel

/-- the property's BAF of three ranges over that table, plain and TumorBoost-ed -/
example : [("chr1", 0, 25), ("chr1", 25, 100), ("chr2", 0, 9)].map (specBaf true false none exRows) =
    [some (3/8), some (1/4), none] := by decide +kernel
example : [("chr1", 0, 25), ("chr1", 25, 100), ("chr2", 0, 9)].map (specBaf true true none exRows) =
    [some (3/8), some (1/3), none] := by decide +kernel

example : mirroredBaf [some (1/4), some (7/8), some (5/8)] none = [some (3/4), some (7/8), some (5/8)] := by
  decide +kernel
example : summarize none [some (1/4), some (7/8), some (5/8)] = some (3/4) := by decide +kernel
example : tumorBoost (1/4) (1/2) = some (1/4) ∧ tumorBoost (1/4) (5/8) = some (1/5) := by
  constructor <;> decide +kernel
example : rescaleBaf (1/2) (3/8) = 1/4 := by decide +kernel

end CnvVerif.C18
