/-
  C18: the command-line glue.  The VCF options of `segment`, `call`, `scatter`, `export theta`,
  `export nexus-ogt` reach `load_het_snps` with their documented meaning.  The model (Model/VcfExt.lean) is driven by the
  tables Generated/VcfConsts.lean, re-read from /repo's commands.py and cmdutil.py on every run.  Kept in a module of its
  own so that an edit to an option declaration or to a command's call breaks exactly these obligations.
-/
import CnvVerif.Props.C18
import CnvVerif.Lemmas.VcfCli
namespace CnvVerif.C18
open CnvVerif CnvVerif.Vcf

/-- for each of the commands that read a VCF -- whatever ids, depth and `-z` are given or left out -- `load_het_snps`
    receives the documented meaning of the options (`cliDocumented`): the ids as given, minimum depth 20 unless asked
    otherwise, `zygosity_freq` None unless `-z` (0.25 when bare), and never TumorBoost.  The left side is computed from
    the tables read off `commands.py` and `cmdutil.py` on every run. -/
theorem cli_options_reach_load_het_snps (cmd : String) (hc : cmd ∈ Generated.cliVcfCommands) (a : CliVcfArgs) :
    cliLhsArgs cmd a = some (cliDocumented a) := cliLhsArgs_of_binding cmd a (cliBinding_std cmd hc)

/-- the commands in question: every `_cmd_*` that calls `load_het_snps` -/
theorem cli_commands_reading_a_vcf :
    Generated.cliVcfCommands = ["_cmd_segment", "_cmd_call", "_cmd_scatter", "_cmd_export_theta", "_cmd_export_nbo"] := rfl

/-- the options of the model that follow from a command line: in particular no TumorBoost, so (by
    `het_rows_stay_attached`) every frequency a command works with is its own record's count / depth -/
theorem cli_het_options (a : CliVcfArgs) :
    lhsHetOpts (cliDocumented a) =
      { sid := nameSel a.sampleId, nid := nameSel a.normalId, minDepth := some (a.minVariantDepth.getD 20),
        zygFreq := (match a.zygosityFreq with
          | none => none
          | some none => some (1/4, 3/4)
          | some (some f) => some (f, 1 - f)),
        tumorBoost := false } := by
  obtain ⟨sid, nid, md, zf⟩ := a
  rcases zf with _ | _ | f
  · simp [lhsHetOpts, cliDocumented]
  · simp [lhsHetOpts, cliDocumented]
    decide +kernel
  · simp [lhsHetOpts, cliDocumented]

/-! ### non-vacuity -/

example : "_cmd_scatter" ∈ Generated.cliVcfCommands := by decide +kernel
example : cliLhsArgs "_cmd_export_nbo" { sampleId := some "T", normalId := some "N", zygosityFreq := some none } =
    some { sampleId := some "T", normalId := some "N", minVariantDepth := some 20, zygosityFreq := some (1/4),
           tumorBoost := false } := by decide +kernel
example : cliLhsArgs "_cmd_call" { minVariantDepth := some 5, zygosityFreq := some (some (3/10)) } =
    some { sampleId := none, normalId := none, minVariantDepth := some 5, zygosityFreq := some (3/10),
           tumorBoost := false } := by decide +kernel

end CnvVerif.C18
