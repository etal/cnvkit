/-
  C07: tie to the source TEXT of skgenome/intersect.py -- the mask path.  `Generated.src_*` (Generated/ExprsRanges.lean) is
  re-translated from /repo's Python on every run (harness/exprtrans_c07.py: one table, one query); the
  theorem states that the hand-written model IS that term, for all tables and queries.  A module of its own, so that an
  edit to this code path breaks exactly this obligation.
-/
import CnvVerif.Lemmas.SrcRangesNested
namespace CnvVerif.C07
open CnvVerif

/-- mask path: the model's selection is the table filtered by the mask whose entry for the row at position `i` is
    the expression `_irange_nested` computes (`if start_val:` truthiness, `searchsorted` side, the comparisons
    `end > start_val`, `end <= end_val`, the zeroed prefix / suffix) -/
theorem nested_mask_is_the_source (t : Table) (h : WFTable t) (qs qe : Option Int) (inner : Bool) :
    irangeNested t qs qe inner = applyMask t (Src.srcNestedMask t inner qs qe) := by
  rw [Src.srcNestedMask_eq t h, applyMask_map, irangeNested_eq_filter t h]

end CnvVerif.C07
