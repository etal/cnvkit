/-
  C18, header-declared tumour/normal pairs (Model/VcfPairs.lean): the `if / elif / elif` precedence of
  `_parse_pedigrees` (a PEDIGREE record -- even one without `Derived` -- shadows both GATK conventions, a
  `GATKCommandLine` record shadows `GATKCommandLine.MuTect2`), the exact pair each convention yields, "MuTect2 with
  other than two samples declares nothing", and: read without selectors, the chosen (sample, normal) is the first
  declared pair.  Every statement is for all headers / sample lists / records.
-/
import CnvVerif.Model.VcfPairs
import CnvVerif.Lemmas.VcfChoose
import CnvVerif.Props.C18
namespace CnvVerif.C18
open CnvVerif CnvVerif.Vcf

/-- a PEDIGREE record shadows every GATK record: the declared pairs are those of the PEDIGREE tags alone
    (none at all when no tag has a `Derived` item), whatever `GATKCommandLine` / `GATKCommandLine.MuTect2` say -/
theorem pedigree_shadows_gatk (samples : List String) (h : Hdr) (hp : h.tags ≠ []) :
    headerPairs samples h = pedPairs h.tags := by
  unfold headerPairs
  rw [if_pos (by simpa using hp)]

/-- … in particular the GATK records can be dropped without changing what the header declares -/
theorem pedigree_ignores_gatk (samples : List String) (tags : List PedTag) (gatk : List GatkTag) (m2 : Bool)
    (hp : tags ≠ []) :
    headerPairs samples { tags := tags, gatk := gatk, mutect2 := m2 } =
      headerPairs samples { tags := tags, gatk := [], mutect2 := false } := by
  rw [pedigree_shadows_gatk _ _ hp, pedigree_shadows_gatk _ _ hp]

/-- a PEDIGREE record without any `Derived` item declares nothing -- and still shadows the GATK records -/
theorem pedigree_without_derived_declares_nothing (samples : List String) (h : Hdr) (hp : h.tags ≠ [])
    (hd : ∀ t ∈ h.tags, t.lookup "Derived" = none) :
    headerPairs samples h = .ok [] := by
  rw [pedigree_shadows_gatk _ _ hp]
  have : parsePedigrees h.tags = .ok [] := by
    generalize h.tags = tags at hd
    induction tags with
    | nil => rfl
    | cons t rest ih =>
      unfold parsePedigrees
      rw [hd t (by simp)]
      exact ih (fun t' ht' => hd t' (by simp [ht']))
  simp [pedPairs, this]

/-- without a PEDIGREE record, a `GATKCommandLine` record (of whatever tool) shadows `GATKCommandLine.MuTect2` -/
theorem mutect_shadows_mutect2 (samples : List String) (h : Hdr) (hp : h.tags = []) (hg : h.gatk ≠ []) :
    headerPairs samples h = mutectPairs h.gatk := by
  unfold headerPairs
  rw [if_neg (by simp [hp]), if_pos (by simpa using hg)]

/-- only with neither is the MuTect2 convention consulted -/
theorem mutect2_last (samples : List String) (h : Hdr) (hp : h.tags = []) (hg : h.gatk = []) :
    headerPairs samples h = .ok (if h.mutect2 then mutect2Pairs samples else []) := by
  unfold headerPairs
  rw [if_neg (by simp [hp]), if_neg (by simp [hg])]
  cases h.mutect2 <;> rfl

/-- a header without any of the three declares nothing, and PEDIGREE alone is what `Model/Vcf.lean` knows -/
theorem headerPairs_pedigree_only (samples : List String) (tags : List PedTag) :
    headerPairs samples { tags := tags } = pedPairs tags := by
  unfold headerPairs
  cases tags with
  | nil => simp [pedPairs, parsePedigrees]
  | cons a l => simp

/-- MuTect: a record with `ID=MuTect` yields `(options.get("tumor_sample_name"), options["normal_sample_name"])`
    in front of what the later records yield; records of other tools yield nothing -/
theorem mutect_pair (t : GatkTag) (rest : List GatkTag) (toks : List (String × Option String)) (n : String)
    (hid : t.id = some "MuTect") (ho : t.opts = some toks)
    (hn : dictGet (optionsDict toks) "normal_sample_name" = some n) (r : List DPair)
    (hr : mutectPairs rest = .ok r) :
    mutectPairs (t :: rest) = .ok ((dictGet (optionsDict toks) "tumor_sample_name", n) :: r) := by
  unfold mutectPairs
  simp [hid, ho, hn, hr]

theorem mutect_other_tool (t : GatkTag) (rest : List GatkTag) (hid : t.id ≠ some "MuTect") :
    mutectPairs (t :: rest) = mutectPairs rest := by
  conv => lhs; unfold mutectPairs
  simp [hid]

/-- MuTect without `normal_sample_name` (or without `CommandLineOptions`): `KeyError`, whatever else is there -/
theorem mutect_needs_normal (t : GatkTag) (rest : List GatkTag) (hid : t.id = some "MuTect")
    (hn : ∀ toks, t.opts = some toks → dictGet (optionsDict toks) "normal_sample_name" = none) :
    mutectPairs (t :: rest) = .error .keyError := by
  unfold mutectPairs
  cases ho : t.opts with
  | none => simp [hid]
  | some toks => simp [hid, hn toks ho]

/-- MuTect2 with exactly two sample columns: `("TUMOR","NORMAL")` for the columns `("NORMAL","TUMOR")`, … -/
theorem mutect2_normal_tumor : mutect2Pairs ["NORMAL", "TUMOR"] = [(some "TUMOR", "NORMAL")] := by decide +kernel

/-- … else the two ids in file order (first = tumour, second = normal) -/
theorem mutect2_file_order (a b : String) (h : ¬ (a = "NORMAL" ∧ b = "TUMOR")) :
    mutect2Pairs [a, b] = [(some a, b)] := by
  show (if (a == "NORMAL" && b == "TUMOR") = true then _ else _) = _
  rw [if_neg (by simpa using h)]

/-- MuTect2 with any other number of samples declares nothing -/
theorem mutect2_not_two_declares_nothing (samples : List String) (h : samples.length ≠ 2) :
    mutect2Pairs samples = [] := by
  match samples, h with
  | [], _ => rfl
  | [_], _ => rfl
  | [_, _], h => exact absurd rfl h
  | _ :: _ :: _ :: _, _ => rfl

/-- read without selectors, the chosen (sample, normal) of a file whose header declares a pair is the FIRST declared
    pair -- provided every declared name is exactly one sample column (otherwise the reader refuses) -/
theorem declared_pair_is_chosen (samples : List String) (h : Hdr) (t : Option String) (n : String)
    (rest : List DPair) (hh : headerPairs samples h = .ok ((t, n) :: rest))
    (hu : (pairNames (((t, n) :: rest).map (fun p => (p.1, some p.2)))).all (fun nm => samples.count nm == 1) = true) :
    chooseSamplesH samples h .unset .unset = .ok (t, some n) := by
  rw [chooseSamplesH_unset samples h _ hh, chooseNamesH_declared, hu]
  rfl

/-- … and a declared name that is not exactly one sample column makes the reader refuse (`IndexError`) -/
theorem declared_unknown_refused (samples : List String) (h : Hdr) (dp : List DPair) (hne : dp ≠ [])
    (hh : headerPairs samples h = .ok dp)
    (hu : (pairNames (dp.map (fun p => (p.1, some p.2)))).all (fun nm => samples.count nm == 1) = false) :
    chooseSamplesH samples h .unset .unset = .error .indexError := by
  obtain ⟨p, l, rfl⟩ := List.exists_cons_of_ne_nil hne
  rw [chooseSamplesH_unset samples h _ hh, chooseNamesH_declared, hu]
  rfl

/-- the table read for a declared pair (no selectors): the rows of the declared tumour with the declared normal's
    columns -- the same function of the records as `readVcf`'s body -/
theorem declared_pair_is_read (samples : List String) (h : Hdr) (recs : List Rec) (t n : String)
    (rest : List DPair) (minDepth : Option Int) (sr ss : Bool)
    (hh : headerPairs samples h = .ok ((some t, n) :: rest))
    (hu : (pairNames (((some t, n) :: rest).map (fun p => (p.1, some p.2)))).all (fun nm => samples.count nm == 1) = true) :
    readVcfH samples h recs { minDepth := minDepth, skipReject := sr, skipSomatic := ss } =
      .ok (readWith samples t (some n) recs { minDepth := minDepth, skipReject := sr, skipSomatic := ss }) := by
  have hc := declared_pair_is_chosen samples h (some t) n rest hh hu
  simp only [readVcfH, hc, bind, Except.bind, pure, Except.pure]

/-- `readWith` is the body of `readVcf` -/
theorem readVcf_eq_readWith (samples : List String) (tags : List PedTag) (recs : List Rec) (o : ReadOpts) :
    readVcf samples tags recs o =
      (chooseSamples samples tags o.sid o.nid).map (fun p => readWith samples p.1 p.2 recs o) := by
  unfold readVcf
  cases chooseSamples samples tags o.sid o.nid with
  | error e => rfl
  | ok p => rfl

/-! ### non-vacuity: each convention on a concrete header -/

example : headerPairs ["N", "T"] { gatk := [{ id := some "MuTect", opts := some [("tumor_sample_name", some "T"),
    ("bare", none), ("normal_sample_name", some "N")] }] } = .ok [(some "T", "N")] := by decide +kernel
example : chooseSamplesH ["N", "T"] { gatk := [{ id := some "MuTect", opts := some [("tumor_sample_name", some "T"),
    ("normal_sample_name", some "N")] }], mutect2 := true } .unset .unset = .ok (some "T", some "N") := by decide +kernel
-- tumor_sample_name missing: the pair has no tumour; with a sample id the file is read for that sample alone
example : chooseSamplesH ["N", "T"] { gatk := [{ id := some "MuTect", opts := some [("normal_sample_name", some "N")] }] }
    .unset .unset = .ok (none, some "N") := by decide +kernel
example : chooseSamplesH ["N", "T"] { gatk := [{ id := some "MuTect", opts := some [("normal_sample_name", some "N")] }] }
    (.name "T") .unset = .ok (some "T", none) := by decide +kernel
-- normal_sample_name missing: KeyError; the last of two equal keys counts
example : headerPairs ["N", "T"] { gatk := [{ id := some "MuTect", opts := some [("tumor_sample_name", some "T")] }] }
    = .error .keyError := by decide +kernel
example : headerPairs ["N", "T"] { gatk := [{ id := some "MuTect", opts := some [("normal_sample_name", some "T"),
    ("normal_sample_name", some "N")] }] } = .ok [(none, "N")] := by decide +kernel
-- MuTect2: both orders, other names, 1 and 3 samples; shadowed by a HaplotypeCaller record and by a PEDIGREE record
example : chooseSamplesH ["NORMAL", "TUMOR"] { mutect2 := true } .unset .unset = .ok (some "TUMOR", some "NORMAL") := by decide +kernel
example : chooseSamplesH ["TUMOR", "NORMAL"] { mutect2 := true } .unset .unset = .ok (some "TUMOR", some "NORMAL") := by decide +kernel
example : chooseSamplesH ["A", "B"] { mutect2 := true } .unset .unset = .ok (some "A", some "B") := by decide +kernel
example : chooseSamplesH ["A"] { mutect2 := true } .unset .unset = .ok (some "A", none) := by decide +kernel
example : chooseSamplesH ["A", "B", "C"] { mutect2 := true } .unset .unset = .ok (some "A", none) := by decide +kernel
example : chooseSamplesH ["A", "B"] { gatk := [{ id := some "HaplotypeCaller", opts := none }], mutect2 := true }
    .unset .unset = .ok (some "A", none) := by decide +kernel
example : chooseSamplesH ["A", "B"] { tags := [[("Child", "A")]], mutect2 := true } .unset .unset = .ok (some "A", none) := by decide +kernel
example : chooseSamplesH ["A", "B"] {
    tags := [[("Derived", "B"), ("Original", "A")]],
    gatk := [{ id := some "MuTect", opts := some [("tumor_sample_name", some "A"), ("normal_sample_name", some "B")] }],
    mutect2 := true } .unset .unset = .ok (some "B", some "A") := by decide +kernel
-- the hypothesis of `declared_pair_is_chosen` holds on a non-trivial input
example : (pairNames (([(some "T", "N")] : List DPair).map (fun p => (p.1, some p.2)))).all
    (fun nm => ["N", "T", "X"].count nm == 1) = true := by decide +kernel
-- a chosen tumour `None` is a `TypeError` at the first record read
example : readVcfH ["N", "T"] { gatk := [{ id := some "MuTect", opts := some [("normal_sample_name", some "N")] }] }
    [default] {} = .error .typeError := by decide +kernel

end CnvVerif.C18
