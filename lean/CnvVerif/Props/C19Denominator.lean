/-
  C19, weighted Savitzky–Golay (open findings P / P2): when can the weighted window sum `N_i` vanish, and what is
  returned?  `winPos c` / `winNeg c` are the totals of the positive / of the sizes of the negative coefficients of a
  window.  One pass returns `D_i / N_i`, undefined exactly where `N_i = 0` (`weighted_pass_values`); `N_i ≥ m·winPos −
  M·winNeg` when the weights under the window lie in `[m, M]`, so a max/min ratio below `winPos / winNeg` keeps every
  value finite and reproduces constants (`weighted_savgol_finite_of_ratio`, `weighted_savgol_constant_of_ratio`); for the
  default 7-point cubic window the bound is 25/4 and it is sharp (`cubic_window_ratio`).  The witness of finding P
  (4, 1, ¼, …) has ratio 16.
-/
import CnvVerif.Props.C19
import CnvVerif.Lemmas.SmoothDenominator
namespace CnvVerif.C19
open CnvVerif CnvVerif.Desc CnvVerif.Smooth CnvVerif.Generated

/-- one pass of `convolve_weighted` on any finite signal: the value at `i` is `D_i / N_i`, and it is undefined (NaN /
    inf in Python) EXACTLY where the weighted window sum `N_i` is 0; the weights handed to the next pass are the `N_i` -/
theorem weighted_pass_values (win y w : List Rat) (hlen : y.length = w.length) :
    (cwStep win (y.map some, w)).1 =
      ((convSame win ((w.zip y).map (fun p => p.1 * p.2))).zip (convSame win w)).map
        (fun p => if p.2 = 0 then none else some (p.1 / p.2)) ∧
    (cwStep win (y.map some, w)).2 = convSame win w :=
  ⟨cwStep_values win y w, cwStep_weights win _⟩

/-- a window sum against values in `[m, M]` is at least `m·(positive coefficients) − M·(negative coefficients)` -/
theorem window_sum_lower_bound (c v : List Rat) (hlen : c.length = v.length) (m M : Rat)
    (hv : ∀ u ∈ v, m ≤ u ∧ u ≤ M) : m * winPos c - M * winNeg c ≤ dot c v := (dot_bounds c v hlen m M hv).1

theorem window_sum_upper_bound (c v : List Rat) (hlen : c.length = v.length) (m M : Rat)
    (hv : ∀ u ∈ v, m ≤ u ∧ u ≤ M) : dot c v ≤ M * winPos c - m * winNeg c := (dot_bounds c v hlen m M hv).2

/-- **single pass, whole function**: if the (rolled-off, mirrored) weights that the kept windows see lie in `[m, M]`
    and `M·winNeg < m·winPos` for the normalised window, every returned value is finite -/
theorem weighted_savgol_finite_of_ratio (x w : List Rat) (tw : Option Rat) (ww ord nIter : Nat) (coeffs : List Rat)
    (y : List (Option Rat)) (hw : w.length = x.length) (hx : 2 ≤ x.length)
    (wing ww' ord' : Nat) (hg : savgolGeometry x.length tw ww ord nIter = .ok (wing, ww', ord', 1))
    (hodd : ww' % 2 = 1) (hlen : coeffs.length = ww') (m M : Rat)
    (hb : ∀ u ∈ ((rollOff (padArray w wing) wing).drop (wing - (ww' - 1) / 2)).take (x.length + 2 * ((ww' - 1) / 2)),
      m ≤ u ∧ u ≤ M)
    (hratio : M * winNeg (normalise coeffs) < m * winPos (normalise coeffs))
    (h : savgolWeighted x w tw ww ord nIter coeffs = .ok y) : ∀ v ∈ y, v.isSome :=
  savgolWeighted_finite_of_ratio_seen hw hg hodd hlen hb hratio rfl h

/-- … and a constant signal is reproduced exactly -/
theorem weighted_savgol_constant_of_ratio (n : Nat) (c : Rat) (w : List Rat) (tw : Option Rat) (ww ord nIter : Nat)
    (coeffs : List Rat) (y : List (Option Rat)) (hw : w.length = n) (hx : 2 ≤ n)
    (wing ww' ord' : Nat) (hg : savgolGeometry n tw ww ord nIter = .ok (wing, ww', ord', 1))
    (hodd : ww' % 2 = 1) (hlen : coeffs.length = ww') (m M : Rat)
    (hb : ∀ u ∈ ((rollOff (padArray w wing) wing).drop (wing - (ww' - 1) / 2)).take (n + 2 * ((ww' - 1) / 2)),
      m ≤ u ∧ u ≤ M)
    (hratio : M * winNeg (normalise coeffs) < m * winPos (normalise coeffs))
    (h : savgolWeighted (List.replicate n c) w tw ww ord nIter coeffs = .ok y) : y = List.replicate n (some c) :=
  savgolWeighted_constant_of_ratio_seen hw hg hodd hlen hb hratio h

/-- the default window (7 points, cubic): positive part 25/21, negative part 4/21 -- weights whose max/min ratio stays
    below 25/4 can never cancel it, and the bound is sharp: the weights (25, 4, 4, 4, 4, 4, 25) give `N = 0` -/
theorem cubic_window_ratio :
    winPos (normalise [-2/21, 3/21, 6/21, 7/21, 6/21, 3/21, -2/21]) = 25/21 ∧
    winNeg (normalise [-2/21, 3/21, 6/21, 7/21, 6/21, 3/21, -2/21]) = 4/21 ∧
    dot (normalise [-2/21, 3/21, 6/21, 7/21, 6/21, 3/21, -2/21]) [25, 4, 4, 4, 4, 4, 25] = 0 := by
  decide +kernel

/-! non-vacuity: the default geometry on eight uniform weights meets the hypotheses (roll-off factors 1/3, 2/3, 1) -/
example : savgolGeometry 8 none 7 3 1 = .ok (3, 7, 3, 1) := by decide +kernel
example : ∀ u ∈ rollOff (padArray [1, 1, 1, 1, 1, 1, 1, 1] 3) 3, (1 / 3 : Rat) ≤ u ∧ u ≤ 1 := by decide +kernel
example : (1 : Rat) * winNeg (normalise [-2/21, 3/21, 6/21, 7/21, 6/21, 3/21, -2/21]) <
    (1 / 3) * winPos (normalise [-2/21, 3/21, 6/21, 7/21, 6/21, 3/21, -2/21]) := by decide +kernel

end CnvVerif.C19
