/-
  C13: `get_regions` tied to the source TEXT from the state the source itself initialises.
  `Generated.src_get_regions_none_step` / `_final` (Generated/ExprsAccessNone.lean) are re-translated on every run from
  the body of `cnvlib/access.py:get_regions`, read in the state `chrom = cursor = run_start = None` that the statement
  before the loop sets, with `None + int` -> `TypeError` (harness/looptrans_none.py, reading rules at its top; the
  definitions exist only if that statement gives all three variables `None`).
  `C13N.c13nLoop ls`: that step while the state is `None`, then `Generated.src_get_regions_step` / `_final`
  (Generated/ExprsAccess.lean, tied to the model in Props/C13Src.lean) from the state the first header leaves.  `C13N.c13nRegions` = the same with names as `String`s.
  Unlike Props/C13Src.lean there is no "the file starts with a header" hypothesis, and the model's explicit
  `throw "TypeError"` is derived from the source instead of assumed.
-/
import CnvVerif.Props.C13Src
import CnvVerif.Lemmas.SrcAccessNone
namespace CnvVerif.C13
open CnvVerif CnvVerif.Generated

/-- a line that is no header and is empty after `rstrip()` -/
def c13nBlank (l : List Char) : Prop := l.head? ≠ some '>' ∧ (rstripChars l).isEmpty = true

/-- in the `None` state a header line yields nothing and leaves the state `(name, 0, None)` -/
theorem get_regions_none_header (rest : List Char) :
    src_get_regions_none_step ('>' :: rest) =
      .ok ([], (some (rest.takeWhile (fun ch => !isPySpace ch)), some 0, none)) := by
  unfold src_get_regions_none_step
  simp only [Src.startsWith_header, if_true, Src.firstWord_gt (ch := '>') (by decide)]

/-- in the `None` state a non-header line is skipped when blank and raises `TypeError` otherwise -- whatever its
    content (all-N, mixed with leading N, mixed with leading base, N-free) -/
theorem get_regions_none_body (l : List Char) (h : l.head? ≠ some '>') :
    src_get_regions_none_step l =
      if (rstripChars l).isEmpty = true then .ok ([], (none, none, none)) else .error "TypeError" := by
  unfold src_get_regions_none_step
  simp only [Src.startsWith_body l h, Bool.false_eq_true, if_false]
  have hr : rstripChars l = Py.rstrip l := rfl
  rw [hr]
  generalize Py.rstrip l = b
  by_cases he : b.isEmpty = true
  · simp only [he, if_true]
  · simp only [he, Bool.false_eq_true, if_false, ite_self]

/-- **the whole scanner, every file**: for EVERY list of raw lines (also one that does not start with a header) the
    model `getRegions` on the parsed lines is the source's loop run from `chrom = cursor = run_start = None` --
    equal values when it returns, equal error when it raises -/
theorem get_regions_is_the_source_from_none (ls : List (List Char)) :
    getRegions (ls.map parseLine) = C13N.c13nRegions ls := by
  unfold getRegions
  induction ls with
  | nil =>
    simp only [C13N.c13nRegions, C13N.c13nLoop, src_get_regions_none_final, List.map_nil, scanFile, emitOpen]
    rfl
  | cons l ls ih =>
    by_cases hh : l.head? = some '>'
    · obtain ⟨rest, rfl⟩ := List.head?_eq_some_iff.mp hh
      simp only [C13N.c13nRegions, C13N.c13nLoop, get_regions_none_header, List.map_cons, parseLine_gt, scanFile,
        SrcNone.c13n_stepFn, SrcNone.c13n_finalFn, SrcNone.c13n_toRegion]
      rw [scan_loop_is_the_source (rest.takeWhile (fun ch => !isPySpace ch)) ⟨0, none⟩]
      simp [emitOpen]
    · simp only [List.map_cons, parseLine_not_gt l hh, C13N.c13nRegions, C13N.c13nLoop,
        get_regions_none_body l hh]
      by_cases he : (rstripChars l).isEmpty = true
      · simp only [scanFile, he, if_true]
        rw [ih]
        simp only [C13N.c13nRegions]
        cases C13N.c13nLoop ls <;> simp
      · simp only [scanFile, he, Bool.false_eq_true, if_false]
        rfl

/-- the `None`-state step only ever raises, stays all-`None`, or leaves to `(some name, some 0, none)`: the
    "partly-None state" arm of `c13nLoop` is dead code -/
theorem get_regions_none_states (l : List Char) :
    src_get_regions_none_step l = .error "TypeError" ∨
    src_get_regions_none_step l = .ok ([], (none, none, none)) ∨
    ∃ c, src_get_regions_none_step l = .ok ([], (some c, some 0, none)) := by
  by_cases hh : l.head? = some '>'
  · obtain ⟨rest, rfl⟩ := List.head?_eq_some_iff.mp hh
    exact Or.inr (Or.inr ⟨_, get_regions_none_header rest⟩)
  · rw [get_regions_none_body l hh]
    by_cases he : (rstripChars l).isEmpty = true
    · exact Or.inr (Or.inl (by simp only [he, if_true]))
    · exact Or.inl (by simp only [he, Bool.false_eq_true, if_false])

/-- blank lines before the first header are invisible to the source's loop -/
theorem get_regions_skips_leading_blanks (pre ls : List (List Char)) (hpre : ∀ p ∈ pre, c13nBlank p) :
    C13N.c13nLoop (pre ++ ls) = C13N.c13nLoop ls := by
  induction pre with
  | nil => rfl
  | cons p pre ih =>
    have hp := hpre p (by simp)
    have := ih (fun q hq => hpre q (by simp [hq]))
    simp only [List.cons_append, C13N.c13nLoop, get_regions_none_body p hp.1, hp.2, if_true, this]
    cases C13N.c13nLoop ls <;> simp

/-- **TypeError before the first header**: if, after any number of blank lines, a non-blank sequence line comes before
    any header, the source's loop raises `TypeError` -- whatever follows -/
theorem get_regions_typeerror_before_first_header (pre : List (List Char)) (l : List Char)
    (rest : List (List Char)) (hpre : ∀ p ∈ pre, c13nBlank p)
    (hl : l.head? ≠ some '>') (hne : (rstripChars l).isEmpty = false) :
    C13N.c13nLoop (pre ++ l :: rest) = .error "TypeError" := by
  rw [get_regions_skips_leading_blanks pre _ hpre]
  simp only [C13N.c13nLoop, get_regions_none_body l hl, hne, Bool.false_eq_true, if_false]

/-- the same for the model (through the tie): `getRegions` raises exactly that error on such a file -/
theorem get_regions_model_typeerror_before_first_header (pre : List (List Char)) (l : List Char)
    (rest : List (List Char)) (hpre : ∀ p ∈ pre, c13nBlank p)
    (hl : l.head? ≠ some '>') (hne : (rstripChars l).isEmpty = false) :
    getRegions ((pre ++ l :: rest).map parseLine) = .error "TypeError" := by
  rw [get_regions_is_the_source_from_none, C13N.c13nRegions,
    get_regions_typeerror_before_first_header pre l rest hpre hl hne]

/-- a file whose first non-blank line is a header: the result is the ordinary loop from `(name, 0, None)` -/
theorem get_regions_after_first_header (pre : List (List Char)) (name : List Char) (ls : List (List Char))
    (hpre : ∀ p ∈ pre, c13nBlank p) :
    C13N.c13nLoop (pre ++ ('>' :: name) :: ls) =
      .ok (Py.genLoop C13N.stepFn C13N.finalFn (name.takeWhile (fun ch => !isPySpace ch), 0, none) ls) := by
  rw [get_regions_skips_leading_blanks pre _ hpre]
  simp only [C13N.c13nLoop, get_regions_none_header, List.nil_append]

/-! ### non-vacuity: the generated definitions run by the kernel -/

attribute [local instance] exceptDecEq

example : C13N.c13nRegions ["\n".toList, " \r\n".toList, ">c1 x\n".toList, "ACN\n".toList, "NG\n".toList] =
    .ok [("c1", 0, 2), ("c1", 4, 5)] := by decide +kernel

example : C13N.c13nRegions ["\n".toList, "ACGT\n".toList, ">c1\n".toList, "AC\n".toList] = .error "TypeError" := by decide +kernel

example : C13N.c13nRegions ["NNNN\n".toList, ">c1\n".toList] = .error "TypeError" := by decide +kernel
example : C13N.c13nRegions ["NACN\n".toList] = .error "TypeError" := by decide +kernel
example : C13N.c13nRegions [] = .ok [] := by decide +kernel
example : C13N.c13nRegions ["\n".toList] = .ok [] := by decide +kernel

example : c13nBlank " \r\n".toList := by unfold c13nBlank; decide +kernel
example : ("ACGT\n".toList).head? ≠ some '>' ∧ (rstripChars "ACGT\n".toList).isEmpty = false := by decide +kernel

end CnvVerif.C13
