/-
  C16: tie to the source TEXT of skgenome/gary.py `_get_gene_map`.  `Generated.src_gene_map_*` are re-read
  from /repo's Python on every run (harness/dicttrans.py: an insertion-ordered dict of lists as an association list;
  harness/extractors/exprs_genemap.py); these theorems state that the hand-written model of the dict loop
  (Model/GeneExt.lean) IS what they say.  A module of its own, so that an edit to `_get_gene_map` breaks exactly these
  obligations.
-/
import CnvVerif.Lemmas.GeneMap
import CnvVerif.Generated.ExprsGeneMap
namespace CnvVerif.C16
open CnvVerif CnvVerif.Genes CnvVerif.GeneExt CnvVerif.PyDict16 CnvVerif.Generated

/-- the dict is empty before the loop (`genes = OrderedDict()`) -/
theorem gene_map_init_is_the_source : geneMap [] = src_gene_map_init := rfl

/-- **one visit of the inner loop**, for ANY dict (also one with a repeated key, which the loop never builds): a known
    name gets the row appended to its list in place, a new name goes to the end with that row -/
theorem gene_map_insert_is_the_source (d : Dict) (i : Nat) (g : String) : insert d i g = src_gene_map_inner d i g := by
  unfold src_gene_map_inner
  cases h : has d g
  · -- a new name: the source first stores `[]` at the end, then replaces it there
    have h2 : has (d ++ [(g, [])]) g = true := by simp [has]
    have h3 : get (d ++ [(g, [])]) g = [] := by rw [get_append, h]; simp [PyDict16.get]
    simp only [GeneExt.insert, h, PyDict16.set, h2, h3, Bool.not_false, if_true, Bool.false_eq_true, if_false,
      List.map_append, List.map_cons, List.map_nil, map_noop _ h, beq_self_eq_true, List.nil_append]
  · simp only [Bool.not_true, Bool.false_eq_true, if_false]
    exact insert_eq_set d i g

/-- **one row of the outer loop**: a null name is skipped; otherwise the names are `genestr.split(",")`, visited in order -/
theorem gene_map_row_is_the_source (d : Dict) (i : Nat) (s : Option String) : rowStep d i s = src_gene_map_row d i s := by
  cases s with
  | none => rfl
  | some s =>
    have : (fun d g => insert d i g) = fun d g => src_gene_map_inner d i g :=
      funext fun d => funext fun g => gene_map_insert_is_the_source d i g
    simp only [rowStep, src_gene_map_row, split, splitOn_comma, this]

/-- the generated loop: the generated row step folded over the column, rows numbered from `k` -/
def srcGeneMapLoop : Nat → Dict → List (Option String) → Dict
  | _, d, [] => d
  | k, d, s :: rest => srcGeneMapLoop (k + 1) (src_gene_map_row d k s) rest

/-- **`_get_gene_map` is the source's loop**: from the generated initial dict, the generated row step over the rows -/
theorem gene_map_is_the_source_loop (gs : List (Option String)) : geneMap gs = srcGeneMapLoop 0 src_gene_map_init gs := by
  unfold geneMap src_gene_map_init
  generalize (0 : Nat) = k
  generalize ([] : Dict) = d
  induction gs generalizing k d with
  | nil => rfl
  | cons s rest ih => simp only [loopFrom, srcGeneMapLoop, gene_map_row_is_the_source, ih]

/-- the separator the source splits on is the comma of `Genes.names` -/
theorem gene_map_split_is_names (b : Bin) : split b.gene ',' = names b := splitOn_comma [] b.gene.toList

/-- non-vacuity: the generated loop on a column with a two-gene bin, a repeated gene and a null -/
example : srcGeneMapLoop 0 src_gene_map_init [some "A", some "A,B", none, some "B", some "A"] =
    [("A", [0, 1, 4]), ("B", [1, 3])] := by decide +kernel

end CnvVerif.C16
