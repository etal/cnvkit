/-
  C18: the defaults and literals of the VCF reader and of `load_het_snps` that the model uses are the ones
  in the source (Generated/VcfConsts.lean is re-read from /repo on every run).  Kept in a module of its own so that an
  edit to one of them breaks exactly these obligations.
-/
import CnvVerif.Props.C18
import CnvVerif.Lemmas.VcfLits
import CnvVerif.Model.VcfExt
namespace CnvVerif.C18
open CnvVerif CnvVerif.Vcf

/-- `load_het_snps`: parameters, defaults, the reader call (SOMATIC records skipped, FILTER not consulted, the depth
    threshold handed on as `min_depth`), the `(zygosity_freq, 1 - zygosity_freq)` thresholds, and the model's defaults -/
theorem load_het_snps_option_table :
    Generated.lhsParams = ["vcf_fname", "sample_id", "normal_id", "min_variant_depth", "zygosity_freq", "tumor_boost"] ∧
    Generated.lhsDefaults = [("sample_id", "None"), ("normal_id", "None"), ("min_variant_depth", "20"),
      ("zygosity_freq", "None"), ("tumor_boost", "False")] ∧
    Generated.lhsReadArgs = ["vcf_fname", "'vcf'"] ∧
    Generated.lhsReadKeywords = [("sample_id", "sample_id"), ("normal_id", "normal_id"),
      ("min_depth", "min_variant_depth"), ("skip_somatic", "True")] ∧
    Generated.lhsRetypeArgs = ["zygosity_freq", "1 - zygosity_freq"] ∧
    ({} : HetOpts).minDepth = some Generated.lhsMinVariantDepthDefault ∧
    ({} : HetOpts).zygFreq = none ∧ ({} : HetOpts).tumorBoost = false ∧
    ({} : HetOpts).sid = .unset ∧ ({} : HetOpts).nid = .unset := by
  refine ⟨rfl, rfl, rfl, rfl, rfl, rfl, rfl, rfl, rfl, rfl⟩

/-- the thresholds used when the normal's genotypes are all 0/0 or missing are the source's 0.25 and 1 − 0.25 -/
theorem fallback_thresholds_are_the_source (o : HetOpts) (tb : VTable) (hz : o.zygFreq = none)
    (hp : tb.paired = true) (hn : normalUntyped tb.rows = true) :
    effectiveZygFreq o tb = some (Generated.lhsFallbackZygFreq, 1 - Generated.lhsFallbackZygFreq) ∧
    Generated.lhsFallbackCondition =
      "zygosity_freq is None and 'n_zygosity' in varr and (not varr['n_zygosity'].any())" :=
  ⟨effectiveZygFreq_fallback o tb hz hp hn, rfl⟩

/-- a bare `-z` asks for the thresholds `load_het_snps` falls back to by itself when the normal carries no genotype -/
theorem cli_bare_z_is_the_fallback (o : HetOpts) (tb : VTable) (hz : o.zygFreq = none)
    (hp : tb.paired = true) (hn : normalUntyped tb.rows = true) :
    effectiveZygFreq o tb = (lhsHetOpts (cliDocumented { zygosityFreq := some none })).zygFreq := by
  rw [effectiveZygFreq_fallback o tb hz hp hn]
  decide +kernel

/-- `skip_reject` drops a record exactly when its FILTER holds something outside the source's accepted set -/
theorem reject_filter_is_the_source (r : Rec) :
    rejected r = r.filt.any (fun f => !(Generated.vcfPassFilters.contains f)) := by
  unfold rejected Generated.vcfPassFilters
  congr 1
  funext f
  simp only [List.contains_cons, List.contains_nil, Bool.or_false, Bool.or_assoc]

/-- the gVCF placeholder that yields no row, the PEDIGREE keys of a declared pair, and the reader's defaults (no depth
    filter, FILTER not consulted, SOMATIC records kept) are the ones the model uses -/
theorem reader_literals_are_the_source :
    Generated.vcfGvcfPlaceholder = "<NON_REF>" ∧ Generated.pedigreeGuardKey = "Derived" ∧
    Generated.pedigreeTumorKey = "Derived" ∧ Generated.pedigreeNormalKey = "Original" ∧
    Generated.readVcfDefaults = [("sample_id", "None"), ("normal_id", "None"), ("min_depth", "None"),
      ("skip_reject", "False"), ("skip_somatic", "False")] ∧
    ({} : ReadOpts).minDepth = none ∧ ({} : ReadOpts).skipReject = false ∧ ({} : ReadOpts).skipSomatic = false :=
  ⟨rfl, rfl, rfl, rfl, rfl, rfl, rfl, rfl⟩

end CnvVerif.C18
