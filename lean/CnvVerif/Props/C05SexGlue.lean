/-
  C05 -- the sex-inference glue of `do_reference`: the antitarget answer overrides the target answer PER
  SAMPLE.  Corollaries of `antitargets_decide_the_inferred_sex` stated as the clauses a "wholesale replacement" of the dictionary
  (sexes = a_sexes) would break: a sample without an antitarget answer keeps its target answer; antitarget files that
  give no answer at all (header-only files, no X bins) leave the dictionary as inferred from the targets.
-/
import CnvVerif.Props.C05Corr
namespace CnvVerif.C05
open CnvVerif CnvVerif.Ref

/-- a sample absent from the antitarget answers keeps its target answer -/
theorem sample_without_antitarget_answer_keeps_its_target_answer (ids : List String)
    (tInf aInf : List (String × Option Bool)) (k : String) (h : lookup (inferSexes aInf) k = none) :
    lookup (resolveSexes none ids tInf aInf) k = lookup (inferSexes tInf) k := by
  rw [antitargets_decide_the_inferred_sex, h]

/-- a sample WITH an antitarget answer gets that answer, whatever its targets said -/
theorem sample_with_antitarget_answer_gets_it (ids : List String)
    (tInf aInf : List (String × Option Bool)) (k : String) (b : Bool) (h : lookup (inferSexes aInf) k = some b) :
    lookup (resolveSexes none ids tInf aInf) k = some b := by
  rw [antitargets_decide_the_inferred_sex, h]

/-- antitarget files none of which gives an answer (empty / header-only files, no X bins): nothing is recorded … -/
theorem unanswered_files_record_nothing (aInf : List (String × Option Bool)) (h : ∀ p ∈ aInf, p.2 = none) :
    inferSexes aInf = [] := by
  have : answers aInf = [] := List.filterMap_eq_nil_iff.mpr fun p hp => by rw [h p hp]; rfl
  rw [inferSexes_eq, this]; rfl

/-- … and the sexes are exactly those inferred from the target files: the same dictionary as with no antitarget
    files at all -/
theorem unanswered_antitarget_files_change_nothing (ids : List String) (tInf aInf : List (String × Option Bool))
    (h : ∀ p ∈ aInf, p.2 = none) :
    resolveSexes none ids tInf aInf = inferSexes tInf ∧
    resolveSexes none ids tInf aInf = resolveSexes none ids tInf [] := by
  have h0 : inferSexes ([] : List (String × Option Bool)) = [] := rfl
  unfold resolveSexes
  simp only [unanswered_files_record_nothing aInf h, h0, List.foldl_nil, and_self]

/-! non-vacuity: two female-looking samples, header-only antitarget files -/
example : resolveSexes none ["a", "b"] [("a", some true), ("b", some true)] [("a", none), ("b", none)] =
    [("a", true), ("b", true)] := by decide
example : lookup (inferSexes [("a", some false), ("b", none)]) "b" = none := by decide +kernel

end CnvVerif.C05
