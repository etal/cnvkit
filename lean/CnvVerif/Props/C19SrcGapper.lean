/-
  C19, tie to the source text: `gapper_scale`; the model leaves out the factor sqrt(pi), which is a parameter here.  `Generated.src_gapper_scale` is the expression
  harness/vectrans.py reads from cnvlib/descriptives.py (see Lemmas/SrcDescVocab.lean).
-/
import CnvVerif.Generated.ExprsDesc
import CnvVerif.Lemmas.SrcDescVocab
namespace CnvVerif.C19
open CnvVerif CnvVerif.Desc CnvVerif.Generated CnvVerif.Src


/-- `gapper_scale`: the source value is the model's (which leaves out the factor `√π`) times `√π` -/
theorem gapper_is_the_source (a : List Rat) (sqrt_pi : Rat) : src_gapper_scale a sqrt_pi = gapperCore a * sqrt_pi := by
  unfold src_gapper_scale gapperCore Np.arange
  simp only [sortR_length]
  generalize hs : sortR a = s
  have hn : s.length = a.length := by rw [← hs, sortR_length]
  generalize hg : diffs s = g
  have hL : g.length = a.length - 1 := by rw [← hg, diffs_length, hn]
  have hw : (List.zipWith (fun u v => u * v) (List.map (fun (i : Nat) => (i : Rat)) (List.range' 1 (a.length - 1)))
      (List.map (fun v => ((a.length : Nat) : Rat) - v) (List.map (fun (i : Nat) => (i : Rat)) (List.range' 1 (a.length - 1))))) =
      (List.range g.length).map (fun i => (((i + 1) * (a.length - (i + 1)) : Nat) : Rat)) := by
    rw [List.map_map, zipWith_map_same, List.range'_eq_map_range, List.map_map, hL]
    apply List.map_congr_left
    intro i hi
    have hi' : i < a.length - 1 := List.mem_range.mp hi
    simp only [Function.comp]
    rw [Nat.cast_mul, Nat.cast_sub (by omega)]
    push_cast; ring
  rw [hw, List.zipWith_map_right, zipWith_eq_zip_map]
  ring


end CnvVerif.C19
