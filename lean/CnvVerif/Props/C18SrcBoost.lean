/-
  C18: tie to the source TEXT of TumorBoost and of the frequency-based genotyping.  `Generated.src_tumor_boost` and
  `Generated.src_zygosity_from_freq` are re-translated from /repo's `cnvlib/vary.py` on every run (harness/exprtrans.py,
  extractor exprs_boost); these theorems state that the hand-written model functions are those expressions.
  Kept in a module of their own so that an edit to one of the formulas breaks exactly these obligations.
-/
import CnvVerif.Props.C18
import CnvVerif.Generated.ExprsBoost
namespace CnvVerif.C18
open CnvVerif CnvVerif.Vcf

/-- the model's TumorBoost IS the expression `_tumor_boost` computes, at every locus where that expression does not
    divide by zero (below the normal: n ≠ 0; from the normal on: n ≠ 1) -/
theorem tumor_boost_is_the_source (t n : Rat) (h1 : t < n → n ≠ 0) (h2 : ¬ t < n → n ≠ 1) :
    tumorBoost t n = some (Generated.src_tumor_boost t n) := by
  unfold Generated.src_tumor_boost
  by_cases h : t < n
  · rw [tumorBoost_of_lt h, if_neg (h1 h), if_neg (not_not.mpr h), if_pos h, half_mul_div]
  · rw [tumorBoost_of_not_lt h, if_neg (h2 h), if_pos h, half_mul_div]

/-- … and the model reports a missing value exactly at the loci where it does -/
theorem tumor_boost_missing_iff_division_by_zero (t n : Rat) :
    tumorBoost t n = none ↔ (t < n ∧ n = 0) ∨ (¬ t < n ∧ n = 1) := by
  by_cases h : t < n
  · rw [tumorBoost_of_lt h]
    by_cases h0 : n = 0
    · subst h0
      simp [h]
    · simp [h, h0]
  · rw [tumorBoost_of_not_lt h]
    by_cases h1 : n = 1
    · subst h1
      simp [h]
    · simp [h, h1]

/-- the model's genotype-from-frequency rule IS the pair of masked assignments of `zygosity_from_freq` -/
theorem zygosity_from_freq_is_the_source (het hom q : Rat) :
    zygFromFreq het hom (.fin q) = Generated.src_zygosity_from_freq q het hom := rfl

/-- … applied to the tumour's and to the normal's columns, each typed from its own frequencies -/
theorem zygosity_from_freq_columns :
    Generated.src_zygosity_from_freq_columns = [("alt_freq", "zygosity"), ("n_alt_freq", "n_zygosity")] := rfl

/-- the hypotheses of `tumor_boost_is_the_source` can be met: a normal frequency strictly inside (0, 1), here 5/8 -/
example : ((1/4 : Rat) < 5/8 → (5/8 : Rat) ≠ 0) ∧ (¬ (3/4 : Rat) < 5/8 → (5/8 : Rat) ≠ 1) := by
  constructor <;> intro _ <;> decide +kernel
example : Generated.src_tumor_boost (1/4) (5/8) = 1/5 ∧ Generated.src_tumor_boost (3/4) (5/8) = 2/3 := by
  constructor <;> decide +kernel
example : Generated.src_zygosity_from_freq (1/5) (1/4) (3/4) = 0 ∧ Generated.src_zygosity_from_freq (1/4) (1/4) (3/4) = 1/2 ∧
    Generated.src_zygosity_from_freq (3/4) (1/4) (3/4) = 1 := by
  refine ⟨?_, ?_, ?_⟩ <;> decide +kernel

end CnvVerif.C18
