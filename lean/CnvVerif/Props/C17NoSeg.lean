/-
  C17: `bintest` without segments (Model/StatsExt5.lean, op `bintest_noseg`): which bins are tested, what
  their residual is, how the rows are selected.  The second half of the property ("adjusted by Benjamini–Hochberg
  exactly, returns exactly the bins whose adjusted p is below alpha, on-target only when asked") holds in this mode as
  it does with segments; the residual is taken from the chromosome's median, there being no segment mean.
-/
import CnvVerif.Props.C17
import CnvVerif.Props.C17BintestOpts
import CnvVerif.Model.StatsExt5
namespace CnvVerif.C17
open CnvVerif CnvVerif.Stats

/-- without `target_only` every bin of the table is tested, once, in table order -/
theorem noseg_every_bin_tested (bins : List Bin) : (nosegTested bins false).map (·.1) = bins := by
  simp [nosegTested, nosegRows, Function.comp_def]

/-- the residual of a tested bin is its log2 minus the median log2 of the bins on its chromosome -/
theorem noseg_residual_is_from_chromosome_median (bins : List Bin) (t : Bool) (b : Bin) (r : Rat)
    (h : (b, r) ∈ nosegTested bins t) :
    b ∈ bins ∧ r = b.log2 - median ((bins.filter (fun x => x.row.chrom == b.row.chrom)).map (·.log2)) := by
  obtain ⟨x, hx, he⟩ := List.mem_map.mp (mem_onTarget h).1
  obtain ⟨rfl, rfl⟩ := Prod.mk.inj he
  exact ⟨hx, rfl⟩

/-- with `target_only` the tested bins are exactly the bins without an off-target name, in table order; the residuals
    (hence the medians) are still taken over ALL bins of the chromosome, off-target ones included -/
theorem noseg_target_only_tests_on_target_bins (bins : List Bin) :
    (nosegTested bins true).map (·.1) = bins.filter (fun b => !Generated.ANTITARGET_ALIASES.contains b.gene) := by
  simp only [nosegTested, if_true, nosegRows, List.filter_map, List.map_map]
  have : (Prod.fst ∘ fun (b : Bin) => (b, b.log2 - median (nosegChromLog2 bins b.row.chrom))) = id := by
    funext b; rfl
  rw [this, List.map_id]
  rfl

/-- the adjusted p-values are Benjamini–Hochberg of the raw two-sided tails over the tested bins, in row order -/
theorem noseg_adjusted_by_bh (tail : Rat → Rat) (bins : List Bin) (t : Bool) :
    (nosegAll tail bins t).map (·.q) = padjustBH ((nosegTested bins t).map (fun r => pRaw tail r.2 r.1.weight)) :=
  adjusted_q tail _

/-- every row of the result pairs a tested bin with ITS residual -/
theorem noseg_rows_are_tested_rows (tail : Rat → Rat) (bins : List Bin) (t : Bool) :
    (nosegAll tail bins t).map (fun h => (h.bin, h.resid)) = nosegTested bins t :=
  adjusted_rows tail _

/-- it returns exactly the tested bins whose adjusted p is below alpha, in table order -/
theorem noseg_selects_below_alpha (tail : Rat → Rat) (bins : List Bin) (alpha : Rat) (t : Bool) (h : Hit) :
    h ∈ nosegBintest tail bins alpha t ↔ h ∈ nosegAll tail bins t ∧ h.q < alpha := by
  unfold nosegBintest
  rw [List.mem_filter]
  simp

theorem noseg_hits_in_table_order (tail : Rat → Rat) (bins : List Bin) (alpha : Rat) (t : Bool) :
    (nosegBintest tail bins alpha t).Sublist (nosegAll tail bins t) := List.filter_sublist

/-- with `target_only` set, no hit is an Antitarget bin -/
theorem noseg_target_only_drops_antitargets (tail : Rat → Rat) (bins : List Bin) (alpha : Rat) (h : Hit)
    (hh : h ∈ nosegBintest tail bins alpha true) : h.bin.gene ∉ Generated.ANTITARGET_ALIASES :=
  (mem_onTarget (mem_adjusted ((noseg_selects_below_alpha tail bins alpha true h).mp hh).1)).2 rfl

/-- a chromosome with a single bin: its residual is 0, so its raw p is `tail 0` (= 1) whatever its log2 -/
theorem noseg_single_bin_chromosome (bins : List Bin) (b : Bin) (r : Rat) (t : Bool)
    (h : (b, r) ∈ nosegTested bins t) (h1 : bins.filter (fun x => x.row.chrom == b.row.chrom) = [b]) : r = 0 := by
  rw [(noseg_residual_is_from_chromosome_median bins t b r h).2, h1]
  rw [List.map_singleton, median_singleton, sub_self]

def exNoSeg : List Bin :=
  [⟨⟨"chr1", 0, 100, "0"⟩, "G1", 1, 1/2, none⟩, ⟨⟨"chr1", 100, 200, "1"⟩, "Antitarget", 3, 1/2, none⟩,
   ⟨⟨"chr1", 200, 300, "2"⟩, "G1", 7, 1/2, none⟩, ⟨⟨"chr2", 10, 60, "3"⟩, "G2", -1, 1/4, none⟩]

example : (nosegTested exNoSeg true).map (·.1.gene) = ["G1", "G1", "G2"] := by decide +kernel
example : exNoSeg.filter (fun x => x.row.chrom == "chr2") = [⟨⟨"chr2", 10, 60, "3"⟩, "G2", -1, 1/4, none⟩] := by
  decide +kernel

end CnvVerif.C17
