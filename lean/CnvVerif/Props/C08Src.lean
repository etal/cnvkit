/-
  C08 — source tie for the two small string functions behind "natural chromosome order" and the
  `chr:start-end` text writer.  `Generated/ExprsChromsort.lean` is re-read from the text of
  `skgenome/chromsort.py: sorter_chrom` and `skgenome/rangelabel.py: to_label` on every run
  (harness/extractors/exprs_chromsort.py; primitives in Model/PyStr.lean).  The theorems say that the hand-written
  model functions — the ones every sorting / text theorem of C08 is about — ARE the functions written in the source.
-/
import CnvVerif.Basic
import CnvVerif.Model.Formats
import CnvVerif.Generated.ExprsChromsort
import CnvVerif.Lemmas.FormatsKey
namespace CnvVerif.C08
open CnvVerif CnvVerif.Fmt CnvVerif.Generated CnvVerif.PyStr

private theorem pyInt_empty (s : String) (h : s.isEmpty = true) : s.toNat?.getD 0 = 0 := by
  have : s = "" := by simpa using h
  subst this
  have := toNat_digits "" (by simp)
  rw [this]; rfl

/-- the sort key of the model is the `sorter_chrom` of the source: prefix test, X/Y, digit run, rank by the length
    of what follows — for every label -/
theorem sorterChrom_is_source (label : String) : sorterChrom label = src_sorter_chrom label := by
  unfold sorterChrom src_sorter_chrom
  simp only [pyStartsWith, pyLower, pySliceFrom, pyLeadingDigits, pyLen, pyInt, pyTruthy, cond_eq_ite]
  generalize (if label.toLower.startsWith "chr" = true then (label.drop 3).toString else label) = chrom
  by_cases hxy : (chrom == "X" || chrom == "Y") = true
  · simp only [hxy, if_true]
  · simp only [hxy, Bool.false_eq_true, if_false]
    generalize (chrom.takeWhile Char.isDigit).toString = nums
    generalize (chrom.drop nums.length).toString = chars
    by_cases hn : nums.isEmpty = true
    · simp only [hn, Bool.not_true, Bool.false_eq_true, if_false, pyInt_empty _ hn, Bool.not_not]
    · simp only [hn, Bool.not_false, if_true, Bool.not_not]

/-- the label the model's text writer prints is the f-string of `to_label` -/
theorem toLabel_is_source (chrom : String) (s e : Int) : toLabel chrom s e = src_to_label chrom s e := by
  unfold toLabel src_to_label
  simp only [WRITE_SHIFT_to_label]

/-- hence the order proved about the model key is the order of the source function: 1 < 2 < 10 < … < X < Y < M < MT,
    numbers by value, with or without the chr prefix -/
theorem source_natural_chromosome_order (n m : Nat) (hnm : n < m) (hm : m < 1000) (p : String) (hp : p = "" ∨ p = "chr") :
    chromKeyLt (src_sorter_chrom (p ++ toString n)) (src_sorter_chrom (p ++ toString m)) = true ∧
    chromKeyLt (src_sorter_chrom (p ++ toString m)) (src_sorter_chrom (p ++ "X")) = true ∧
    chromKeyLt (src_sorter_chrom (p ++ "X")) (src_sorter_chrom (p ++ "Y")) = true ∧
    chromKeyLt (src_sorter_chrom (p ++ "Y")) (src_sorter_chrom (p ++ "M")) = true ∧
    chromKeyLt (src_sorter_chrom (p ++ "M")) (src_sorter_chrom (p ++ "MT")) = true := by
  simp only [← sorterChrom_is_source]
  exact natural_order n m hnm hm p hp

end CnvVerif.C08
