/-
  C07: table-level statements for ANY two tables (several chromosomes, interleaved or missing
  chromosomes, keep_empty on / off), `in_ranges` with open sides, and the VALUE `into_ranges` reports per query
  range for every summary kind.  Lemmas: Lemmas/Ranges.lean (whole tables),
  Lemmas/RangesExtSummary.lean (`np.nanmedian`).

  Vocabulary.  `queriesInOrder other`: the query rows in the order they are visited (grouped by chromosome in
  order of first appearance; the table itself when it has one chromosome).  `hitsOf table inner q`: the slice
  `iter_slices` computes for query row `q` among the rows of `q`'s chromosome.  `WFGenomeQ t`: within each
  chromosome sorted by start, coordinates ≥ 0, start < end (decidable; chromosomes may even interleave).
  `rangeSpec rows qs qe mode`: the property's wording — rows with `end > qs ∧ start < qe` (outer, trim) or
  `start ≥ qs ∧ end ≤ qe` (inner), `none` = open side; in trim mode clipped by the model's own `trimRows`
  (`C07.trim_is_outer_clipped` says what that does for a bounded query).
-/
import CnvVerif.Model.RangesExt
import CnvVerif.Lemmas.Ranges
import CnvVerif.Lemmas.RangesExtSummary
namespace CnvVerif.C07
open CnvVerif

/-- the single-chromosome shortcut of `by_shared_chroms` yields exactly what the grouped path would -/
theorem by_shared_chroms_shortcut_unobservable (table other : Table) (ke : Bool) :
    bySharedChroms table other ke = bySharedGeneral table other ke := bySharedChroms_eq_general table other ke

/-- the visiting order loses and invents no query row -/
theorem every_query_visited_once (dest : Table) :
    (queriesInOrder dest).length = dest.length ∧ ∀ r, r ∈ queriesInOrder dest ↔ r ∈ dest :=
  ⟨length_queriesInOrder dest, mem_queriesInOrder dest⟩

theorem one_chromosome_visited_in_table_order (dest : Table) (c : String) (h : ∀ r ∈ dest, r.chrom = c) :
    queriesInOrder dest = dest :=
  queriesInOrder_of_contig dest (.of_const c h)

/-- keep_empty on: one slice per query row, in visiting order, each taken from the rows of the query's own
    chromosome (empty when that chromosome is missing) -/
theorem iter_ranges_of_one_slice_per_query (table other : Table) (mode : Mode) :
    iterSlices table other mode true = (queriesInOrder other).map (hitsOf table (mode == .inner)) :=
  iterSlices_keep table other mode

/-- keep_empty off: the same slices with exactly the empty ones left out -/
theorem iter_ranges_of_drops_only_empty (table other : Table) (mode : Mode) :
    iterSlices table other mode false =
      ((queriesInOrder other).map (hitsOf table (mode == .inner))).filter (fun sel => !sel.isEmpty) :=
  iterSlices_per_query table other mode false

/-- … and a slice is exactly the rows of the query's chromosome the property names, in table order -/
theorem slice_is_the_named_rows (source : Table) (h : WFGenomeQ source) (inner : Bool) (q : Row) (hq : 0 ≤ q.s) :
    hitsOf source inner q =
      source.filter (fun r => r.chrom == q.chrom && selFilter (some q.s) (some q.e) inner r) :=
  hitsOf_filter source inner q (h.chrom q.chrom)

/-- for well-formed tables of any number of chromosomes: each query row, in visiting order, paired with exactly the
    rows of its chromosome the property names (clipped in trim mode); keep_empty off drops exactly the pairs whose
    selection is empty (a chromosome missing from the queried table gives empty selections) -/
theorem by_ranges_is_the_named_rows (table other : Table) (mode : Mode) (ke : Bool) (h : WFGenomeQ table)
    (hq : ∀ b ∈ other, 0 ≤ b.s) :
    byRanges table other mode ke =
      ((queriesInOrder other).map (fun b =>
        (b, rangeSpec (table.filter (fun r => r.chrom == b.chrom)) (some b.s) (some b.e) mode))).filter
        (fun p => !p.2.isEmpty || ke) := by
  rw [byRanges_per_query]
  congr 1
  exact List.map_congr_left fun b _ => by rw [selectRange_exact _ (h.chrom b.chrom)]

/-- for ANY two tables, all three modes: the concatenation of each query's selection among the rows of its own
    chromosome, queries in visiting order (repeated / overlapping queries repeat rows) -/
theorem intersection_concatenates_per_query (table other : Table) (mode : Mode) :
    intersection table other mode =
      (queriesInOrder other).flatMap (fun b =>
        selectRange (table.filter (fun r => r.chrom == b.chrom)) (some b.s) (some b.e) mode) :=
  intersection_per_query table other mode

theorem intersection_is_the_named_rows (table other : Table) (mode : Mode) (h : WFGenomeQ table)
    (hq : ∀ b ∈ other, 0 ≤ b.s) :
    intersection table other mode =
      (queriesInOrder other).flatMap (fun b =>
        rangeSpec (table.filter (fun r => r.chrom == b.chrom)) (some b.s) (some b.e) mode) := by
  rw [intersection_per_query]
  exact flatMap_congr fun b _ => selectRange_exact _ (h.chrom b.chrom) _ _ _

/-- several ranges, either side possibly open for all of them: the per-range selections (clipped in trim
    mode) concatenated in the order the ranges were given -/
theorem in_ranges_concatenates_in_query_order (t : Table) (chrom : Option String)
    (starts ends : Option (List Int)) (mode : Mode)
    (h : WFTable (chromRows t chrom)) (hq : ∀ ss, starts = some ss → ∀ s ∈ ss, 0 ≤ s) :
    inRangesOpt t chrom starts ends mode =
      (zipBounds starts ends).flatMap (fun q => rangeSpec (chromRows t chrom) q.1 q.2 mode) :=
  inRangesOpt_exact t chrom starts ends mode h

/-! ### `into_ranges`: one value per query range, and which value -/

theorem into_ranges_one_value_per_range (source dest : Table) (col : Row → Val) (d : Val) (s : Summary) :
    (intoRanges source dest col d s).length = dest.length := by
  cases source with
  | nil => exact List.length_map _
  | cons r0 rest =>
    show (if dest.isEmpty then [] else _ : List Val).length = _
    split
    · rename_i hd
      rw [List.isEmpty_iff.mp hd]
      rfl
    · rw [List.length_map, iterSlices_length]

/-- an empty source, or a column the table does not have: the default for every range -/
theorem into_ranges_empty_source (dest : Table) (col : Row → Val) (d : Val) (s : Summary) :
    intoRanges [] dest col d s = dest.map (fun _ => d) := rfl

theorem into_ranges_missing_column (source dest : Table) (d : Val) (s : Summary) :
    intoRangesGA source dest none d s = dest.map (fun _ => d) := rfl

/-- the value of each query range: `series2value` of the cells of the rows it hits (outer), with the summary
    chosen once from the first cell of the column -/
theorem into_ranges_value (r0 : Row) (rest dest : Table) (col : Row → Val) (d : Val) (s : Summary) :
    intoRanges (r0 :: rest) dest col d s =
      (queriesInOrder dest).map (fun q =>
        seriesToValue d (pickSummary s (col r0)) ((hitsOf (r0 :: rest) false q).map col)) :=
  intoRanges_per_query r0 rest dest col d s

/-- … in the property's own words (and those of the oracle the driver evaluates on the REAL output): the rows hit
    are those of the query's chromosome with `end > query start` and `start < query end` -/
theorem into_ranges_value_in_property_words (r0 : Row) (rest dest : Table) (col : Row → Val) (d : Val)
    (s : Summary) (h : WFGenomeQ (r0 :: rest)) (hq : ∀ q ∈ dest, 0 ≤ q.s) :
    intoRanges (r0 :: rest) dest col d s =
      (queriesInOrder dest).map (fun q =>
        seriesToValue d (pickSummary s (col r0)) ((selectSpec (r0 :: rest) q.chrom q.s q.e .outer).map col)) := by
  rw [intoRanges_per_query]
  exact List.map_congr_left fun q _ => by rw [hitsOf_eq_selectSpec _ h q]

/-- the default where nothing overlaps -/
theorem value_default_when_no_hit (d : Val) (f : List Val → Val) : seriesToValue d f [] = d := rfl

/-- the value itself for a single hit — whatever the summary -/
theorem value_itself_for_single_hit (d v : Val) (f : List Val → Val) : seriesToValue d f [v] = v := rfl

/-- two or more hits: the summary of all hit cells in table order -/
theorem value_summary_for_several_hits (d v w : Val) (vs : List Val) (f : List Val → Val) :
    seriesToValue d f (v :: w :: vs) = f (v :: w :: vs) := rfl

/-- default summary on a string column: the distinct strings, comma-joined … -/
theorem strings_are_comma_joined_distinct (x : String) (vs : List Val) :
    pickSummary .auto (.str x) vs = .str (",".intercalate ((vs.map Val.text).eraseDups)) := rfl

/-- … where "distinct" keeps every string once, in order of first appearance among the hits -/
theorem distinct_strings_in_order (l : List String) :
    l.eraseDups.Nodup ∧ l.eraseDups.Sublist l ∧ ∀ x, x ∈ l.eraseDups ↔ x ∈ l :=
  ⟨nodup_eraseDups l, eraseDups_sublist l, fun _ => List.mem_eraseDups⟩

theorem distinct_strings_unchanged (l : List String) (h : l.Nodup) :
    joinStrings l = ",".intercalate l := by
  unfold joinStrings; rw [eraseDups_of_nodup l h]

theorem same_string_reported_once (l : List String) (c : String) (h : ∀ x ∈ l, x = c) (hne : l ≠ []) :
    joinStrings l = c := by
  unfold joinStrings
  rw [eraseDups_const l c h hne]
  rfl

/-- default summary on a floating-point column (first cell a float or NaN): the median of the non-NaN cells -/
theorem floats_are_summarised_by_nanmedian (first : Val) (hf : first = .nan ∨ ∃ q, first = .num q)
    (vs : List Val) : pickSummary .auto first vs = nanMedian vs := by
  rcases hf with rfl | ⟨q, rfl⟩ <;> rfl

theorem nanmedian_is_median_of_finite_cells (vs : List Val) (x : Rat) (xs : List Rat)
    (h : vs.filterMap Val.finite? = x :: xs) : nanMedian vs = .num (medianQ (x :: xs)) := by
  unfold nanMedian
  rw [h]

theorem nanmedian_all_nan (vs : List Val) (h : ∀ v ∈ vs, v.finite? = none) : nanMedian vs = .nan := by
  unfold nanMedian
  rw [List.filterMap_eq_nil_iff.mpr h]

/-- the median is the middle order statistic (mean of the two middle ones for an even count) … -/
theorem median_of_ascending_values (l : List Rat) (h : l.Pairwise (· ≤ ·)) : medianQ l =
    if l.length % 2 = 1 then l.getD (l.length / 2) 0
    else (l.getD (l.length / 2 - 1) 0 + l.getD (l.length / 2) 0) / 2 := by
  rw [medianQ_def, sortQ_eq, Desc.sortR_of_sorted h]

/-- … of the values in ANY order (so the order of the hits is immaterial), and lies within their range -/
theorem median_order_immaterial (l₁ l₂ : List Rat) (hp : l₁.Perm l₂) : medianQ l₁ = medianQ l₂ :=
  Desc.median_eq_of_perm hp

theorem median_within_range (l : List Rat) (hl : l ≠ []) (lo hi : Rat) (h : ∀ x ∈ l, lo ≤ x ∧ x ≤ hi) :
    lo ≤ medianQ l ∧ medianQ l ≤ hi :=
  Desc.median_mem_range l hl lo hi h

/-- default summary on any other column (integers, booleans): the first hit, by position -/
theorem other_columns_take_first_hit (n : Int) (v : Val) (vs : List Val) :
    pickSummary .auto (.int n) (v :: vs) = v := rfl

/-- a non-callable `summary_func` is the value reported wherever several rows hit; a callable is applied -/
theorem constant_summary (c first : Val) (vs : List Val) : pickSummary (.const c) first vs = c := rfl

theorem supplied_function_is_applied (f : List Val → Val) (first : Val) (vs : List Val) :
    pickSummary (.func f) first vs = f vs := rfl

/-! ### non-vacuity -/

/-- two chromosomes interleaved, nested rows on chr1 -/
example : WFGenomeQ [⟨"chr1", 0, 100, "a"⟩, ⟨"chr2", 5, 9, "x"⟩, ⟨"chr1", 10, 20, "b"⟩, ⟨"chr1", 30, 40, "c"⟩] := by
  decide +kernel

example : intersection [⟨"chr1", 0, 100, "a"⟩, ⟨"chr1", 10, 20, "b"⟩, ⟨"chr2", 5, 9, "x"⟩]
    [⟨"chr2", 0, 7, "q"⟩, ⟨"chr1", 15, 50, "r"⟩, ⟨"chr3", 0, 9, "s"⟩] .trim
    = [⟨"chr2", 5, 7, "x"⟩, ⟨"chr1", 15, 50, "a"⟩, ⟨"chr1", 15, 20, "b"⟩] := by decide +kernel

example : intoRanges [⟨"chr1", 1, 2, "a0"⟩, ⟨"chr1", 5, 6, "a1"⟩, ⟨"chr1", 8, 9, "a0"⟩]
    [⟨"chr1", 0, 6, "s0"⟩, ⟨"chr1", 6, 7, "s1"⟩, ⟨"chr1", 7, 9, "s2"⟩, ⟨"chr1", 0, 9, "s3"⟩]
    (fun r => .str r.gene) (.str "-") .auto = [.str "a0,a1", .str "-", .str "a0", .str "a0,a1"] := by decide +kernel

end CnvVerif.C07
