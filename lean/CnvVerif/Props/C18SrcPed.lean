/-
  C18: tie to the source TEXT of `_parse_pedigrees` (skgenome/tabio/vcfio.py).  `Generated.src_parse_pedigrees_arm` (the
  `if / elif / elif` key precedence) and `Generated.src_parse_pedigrees_{pedigree_tag, gatk_tag, mutect2}` (what one pass of
  each arm yields under which condition) are re-read from /repo on every run (harness/yieldtrans.py, extractor vcf_pedkeys).
  These theorems state that `headerPairs`, `pedPairs`, `mutectPairs`, `mutect2Pairs` of Model/VcfPairs.lean ARE those
  structures, each atom read on the model's data as stated here: `'PEDIGREE' in meta` = there is a PEDIGREE record,
  `'GATKCommandLine' in meta` = there is a GATKCommandLine record, `'GATKCommandLine.MuTect2' in meta` = `Hdr.mutect2`,
  `'Derived' in tag` = the tag has a `Derived` item, `tag.get('ID') == 'MuTect'`, `len(samples) == 2`,
  `tuple(samples) == ('NORMAL', 'TUMOR')`.  A module of its own: an edit of the chain breaks exactly these obligations.
-/
import CnvVerif.Model.VcfPairs
import CnvVerif.Generated.VcfPedKeys
namespace CnvVerif.C18
open CnvVerif CnvVerif.Vcf

namespace SrcPed

/-- what a generated arm means on the model's header -/
def armPairs (samples : List String) (h : Hdr) : Generated.PedArm → Except VErr (List DPair)
  | .eachPedigreeTag => pedPairs h.tags
  | .eachGatkTag => mutectPairs h.gatk
  | .sampleColumns => .ok (mutect2Pairs samples)
  | .nothing => .ok []

/-- what a generated yield means: `ok none` = nothing yielded, an error = the exception the expression raises -/
def yieldOf (tag : PedTag) (g : GatkTag) (samples : List String) : Generated.PedYield → Except VErr (Option DPair)
  | .derivedOriginal =>                      -- `(tag["Derived"], tag["Original"])`
    match tag.lookup "Derived", tag.lookup "Original" with
    | some d, some o => .ok (some (some d, o))
    | _, _ => .error .keyError
  | .mutectOptions =>                        -- `(options.get("tumor_sample_name"), options["normal_sample_name"])`
    match g.opts with
    | none => .error .keyError
    | some toks =>
      match dictGet (optionsDict toks) "normal_sample_name" with
      | none => .error .keyError
      | some n => .ok (some (dictGet (optionsDict toks) "tumor_sample_name", n))
  | .tumorNormalLiteral => .ok (some (some "TUMOR", "NORMAL"))
  | .columnsInFileOrder =>                   -- `tuple(samples)`, unpacked by the caller as a pair
    match samples with
    | [a, b] => .ok (some (some a, b))
    | _ => .error .typeError
  | .nothing => .ok none

/-- a generator pass followed by the remaining passes: an exception ends the generator, a yield is put in front -/
def consY : Except VErr (Option DPair) → Except VErr (List DPair) → Except VErr (List DPair)
  | .error e, _ => .error e
  | .ok none, rest => rest
  | .ok (some p), rest => rest.map (fun r => p :: r)

end SrcPed

/-- the key precedence IS the source's: the arm the re-read `if / elif / elif` chain selects, on
    (`"PEDIGREE" in meta`, `"GATKCommandLine" in meta`, `"GATKCommandLine.MuTect2" in meta`), is what `headerPairs` computes -/
theorem header_precedence_is_the_source (samples : List String) (h : Hdr) :
    headerPairs samples h =
      SrcPed.armPairs samples h (Generated.src_parse_pedigrees_arm (!h.tags.isEmpty) (!h.gatk.isEmpty) h.mutect2) := by
  unfold headerPairs Generated.src_parse_pedigrees_arm
  cases h.tags.isEmpty <;> cases h.gatk.isEmpty <;> cases h.mutect2 <;> simp [SrcPed.armPairs]

/-- one pass of the PEDIGREE arm IS the source's: a record with `Derived` yields `(Derived, Original)`, any other nothing -/
theorem pedigree_pass_is_the_source (tag : PedTag) (rest : List PedTag) (g : GatkTag) (samples : List String) :
    pedPairs (tag :: rest) =
      SrcPed.consY (SrcPed.yieldOf tag g samples (Generated.src_parse_pedigrees_pedigree_tag (tag.lookup "Derived").isSome))
        (pedPairs rest) := by
  unfold pedPairs Generated.src_parse_pedigrees_pedigree_tag
  rw [parsePedigrees]
  cases hd : tag.lookup "Derived" with
  | none => rfl
  | some d =>
    simp only [Option.isSome_some, if_true, SrcPed.yieldOf, hd]
    cases tag.lookup "Original" with
    | none => rfl
    | some o => cases parsePedigrees rest <;> rfl

/-- one pass of the legacy-MuTect arm IS the source's: a record with `ID == "MuTect"` yields
    `(options.get("tumor_sample_name"), options["normal_sample_name"])`, any other nothing -/
theorem mutect_pass_is_the_source (t : GatkTag) (rest : List GatkTag) (tag : PedTag) (samples : List String) :
    mutectPairs (t :: rest) =
      SrcPed.consY (SrcPed.yieldOf tag t samples (Generated.src_parse_pedigrees_gatk_tag (t.id == some "MuTect")))
        (mutectPairs rest) := by
  rw [mutectPairs]
  unfold Generated.src_parse_pedigrees_gatk_tag
  cases (t.id == some "MuTect")
  · rfl
  · show (match t.opts with | none => _ | some toks => _) = SrcPed.consY (match t.opts with | none => _ | some toks => _) _
    cases t.opts with
    | none => rfl
    | some toks =>
      show (match dictGet (optionsDict toks) "normal_sample_name" with | none => _ | some n => _) =
        SrcPed.consY (match dictGet (optionsDict toks) "normal_sample_name" with | none => _ | some n => _) _
      cases dictGet (optionsDict toks) "normal_sample_name" with
      | none => rfl
      | some n => cases mutectPairs rest <;> rfl

/-- the MuTect2 arm IS the source's: only with exactly two sample columns; `("NORMAL", "TUMOR")` is read as
    `("TUMOR", "NORMAL")`, any other two columns in file order -/
theorem mutect2_arm_is_the_source (samples : List String) (tag : PedTag) (g : GatkTag) :
    (.ok (mutect2Pairs samples) : Except VErr (List DPair)) =
      SrcPed.consY (SrcPed.yieldOf tag g samples
        (Generated.src_parse_pedigrees_mutect2 (samples.length == 2) (samples == ["NORMAL", "TUMOR"]))) (.ok []) := by
  unfold Generated.src_parse_pedigrees_mutect2
  match samples with
  | [] => rfl
  | [_] => rfl
  | [a, b] =>
    have e : ([a, b] == ["NORMAL", "TUMOR"]) = (a == "NORMAL" && b == "TUMOR") := by
      rw [List.cons_beq_cons, List.cons_beq_cons, List.beq_nil_eq, List.isEmpty_nil, Bool.and_true]
    rw [e]
    show (.ok (if (a == "NORMAL" && b == "TUMOR") = true then _ else _) : Except VErr (List DPair)) = _
    cases (a == "NORMAL" && b == "TUMOR") <;> rfl
  | _ :: _ :: _ :: _ => rfl

/-- the loops end as the source's `for` does: no record, no pair -/
theorem no_record_no_pair : pedPairs [] = .ok [] ∧ mutectPairs [] = .ok [] := by
  simp [pedPairs, parsePedigrees, mutectPairs]

/-- non-vacuity: every arm and every yield of the generated structure is reached -/
example : Generated.src_parse_pedigrees_arm true true true = .eachPedigreeTag ∧
    Generated.src_parse_pedigrees_arm false true true = .eachGatkTag ∧
    Generated.src_parse_pedigrees_arm false false true = .sampleColumns ∧
    Generated.src_parse_pedigrees_arm false false false = .nothing := by decide +kernel
example : SrcPed.yieldOf [("Derived", "T"), ("Original", "N")] default []
    (Generated.src_parse_pedigrees_pedigree_tag true) = .ok (some (some "T", "N")) := by
  rfl
example : SrcPed.yieldOf [] { id := some "MuTect", opts := some [("normal_sample_name", some "N")] } []
    (Generated.src_parse_pedigrees_gatk_tag true) = .ok (some (none, "N")) := by
  rfl
example : SrcPed.yieldOf [] default ["A", "B"] (Generated.src_parse_pedigrees_mutect2 true false) = .ok (some (some "A", "B")) := by
  rfl

end CnvVerif.C18
