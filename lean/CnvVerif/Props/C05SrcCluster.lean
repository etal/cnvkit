/-
  C05: tie of the cluster columns to the source TEXT.  `Generated/RefClusterConsts.lean` is re-read from
  `create_clusters` / `summarize_info` of cnvlib/reference.py on every run (harness/extractors/ref_cluster.py: found by
  shape -- which rows are dropped, how clusters are numbered, the skip test, which rows the summary gets, which
  estimators fill which column).  `srcClusterColsBy` is the loop written with those constants as parameters, applied to
  the matrix as `combine_probes` passes it (pseudo-sample row first); the theorem states that the model's `clusterCols`
  is that loop.  A module of its own: an edit to `create_clusters` breaks exactly these obligations.
-/
import CnvVerif.Props.C05Cluster
import CnvVerif.Generated.RefClusterConsts
namespace CnvVerif.C05
open CnvVerif CnvVerif.Ref CnvVerif.Ref.C05Cl

/-- a Python comparison of two lengths, by the name of its AST node -/
def srcLenCmp (op : String) (a b : Nat) : Bool :=
  if op = "Lt" then decide (a < b) else if op = "LtE" then decide (a ≤ b) else if op = "Gt" then decide (a > b)
  else if op = "GtE" then decide (a ≥ b) else false

/-- `create_clusters` with what the translator reads as parameters: `drop` leading rows of the matrix removed, cluster
    at position `p` numbered `p + off`, skipped when `len(members) <cmp> min_cluster_size` -/
def srcClusterColsBy (drop off : Nat) (cmp : String) (members : List (List Nat)) (minSize n : Nat)
    (allLogr : List (List Rat)) : List (Nat × List (Rat × Desc.ScaleOut)) :=
  members.zipIdx.filterMap fun p =>
    if srcLenCmp cmp p.1.length minSize then none else some (p.2 + off, clusterColumn n (allLogr.drop drop) p.1)

/-- the model's cluster columns ARE the source's loop over the matrix `pseudo-sample :: samples` -/
theorem cluster_loop_is_the_source (members : List (List Nat)) (minSize n : Nat) (flat : List Rat)
    (logr : List (List Rat)) :
    clusterCols members minSize n logr =
      srcClusterColsBy Generated.REFCL_DROP_ROWS Generated.REFCL_LABEL_OFFSET Generated.REFCL_SKIP_TEST
        members minSize n (flat :: logr) := by
  unfold clusterCols srcClusterColsBy
  have h1 : Generated.REFCL_DROP_ROWS = 1 := by decide
  have h2 : Generated.REFCL_LABEL_OFFSET = 1 := by decide
  have h3 : Generated.REFCL_SKIP_TEST = "Lt" := by decide
  rw [h1, h2, h3]
  simp [srcLenCmp]

/-- each cluster's summary is `summarize_info` on the member rows (all bins) with no depths; `log2_<i>` is its log2
    entry and `spread_<i>` its spread entry; and those entries are Tukey's biweight location per bin over the samples
    and the biweight midvariance of the same column started (`initial=`) at that bin's location -- the estimators
    `cellOf` applies -/
theorem cluster_summary_is_the_source :
    Generated.REFCL_SUMMARY = ("summarize_info", "member_rows", "[]") ∧
    Generated.REFCL_COLUMNS = [("log2_", "log2"), ("spread_", "spread")] ∧
    Generated.REFCL_EST_LOG2 = ("biweight_location", 0) ∧
    Generated.REFCL_EST_SPREAD = ("biweight_midvariance", "initial", true) := ⟨rfl, rfl, rfl, rfl⟩

/-! non-vacuity: the loop with other constants is a different function -/
example : (srcClusterColsBy 0 1 "Lt" [[0]] 1 1 [[7], [3]]).map (fun c => c.2.map (·.1)) = [[7]] ∧
    (srcClusterColsBy 1 1 "Lt" [[0]] 1 1 [[7], [3]]).map (fun c => c.2.map (·.1)) = [[3]] := by
  decide +kernel

end CnvVerif.C05
