/-
  C18: the two row filters of `read_vcf` (`min_depth`, `skip_somatic`) are the source's.
  Generated/VcfFilters.lean is re-read from skgenome/tabio/vcfio.py on every run (harness/extractors/vcf_filters.py): the
  comparison of the depth mask as written (`>=`), the column it compares (`n_depth` when the table has it, else `depth`),
  the column whose `.any()` guards the filter (`depth`, the tumour's, also when the normal's depth is compared), the way
  each mask is applied (`table[idx]` / `table[~idx]`) and the order of the two filters.
-/
import CnvVerif.Props.C18
import CnvVerif.Generated.VcfFilters
namespace CnvVerif.C18
open CnvVerif CnvVerif.Vcf

/-- the value of a row in a depth column of the table, by the column's name in the source -/
def c18FiltCol (name : String) (r : VRow) : Rat :=
  if name = "n_depth" then (r.n.map (·.depth)).getD 0 else if name = "depth" then r.t.depth else 0

/-- the model's `filterDepth` reads the column the source names -/
theorem c18Filt_filterDepth_is_the_source_column (r : VRow) :
    filterDepth r = c18FiltCol (Generated.srcDepthKey r.n.isSome) r := by
  unfold filterDepth c18FiltCol Generated.srcDepthKey
  cases h : r.n <;> simp

/-- the guard of the depth filter looks at the column the source names (the tumour's depth) -/
theorem c18Filt_guard_is_the_source_column (rows : List VRow) :
    rows.any (fun r => r.t.depth != 0) = rows.any (fun r => c18FiltCol Generated.srcDepthGuardCol r != 0) := by
  simp [c18FiltCol, Generated.srcDepthGuardCol]

/-- `depthFilter` is the source's filter: truthiness of `min_depth`, then the `.any()` guard on the source's guard column,
    then the source's comparison on the source's key column, mask applied as the source applies it -/
theorem c18Filt_depthFilter_is_the_source (m : Option Int) (rows : List VRow) :
    depthFilter m rows =
      match m with
      | none => rows
      | some m =>
        if m = 0 then rows
        else if rows.any (fun r => c18FiltCol Generated.srcDepthGuardCol r != 0) then
          rows.filter (fun r => Generated.srcDepthKeep (c18FiltCol (Generated.srcDepthKey r.n.isSome) r) (m : Rat))
        else rows := by
  cases m with
  | none => simp [depthFilter]
  | some m =>
    simp only [depthFilter, ← c18Filt_guard_is_the_source_column, ← c18Filt_filterDepth_is_the_source_column,
      Generated.srcDepthKeep]

/-- `somaticFilter` keeps a row iff the source's mask (applied the way the source applies it) keeps its flag -/
theorem c18Filt_somaticFilter_is_the_source (b : Bool) (rows : List VRow) :
    somaticFilter b rows = if b then rows.filter (fun r => Generated.srcSomaticKeep r.somatic) else rows := by
  simp [somaticFilter, Generated.srcSomaticKeep]

/-- the model applies the two filters in the source's order, and the flag column is the source's -/
theorem c18Filt_order_is_the_source :
    Generated.srcFilterOrder = ["min_depth", "skip_somatic"] ∧ Generated.srcSomaticCol = "somatic" ∧
    Generated.srcDepthKeyProbe = Generated.srcDepthKey true := ⟨rfl, rfl, rfl⟩

/-- a row whose filter depth EQUALS the minimum is kept … -/
theorem c18Filt_depth_at_minimum_kept (m : Int) (hm : m ≠ 0) (rows : List VRow) (hany : ∃ x ∈ rows, x.t.depth ≠ 0)
    (r : VRow) (hr : r ∈ rows) (hd : filterDepth r = (m : Rat)) : r ∈ depthFilter (some m) rows := by
  rw [mem_depthFilter m hm rows hany]
  exact ⟨hr, by rw [hd]⟩

/-- … and every row strictly below it is dropped, however close -/
theorem c18Filt_depth_below_minimum_dropped (m : Int) (hm : m ≠ 0) (rows : List VRow)
    (hany : ∃ x ∈ rows, x.t.depth ≠ 0) (r : VRow) (hd : filterDepth r < (m : Rat)) : r ∉ depthFilter (some m) rows := by
  rw [mem_depthFilter m hm rows hany]
  rintro ⟨_, hge⟩
  exact absurd hd (Rat.not_lt.mpr hge)

/-- the source's own comparison at the boundary: equal passes, one below does not -/
theorem c18Filt_source_comparison_boundary (m : Int) :
    Generated.srcDepthKeep (m : Rat) (m : Rat) = true ∧ Generated.srcDepthKeep ((m - 1 : Int) : Rat) (m : Rat) = false := by
  constructor
  · simp [Generated.srcDepthKeep]
  · simp only [Generated.srcDepthKeep, decide_eq_false_iff_not, ge_iff_le, Rat.not_le]
    exact_mod_cast (by omega : m - 1 < m)

/-- a minimum of 0 is "no filter" (the source tests the truthiness of `min_depth`), even for rows of negative depth -/
theorem c18Filt_zero_minimum_is_no_filter (rows : List VRow) : depthFilter (some 0) rows = rows := by
  simp [depthFilter]

/-- the guard looks at the TUMOUR's depth although the normal's is compared: a paired table whose tumour column is all
    zero is not filtered, whatever the normal's depths -/
theorem c18Filt_guard_is_the_tumour_column (m : Int) (rows : List VRow) (h : ∀ x ∈ rows, x.t.depth = 0) :
    depthFilter (some m) rows = rows := by
  have h' : rows.any (fun r => r.t.depth != 0) = false :=
    List.any_eq_false.mpr (fun x hx => by simp [h x hx])
  simp [depthFilter, h']

/-- both filters together at the boundary, through the whole filter stage of `read_vcf` -/
theorem c18Filt_stage_boundary (m : Int) (hm : m ≠ 0) (rows : List VRow) (hany : ∃ x ∈ rows, x.t.depth ≠ 0)
    (ss : Bool) (r : VRow) (hr : r ∈ rows) (hd : filterDepth r = (m : Rat)) (hs : ss = true → r.somatic = false) :
    r ∈ somaticFilter ss (depthFilter (some m) rows) := by
  rw [mem_somaticFilter]
  exact ⟨c18Filt_depth_at_minimum_kept m hm rows hany r hr hd, hs⟩

/-- non-vacuity: a paired row whose normal sits exactly on the minimum (and whose tumour is far below it) stays, its
    neighbour one read below goes -/
example :
    let g (d : Rat) : Geno := { zyg := 0, depth := d, altCount := 0, altFreq := default }
    let r (d : Rat) : VRow := { chrom := "1", s := 0, e := 1, ref := "A", alt := "C", somatic := false, t := g 3, n := some (g d) }
    (depthFilter (some 20) [r 20, r 19]).length = 1 := by decide +kernel

end CnvVerif.C18
