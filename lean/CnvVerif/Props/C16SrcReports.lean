/-
  C16: tie to the source TEXT of cnvlib/reports.py.  The definitions `Generated.src_gene_metrics_*`,
  `src_min_probes_*`, `src_get_breakpoints_*`, `src_segment_mean` (cnvlib/segmetrics.py), `src_group_by_genes_ignore`, `src_get_gene_intervals_ignore` are
  re-translated from /repo's Python on every run (harness/exprtrans.py, typed reading;
  harness/extractors/exprs_genemetrics.py); these theorems state that the selection rules of the hand-written model
  ARE those expressions.  Kept in a module of its own so that an edit to one of them breaks exactly these obligations.
-/
import CnvVerif.Props.C16
import CnvVerif.Lemmas.SrcGeneMetrics
namespace CnvVerif.C16
open CnvVerif CnvVerif.Genes CnvVerif.Generated

/-- **genes reaching the threshold**: without segments the reported rows are the gene rows on which the source's
    test `abs(row.log2) >= threshold and row.gene` holds (a NaN mean compares false) -/
theorem genemetrics_threshold_is_the_source (t : List Bin) (thr : Rat) (skip : Bool) :
    metricsByGene t thr skip =
      (groupByGenes t skip).filter (fun r => match r.log2 with
        | some v => src_gene_metrics_by_gene_keep thr r.gene v
        | none => false) := by
  unfold metricsByGene
  congr 1
  funext r
  cases h : r.log2 with
  | none => simp [reaches]
  | some v => exact reaches_src v thr r.gene

/-- **segments reaching the threshold**: given segments, the genes of exactly the segments on which the source's
    test `abs(segment.log2) >= threshold` holds are reported -/
theorem by_segment_threshold_is_the_source (t : List Bin) (segs : List SegRow) (thr : Rat) (skip : Bool) :
    metricsBySegment t segs thr skip =
      ((segsInOrder segs).filter (fun sg => src_gene_metrics_by_segment_keep thr sg.log2)).flatMap
        (segmentPart t skip false) := by
  unfold metricsBySegment
  congr 2

/-- the group labels that give no genemetrics row, and the names `breaks` does not count as genes, are the lists
    the source builds -/
theorem skipped_names_are_the_source (ignore : List String) :
    skipNames = src_group_by_genes_ignore ∧ fullIgnore ignore = src_get_gene_intervals_ignore ignore :=
  ⟨rfl, rfl⟩

/-- **at least the minimum number of bins**: the final filter of `do_genemetrics` is applied when the source's test
    `min_probes and len(table)` holds and keeps the rows with `n_probes >= min_probes` (the segment's probes when
    that column exists, else the gene's) -/
theorem min_probes_filter_is_the_source (rows : List GRow) (m : Nat) :
    minProbesFilter rows m =
      if src_min_probes_applies m rows.length then
        (if rows.any (fun r => r.segProbes.isSome) then
          rows.filter (fun r => match r.segProbes with
            | some p => src_min_probes_keep (m : Int) p
            | none => false)
        else rows.filter (fun r => src_min_probes_keep (m : Int) (r.probes : Int)))
      else rows := by
  unfold minProbesFilter src_min_probes_applies src_min_probes_keep
  by_cases hm : m = 0
  · simp [hm]
  · by_cases hr : rows = []
    · simp [hr]
    · have hl : rows.length ≠ 0 := by simpa using hr
      have he : rows.isEmpty = false := by simpa using hr
      have hb : (m == 0) = false := by simpa using hm
      have hk : ∀ r : GRow, decide (r.probes ≥ m) = decide ((r.probes : Int) ≥ (m : Int)) := by
        intro r; simp
      simp only [hb, he, Bool.or_self, Bool.false_eq_true, ↓reduceIte, ne_eq, hm, not_false_eq_true, hl,
        and_self, decide_true, hk]
      -- the same test chooses the column, and the predicates on either column are the same by unfolding
      split <;> rfl

/-- **breaks, one boundary**: the rows for the boundary after `cur` are those the source's loop body appends for each
    gene interval of the chromosome (`gstarts[0] < curr_end < gend`, the two counts, both `>= min_probes`), and none
    when the next row is on another chromosome -/
theorem breaks_iteration_is_the_source (t : List Bin) (m : Nat) (cur nxt : SegRow) :
    breaksAt t m cur nxt =
      if src_get_breakpoints_skip nxt.chrom cur.chrom then []
      else (geneIntervals t cur.chrom).flatMap (fun g =>
        (src_get_breakpoints_gene m g.gene g.starts g.stop cur.chrom cur.e nxt.log2 cur.log2).map toBrk) := by
  unfold breaksAt src_get_breakpoints_skip
  by_cases hc : nxt.chrom = cur.chrom
  · simp only [hc, bne_self_eq_false, Bool.false_eq_true, ↓reduceIte, ne_eq, not_true_eq_false, decide_false]
    rw [filterMap_eq_flatMap_toList]
    congr 1
    funext g
    -- the same two nested tests, written with `&&` in the model and with `∧` in the source
    simp only [src_get_breakpoints_gene, Bool.and_eq_true, decide_eq_true_eq, apply_ite Option.toList,
      apply_ite (List.map toBrk), Option.toList_some, Option.toList_none, List.map_cons, List.map_nil, toBrk]
  · have : (nxt.chrom != cur.chrom) = true := by simpa using hc
    simp [this, hc]

/-- **the weighted mean log2** is what `segment_mean` computes from the columns of the rows it keeps (`keptRows`: all
    rows, or with `skip_low` those `drop_low_coverage` keeps): NaN for no rows, `np.average(log2, weights=weight)` when
    some weight is not 0, else the plain mean -/
theorem segment_mean_is_the_source (rows : List Bin) (skip : Bool) :
    segmentMean rows skip =
      src_segment_mean (keptRows rows skip).length ((keptRows rows skip).map (·.log2))
        ((keptRows rows skip).map (·.weight)) := by
  cases skip
  · simp only [segmentMean, keptRows, Bool.false_eq_true, ↓reduceIte]
    exact segmentMean_core rows
  · simp only [segmentMean, keptRows, ↓reduceIte]
    exact segmentMean_core (rows.filter keptLow)

/-- **the row of a gene group** -- the gene's true start, end, bin count, summed weight and weight-averaged depth -- is the
    row the loop body of `group_by_genes` yields for the group: first row's chromosome and start, `rows.end.iat[-1]`,
    the group's label, `segment_mean(rows, skip_low)`, `np.average(depth, weights=weight)`, `weight.sum()`, `len(rows)`
    (`rowTuple r d` = those fields of `r` in table order; weights not summing to zero -- else `np.average` raises) -/
theorem group_row_is_the_source (g : String) (rows : List Bin) (skip : Bool) (r : GRow)
    (h : groupRow g rows skip = some r) (hs : skipNames.contains g = false) (hw : r.weight ≠ 0) :
    ∃ d, r.depth = some d ∧
      src_group_by_genes_row g rows.length (rows.map (·.chrom)) (rows.map (·.s)) (rows.map (·.e))
        (rows.map (·.depth)) (rows.map (·.weight)) (segmentMean rows skip) = [rowTuple r d] := by
  obtain ⟨first, last, hf, hl, hg, hc, hs', he, hp, hwt, hlog, _, _, hd⟩ := groupRow_fields h
  obtain ⟨rest, rfl⟩ := List.head?_eq_some_iff.mp hf
  refine ⟨_, hd hw, ?_⟩
  have hmem : ¬ (¬ (first :: rest).length ≠ 0 ∨ g ∈ [""] ++ ANTITARGET_ALIASES) := by
    rintro (h0 | hm)
    · exact h0 (Nat.succ_ne_zero _)
    · exact Bool.false_ne_true (hs ▸ List.contains_iff_mem.mpr hm)
  have h3 : ((first :: rest).map (·.e)).getLastD 0 = r.e := by
    rw [he, List.getLastD_eq_getLast?, List.getLast?_map, hl]; rfl
  rw [src_group_by_genes_row, if_neg hmem, h3, zipWith_map_same, ← sumRat_eq_sum,
    ← sumRat_eq_sum, ← hwt, ← hlog, ← hp, rowTuple, hc, hs', hg]
  rfl

/-- … and a group labelled "", Antitarget or Background gives no row, whatever it holds -/
theorem group_row_skipped_is_the_source (g : String) (n : Nat) (m : Option Rat) (e : List Int) (w d : List Rat)
    (c : List String) (s : List Int) (hs : skipNames.contains g = true) :
    src_group_by_genes_row g n c s e d w m = [] := by
  have hm : g ∈ ([""] ++ ANTITARGET_ALIASES) := by
    have := List.contains_iff_mem.mp hs
    simpa [skipNames] using this
  unfold src_group_by_genes_row
  rw [if_pos (Or.inr hm)]

/-- non-vacuity: gene A of the demo table (two bins of weight 1) meets the hypotheses of `group_row_is_the_source` -/
example : ∃ r, groupRow "A" (demo.take 2) false = some r ∧ skipNames.contains "A" = false ∧ r.weight ≠ 0 :=
  ⟨_, rfl, by decide, by decide +kernel⟩

end CnvVerif.C16
