/-
  C04 — "carries a per-bin weight in [0.0001, 1] that never decreases with bin size nor increases with reference spread":
  the clauses stated BETWEEN THE ROWS OF ONE OUTPUT TABLE (`weight_mono_size` / `weight_antitone_spread` are
  about the one-bin formula `weightOf`; `weight_column_is_the_formula` shows that `apply_weights` evaluates exactly that
  formula on every row), and the exact values on degenerate inputs.  Lemmas in Lemmas/FixWeights.lean.
-/
import CnvVerif.Props.C04
import CnvVerif.Lemmas.FixWeights
namespace CnvVerif.C04
open CnvVerif

/-- `apply_weights`, row by row: the one-bin formula with the table's pooled-or-flat verdict, the row's reference spread
    and sqrt(size), the mean sqrt(size) of the row's class and the residual variance of the row's class -/
theorem weight_column_is_the_formula (rows : List (SRow × RRow × Rat)) (varT varA : Rat) :
    applyWeights rows varT varA = rows.map (fun p =>
      weightOf (pooledRef rows) p.2.1.spread p.2.2 (classMean rows (isAntiRow p.1)) (if isAntiRow p.1 then varA else varT)) :=
  applyWeights_eq rows varT varA

/-- within one output table: of two bins of the same class with the same reference spread, the larger never weighs less
    (bins have positive size; the residual variances are squares) -/
theorem weight_never_decreases_with_bin_size (rows : List (SRow × RRow × Rat)) (varT varA : Rat) (hv : 0 ≤ varT ∧ 0 ≤ varA)
    (hpos : ∀ p ∈ rows, 0 < p.2.2) (i j : Nat) (hi : i < rows.length) (hj : j < rows.length)
    (hcls : isAntiRow rows[i].1 = isAntiRow rows[j].1) (hsp : rows[i].2.1.spread = rows[j].2.1.spread)
    (hle : rows[i].2.2 ≤ rows[j].2.2)
    (hi' : i < (applyWeights rows varT varA).length) (hj' : j < (applyWeights rows varT varA).length) :
    (applyWeights rows varT varA)[i] ≤ (applyWeights rows varT varA)[j] :=
  by
  rw [applyWeights_getElem rows varT varA i hi, applyWeights_getElem rows varT varA j hj, ← hcls, ← hsp]
  apply CnvVerif.weight_mono_size _ _ _ _ _ _ (classMean_pos rows hpos rows[i] (List.getElem_mem hi)) _
    (hpos _ (List.getElem_mem hi)) hle
  cases isAntiRow rows[i].1
  · exact hv.1
  · exact hv.2

/-- within one output table: of two bins of the same class and size, the one with the larger reference spread never
    weighs more -/
theorem weight_never_increases_with_reference_spread (rows : List (SRow × RRow × Rat)) (varT varA : Rat)
    (i j : Nat) (hi : i < rows.length) (hj : j < rows.length)
    (hcls : isAntiRow rows[i].1 = isAntiRow rows[j].1) (hsz : rows[i].2.2 = rows[j].2.2)
    (h0 : 0 ≤ rows[i].2.1.spread) (hle : rows[i].2.1.spread ≤ rows[j].2.1.spread)
    (hi' : i < (applyWeights rows varT varA).length) (hj' : j < (applyWeights rows varT varA).length) :
    (applyWeights rows varT varA)[j] ≤ (applyWeights rows varT varA)[i] :=
  by
  rw [applyWeights_getElem rows varT varA i hi, applyWeights_getElem rows varT varA j hj, ← hcls, ← hsz]
  exact CnvVerif.weight_antitone_spread _ _ _ _ _ _ h0 hle

/-- degenerate references: all spreads (at most epsilon ≈) zero — flat, or built from one sample — or all log2 whole
    numbers: never treated as pooled, every weight is the clipped size/variance term `1 − var/(√size/mean √size)` -/
theorem flat_reference_weights (rows : List (SRow × RRow × Rat)) (varT varA : Rat)
    (h : (∀ p ∈ rows, p.2.1.spread ≤ Generated.WEIGHT_EPSILON) ∨ (∀ p ∈ rows, ∃ n : Int, p.2.1.log2 = (n : Rat))) :
    applyWeights rows varT varA = rows.map (fun p =>
      clipQ Generated.WEIGHT_EPSILON Generated.WEIGHT_MAX
        (1 - (if isAntiRow p.1 then varA else varT) / (p.2.2 / classMean rows (isAntiRow p.1)))) := by
  have hp : pooledRef rows = false := by
    rcases h with h | h
    · exact pooledRef_false_of_no_spread rows h
    · exact pooledRef_false_of_whole_log2 rows h
  rw [applyWeights_eq, hp]
  apply List.map_congr_left
  intro p _
  exact weightOf_flat _ _ _ _

/-- a class without residual spread (variance 0): weight exactly 1 on every bin with a flat reference, and the clipped
    `0.9·(1 − spread²) + 0.1` with a pooled one — the bin size plays no part -/
theorem zero_variance_weights (spread sq m : Rat) :
    weightOf false spread sq m 0 = 1 ∧
    weightOf true spread sq m 0 = clipQ Generated.WEIGHT_EPSILON Generated.WEIGHT_MAX
      (Generated.WEIGHT_REF_EMPHASIS * (1 - spread ^ 2) + (1 - Generated.WEIGHT_REF_EMPHASIS)) := by
  refine ⟨?_, by unfold weightOf; simp⟩
  rw [weightOf_flat, clipQ, zero_div, sub_zero]
  exact (congrArg (min _) (max_eq_right weight_eps_le_max)).trans (min_self _)

/-- a class with exactly one bin: its own sqrt(size) is the class mean, so its weight does not depend on its size -/
theorem single_bin_class_weight (rows : List (SRow × RRow × Rat)) (p : SRow × RRow × Rat) (pooled : Bool) (v : Rat)
    (h : rows.filter (fun q => isAntiRow q.1 == isAntiRow p.1) = [p]) (hsq : p.2.2 ≠ 0) :
    weightOf pooled p.2.1.spread p.2.2 (classMean rows (isAntiRow p.1)) v = weightOf pooled p.2.1.spread 1 1 v := by
  rw [classMean_single rows p h]
  unfold weightOf
  rw [div_self hsq, div_self one_ne_zero]

/-! non-vacuity -/
example : pooledRef [((⟨"chr1", 0, 100, "A", 0, 1⟩ : SRow), (⟨"chr1", 0, 100, "A", 1/2, 1, none, none, 1/5⟩ : RRow), (10 : Rat))] = true := by
  decide +kernel
example : pooledRef [((⟨"chr1", 0, 100, "A", 0, 1⟩ : SRow), (⟨"chr1", 0, 100, "A", -1, 1, none, none, 1/5⟩ : RRow), (10 : Rat))] = false := by
  decide +kernel
example : weightOf true (1/2) 10 10 (1/100) < weightOf true (1/2) 20 10 (1/100) := by decide +kernel

end CnvVerif.C04
