/-
  C07: tie to the source TEXT of skgenome/combiners.py (the summaries `into_ranges` applies).  A module of its own, so
  that an edit to a combiner breaks exactly these obligations.
-/
import CnvVerif.Lemmas.SrcCombiners
namespace CnvVerif.C07
open CnvVerif

/-- `first_of` takes a Series by POSITION (`.iat[0]`, not the label lookup `elems[0]`) and a plain sequence
    by index 0; the model's `firstOf` is that element -/
theorem first_of_is_the_source (vs : List Val) :
    (∀ b, Generated.src_first_of b = if b then 0 else 2) ∧
      firstOf vs = Src.elemAt (Generated.src_first_of true) vs :=
  ⟨fun b => by cases b <;> rfl, rfl⟩

theorem last_of_is_the_source (vs : List Val) :
    (∀ b, Generated.src_last_of b = if b then 1 else 3) ∧
      lastOf vs = Src.elemAt (Generated.src_last_of true) vs :=
  ⟨fun b => by cases b <;> rfl, rfl⟩

/-- `merge_strands`: "." when the strands differ, else the first one -/
theorem merge_strands_is_the_source (l : List String) :
    mergeStrands l =
      (match Generated.src_merge_strands l.eraseDups.length with | 0 => "." | _ => l.headD "") := by
  unfold mergeStrands Generated.src_merge_strands
  by_cases h : l.eraseDups.length > 1 <;> simp [h]

/-- `make_const(v)` ignores its argument and `join_strings` is `sep.join(pd.unique(...))` -/
theorem const_and_join_are_the_source : Generated.src_make_const = 0 ∧ Generated.src_join_strings = 0 :=
  ⟨rfl, rfl⟩

end CnvVerif.C07
