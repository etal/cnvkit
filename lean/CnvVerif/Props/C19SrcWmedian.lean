/-
  C19, tie to the source text: `weighted_median` behind its decorator (equal lengths); `order` = the permutation `argsort` returned.  `Generated.src_weighted_median` is the expression
  harness/vectrans.py reads from cnvlib/descriptives.py (see Lemmas/SrcDescVocab.lean).
-/
import CnvVerif.Generated.ExprsDesc
import CnvVerif.Lemmas.SrcDescVocab
namespace CnvVerif.C19
open CnvVerif CnvVerif.Desc CnvVerif.Generated CnvVerif.Src


/-- `weighted_median` behind its decorator (equal lengths): the model run on the (value, weight) pairs with the
    permutation `argsort` returned is the source expression -/
theorem wmedian_is_the_source (a w : List Rat) (order : List Nat) (h : a.length = w.length) :
    src_weighted_median a w order = weightedMedianCore false order (a.zip w) := by
  unfold src_weighted_median weightedMedianCore wmedSorted wmedTol
  simp only [Bool.false_eq_true, if_false]
  have hlen : (permute order (a.zip w)).length = (Np.take w order).length := by simp [permute, Np.take]
  have hlenA : (Np.take a order).length = (Np.take w order).length := by simp [Np.take]
  rw [permute_zip_fst order a w h, permute_zip_snd order a w h, hlen, hlenA]
  generalize Np.take a order = A
  generalize Np.take w order = W
  rw [searchLeft_cumsum, searchRight_cumsum, List.any_map]
  have hmid : (1 : Rat) / 2 * W.sum = W.sum / 2 := by ring
  rw [hmid]
  split_ifs with h1 h2 h2
  · rfl
  · exact absurd h1 h2
  · exact absurd h2 h1
  · ring

example : src_weighted_median [3, 1, 4, 2] [0, 1, 2, 1] [1, 3, 0, 2] = 3 := by decide +kernel

end CnvVerif.C19
