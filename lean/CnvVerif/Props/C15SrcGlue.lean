/-
  C15: tie of the glue to the source TEXT.  `Generated.src_guess_xx`, `src_sex_row`, `src_strsign_plus`
  (Generated/ExprsSexGlue.lean) are re-read from cnvlib/cnary.py (`guess_xx`) and cnvlib/commands.py (`do_sex`) on every
  run (harness/extractors/exprs_sex_glue.py); these theorems state that the hand-written `guessXX`, `sexRow`, `strsign`
  of Model/SexExt5.lean ARE those definitions, for every table, every `compare_to_auto` and all options.
  One module per function (C15SrcGlue: guess_xx; C15SrcGlueRow: the row; C15SrcGlueSign: strsign; C15SrcGlueAgree: the
  row and `guess_xx` agree), so that an edit breaks exactly the obligation of the function edited.
-/
import CnvVerif.Model.SexExt5Py
import CnvVerif.Generated.ExprsSexGlue
namespace CnvVerif.C15x
open CnvVerif

/-- `guess_xx` IS the source: it calls `compare_sex_chromosomes` with the reference flag and the PAR genome it was
    given and `skip_low` at its default, returns None without a decision and the negated decision otherwise -/
theorem guess_xx_is_the_source (cta : Cta) (hapX : Bool) (par : Option String) (t : List CBin) :
    guessXX cta hapX par t =
      Generated.src_guess_xx (fun h p s => c15PyPair (compareSex cta h p s t)) hapX par := by
  unfold guessXX Generated.src_guess_xx
  cases h : compareSex cta hapX par false t with
  | none => simp [c15PyPair, h]
  | some r => obtain ⟨b, st⟩ := r; simp [c15PyPair, h]

end CnvVerif.C15x
