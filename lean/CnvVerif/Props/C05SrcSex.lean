/-
  C05: tie of `reference.shift_sex_chroms` and `CopyNumArray.expect_flat_log2` to the source TEXT.  The definitions `Generated.src_*` of Generated/ExprsRef.lean are re-translated from
  /repo's Python on every run (harness/exprtrans_c05.py, extractor harness/extractors/exprs_ref.py); these theorems state
  that the hand-written model functions of the pooled / flat reference are those expressions.  Kept in a module of
  their own so that an edit to one of the functions breaks exactly these obligations.
-/
import CnvVerif.Props.C05
import CnvVerif.Generated.ExprsRef
import CnvVerif.Model.Reference
namespace CnvVerif.C05
open CnvVerif CnvVerif.Ref

/-- the sex shift of one bin IS the in-place update `reference.shift_sex_chroms` performs on `cnarr["log2"]`
    (masks: the bin lies on X / on Y outside the PARs; `isXX`: the truthiness of the sample's recorded sex) -/
theorem sex_shift_is_the_source (isXX : Bool) (cls : CClass) (flat v : Rat) :
    sexAdjust isXX cls flat v = Generated.src_shift_sex_chroms (cls == .x) (cls == .y) isXX flat v := by
  unfold sexAdjust Generated.src_shift_sex_chroms
  cases isXX <;> cases cls <;> simp

/-- the neutral pseudo-sample / flat reference profile IS `CopyNumArray.expect_flat_log2` bin by bin -/
theorem flat_profile_is_the_source (hapX : Bool) (par : Option String) (t : List CBin) :
    expectFlat hapX par t = t.map (fun b =>
      Generated.src_expect_flat_log2 hapX
        (classOf ((t.head?.map (·.chrom)).getD "") par b.chrom b.s b.e == .x)
        (classOf ((t.head?.map (·.chrom)).getD "") par b.chrom b.s b.e == .y)
        (b.chrom == yLabel ((t.head?.map (·.chrom)).getD ""))) := by
  unfold expectFlat Generated.src_expect_flat_log2
  apply List.map_congr_left
  intro b _
  cases hapX <;> simp

/-- consequently every value a sample contributes to the pooled matrix is the source's sex shift applied to the
    median-centred log2 and the source's flat level of that bin -/
theorem sample_values_are_the_source_shift (hapX : Bool) (par : Option String) (skipLow : Bool) (isXX : Option Bool)
    (flat : List Rat) (rows : List CovRow) :
    sampleLogr hapX par skipLow isXX flat rows =
      (rows.zip flat).map (fun p =>
        let cls := classOf ((rows.head?.map (·.chrom)).getD "") par p.1.chrom p.1.s p.1.e
        Generated.src_shift_sex_chroms (cls == .x) (cls == .y) (isXX == some true) p.2
          (p.1.log2 + centerShift medianR true skipLow par (rows.map toC))) := by
  unfold sampleLogr
  apply List.map_congr_left
  intro p _
  exact sex_shift_is_the_source _ _ _ _


/-! non-vacuity -/
example : Generated.src_shift_sex_chroms true false false (-1) (-1/2) = -1/2 := by decide +kernel
example : Generated.src_expect_flat_log2 false true false false = 0 ∧
    Generated.src_expect_flat_log2 true true false false = -1 := by decide +kernel

end CnvVerif.C05
