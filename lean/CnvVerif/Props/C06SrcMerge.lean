/-
  C06: tie to the source TEXT (merge / flatten: the gap test, the fast paths, the rows in play).
  The definitions `Generated.src_*` of Generated/ExprsInterval.lean are re-translated from /repo's Python on every run
  (harness/exprtrans.py, "pieces"; harness/extractors/exprs_interval.py names the pieces and the column expressions read
  elementwise).  These theorems state that the hand-written model functions are built from exactly those pieces.
  One module per source function so that an edit breaks exactly the obligations about that function.
-/
import CnvVerif.Props.C06
import CnvVerif.Lemmas.SrcIntervalMerge
namespace CnvVerif.C06
open CnvVerif CnvVerif.Generated

/-- one step of the grouping loop of the model is the source's test `gap_sizes > -bp` applied to the next start and the
    running maximum of the ends so far -/
theorem merge_gap_test_is_the_source (bp : Int) (cur : Row) (genes : List String) (x : Row) (xs : List Row) :
    mergeGo bp cur genes (x :: xs) =
      if src_merge_new_group x.s cur.e bp = true then
        { cur with gene := joinStrings genes.reverse } :: mergeGo bp x [x.gene] xs
      else mergeGo bp { cur with e := max cur.e x.e } (x.gene :: genes) xs := by
  rw [Src.src_merge_new_group_nf, mergeGo]
  simp only [decide_eq_true_eq]

/-- the fast path of `merge` is the source's elementwise test over (next start, running maximum of earlier ends) -/
theorem merge_fast_path_is_the_source (bp : Int) (t : Table) :
    mergeTable bp t =
      if t.isEmpty then t
      else if (((t.map (·.s)).drop 1).zip (cummax (t.map (·.e)))).all
          (fun p => src_merge_fast_path p.1 p.2 bp) then t
      else resortChrom ((groupByChrom (sortLex t)).flatMap (fun g => mergeChrom bp g.2)) := by
  unfold mergeTable gapSizes
  simp only [Src.src_merge_fast_path_nf, List.all_map]
  rfl

/-- flatten: its fast path, its grouping (`_nonoverlapping_groups(table, 0)`: the same gap test with bp = 0) and its
    "rows in play" test are the source's -/
theorem flatten_tests_are_the_source (t : Table) (cur : List Row) (mx : Int) (x first second : Row) (xs rest : List Row) :
    (flattenTable t =
      if t.isEmpty then t
      else if (((t.map (·.s)).drop 1).zip (cummax (t.map (·.e)))).all
          (fun p => src_flatten_fast_path p.1 p.2) then t
      else resortChrom ((groupByChrom (sortLex t)).flatMap
        (fun g => (overlapGroups g.2).flatMap flattenGroup))) ∧
    (overlapGroupsGo cur mx (x :: xs) =
      if src_merge_new_group x.s mx 0 = true then cur.reverse :: overlapGroupsGo [x] x.e xs
      else overlapGroupsGo (x :: cur) (max mx x.e) xs) ∧
    (flattenGroup (first :: second :: rest) =
      (let rows := first :: second :: rest
       let breaks := sortDedupInts (rows.flatMap (fun r => [r.s, r.e]))
       (breaks.zip (breaks.drop 1)).map fun ab =>
         let inPlay := rows.filter (fun r => src_flatten_in_play r.s r.e ab.1 ab.2)
         { first with s := ab.1, e := ab.2, gene := joinStrings (inPlay.map (·.gene)) })) := by
  refine ⟨?_, ?_, ?_⟩
  · unfold flattenTable
    simp only [Src.src_flatten_fast_path_nf]
  · rw [Src.src_merge_new_group_nf, overlapGroupsGo]
    simp only [decide_eq_true_eq, Int.neg_zero]
  · simp only [flattenGroup, Src.src_flatten_in_play_nf]

example : src_merge_new_group 5 5 0 = false ∧ src_merge_new_group 5 5 1 = true := by decide +kernel

end CnvVerif.C06
