/-
  C16: the OUTER loop of `CopyNumArray.squash_genes`: its clauses.

  The clauses of the loop as theorems about the model (`squashGroup`, `squashGenes` of Model/Genes.lean): an empty group
  gives no row, a pass-through group gives its own rows unchanged, any other group gives exactly one row, the output is
  the concatenation in group order, and its row count is the sum.  Props/C16SrcSquashLoop.lean proves the model EQUAL to
  the loop re-read from the source text on every run (Generated/ExprsSquashLoop.lean).
-/
import CnvVerif.Model.Genes
namespace CnvVerif.C16
open CnvVerif CnvVerif.Genes CnvVerif.Generated

/-- `squash_rows` of the model as a total function (a non-empty group always has a squashed row) -/
def squashloopRow (f : Summary) (name : String) (rows : List Bin) : Bin := (squashRows f name rows).getD default

theorem squashloop_rows_some (f : Summary) (name : String) (a : Bin) (as : List Bin) :
    (squashRows f name (a :: as)).toList = [squashloopRow f name (a :: as)] := by
  unfold squashloopRow
  cases as with
  | nil => simp [squashRows]
  | cons b bs =>
    have hne' : (a :: b :: bs) ≠ [] := by simp
    have hl := List.getLast?_eq_some_getLast hne'
    unfold squashRows
    rw [hl]
    rfl

/-- the number of rows one group contributes -/
def squashloopCount (sa : Bool) (p : String × List Bin) : Nat :=
  if p.2.isEmpty then 0 else if ANTITARGET_ALIASES.contains p.1 && !sa then p.2.length else 1

/-- **`continue`**: an empty group contributes nothing -/
theorem squashloop_empty_group (f : Summary) (sa : Bool) (g : String) : squashGroup f sa (g, []) = [] := rfl

/-- **pass-through**: with `squash_antitarget` off, the rows of an antitarget / ignored-name group (`by_gene` labels
    both with an alias) come out unchanged, every field, in their order -/
theorem squashloop_passthrough (f : Summary) (g : String) (grp : List Bin)
    (hg : ANTITARGET_ALIASES.contains g = true) : squashGroup f false (g, grp) = grp := by
  cases grp with
  | nil => rfl
  | cons a as =>
    have hg' : g ∈ ANTITARGET_ALIASES := by simpa using hg
    simp [squashGroup, hg']

/-- **one squashed row** for every non-empty group that is not passed through (a gene, or any group when
    `squash_antitarget` is on) -/
theorem squashloop_one_row (f : Summary) (sa : Bool) (g : String) (grp : List Bin) (hne : grp ≠ [])
    (h : ANTITARGET_ALIASES.contains g = false ∨ sa = true) :
    squashGroup f sa (g, grp) = [squashloopRow f g grp] := by
  cases grp with
  | nil => exact absurd rfl hne
  | cons a as =>
    have hr := squashloop_rows_some f g a as
    rcases h with h | h
    · have h' : g ∉ ANTITARGET_ALIASES := by simpa using h
      simp [squashGroup, h', hr]
    · subst h; simp [squashGroup, hr]

theorem squashloop_group_length (f : Summary) (sa : Bool) (p : String × List Bin) :
    (squashGroup f sa p).length = squashloopCount sa p := by
  obtain ⟨name, rows⟩ := p
  cases rows with
  | nil => rfl
  | cons a as =>
    -- both sides branch on the pass-through test; the squashed row is one row
    simp only [squashGroup, squashloopCount, squashloop_rows_some, List.isEmpty_cons, Bool.false_eq_true, ↓reduceIte]
    split <;> rfl

/-- **order**: the rows of the groups before a group come first, then that group's rows, then the rest --
    the output is the concatenation of the groups' contributions in the order `by_gene` yields them -/
theorem squashloop_order (f : Summary) (sa : Bool) (before after : List (String × List Bin)) (p : String × List Bin) :
    (before ++ p :: after).flatMap (squashGroup f sa) =
      before.flatMap (squashGroup f sa) ++ squashGroup f sa p ++ after.flatMap (squashGroup f sa) := by
  simp [List.flatMap_append, List.flatMap_cons]

/-- **row count**: the output has one row per squashed group plus the rows of the pass-through groups -/
theorem squashloop_row_count (f : Summary) (sa : Bool) (ignore : List String) (t : List Bin) (pre : Bool) :
    (squashGenes f sa ignore t pre).length = ((byGeneV pre ignore t).map (squashloopCount sa)).sum := by
  unfold squashGenes
  induction byGeneV pre ignore t with
  | nil => rfl
  | cons p ps ih => simp [List.flatMap_cons, ih, squashloop_group_length]

/-- **one row per gene group, in order**: when every group is non-empty and none is passed through, the k-th output
    row is the squashed row of the k-th group -/
theorem squashloop_one_row_per_group (f : Summary) (sa : Bool) (groups : List (String × List Bin))
    (h : ∀ p ∈ groups, p.2 ≠ [] ∧ (ANTITARGET_ALIASES.contains p.1 = false ∨ sa = true)) :
    groups.flatMap (squashGroup f sa) = groups.map (fun p => squashloopRow f p.1 p.2) := by
  induction groups with
  | nil => rfl
  | cons p ps ih =>
    have hp := h p (List.mem_cons_self ..)
    rw [List.flatMap_cons, List.map_cons, ih (fun q hq => h q (List.mem_cons_of_mem _ hq)),
      squashloop_one_row f sa p.1 p.2 hp.1 hp.2]
    rfl

/-- non-vacuity: a gene group of two bins between two antitarget bins -/
example : let b (s : Int) (g : String) : Bin := { label := 0, chrom := "chr1", s := s, e := s + 10, gene := g, log2 := 1, depth := 1, weight := 1 }
    (squashGenes .mean false [] [b 0 "Antitarget", b 10 "A", b 20 "A", b 30 "Antitarget"]).length = 3 := by decide +kernel
/-- the side condition of `squashloop_one_row` / `squashloop_one_row_per_group` for a gene name -/
example : (ANTITARGET_ALIASES.contains "GENE" = false ∨ false = true) := by decide

end CnvVerif.C16
