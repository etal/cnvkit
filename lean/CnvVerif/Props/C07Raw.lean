/-
  C07: `in_ranges` on `starts` / `ends` arrays of unequal length and on empty arrays
  (Model/RangesExt5.lean: `c07InRangesRaw`, the real behaviour including the two exceptions).

  * on the arguments the docstring allows (each array absent or non-empty, equal length when both are given)
    the raw model IS `inRangesOpt`, for every table;
  * an empty array next to a non-empty one is an absent array;
  * exactly when the call raises `ValueError` / `AssertionError`;
  * a table whose `end` column is monotone never raises `AssertionError`: the longer array is cut to the shorter;
  * whenever the call returns, on a well-formed table it returns the property's per-range selections for
    `zip` of the non-empty arrays, concatenated in that order.
-/
import CnvVerif.Model.RangesExt5
import CnvVerif.Lemmas.RangesRaw
namespace CnvVerif.C07Raw
open CnvVerif

/-- the arguments the docstring of `in_ranges` allows -/
def DocumentedArgs (starts ends : Option (List Int)) : Bool :=
  (starts != some []) && (ends != some []) && !c07LenMismatch starts ends

theorem chromRows_eq (t : Table) (chrom : Option String) : c07ChromRows t chrom = chromRows t chrom := rfl

private theorem inRangesOpt_none (t : Table) (chrom : Option String) (mode : Mode) :
    inRangesOpt t chrom none none mode = c07ChromRows t chrom :=
  _root_.CnvVerif.inRangesOpt_none t chrom mode

/-- every returned table is `inRangesOpt` (`in_ranges` on arrays of equal length, either possibly absent) on the
    NON-EMPTY arrays -/
theorem returned_table_is_in_ranges_of_the_nonempty_arrays (t : Table) (chrom : Option String)
    (starts ends : Option (List Int)) (mode : Mode) (out : Table)
    (h : c07InRangesRaw t chrom starts ends mode = .ok out) :
    out = inRangesOpt t chrom (c07Given starts) (c07Given ends) mode := by
  rw [c07InRangesRaw_eq] at h
  split at h
  · cases h
  · split at h
    · cases h
    · exact (Except.ok.inj h).symm

/-- on the documented arguments nothing is raised and the result is `inRangesOpt` (Model/RangesExt.lean), for every table -/
theorem documented_arguments_give_in_ranges (t : Table) (chrom : Option String)
    (starts ends : Option (List Int)) (mode : Mode) (h : DocumentedArgs starts ends = true) :
    c07InRangesRaw t chrom starts ends mode = .ok (inRangesOpt t chrom starts ends mode) := by
  unfold DocumentedArgs at h
  simp only [Bool.and_eq_true, bne_iff_ne, ne_eq, Bool.not_eq_true'] at h
  obtain ⟨⟨hs, he⟩, hl⟩ := h
  rw [c07InRangesRaw_eq, c07Given_of_ne hs, c07Given_of_ne he, hl, if_neg (fun h => he h.2.2),
    if_neg (fun h => Bool.false_ne_true h.2.2)]

/-- an empty `starts` next to non-empty `ends` is an absent `starts` -/
theorem empty_starts_is_no_starts (t : Table) (chrom : Option String) (e : Int) (es : List Int) (mode : Mode) :
    c07InRangesRaw t chrom (some []) (some (e :: es)) mode = c07InRangesRaw t chrom none (some (e :: es)) mode := rfl

/-- an empty `ends` next to non-empty `starts` is an absent `ends` -/
theorem empty_ends_is_no_ends (t : Table) (chrom : Option String) (s : Int) (ss : List Int) (mode : Mode) :
    c07InRangesRaw t chrom (some (s :: ss)) (some []) mode = c07InRangesRaw t chrom (some (s :: ss)) none mode := rfl

/-- ... but an empty `starts` ALONE is the whole (chromosome's) table, unclipped in every mode -/
theorem empty_starts_alone_is_whole_table (t : Table) (chrom : Option String) (mode : Mode) :
    c07InRangesRaw t chrom (some []) none mode = .ok (c07ChromRows t chrom) := by
  unfold c07InRangesRaw
  by_cases h : (c07ChromRows t chrom).isEmpty = true <;> simp [h, c07Given]

/-- `ValueError` ("No objects to concatenate") exactly when the table has rows for the chromosome, `ends` is an
    EMPTY array and `starts` is absent or empty -/
theorem raises_ValueError_iff (t : Table) (chrom : Option String) (starts ends : Option (List Int)) (mode : Mode) :
    c07InRangesRaw t chrom starts ends mode = .error .valueError ↔
      (c07ChromRows t chrom ≠ [] ∧ ends = some [] ∧ (starts = none ∨ starts = some [])) := by
  rw [c07InRangesRaw_eq, chromRows_eq, ← c07Given_eq_none]
  split
  · rename_i hv
    exact iff_of_true rfl ⟨hv.1, hv.2.2, hv.2.1⟩
  · rename_i hv
    refine iff_of_false (fun h => ?_) (fun h => hv ⟨h.1, h.2.2, h.2.1⟩)
    split at h <;> cases h

/-- `AssertionError` exactly when the table has rows for the chromosome, their `end` column is not monotone (the
    mask path) and both arrays are non-empty and of different length -/
theorem raises_AssertionError_iff (t : Table) (chrom : Option String) (starts ends : Option (List Int))
    (mode : Mode) :
    c07InRangesRaw t chrom starts ends mode = .error .assertionError ↔
      (c07ChromRows t chrom ≠ [] ∧ isMonotone ((c07ChromRows t chrom).map (·.e)) = false ∧
        ∃ ss es, starts = some ss ∧ ends = some es ∧ ss ≠ [] ∧ es ≠ [] ∧ ss.length ≠ es.length) := by
  rw [c07InRangesRaw_eq, chromRows_eq, ← c07LenMismatch_given]
  split
  · rename_i hv
    refine iff_of_false (fun h => nomatch h) (fun h => ?_)
    rw [hv.2.1, c07Given_eq_none.mpr (Or.inr hv.2.2)] at h
    exact Bool.false_ne_true h.2.2
  · split
    · rename_i ha
      exact iff_of_true rfl ha
    · rename_i ha
      exact iff_of_false (fun h => nomatch h) ha

/-- a table whose `end` column is monotone (no row nested in an earlier one) takes the binary-search path, whose
    `zip` cuts the longer array to the length of the shorter one -/
theorem unequal_lengths_truncate_on_monotone_table (t : Table) (chrom : Option String) (ss es : List Int)
    (mode : Mode) (hm : isMonotone ((c07ChromRows t chrom).map (·.e)) = true) (hs : ss ≠ []) (he : es ≠ []) :
    c07InRangesRaw t chrom (some ss) (some es) mode =
      .ok (inRangesOpt t chrom (some (ss.take (min ss.length es.length)))
        (some (es.take (min ss.length es.length))) mode) := by
  have hz : zipBounds (some (ss.take (min ss.length es.length))) (some (es.take (min ss.length es.length))) =
      zipBounds (some ss) (some es) := by
    simp only [zipBounds, ← List.zip_eq_zip_take_min]
  rw [c07InRangesRaw_eq, c07Given_of_ne fun h => hs (Option.some.inj h),
    c07Given_of_ne fun h => he (Option.some.inj h), if_neg (fun h => nomatch h.2.1),
    if_neg (fun h => Bool.noConfusion ((chromRows_eq t chrom ▸ hm).symm.trans h.2.1)),
    inRangesOpt_eq, inRangesOpt_eq, hz]

/-- whenever `in_ranges` returns, on a well-formed table it returns the property's selections (overlapping /
    contained / clipped rows) for each pair of `zip(starts, ends)` of the non-empty arrays, in that order -/
theorem returned_table_in_property_words (t : Table) (chrom : Option String)
    (starts ends : Option (List Int)) (mode : Mode) (out : Table)
    (hw : WFTable (chromRows t chrom)) (hq : ∀ ss, starts = some ss → ∀ s ∈ ss, 0 ≤ s)
    (h : c07InRangesRaw t chrom starts ends mode = .ok out) :
    out = (zipBounds (c07Given starts) (c07Given ends)).flatMap
      (fun q => rangeSpec (chromRows t chrom) q.1 q.2 mode) := by
  rw [returned_table_is_in_ranges_of_the_nonempty_arrays t chrom starts ends mode out h]
  exact inRangesOpt_exact t chrom _ _ mode hw

/-- `in_range(chrom, start, end, mode)` is `in_ranges` of the one range `[start]` / `[end]`; an absent bound is an
    absent array -/
theorem in_range_is_in_ranges_of_one_range (t : Table) (chrom : Option String) (qs qe : Option Int) (mode : Mode) :
    c07InRangesRaw t chrom (qs.map (fun s => [s])) (qe.map (fun e => [e])) mode = .ok (inRange t chrom qs qe mode) := by
  have hg : ∀ q : Option Int, c07Given (q.map fun x => [x]) = q.map fun x => [x] := fun q => by cases q <;> rfl
  rw [c07InRangesRaw_eq, hg, hg, inRangesOpt_single, if_neg (by cases qe <;> simp),
    if_neg (by cases qs <;> cases qe <;> simp [c07LenMismatch])]

/-- a chromosome the table does not have (or an empty table): an empty table comes back whatever the arrays are;
    nothing is raised -/
theorem absent_chromosome_never_raises (t : Table) (chrom : Option String) (starts ends : Option (List Int))
    (mode : Mode) (h : c07ChromRows t chrom = []) : c07InRangesRaw t chrom starts ends mode = .ok [] := by
  unfold c07InRangesRaw
  simp [h]

/-- the number of per-range selections concatenated is the length of the SHORTER of two given arrays -/
theorem number_of_ranges_visited (ss es : List Int) :
    (zipBounds (some ss) (some es)).length = min ss.length es.length := by
  simp [zipBounds]

/-! non-vacuity: each branch is reached -/
example : c07InRangesRaw [⟨"chr1", 0, 5, "a"⟩, ⟨"chr1", 3, 8, "b"⟩, ⟨"chr1", 8, 12, "c"⟩] (some "chr1")
    (some [1, 6, 9]) (some [4, 7]) .trim = .ok [⟨"chr1", 1, 4, "a"⟩, ⟨"chr1", 3, 4, "b"⟩, ⟨"chr1", 6, 7, "b"⟩] := by rfl
example : c07InRangesRaw [⟨"chr1", 0, 10, "a"⟩, ⟨"chr1", 2, 4, "b"⟩, ⟨"chr1", 8, 12, "c"⟩] (some "chr1")
    (some [1, 6, 9]) (some [4, 7]) .trim = .error .assertionError := by rfl
example : c07InRangesRaw [⟨"chr1", 0, 10, "a"⟩, ⟨"chr1", 2, 4, "b"⟩] (some "chr1") none (some []) .outer
    = .error .valueError := by rfl
example : c07InRangesRaw [⟨"chr1", 0, 10, "a"⟩, ⟨"chr1", 2, 4, "b"⟩] (some "chr1") (some []) (some [4, 9]) .inner
    = .ok [⟨"chr1", 2, 4, "b"⟩, ⟨"chr1", 2, 4, "b"⟩] := by rfl
example : DocumentedArgs (some [1, 6]) (some [4, 9]) = true := by decide
example : isMonotone (([⟨"chr1", 0, 5, "a"⟩, ⟨"chr1", 3, 8, "b"⟩] : Table).map (·.e)) = true := by decide

end CnvVerif.C07Raw
