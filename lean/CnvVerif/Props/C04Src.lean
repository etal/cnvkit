/-
  C04: tie to the source TEXT.  The definitions `Generated.src_*` are re-translated from /repo's Python on every
  run (harness/exprtrans.py); these theorems state that the hand-written model formulas are those expressions.
  Kept in a module of their own so that an edit to a formula breaks exactly these obligations.
  The proofs carry fallbacks for algebraically equivalent rewrites of the source; those the present text does not need
  are what the linters switched off below would report.
-/
import CnvVerif.Props.C04
import CnvVerif.Generated.ExprsEdge
import Mathlib.Tactic.Ring
import Mathlib.Tactic.Linarith
import Mathlib.Tactic.SplitIfs
set_option linter.unusedTactic false
set_option linter.unreachableTactic false
namespace CnvVerif.C04
open CnvVerif

/-- the model's edge-bias formulas ARE the expressions `edge_losses` / `edge_gains` compute (read elementwise) -/
theorem edge_formulas_are_the_source (t g i : Rat) :
    edgeLoss t i = Generated.src_edge_losses t i ∧ edgeGain t g i = Generated.src_edge_gains t g i :=
  by
  -- robust against algebraically equivalent rewrites of the source expressions (flipped comparison, reordered factors)
  constructor
  · unfold edgeLoss Generated.src_edge_losses
    first
    | rfl
    | (simp only []; split_ifs <;> first | ring | (exfalso; linarith))
  · unfold edgeGain Generated.src_edge_gains
    first
    | rfl
    | (simp only []; split_ifs <;> first | ring | (exfalso; linarith))

end CnvVerif.C04
