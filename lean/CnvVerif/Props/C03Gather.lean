/-
  C03: the glue of `do_segmentation` around the per-unit worker (Model/TileGatherExt5.lean) -- "for every
  number of processes".  The pool is the small-step pool of Model/CoverageSched.lean: `nw` workers, ANY schedule of
  take / finish events, results handed back by submission index (`Executor.map`).  The gather is a
  parallel section of Lemmas/CoverageSched.lean (`section_done`).
-/
import CnvVerif.Model.TileGatherExt5
import CnvVerif.Lemmas.CoverageSched
namespace CnvVerif.C03
open CnvVerif CnvVerif.C03Gather CnvVerif.Cov.Sched

/-- whatever the number of workers and the schedule, a finished `do_segmentation` returns the worker's segments of the
    whole table (flasso, HMM methods) or the concatenation, in arm order, of the worker's segments of each arm -/
theorem segments_are_the_arms_results_in_order (method : String) (worker : List Bin → List SegO) (table : List Bin)
    (nw : Nat) (evs : List Ev) (ys : List SegO)
    (h : doSegmentation method "ordered" worker table nw evs = some ys) :
    ys = if wholeTable method then worker table else (byArm table).flatMap worker := by
  obtain ⟨done, -, hd⟩ := section_done (wholeTable method) (worker table) worker (byArm table) List.flatten nw _ rfl
  rw [doSegmentation, gatherArms, hd] at h
  split at h
  · rw [← Option.some.inj h, List.flatMap_def]
  · cases h

/-- so two runs with different numbers of processes (and different schedules) report the same segments -/
theorem segments_do_not_depend_on_processes (method : String) (worker : List Bin → List SegO) (table : List Bin)
    (nw nw' : Nat) (evs evs' : List Ev) (ys ys' : List SegO)
    (h : doSegmentation method "ordered" worker table nw evs = some ys)
    (h' : doSegmentation method "ordered" worker table nw' evs' = some ys') : ys = ys' := by
  rw [segments_are_the_arms_results_in_order method worker table nw evs ys h,
    segments_are_the_arms_results_in_order method worker table nw' evs' ys' h']

/-- and with at least one worker every partial run can be completed (the `some` above is not vacuous) -/
theorem every_pool_finishes (method : String) (worker : List Bin → List SegO) (table : List Bin) (nw : Nat)
    (hnw : 0 < nw) (evs : List Ev) :
    ∃ more ys, doSegmentation method "ordered" worker table nw (evs ++ more) = some ys := by
  obtain ⟨done, hc, hd⟩ := section_done (wholeTable method) (worker table) worker (byArm table) List.flatten nw _ rfl
  obtain ⟨more, hm⟩ := hc hnw evs
  exact ⟨more, _, by rw [doSegmentation, gatherArms, hd, hm]; rfl⟩

/-- which methods are run per arm: exactly cbs, haar and none among the methods the command accepts -/
theorem per_arm_methods :
    ["cbs", "flasso", "haar", "none", "hmm", "hmm-tumor", "hmm-germline"].filter (fun m => !wholeTable m) =
      ["cbs", "haar", "none"] := by decide +kernel

/-! non-vacuity: two workers, out-of-order completion, same result as the serial run -/
example : schedMap "ordered" (fun n : Nat => n * 10) [1, 2, 3] 2
    [Ev.take 0 0, Ev.take 1 0, Ev.finish 1, Ev.take 1 0, Ev.finish 1, Ev.finish 0] = some [10, 20, 30] := by decide +kernel

end CnvVerif.C03
