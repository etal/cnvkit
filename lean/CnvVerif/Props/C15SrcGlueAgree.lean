/-
  C15: report and `guess_xx` agree, read off the two generated definitions alone (see Props/C15SrcGlue.lean).
-/
import CnvVerif.Generated.ExprsSexGlue
namespace CnvVerif.C15x

/-- consequence, read off the generated text alone: whatever `compare_sex_chromosomes` does, the report says "Male"
    iff `guess_xx` (same arguments) returns False -/
theorem src_row_male_iff_src_guess_not_xx {σ κ : Type}
    (csc : Bool → Option String → Bool → Option Bool × Option σ) (get : σ → String → Option Rat)
    (ss : Option Rat → κ) (lit : String → κ) (hapX : Bool) (par : Option String) :
    (Generated.src_sex_row csc get ss lit hapX par).1 = "Male" ↔
      Generated.src_guess_xx csc hapX par = some false := by
  unfold Generated.src_sex_row Generated.src_guess_xx
  cases h : (csc hapX par false).1 with
  | none => simp [h]
  | some b => cases b <;> simp [h]

end CnvVerif.C15x
