/-
  C06: tie to the source TEXT (subtract: the edge tests and the keep-test of `_subtraction`).
  The definitions `Generated.src_*` of Generated/ExprsInterval.lean are re-translated from /repo's Python on every run
  (harness/exprtrans.py, "pieces"; harness/extractors/exprs_interval.py names the pieces and the column expressions read
  elementwise).  These theorems state that the hand-written model functions are built from exactly those pieces.
  One module per source function so that an edit breaks exactly the obligations about that function.
-/
import CnvVerif.Props.C06
import CnvVerif.Lemmas.SrcIntervalSubtract
namespace CnvVerif.C06
open CnvVerif CnvVerif.Generated

/-- the four edge cases of the model are selected by the source's `keep_left` / `keep_right` tests on the FIRST excluded
    start and the LAST excluded end, and a (start, end) pair is kept by the source's test `end > start` -/
theorem subtract_edge_tests_are_the_source (k f : Row) (t : List Row) :
    subtractRow k (f :: t) =
      (let ex := f :: t
       let l := ex.getLast?.getD f
       let keepLeft := src_subtract_keep_left k.s f.s
       let keepRight := src_subtract_keep_right k.e l.e
       let exS := ex.map (·.s)
       let exE := ex.map (·.e)
       let pairs : List (Int × Int) :=
         if keepLeft && keepRight then (k.s :: exE).zip (exS ++ [k.e])
         else if keepLeft then (k.s :: exE.dropLast).zip exS
         else if keepRight then exE.zip (exS.drop 1 ++ [k.e])
         else if ex.length > 1 then exE.dropLast.zip (exS.drop 1)
         else []
       (pairs.filter (fun p => src_subtract_keep_piece p.1 p.2)).map (fun p => { k with s := p.1, e := p.2 })) := by
  simp only [subtractRow, Src.src_subtract_keep_left_nf, Src.src_subtract_keep_right_nf, Src.src_subtract_keep_piece_nf,
    decide_eq_true_eq]

example : src_subtract_keep_left 0 10 = true ∧ src_subtract_keep_right 100 100 = false ∧ src_subtract_keep_piece 5 5 = false := by
  decide +kernel

end CnvVerif.C06
