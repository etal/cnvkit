/-
  C13: tie of `join_regions` to the source TEXT.  `Generated.src_join_regions_step` / `_final` / `_min_gap` are
  re-translated from the body of `cnvlib/access.py:join_regions` on every run (harness/looptrans.py).
  `Src.triple r = (r.chrom, r.s, r.e)`; `Py.genLoop step final init xs`: what a generator `for x in xs: <step>` +
  `<final>` yields.
-/
import CnvVerif.Generated.ExprsAccess
import CnvVerif.Lemmas.SrcAccessJoin
set_option linter.unusedSimpArgs false
namespace CnvVerif.C13
open CnvVerif CnvVerif.Generated

/-- `join_regions` on one chromosome: the model's `joinGo` IS the source's `for start, end in coords:` loop
    (`gap = start - prev_end`, `gap < min_gap_size` joins, otherwise the previous region is emitted) followed by
    the source's final `yield` -/
theorem join_loop_is_the_source (g : Int) (prev : Row) (l : List Row)
    (hc : ∀ r ∈ l, r.chrom = prev.chrom) :
    (joinGo g prev l).map Src.triple =
      Py.genLoop (fun st x => src_join_regions_step g prev.chrom st.1 st.2 x.1 x.2)
        (fun st => src_join_regions_final g prev.chrom st.1 st.2) (prev.s, prev.e)
        (l.map (fun r => (r.s, r.e))) := by
  induction l generalizing prev with
  | nil => simp [joinGo, Py.genLoop, src_join_regions_final, Src.triple]
  | cons x xs ih =>
    have hx : x.chrom = prev.chrom := hc x (by simp)
    have hxs : ∀ r ∈ xs, r.chrom = prev.chrom := fun r hr => hc r (by simp [hr])
    simp only [joinGo, List.map_cons, Py.genLoop, src_join_regions_step]
    -- robust against the equivalent spellings of the test (`gap >= min_gap_size` with the branches swapped, ...)
    by_cases hgap : x.s - prev.e < g
    · have h1 : ¬ (x.s - prev.e ≥ g) := by omega
      have h2 : ¬ (g ≤ x.s - prev.e) := by omega
      have h3 : g > x.s - prev.e := by omega
      simp only [hgap, h1, h2, h3, not_true, not_false_eq_true, if_true, if_false, List.nil_append]
      exact ih { prev with e := x.e } hxs
    · have h1 : x.s - prev.e ≥ g := by omega
      have h2 : g ≤ x.s - prev.e := by omega
      have h3 : ¬ (g > x.s - prev.e) := by omega
      simp only [hgap, h1, h2, h3, not_true, not_false_eq_true, if_true, if_false, List.map_cons,
        List.cons_append, List.nil_append]
      have := ih x (fun r hr => by rw [hxs r hr, hx])
      rw [hx] at this
      rw [this]
      rfl

/-- `min_gap_size or 0`: `None` and `0` both mean "join nothing" -/
theorem join_min_gap_is_the_source (m : Option Int) : m.getD 0 = src_join_regions_min_gap m := by
  unfold src_join_regions_min_gap Py.orInt
  cases m with
  | none => rfl
  | some v => by_cases h : v = 0 <;> simp [h]

/-! ### non-vacuity -/

example : Py.genLoop (fun st x => src_join_regions_step 3 "chr1" st.1 st.2 x.1 x.2)
      (fun st => src_join_regions_final 3 "chr1" st.1 st.2) ((0 : Int), (4 : Int)) [(6, 9), (12, 20)] =
    [("chr1", 0, 9), ("chr1", 12, 20)] := by decide +kernel

end CnvVerif.C13
