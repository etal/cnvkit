/-
  C16: tie to the source TEXT of cnvlib/cnary.py.  The definitions `Generated.src_by_gene_*` and
  `Generated.src_drop_low_coverage_keeps` are re-translated from /repo's Python on every run (harness/exprtrans.py,
  typed reading; harness/extractors/exprs_bygene.py); these theorems state that the hand-written model IS what they
  say.  Kept in a module of its own so that an edit to `by_gene` / `drop_low_coverage` breaks exactly these obligations.

  `src_by_gene_step ignore gene gene_idx prev_idx` is ONE ITERATION of the loop over the gene map: the
  `(label, (a, some b))` pairs it yields (`table.iloc[a:b]`) and the new `prev_idx`; `src_by_gene_tail` is the
  telomere step after the loop; `posSlice rs` turns a yielded pair into the rows it stands for.
-/
import CnvVerif.Props.C16
import CnvVerif.Lemmas.SrcByGene
namespace CnvVerif.C16
open CnvVerif CnvVerif.Genes CnvVerif.Generated

/-- the names that never form a gene are the list the source builds (`tuple(ignore) + params.ANTITARGET_ALIASES`) -/
theorem ignore_list_is_the_source (ignore : List String) : fullIgnore ignore = src_by_gene_ignore ignore := rfl

/-- **one iteration of the loop of `by_gene`**: for every gene-map entry, whatever `prev_idx` is, the model yields the
    groups the source's loop body yields -- start `gene_idx[0]`, end `gene_idx[-1] + 1`, an intergenic stretch
    `[prev_idx, start)` exactly when `prev_idx < start` -- and continues from the `prev_idx` the source sets -/
theorem by_gene_iteration_is_the_source (rs : List Bin) (ign : List String) (T : List (Nat × String))
    (prev i : Nat) (g : String) (ks : List (Nat × String)) :
    goPos rs ign T prev ((i, g) :: ks) =
      (src_by_gene_step ign g (geneIdx T g) prev).1.map (posSlice rs) ++
        goPos rs ign T (src_by_gene_step ign g (geneIdx T g) prev).2 ks := by
  rw [goPos]
  unfold src_by_gene_step
  cases hc : ign.contains g
  · have hg : g ∉ ign := fun h => Bool.false_ne_true (hc ▸ List.contains_iff_mem.mpr h)
    rcases hidx : geneIdx T g with _ | ⟨a, tl⟩
    · simp [hg]
    · -- a key with positions: `gene_idx[0]` is the head, `gene_idx[-1]` the last
      have hla : (a :: tl).getLast? = some ((a :: tl).getLastD 0) := by
        rw [List.getLastD_eq_getLast?, List.getLast?_eq_some_getLast (List.cons_ne_nil a tl)]
        rfl
      simp only [Bool.false_eq_true, ↓reduceIte, hg, not_false_eq_true, List.head?_cons, hla, List.length_cons,
        ne_eq, Nat.add_eq_zero_iff, Nat.succ_ne_self, and_false, not_true_eq_false, List.headD_cons]
      by_cases hp : prev < a <;> simp [hp, posSlice, antitarget, ANTITARGET_NAME]
  · simp [List.contains_iff_mem.mp hc]

/-- **after the loop**: the telomere is yielded exactly when the source's test `prev_idx < len(subgary)` holds -/
theorem by_gene_telomere_is_the_source (rs : List Bin) (ign : List String) (T : List (Nat × String)) (prev : Nat) :
    goPos rs ign T prev [] = (src_by_gene_tail rs.length prev).map (posSlice rs) := by
  unfold goPos src_by_gene_tail
  by_cases h : prev < rs.length
  · simp [h, posSlice, antitarget, ANTITARGET_NAME]
  · simp [h]

/-- **`by_gene` on one chromosome is the source's loop**: the generated loop body folded over the gene map in order
    of first appearance, from the generated initial `prev_idx`, with the generated ignore list, then the generated
    telomere step -/
theorem by_gene_is_the_source_loop (ignore : List String) (rs : List Bin) :
    byGeneChrom ignore rs =
      srcLoop rs (src_by_gene_ignore ignore) (taggedFrom 0 rs) src_by_gene_init (firstByName (taggedFrom 0 rs)) := by
  -- from any `prev_idx`, by the two steps above
  have h : ∀ (ks : List (Nat × String)) (prev : Nat), goPos rs (fullIgnore ignore) (taggedFrom 0 rs) prev ks =
      srcLoop rs (fullIgnore ignore) (taggedFrom 0 rs) prev ks := by
    intro ks
    induction ks with
    | nil => intro prev; rw [by_gene_telomere_is_the_source]; rfl
    | cons k ks ih => intro prev; rw [by_gene_iteration_is_the_source, ih]; rfl
  exact h _ 0

/-- `skip_low` keeps exactly the bins the mask of `drop_low_coverage` keeps (log2 not below
    `NULL_LOG2_COVERAGE − MIN_REF_COVERAGE`, depth not 0) -/
theorem drop_low_coverage_is_the_source (b : Bin) : keptLow b = src_drop_low_coverage_keeps b.log2 b.depth := by
  have hm : minCvg = ((-(20 : Rat)) - (-(5 : Rat))) := by decide +kernel
  unfold keptLow src_drop_low_coverage_keeps
  rw [hm]
  by_cases h1 : b.log2 < ((-(20 : Rat)) - (-(5 : Rat))) <;> by_cases h2 : b.depth = 0 <;> simp [h1, h2]

/-- non-vacuity: on the first chromosome of the demo table the generated loop yields its two groups -/
example : (srcLoop (demo.take 3) (src_by_gene_ignore defaultIgnore) (taggedFrom 0 (demo.take 3)) src_by_gene_init
      (firstByName (taggedFrom 0 (demo.take 3)))).map (fun p => (p.1, p.2.map (·.label))) =
    [("A", [0, 1]), ("Antitarget", [2])] := by decide +kernel

end CnvVerif.C16
