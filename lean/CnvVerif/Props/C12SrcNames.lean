/-
  C12: tie to the source TEXT of `filter_names`.  `Generated.src_filter_names` (Generated/ExprsBins.lean) is
  re-translated from /repo's Python on every run by harness/settrans.py (rules over sets of names); the model's
  `filterNames` IS that expression, for all arguments.  The proof tries `rfl` first and falls back to case analysis +
  `simp`, so that an equivalent spelling of the source still proves.
-/
import CnvVerif.Props.C12
import CnvVerif.Lemmas.SrcBinsNames
set_option linter.unusedTactic false
set_option linter.unreachableTactic false
set_option linter.unusedSimpArgs false
namespace CnvVerif.C12
open CnvVerif CnvVerif.Generated

/-- `filter_names` with its default `exclude=("mRNA",)` -/
theorem filter_names_is_the_source (names : List String) :
    filterNames names = src_filter_names names SHORTEN_EXCLUDE := by
  unfold filterNames src_filter_names
  first
  | rfl
  | (have hp : ∀ n : String, (!(SHORTEN_EXCLUDE.any (fun ex => n.startsWith ex))) =
         SHORTEN_EXCLUDE.all (fun ex => !(n.startsWith ex)) := fun n => List.not_any_eq_all_not
     simp only [hp, Src.length_pos_decide, Src.length_ge_two_decide, gt_iff_lt, decide_eq_true_eq]
     generalize names.filter (fun n => SHORTEN_EXCLUDE.all (fun ex => !(n.startsWith ex))) = ok
     by_cases h1 : 1 < names.length <;> cases h2 : ok.isEmpty <;>
       simp only [h1, h2, if_true, if_false, Bool.not_true, Bool.not_false, Bool.false_eq_true,
         decide_true, decide_false])

end CnvVerif.C12
