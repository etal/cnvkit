/-
  Property C11 -- a clear copy-number step is found and localised; flat profiles stay unsegmented.

  PARTIAL by nature: what is proved here is the noise-free core of `haarSeg` (cnvlib/segmentation/haar.py) in
  exact arithmetic -- the model `CnvVerif.Haar` is tied component by component to the real functions by the
  differential harness (harness/props/C11.py).  Detection under Gaussian noise after Savitzky-Golay smoothing and
  pomegranate's Baum-Welch / MAP decoding are NOT provable here; they are covered by an oracle run on the real
  code (search, not proof).

  Reading guide.  `stepSig lo hi b n` is the profile `lo` on bins `[0,b)`, `hi` on bins `[b,n)`.
  `tent h b k = max(0, h - |k-b|)`.  `SignMono rnd` = the rounding/normalisation keeps 0 and the strict order
  (`id`, i.e. real arithmetic, does).  `norm h` stands for the double `sqrt(2h)`, `p level` for the p-values
  `2*(1 - norm.cdf(..))` that `FDRThres` forms; the theorems hold for every value of these parameters.
-/
import CnvVerif.Lemmas.HaarTop
namespace CnvVerif.C11
open CnvVerif.Haar

/-- the level loop of `haarSeg` runs levels 1..5 with half-window `2^level` and `UnifyLevels` window `2^(level-1)` -/
theorem haar_levels_one_to_five :
    Generated.HAAR_LEVEL_TABLE = [(1, 2, 1), (2, 4, 2), (3, 8, 4), (4, 16, 8), (5, 32, 16)] := by
  decide

/-- `FDRThres`: fewer than two peaks -> threshold 0; the bump of the no-passing branch is the double `1e-16` -/
theorem fdr_guard_and_bump :
    Generated.HAAR_FDR_MIN_M = 2 ∧ Generated.HAAR_FDR_SMALL_T = 0 ∧ Generated.HAAR_FDR_EPS_dec = 1 / 10 ^ 16 ∧
      Generated.HAAR_DEFAULT_Q_dec = 1 / 10000 := by
  refine ⟨by decide, by decide +kernel, by decide +kernel, by decide +kernel⟩

/-- the three states of `hmm-germline` are loss / neutral / gain with the fixed (frozen) means -1, 0, 0.585 of the
property; the doubles Python uses differ from the decimals by less than 2^-53 -/
theorem germline_means_match_levels :
    Generated.HMM_GERMLINE_STATES = ["loss", "neutral", "gain"] ∧
    Generated.HMM_GERMLINE_MEANS_dec = [-1, 0, 585 / 1000] ∧
    Generated.HMM_GERMLINE_FROZEN = [true, true, true] ∧
    (Generated.HMM_GERMLINE_MEANS.zip Generated.HMM_GERMLINE_MEANS_dec).all
      (fun p => decide (absQ (p.1 - p.2) ≤ 1 / 2 ^ 53)) = true := by
  refine ⟨by decide, by decide +kernel, by decide, by decide +kernel⟩

/-- the un-normalised response of `HaarConv` to a noise-free step of height `hi - lo` at `b` is the tent
`(hi - lo) * max(0, h - |k - b|)`, whenever the half-window fits on both sides (`h ≤ b`, `b + h ≤ n`) -/
theorem haarConv_ideal_step_raw (lo hi : Rat) (b n h : Nat) (h1 : 1 ≤ h) (hb : h ≤ b) (hn : b + h ≤ n) :
    haarConvRaw (stepSig lo hi b n) h = (List.range n).map (fun k => (hi - lo) * (tent h b k : Rat)) :=
  haarConvRaw_ideal_step lo hi b n h hb hn

/-- the response of `HaarConv` to that step after the normalisation `/ sqrt(2h)` (any zero-preserving rounding): the
tent divided by `norm`, rounded -/
theorem haarConv_ideal_step (rnd : Rat → Rat) (hr : rnd 0 = 0) (norm lo hi : Rat) (b n h : Nat)
    (h1 : 1 ≤ h) (hb : h ≤ b) (hn : b + h ≤ n) :
    haarConv rnd norm (stepSig lo hi b n) h
      = (List.range n).map (fun k => rnd ((hi - lo) * (tent h b k : Rat) / norm)) :=
  Haar.haarConv_ideal_step rnd hr norm lo hi b n h h1 hb hn

/-- a constant signal has zero response at every level -/
theorem haarConv_flat (rnd : Rat → Rat) (hr : rnd 0 = 0) (norm c : Rat) (n h : Nat) :
    haarConv rnd norm (List.replicate n c) h = List.replicate n 0 :=
  haarConv_const rnd hr norm c n h

/-- the only peak of a (monotonically rescaled) tent of non-zero height is the step position -/
theorem peaks_of_tent (g : Rat → Rat) (hg : SignMono g) (s : Rat) (hs : s ≠ 0) (b n h : Nat)
    (h1 : 1 ≤ h) (hb : h ≤ b) (hn : b + h ≤ n) (hn2 : b + 2 ≤ n) :
    findLocalPeaks ((List.range n).map (fun k => g (s * (tent h b k : Rat)))) = [b] :=
  findLocalPeaks_tent g hg s hs b n h h1 hb hn2

/-- a zero response has no peak -/
theorem peaks_of_flat (n : Nat) : findLocalPeaks (List.replicate n 0) = [] := findLocalPeaks_zero n

/-- every reported index is interior and a local extremum of its sign (the first bin of a plateau) -/
theorem peaks_are_extrema (sig : List Rat) (k : Nat) (hk : k ∈ findLocalPeaks sig) :
    1 ≤ k ∧ k + 2 ≤ sig.length ∧
      ((0 < sig.getD k 0 ∧ sig.getD (k - 1) 0 < sig.getD k 0 ∧ sig.getD (k + 1) 0 ≤ sig.getD k 0) ∨
       (sig.getD k 0 < 0 ∧ sig.getD k 0 < sig.getD (k - 1) 0 ∧ sig.getD k 0 ≤ sig.getD (k + 1) 0)) := by
  let Q := fun k => 1 ≤ k ∧ k + 2 ≤ sig.length ∧
      ((0 < sig.getD k 0 ∧ sig.getD (k - 1) 0 < sig.getD k 0 ∧ sig.getD (k + 1) 0 ≤ sig.getD k 0) ∨
       (sig.getD k 0 < 0 ∧ sig.getD k 0 < sig.getD (k - 1) 0 ∧ sig.getD k 0 ≤ sig.getD (k + 1) 0))
  -- invariant: whatever is reported or still suspected satisfies `Q`
  refine findLocalPeaks_ind sig
    (fun _ mx mn out => (∀ s, mx = some s → Q s) → (∀ s, mn = some s → Q s) → ∀ j ∈ out, Q j)
    (fun _ _ _ _ _ _ _ hj => nomatch hj) (fun k mx mn out hk hk2 ih hmx hmn j hj => ?_)
    (fun _ h => nomatch h) (fun _ h => nomatch h) k hk
  obtain ⟨a1, a2, a3⟩ := peakStep_inv Q k mx mn _ _ _ hmx hmn (fun c => ⟨hk, hk2, c⟩)
  exact (List.mem_append.mp hj).elim (a1 j) (ih a2 a3 j)

/-- every interior strict maximum of a positive value / strict minimum of a negative value is reported -/
theorem strict_extrema_are_peaks (sig : List Rat) (k : Nat) (h1 : 1 ≤ k) (h2 : k + 2 ≤ sig.length)
    (hx : (0 < sig.getD k 0 ∧ sig.getD (k - 1) 0 < sig.getD k 0 ∧ sig.getD (k + 1) 0 < sig.getD k 0) ∨
          (sig.getD k 0 < 0 ∧ sig.getD k 0 < sig.getD (k - 1) 0 ∧ sig.getD k 0 < sig.getD (k + 1) 0)) :
    k ∈ findLocalPeaks sig :=
  -- invariant: a loop that has not passed `k` yet will report it
  findLocalPeaks_ind sig (fun i _ _ out => i ≤ k → k ∈ out) (fun i _ _ hl hik => by omega)
    (fun i mx mn out _ _ ih hik => List.mem_append.mpr <| (Nat.eq_or_lt_of_le hik).imp
      (fun e => by subst e; dsimp only [stepAt]; rw [peakStep_emit _ _ _ _ _ _ hx]; exact List.mem_singleton_self _) ih)
    h1

/-- `UnifyLevels` returns the joined level sorted -/
theorem unify_sorted (base addon : List Nat) (w : Nat) (h : addon ≠ []) :
    (unifyLevels base addon w).Pairwise (· ≤ ·) := by
  rw [unifyLevels_eq base addon w h]
  exact sortAsc_sorted _

/-- every peak of the base level is kept -/
theorem unify_contains_base (base addon : List Nat) (w x : Nat) (hx : x ∈ base) :
    x ∈ unifyLevels base addon w := by
  by_cases h : addon = []
  · subst h
    rw [unifyLevels_nil_addon]
    exact hx
  · rw [mem_unifyLevels base addon w x h]
    exact Or.inl (unifyLoop_base_mem w base addon x hx)

/-- add-on peaks farther than the window from every base peak are kept -/
theorem unify_keeps_far_addon (base addon : List Nat) (w a : Nat) (ha : a ∈ addon)
    (hfar : ∀ b ∈ base, a + w < b ∨ b + w < a) : a ∈ unifyLevels base addon w := by
  have h : addon ≠ [] := by
    intro h
    subst h
    simp at ha
  rw [mem_unifyLevels base addon w a h]
  exact unifyLoop_far w base addon a ha hfar

/-- on increasing index lists the result is exactly the base peaks plus the add-on peaks outside every window -/
theorem unify_exact (base addon : List Nat) (w x : Nat)
    (hb : base.Pairwise (· < ·)) (ha : addon.Pairwise (· < ·)) :
    x ∈ unifyLevels base addon w ↔ x ∈ base ∨ (x ∈ addon ∧ ∀ b ∈ base, x + w < b ∨ b + w < x) := by
  constructor
  · intro hx
    by_cases h : addon = []
    · subst h
      rw [unifyLevels_nil_addon] at hx
      exact Or.inl hx
    · rw [mem_unifyLevels base addon w x h] at hx
      rcases hx with hx | hx
      · exact mem_unifyLoop_fst_of_sorted w base addon hb ha x hx
      · obtain ⟨h1, h2⟩ := mem_unifyLoop_snd_of_sorted w base addon ha x hx
        exact Or.inr ⟨h1, fun b hb' => Or.inr (h2 b hb')⟩
  · rintro (hx | ⟨hx, hfar⟩)
    · exact unify_contains_base base addon w x hx
    · exact unify_keeps_far_addon base addon w x hx hfar

/-- a peak found again at the next level is not duplicated -/
theorem unify_singleton (b w : Nat) : unifyLevels [] [b] w = [b] ∧ unifyLevels [b] [b] w = [b] :=
  ⟨unifyLevels_nil_singleton b w, unifyLevels_same b w⟩

/-- for breakpoints strictly increasing inside `(0, n)`, every segment is filled with one value: its weighted
mean when the weights of the segment sum to something positive, else its plain mean -/
theorem segments_are_means (data : List Rat) (peaks : List Nat) (wt : Option (List Rat))
    (hp : StrictInside peaks data.length) :
    segmentByPeaks data peaks wt
      = (bounds peaks data.length).flatMap (fun se =>
          List.replicate (se.2 - se.1)
            (segValue (slice data se.1 se.2) (wt.map fun w => slice w se.1 se.2))) :=
  segmentByPeaks_eq data peaks wt hp

theorem mean_of_constant (c : Rat) (d : List Rat) (w : Option (List Rat)) (hd : d ≠ [])
    (hc : ∀ x ∈ d, x = c) (hw : ∀ ws, w = some ws → ws.length = d.length) : segValue d w = c :=
  segValue_const c d w hd hc hw

/-- **noise-free step** (full strength): for every step `lo ≠ hi` with at least 32 bins on each side, every FDR
`q`, every p-values, every positive normalisers and every order-preserving rounding, `haarSeg` reports exactly one
breakpoint, exactly at `b`; the two segments have `b` and `n - b` bins and means `lo` and `hi` -/
theorem haarSeg_ideal_step (rnd : Rat → Rat) (hr : SignMono rnd) (norm : Nat → Rat) (hnorm : ∀ h, 0 < norm h)
    (p : Nat → List Rat) (q lo hi : Rat) (hne : lo ≠ hi) (b n : Nat) (hb : 32 ≤ b) (hn : b + 32 ≤ n) :
    haarSeg rnd norm p q (stepSig lo hi b n)
      = { start := [0, b], stop := [(b : Int) - 1, (n : Int) - 1],
          size := [(b : Int), (n : Int) - (b : Int)], mean := [lo, hi] } :=
  Haar.haarSeg_ideal_step rnd hr norm hnorm p q lo hi hne b n hb hn

/-- the property's wording on the noise-free core: levels 0 and -1, 0 and +0.585, 0 and +1 in either order, at
least 100 bins a side: exactly one breakpoint, within 5 bins of the true one (in fact at it), segment means within
0.1 of the true levels (in fact equal) -/
theorem clear_step_found_and_localised (rnd : Rat → Rat) (hr : SignMono rnd) (norm : Nat → Rat)
    (hnorm : ∀ h, 0 < norm h) (p : Nat → List Rat) (q lo hi : Rat)
    (hlv : (lo, hi) ∈ [((0 : Rat), (-1 : Rat)), (-1, 0), (0, 585 / 1000), (585 / 1000, 0), (0, 1), (1, 0)])
    (b n : Nat) (hb : 100 ≤ b) (hn : 100 ≤ n - b) :
    ∃ bp m1 m2, (haarSeg rnd norm p q (stepSig lo hi b n)).start = [0, bp] ∧
      (haarSeg rnd norm p q (stepSig lo hi b n)).mean = [m1, m2] ∧
      ((bp : Int) - (b : Int)).natAbs ≤ 5 ∧ absQ (m1 - lo) ≤ 1 / 10 ∧ absQ (m2 - hi) ≤ 1 / 10 :=
  SegTable.clear_step
    (Haar.haarSeg_ideal_step rnd hr norm hnorm p q lo hi (property_levels_ne hlv) b n (by omega) (by omega))

/-- **flat profile**: a constant signal of at least one bin yields exactly one segment, with the constant as mean -/
theorem haarSeg_flat (rnd : Rat → Rat) (hr : rnd 0 = 0) (norm : Nat → Rat) (p : Nat → List Rat) (q c : Rat)
    (n : Nat) (hn : 1 ≤ n) :
    haarSeg rnd norm p q (List.replicate n c)
      = { start := [0], stop := [(n : Int) - 1], size := [(n : Int)], mean := [c] } :=
  Haar.haarSeg_flat rnd hr norm p q c n hn

/-- the same step conclusion for ANY per-level convolution (in particular the weighted `HaarConv`) whose only
peak is `b` at every level, with any bin weights.  For the weighted `HaarConv` the hypothesis "the response of a step has its single peak at b"
is `peaks_of_weighted_step` (Props/C11W.lean), which gives `haarSegW_ideal_step`; the float code does not satisfy it
(rounding noise of the quotients creates spurious tiny peaks) -/
theorem haarSeg_single_peak_any_conv (conv : Nat → Nat → List Rat) (thr : Nat → List Rat → Rat)
    (table : List (Nat × Nat × Nat)) (hne : table ≠ [])
    (hthr : ∀ lv x, x.length < 2 → thr lv x = 0) (lo hi : Rat) (b n : Nat) (hb : 1 ≤ b) (hn : b < n)
    (hpk : ∀ row ∈ table, findLocalPeaks (conv row.1 row.2.1) = [b])
    (wt : Option (List Rat)) (hw : ∀ ws, wt = some ws → ws.length = n) :
    haarSegWith conv thr table (stepSig lo hi b n) wt
      = { start := [0, b], stop := [(b : Int) - 1, (n : Int) - 1],
          size := [(b : Int), (n : Int) - (b : Int)], mean := [lo, hi] } :=
  haarSegWith_single_peak conv thr table hne hthr lo hi b n hb hn hpk wt hw

/-! ### non-vacuity: concrete inputs meet the hypotheses, and the model really computes these answers -/

/-- real arithmetic (`id`) is an order-preserving rounding -/
example : SignMono id := signMono_id

/-- a one-copy loss with 100 bins a side, exact arithmetic, normalisers 1: hypotheses of `haarSeg_ideal_step` hold -/
example : (haarSeg id (fun _ => 1) (fun _ => []) (1 / 10000) (stepSig 0 (-1) 100 200)).start = [0, 100] := by
  rw [haarSeg_ideal_step id signMono_id (fun _ => 1) (fun _ => by norm_num) _ _ 0 (-1) (by norm_num) 100 200
    (by norm_num) (by norm_num)]

/-- the smallest step `haarSeg_ideal_step` admits (32 + 32 bins, gain 0.585): its bounds `32 ≤ b`, `b + 32 ≤ n` are met
with equality -/
example : haarSeg id (fun _ => 1) (fun _ => []) (1 / 10000) (stepSig 0 (585 / 1000) 32 64)
    = { start := [0, 32], stop := [31, 63], size := [32, 32], mean := [0, 585 / 1000] } :=
  haarSeg_ideal_step id signMono_id _ (fun _ => one_pos) _ _ 0 (585 / 1000) (by norm_num) 32 64
    (Nat.le_refl _) (Nat.le_refl _)

/-- one bin too few on the left (b = 31): levels 1 to 4 (half-window at most 16) are still covered by
`peaks_haarConv_step`; at level 5 (half-window 32 > b) the response is no clean tent and lies outside the theorem: there
the closed form in window sums (`haarConv_step_any`, valid wherever the step is) is evaluated, and `FindLocalPeaks` still
finds its only peak at the step -/
example : (haarSeg id (fun _ => 1) (fun _ => []) (1 / 10000) (stepSig 0 1 31 64)).start = [0, 31] := by
  unfold haarSeg
  rw [haarSegWith_single_peak _ _ _ (by decide) (fun lv x hx => fdrThres_small id x _ _ hx) 0 1 31 64
    (by omega) (by omega) ?_ none (fun _ h => nomatch h)]
  intro row hrow
  simp only [Generated.HAAR_LEVEL_TABLE, List.mem_cons, List.mem_nil_iff, or_false] at hrow
  rcases hrow with rfl | rfl | rfl | rfl | rfl
  iterate 4
    exact peaks_haarConv_step id signMono_id 1 one_pos 0 1 (by norm_num) 31 64 _ (by decide) (by decide) (by decide)
      (by decide)
  rw [haarConv_step_any id rfl 1 0 1 31 64 32 (by decide) (by decide)]
  decide +kernel

/-- the plateau logic of `FindLocalPeaks`: first bin of a flat top is reported, a shoulder is not -/
example : findLocalPeaks [0, 1, 1, 0, 2, 2, 3, 0, -1, -1, 0] = [1, 6, 8] := by decide +kernel

example : unifyLevels [10, 30] [7, 8, 12, 13, 20, 33] 2 = [7, 10, 13, 20, 30, 33] := by decide +kernel

example : segmentByPeaks [1, 3, 5, 7] [2] (some [1, 3, 0, 0]) = [5 / 2, 5 / 2, 6, 6] := by decide +kernel

end CnvVerif.C11
