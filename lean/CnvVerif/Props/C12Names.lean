/-
  C12: what `--short-names` puts in the name column.  Clause of the property: "label shortening … never
  change the number or coordinates of bins" is in Props/C12.lean; here the VALUE of the new label is determined:
  it is built from a token of the very label it replaces (so a bin is never named after another gene's bin), the set
  handed to `min(…, key=len)` is never empty (so `shorten_labels` cannot die with `ValueError: min() arg is an empty
  sequence`), and the `DB|accession` trimming leaves either the name as it was or a name without `|`.
-/
import CnvVerif.Props.C12
import CnvVerif.Lemmas.BinsNames
namespace CnvVerif.C12
open CnvVerif CnvVerif.C12N

/-- every label `shorten_labels` emits is made of a token of the input label in the same position (after the
    `DB|` trimming), and there is at least one candidate for it -/
theorem short_label_is_token_of_own_label (labels : List String) (i : Nat) (h : i < labels.length) :
    (shortenLabels labels)[i]'(by rw [shorten_same_length]; exact h) ≠ [] ∧
    ∀ c ∈ (shortenLabels labels)[i]'(by rw [shorten_same_length]; exact h),
      ∃ n ∈ labelNames labels[i], c = pipeTrim n :=
  (each_iff.mp (shortenLabels_each labels)).get h (by rw [shorten_same_length]; exact h)

/-- the same, through `do_target(short_names=True)`: the candidates returned for bin `i` come from the label bin `i`
    had before (here without `--annotate`: the bait's own label, inherited by its pieces under `--split`) -/
theorem do_target_short_label_from_bin_label (baits : Table) (split : Bool) (avg : Rat) (rows : Table)
    (cands : List (List String)) (h : doTarget baits none true split avg = .ok (rows, some cands)) :
    Each FromLabel ((doTargetCore baits split avg).map (·.gene)) cands := by
  rw [doTarget_eq] at h
  obtain rfl : shortenLabels _ = cands := Option.some.inj (congrArg Prod.snd (Except.ok.inj h))
  exact shortenLabels_each _

/-- `shortest_name` never calls `min` on an empty set … -/
theorem shortest_name_has_a_candidate (names : List String) (h : names ≠ []) : shortestNames names ≠ [] :=
  shortestNames_ne_nil names h

/-- … every label splits into at least one name (`"".split(",") == [""]`), so the `assert len(next_names)` of
    the loop never fires … -/
theorem label_has_a_name (label : String) : labelNames label ≠ [] := labelNames_ne_nil label

/-- … and returns (the trimming of) one of the names it was given -/
theorem shortest_name_is_one_of_the_names (names : List String) :
    ∀ c ∈ shortestNames names, ∃ n ∈ names, c = pipeTrim n := shortestNames_from names

/-- `filter_names` only ever removes names, and never all of them -/
theorem filter_names_subset_nonempty (names : List String) :
    (∀ n ∈ filterNames names, n ∈ names) ∧ (names ≠ [] → filterNames names ≠ []) :=
  ⟨filterNames_subset names, filterNames_ne_nil names⟩

/-- the trimming either leaves the name alone or returns the text after its last `|` (no `|` left in it) -/
theorem pipe_trim_alone_or_no_pipe (name : String) :
    pipeTrim name = name ∨ '|' ∉ (pipeTrim name).toList := by
  unfold pipeTrim
  dsimp only
  split
  · right
    simp only [lastPipeSegment, String.toList_ofList, List.mem_reverse]
    intro hm
    have := List.all_eq_true.mp List.all_takeWhile _ hm
    simp at this
  · left; rfl

example : ∃ names : List String, names ≠ [] := ⟨["ref|A"], by simp⟩
example : ∃ (labels : List String) (i : Nat), i < labels.length := ⟨["a,b", "b,c"], 1, by simp⟩

end CnvVerif.C12
