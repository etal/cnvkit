/-
  C03: tie of the outlier filter to the source TEXT.  `Generated/ExprsOutlier.lean` is re-read from
  cnvlib/smoothing.py (`rolling_outlier_quantile`) and cnvlib/segmentation/__init__.py (`drop_outliers`, its call in
  `_do_segmentation`) on every run (harness/extractors/exprs_outlier.py, reading rules at its top); these theorems say
  the hand-written model (Model/TileOutlierExt5.lean) IS those definitions.  In a module of its own so that an edit to the
  rule breaks exactly these obligations.
-/
import CnvVerif.Lemmas.SrcOutlierExt5
namespace CnvVerif.C03
open CnvVerif CnvVerif.C03Outl CnvVerif.Generated

/-- the decision rule of the model is the expression the source returns, at every element -/
theorem outlier_rule_is_the_source (x width q m trend quants : Rat) :
    src_outl_elem x width q m trend quants = isOutlier m x trend quants := by
  unfold src_outl_elem isOutlier
  rw [decide_eq_decide]
  constructor
  · intro h; rw [src_abs_eq] at h; linarith
  · intro h; rw [src_abs_eq]; linarith

/-- the short-array rule: the source's leading test is `len(x) ≤ width`, and what it then returns is all-False -/
theorem outlier_short_rule_is_the_source (n width : Nat) :
    src_outl_short (n : Rat) (width : Rat) = decide (n ≤ width) ∧ src_outl_short_value = false :=
  ⟨by unfold src_outl_short; simp only [Nat.cast_le], rfl⟩

/-- so the model's mask is the source's, element by element, for every array -/
theorem outlier_mask_is_the_source (width : Nat) (q m : Rat) (pts : List Pt) :
    outlierMask width m pts =
      if src_outl_short (pts.length : Rat) (width : Rat) then List.replicate pts.length src_outl_short_value
      else pts.map fun p => src_outl_elem p.x width q m p.trend p.quants := by
  rw [(outlier_short_rule_is_the_source _ _).1]
  unfold outlierMask
  simp only [decide_eq_true_eq, outlier_rule_is_the_source]
  rfl

/-- what the two black boxes are fed: the trend is `savgol(x, width)`, the quantile is taken of the absolute residuals
    over the same width -/
theorem outlier_black_box_inputs :
    src_outl_trend_of = "savgol(x, width)" ∧
    src_outl_quants_of = "rolling_quantile(src_outl_abs (x - savgol(x, width)), width, q)" :=
  ⟨rfl, rfl⟩

/-- `drop_outliers`: the rule is applied to `log2`, per `by_chromosome` group, with the function's own `width` and
    `factor` passed on and the 0.95 quantile; the masks are concatenated and a row is kept iff its element is not set -/
theorem drop_outliers_wiring_is_the_source :
    src_drop_outliers_column = "log2" ∧ src_drop_outliers_groups = "by_chromosome" ∧
    src_drop_outliers_join = "concatenate" ∧ src_drop_outliers_width_arg = 1 ∧ src_drop_outliers_factor_arg = 2 ∧
    src_drop_outliers_q_dec = 95 / 100 ∧ (∀ mask, src_drop_outliers_keep mask = !mask) := by
  exact ⟨rfl, rfl, rfl, rfl, rfl, by decide +kernel, fun _ => rfl⟩

/-- `_do_segmentation` runs the filter over a window of 50 bins, with `skip_outliers` as the factor, iff `skip_outliers`
    is truthy -/
theorem segment_outlier_call_is_the_source :
    src_segment_outlier_width = 50 ∧ src_segment_outlier_factor_arg = "skip_outliers" ∧
    src_segment_outlier_guard = src_segment_outlier_factor_arg := ⟨rfl, rfl, rfl⟩

end CnvVerif.C03
