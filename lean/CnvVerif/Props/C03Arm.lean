/-
  C03, the arm split (`GenomicArray.by_arm`, which decides the units the per-arm methods none / haar / cbs work
  on): the exact centromere choice.  Props/C03.lean proves that `by_arm` only cuts; here: WHERE it cuts.
  Lemmas in Lemmas/TileArm.lean.
-/
import CnvVerif.Model.Tile
import CnvVerif.Model.TileExt
import CnvVerif.Lemmas.TileArm
namespace CnvVerif.C03
open CnvVerif

/-- numpy `argmax` as modelled: a position of the maximum, and the first such position -/
theorem argmax_is_first_maximum (l : List Int) (hne : l ≠ []) :
    argmax l < l.length ∧ (∀ j, j < l.length → l.getD j 0 ≤ l.getD (argmax l) 0) ∧
      (∀ j, j < argmax l → l.getD j 0 < l.getD (argmax l) 0) := argmax_spec l hne

/-- a chromosome of `n` bins is split only if `n > 2·margin + 1` (margin = `max(min_arm_bins, round(0.1·n))`), and
    then at the position `margin+1 ≤ idx ≤ n−margin−1` of the LARGEST gap `start[idx] − end[idx−1]` among those
    positions (the leftmost one on ties), provided that gap is at least `min_gap_size`; it is left whole exactly
    when it is too short or no admissible gap is that wide -/
theorem by_arm_splits_at_largest_admissible_gap (starts ends : List Int) (hlen : ends.length = starts.length)
    (minGap : Int) (minArmBins : Nat) :
    ByArmChoice starts ends minGap (max minArmBins (roundTenth starts.length))
      (cmereIdx starts ends minGap minArmBins) := by
  unfold ByArmChoice cmereIdx
  simp only []
  generalize max minArmBins (roundTenth starts.length) = m
  by_cases hcand : starts.length > 2 * m + 1
  · rw [if_pos hcand]
    obtain ⟨hn, hg⟩ := gaps_spec starts ends hlen m hcand
    refine choice_of_argmax (fun j => starts.getD j 0 - ends.getD (j - 1) 0) _ m _ minGap hn ?_ hg
    intro h0
    rw [h0] at hn
    exact absurd hn (by simp only [List.length_nil]; omega)
  · rw [if_neg hcand]
    exact ⟨fun h => absurd rfl h, fun _ j hj => by omega⟩

/-- the same, spelled out for a table: the arms are the rows before / from that position -/
theorem by_arm_arms_are_prefix_and_suffix {α} (rows : List α) (s e : α → Int) (minGap : Int) (minArmBins : Nat) :
    armsOfChrom rows s e minGap minArmBins =
      if cmereIdx (rows.map s) (rows.map e) minGap minArmBins = 0 then [rows]
      else [rows.take (cmereIdx (rows.map s) (rows.map e) minGap minArmBins),
            rows.drop (cmereIdx (rows.map s) (rows.map e) minGap minArmBins)] := rfl

/-- each arm of a split chromosome keeps more than `margin ≥ min_arm_bins` bins -/
theorem by_arm_arms_keep_margin {α} (rows : List α) (s e : α → Int) (minGap : Int) (minArmBins : Nat)
    (h : cmereIdx (rows.map s) (rows.map e) minGap minArmBins ≠ 0) :
    ∀ arm ∈ armsOfChrom rows s e minGap minArmBins, minArmBins + 1 ≤ arm.length := by
  have hb := ((by_arm_splits_at_largest_admissible_gap (rows.map s) (rows.map e) (by simp) minGap minArmBins).1 h).1
  rw [by_arm_arms_are_prefix_and_suffix, if_neg h]
  simp only [List.length_map] at hb
  intro arm ha
  simp only [List.mem_cons, List.not_mem_nil, or_false] at ha
  rcases ha with rfl | rfl
  · rw [List.length_take]; omega
  · rw [List.length_drop]; omega

/-- chromosomes of at most 101 bins are never split (margin ≥ 50) -/
theorem by_arm_short_chromosome_whole (starts ends : List Int) (minGap : Int) (h : starts.length ≤ 101) :
    cmereIdx starts ends minGap 50 = 0 := by
  unfold cmereIdx
  simp only []
  rw [if_neg (by omega)]

/-! non-vacuity: 104 bins of width 10, every gap 0 except 200 000 before bin 51 and 150 000 before bin 52 -/
example :
    let starts : List Int := (List.range 104).map fun (i : Nat) =>
      (10 * (i : Int)) + (if i ≥ 51 then 200000 else 0) + (if i ≥ 52 then 150000 else 0)
    cmereIdx starts (starts.map (· + 10)) 100000 50 = 51 := by decide +kernel
/-- the same holes one bin further left are inadmissible: bin 50 is inside the margin, bin 51's gap is chosen -/
example :
    let starts : List Int := (List.range 104).map fun (i : Nat) =>
      (10 * (i : Int)) + (if i ≥ 50 then 200000 else 0) + (if i ≥ 51 then 150000 else 0)
    cmereIdx starts (starts.map (· + 10)) 100000 50 = 51 := by decide +kernel

end CnvVerif.C03
