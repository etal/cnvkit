/-
  C17: tie to the source TEXT, cnvlib/bintest.py (z_prob): the model's raw bin probability `pRaw` (Model/Stats.lean) is
  the expression(s) `Generated.src_*` of Generated/ExprsStats.lean, re-translated from /repo's Python on every run
  (harness/exprtrans.py, `emit_values`).  In a module of its own so that an edit to the formula breaks exactly this obligation.
-/
import CnvVerif.Props.C17
import CnvVerif.Generated.ExprsStats
import Mathlib.Tactic.NormNum
namespace CnvVerif.C17
open CnvVerif CnvVerif.Stats CnvVerif.Generated

/-- the raw bin probability IS the expression `z_prob` computes before the adjustment, for every normal cdf and
    every function that is a square root at `1 − weight`; `tail` is the two-sided tail as a function of `z²` -/
theorem z_prob_is_the_source (tail cdf sqrt : Rat → Rat) (resid w : Rat)
    (htail : ∀ z : Rat, tail (z * z) = 2 * cdf (-(if z < 0 then -z else z)))
    (hsq : sqrt (1 - w) * sqrt (1 - w) = 1 - w) (hw : w ≠ 1) :
    pRaw tail resid w = src_z_prob cdf sqrt resid w := by
  -- the source expression in terms of `z = resid / sqrt (1 - w)` (0 for a zero residual), whatever the order of its factors
  have key : ∀ z : Rat, z = (if resid ≠ 0 then resid / sqrt (1 - w) else 0) →
      src_z_prob cdf sqrt resid w = 2 * cdf (-(if z < 0 then -z else z)) := by
    rintro z rfl; unfold src_z_prob; ring
  unfold pRaw
  by_cases hr : resid = 0
  · rw [key 0 (by rw [if_neg (not_not.mpr hr)]), ← htail 0, mul_zero, if_pos (beq_iff_eq.mpr hr)]
  · rw [key _ (if_pos hr).symm, ← htail, div_mul_div_comm, hsq, if_neg (by simpa using hr),
      if_neg (by simpa using hw)]

/-! non-vacuity of the hypotheses of `z_prob_is_the_source`: weight 3/4 with `sqrt (1/4) = 1/2`, and a
    (non-constant, even) function in the role of the cdf together with the tail it induces on squares -/
example : ∃ (tail cdf sqrt : Rat → Rat) (w : Rat),
    (∀ z : Rat, tail (z * z) = 2 * cdf (-(if z < 0 then -z else z))) ∧
    (sqrt (1 - w) * sqrt (1 - w) = 1 - w) ∧ w ≠ 1 ∧ tail 0 ≠ tail 1 := by
  refine ⟨fun y => 1 / (1 + y), fun x => 1 / (2 * (1 + x * x)), fun _ => 1 / 2, 3 / 4, ?_, by norm_num, by norm_num,
    by norm_num⟩
  intro z
  have e : ∀ x : Rat, 2 * (1 / (2 * x)) = 1 / x := fun x => by
    rw [one_div, one_div, mul_inv, ← mul_assoc, mul_inv_cancel₀ two_ne_zero, one_mul]
  show 1 / (1 + z * z) = 2 * (1 / (2 * (1 + -(if z < 0 then -z else z) * -(if z < 0 then -z else z))))
  rw [e, neg_mul_neg]
  split
  · rw [neg_mul_neg]
  · rfl

end CnvVerif.C17
