/-
  C14 — segment filters merge only adjacent like segments and conserve what they merge.
  Lemmas in Lemmas/SegFilter.lean.
-/
import CnvVerif.Model.SegFilter
import CnvVerif.Lemmas.SegFilter
namespace CnvVerif.C14
open CnvVerif

/-! `specSquash h f t` is the property's wording: split the table into the maximal runs of
    consecutive rows on one chromosome sharing the filter's level `f` (and, when the table has
    allele-specific columns, cn1/cn2), and squash every run to one row.  `squashByGroups` is what
    the code does: the running count of level changes plus the chromosome ordinal as a pandas group key. -/

/-- the code's group keys select exactly the maximal runs: on a chromosome-contiguous table with
    integer levels every `--filter` equals the run-based definition -/
theorem groups_are_maximal_runs (h : Bool) (f : Seg → Option Rat) (t : List Seg)
    (hc : ChromContig t) (hf : ∀ r ∈ t, IntLevel (f r))
    (h1 : h = true → ∀ r ∈ t, NatOrMissing r.cn1 ∧ NatOrMissing r.cn2) :
    squashByGroups h t (t.map f) = specSquash h f t :=
  squashByGroups_eq_runs_any h f t hc (fun r hr => present_of_intLevel (hf r hr))
    (fun hh r hr => ⟨natOrMissing_ne _ (h1 hh r hr).1, natOrMissing_ne _ (h1 hh r hr).2⟩)

/-- the three sign-level filters always have integer levels (so `groups_are_maximal_runs` applies to ci, sem,
    ampdel unconditionally, and to cn whenever cn is an integer column) -/
theorem ci_levels_int (r : Seg) : IntLevel (levelCi r) := intLevel_ite3 _ _ (-1) 1 0
theorem sem_levels_int (r : Seg) : IntLevel (levelSem r) := by
  unfold levelSem
  cases r.sem with
  | none => exact ⟨0, rfl⟩
  | some s => exact intLevel_ite3 _ _ (-1) 1 0
theorem ampdel_levels_int (r : Seg) : IntLevel (levelAmpdel r) := intLevel_ite3 _ _ 1 (-1) 0

/-- runs partition the table in order … -/
theorem runs_partition {κ} [BEq κ] (lv : Seg → κ) (t : List Seg) : (splitRuns lv t).flatten = t :=
  splitRuns_flatten lv t

/-- … never mix chromosomes or levels … -/
theorem never_across_chromosomes_or_levels {κ} [BEq κ] [LawfulBEq κ] (lv : Seg → κ) (t : List Seg) :
    ∀ g ∈ splitRuns lv t, ∀ a ∈ g, ∀ b ∈ g, a.chrom = b.chrom ∧ lv a = lv b := splitRuns_uniform lv t

/-- … and are maximal: neighbouring outputs differ in chromosome or level -/
theorem neighbours_differ {κ} [BEq κ] [LawfulBEq κ] (lv : Seg → κ) (t : List Seg)
    (pre post : List (List Seg)) (g1 g2 : List Seg) (h : splitRuns lv t = pre ++ [g1, g2] ++ post)
    (a b : Seg) (ha : g1.getLast? = some a) (hb : g2.head? = some b) :
    a.chrom ≠ b.chrom ∨ lv a ≠ lv b := by
  have := (runs_splitRuns lv t).maximal (pre := pre) (post := post) (by rw [h, List.append_assoc]; rfl) ha hb
  simpa only [sameRun, Bool.and_eq_false_iff, beq_eq_false_iff_ne] using this

/-- one output segment per run: from the run's first start to its last end on its chromosome,
    probes and weight the sums, log2 the weight-averaged log2 of the run -/
theorem squash_fields (x : Seg) (xs : List Seg) :
    ∃ r, squashRegion (x :: xs) = some r ∧ r.chrom = x.chrom ∧ r.s = x.s ∧
      r.e = ((x :: xs).getLast?.getD x).e ∧
      r.probes = sumInt ((x :: xs).map (·.probes)) ∧ r.weight = sumRat ((x :: xs).map (·.weight)) ∧
      (0 < sumRat ((x :: xs).map (·.weight)) →
        r.log2 * sumRat ((x :: xs).map (·.weight)) = sumRat ((x :: xs).map (fun s => s.log2 * s.weight))) := by
  refine ⟨_, rfl, rfl, rfl, rfl, rfl, rfl, fun hw => ?_⟩
  show (if sumRat ((x :: xs).map (·.weight)) > 0 then
      sumRat ((x :: xs).map (fun r => r.log2 * r.weight)) / sumRat ((x :: xs).map (·.weight))
    else _) * _ = _
  rw [if_pos hw, Rat.div_mul_cancel (fun h => by rw [h] at hw; exact absurd hw (by decide))]

theorem one_row_per_run (h : Bool) (f : Seg → Option Rat) (t : List Seg) :
    (specSquash h f t).length = (splitRuns (fullLevel h f) t).length ∧
    ∀ i (hi : i < (splitRuns (fullLevel h f) t).length) (hj : i < (specSquash h f t).length),
      let g := (splitRuns (fullLevel h f) t)[i]
      let r := (specSquash h f t)[i]
      (∃ x xs, g = x :: xs ∧ r.chrom = x.chrom ∧ r.s = x.s ∧ r.e = (g.getLast?.getD x).e) := by
  have hm := filterMap_squash_map_some _ (splitRuns_nonempty (fullLevel h f) t)
  refine ⟨by simpa [specSquash] using congrArg List.length hm, fun i hi hj => ?_⟩
  have hj' : i < ((splitRuns (fullLevel h f) t).filterMap squashRegion).length := hj
  have e : some ((splitRuns (fullLevel h f) t).filterMap squashRegion)[i] =
      squashRegion (splitRuns (fullLevel h f) t)[i] := by
    simpa [hi, hj'] using congrArg (fun l => l[i]?) hm
  obtain ⟨x, xs, hx⟩ := List.exists_cons_of_ne_nil
    (splitRuns_nonempty (fullLevel h f) t _ (List.getElem_mem hi))
  obtain ⟨r, hr, h1, h2, h3, -, -⟩ := squashRegion_fields x xs
  rw [hx, hr] at e
  cases Option.some.inj e
  exact ⟨x, xs, hx, h1, h2, hx ▸ h3⟩

/-- total probes and total weight are conserved -/
theorem conserves_probes (h : Bool) (f : Seg → Option Rat) (t : List Seg) :
    sumInt ((specSquash h f t).map (·.probes)) = sumInt (t.map (·.probes)) :=
  (Prod.mk.inj (squashed_totals _ t (splitRuns_nonempty _ t) (by rw [splitRuns_flatten]))).1

theorem conserves_weight (h : Bool) (f : Seg → Option Rat) (t : List Seg) :
    sumRat ((specSquash h f t).map (·.weight)) = sumRat (t.map (·.weight)) :=
  (Prod.mk.inj (squashed_totals _ t (splitRuns_nonempty _ t) (by rw [splitRuns_flatten]))).2

/-- each chromosome's covered span is conserved: on every chromosome the first output segment starts where the
    chromosome's first input segment starts and the last output segment ends where its last input segment ends -/
theorem conserves_chrom_span (h : Bool) (f : Seg → Option Rat) (t : List Seg) (hc : ChromContig t)
    (c : String) (first last : Seg)
    (hfst : (t.filter (fun r => r.chrom == c)).head? = some first)
    (hlst : (t.filter (fun r => r.chrom == c)).getLast? = some last) :
    (((specSquash h f t).filter (fun r => r.chrom == c)).head?.map (·.s) = some first.s) ∧
    (((specSquash h f t).filter (fun r => r.chrom == c)).getLast?.map (·.e) = some last.e) := by
  have hg := splitRuns_good h f t
  unfold specSquash
  rw [(ends_squashed c _ hg).1, (ends_squashed c _ hg).2, splitRuns_flatten, hfst, hlst]
  exact ⟨rfl, rfl⟩

/-- … and no chromosome appears or disappears -/
theorem same_chromosomes (h : Bool) (f : Seg → Option Rat) (t : List Seg) (c : String) :
    (∃ r ∈ specSquash h f t, r.chrom = c) ↔ (∃ r ∈ t, r.chrom = c) := by
  unfold specSquash
  rw [runs_same_chromosomes c _ (splitRuns_good h f t), splitRuns_flatten]

/-- the cut-offs read from the source are the ones the property names: 1.96, cn = 0, cn ≥ 5 -/
theorem constants_are : Generated.SEM_ZSCORE_dec = 196 / 100 ∧ Generated.AMPDEL_AMP_MIN = [5] ∧
    Generated.AMPDEL_DEL_EQ = [0] := by decide +kernel

/-- a row's `ampdel` level is non-neutral exactly at the extremes: +1 iff amplified (cn ≥ 5), −1 iff deleted
    (cn = 0); that `ampdel` keeps exactly the runs of such rows is `ampdel_is_the_extreme_runs` (Props/C14Ext.lean) -/
theorem ampdel_keeps_only_extremes (r : Seg) (c : Rat) (hc : r.cn = some c) :
    (levelAmpdel r = some 1 ↔ c ≥ 5) ∧ (levelAmpdel r = some (-1) ↔ c = 0) := by
  rw [levelAmpdel_form r c hc]
  by_cases h1 : c ≥ 5
  · have h2 : c ≠ 0 := fun h => absurd (h ▸ h1) (by decide)
    rw [if_pos h1]
    exact ⟨iff_of_true rfl h1, iff_of_false (by decide) h2⟩
  · rw [if_neg h1]
    by_cases h2 : c = 0
    · rw [if_pos h2]
      exact ⟨iff_of_false (by decide) h1, iff_of_true rfl h2⟩
    · rw [if_neg h2]
      exact ⟨iff_of_false (by decide) h1, iff_of_false (by decide) h2⟩

/-! non-vacuity: two chromosomes, a level change, and a run of three -/
example : (filterCn false
    [ { chrom := "chr1", s := 0, e := 10, gene := "a", log2 := 0, probes := 3, weight := 1, cn := some 2 },
      { chrom := "chr1", s := 12, e := 20, gene := "b", log2 := 1, probes := 2, weight := 3, cn := some 2 },
      { chrom := "chr1", s := 20, e := 30, gene := "c", log2 := 0, probes := 1, weight := 1, cn := some 3 },
      { chrom := "chr2", s := 5, e := 9, gene := "d", log2 := 0, probes := 1, weight := 1, cn := some 3 } ]).map
    (fun r => (r.chrom, r.s, r.e, r.probes, r.weight, r.log2)) =
    [("chr1", 0, 20, 5, 4, 3/4), ("chr1", 20, 30, 1, 1, 0), ("chr2", 5, 9, 1, 1, 0)] := by decide +kernel

/-- the main theorem for levels that need not be integers.  On a chromosome-contiguous table whose levels are
    present (any rational values -- e.g. the weighted-median cn 5.5 an `ampdel` run can carry into a following `cn`
    filter) the code's group keys select exactly the maximal runs; allele-specific copy numbers may be any values
    but −1 (the code's stand-in for "missing"). -/
theorem groups_are_maximal_runs_any_levels (h : Bool) (f : Seg → Option Rat) (t : List Seg)
    (hc : ChromContig t) (hf : ∀ r ∈ t, Present (f r))
    (h1 : h = true → ∀ r ∈ t, r.cn1 ≠ some (-1) ∧ r.cn2 ≠ some (-1)) :
    squashByGroups h t (t.map f) = specSquash h f t := squashByGroups_eq_runs_any h f t hc hf h1

/-- the `cn` filter merges exactly the runs of EQUAL cn, whatever values cn takes -/
theorem cn_filter_is_runs_of_equal_cn (t : List Seg) (hc : ChromContig t) (hcn : ∀ r ∈ t, Present r.cn) :
    filterCn false t = specSquash false levelCn t :=
  squashByGroups_eq_runs_any false levelCn t hc hcn (fun h => absurd h (by decide))

/-- the key without the repair (`…abs().cumsum().astype(int)`): 5.5 and 5 share a key, so the `cn` filter after `ampdel`
    merges an amplified run of median cn 5.5 with a neighbouring cn-5 segment; the change count keeps them apart -/
theorem enumerate_changes_prefix_counterexample :
    enumChangesPrefix [some (11/2), some 5] = [0, 0] ∧ enumChanges [some (11/2), some 5] = [0, 1] := by
  decide +kernel

example : ChromContig [({ chrom := "chr1", s := 0, e := 20, gene := "a,b", log2 := 29/20, probes := 10, weight := 2, cn := some (11/2) } : Seg),
    { chrom := "chr1", s := 30, e := 40, gene := "d", log2 := 13/10, probes := 5, weight := 1, cn := some 5 }] := by
  exact chromContig_of_length_le_two _ (Nat.le_refl 2)

example : (filterCn false
    [ { chrom := "chr1", s := 0, e := 20, gene := "a,b", log2 := 29/20, probes := 10, weight := 2, cn := some (11/2) },
      { chrom := "chr1", s := 30, e := 40, gene := "d", log2 := 13/10, probes := 5, weight := 1, cn := some 5 } ]).map
    (fun r => (r.s, r.e, r.cn)) = [(0, 20, some (11/2)), (30, 40, some 5)] := by decide +kernel

end CnvVerif.C14
