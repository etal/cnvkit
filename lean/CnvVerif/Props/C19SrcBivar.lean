/-
  C19, tie to the source text: `biweight_midvariance` about a given centre, with the generated defaults c = 9, epsilon = 0.001.  `Generated.src_biweight_midvariance` is the expression
  harness/vectrans.py reads from cnvlib/descriptives.py (see Lemmas/SrcDescVocab.lean).
-/
import CnvVerif.Generated.ExprsDesc
import CnvVerif.Lemmas.SrcDescVocab
namespace CnvVerif.C19
open CnvVerif CnvVerif.Desc CnvVerif.Generated CnvVerif.Src


/-- `biweight_midvariance` about a given centre: the model returns what the source computes -- the MAD fall-back on
    exactly symmetric data, otherwise the root of the same radicand -- except where the source divides by zero
    (`.undefined`: inf / NaN in Python) -/
theorem biweight_midvariance_is_the_source (a : List Rat) (init : Rat) :
    bivarCore false a (some init) = ScaleOut.undefined ∨
      bivarCore false a (some init) = src_biweight_midvariance a init BIVAR_C BIVAR_EPS :=
  bivarTail_eq (a.map (· - init)) (max (BIVAR_C * median ((a.map (· - init)).map absR)) BIVAR_EPS)
    (median ((a.map (· - init)).map absR) * MAD_SCALE_BIVAR)

end CnvVerif.C19
