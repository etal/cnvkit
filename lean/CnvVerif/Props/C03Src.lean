/-
  C03: tie to the source TEXT of `GenomicArray.by_arm` (skgenome/gary.py), which decides the units the per-arm
  methods work on.  The definitions `Generated.src_by_arm_*` are re-translated from /repo's Python on every run
  (harness/exprtrans.py, "Fragments"; harness/extractors/exprs_byarm.py); these theorems state that the hand-written
  model (`cmereIdx`, `armsOfChrom`, `byArm`; Model/Tile.lean) is those expressions.  Kept in a module of its own so that
  an edit to one of them breaks exactly these obligations.  Lemmas in Lemmas/SrcArm.lean.
-/
import CnvVerif.Model.Tile
import CnvVerif.Lemmas.SrcArm
namespace CnvVerif.C03
open CnvVerif CnvVerif.Generated CnvVerif.Src

/-- the model's centromere choice IS the body of `by_arm` re-assembled from the source's own expressions: the test
    `len > 2*margin + 1`, the slices `[margin+1 : -margin]` and `[margin : -margin-1]` of start and end, `argmax() +
    margin + 1`, the position read back for the size, the acceptance test `cmere_idx and cmere_size >= min_gap_size`,
    and the arms `[:cmere_idx]`, `[cmere_idx:]` -/
theorem by_arm_choice_is_the_source (starts ends : List Int) (hlen : ends.length = starts.length) (minGap : Int)
    (minArmBins : Nat) (hpos : 0 < minArmBins) :
    cmereIdx starts ends minGap minArmBins =
      srcCmereIdx starts ends minGap (max minArmBins (roundTenth starts.length)) := by
  unfold cmereIdx srcCmereIdx
  simp only []
  generalize hm : max minArmBins (roundTenth starts.length) = m
  have hmpos : 0 < m := hm ▸ Nat.lt_of_lt_of_le hpos (Nat.le_max_left _ _)
  rw [candidate_nat, accept_else]
  by_cases hc : starts.length > 2 * m + 1
  · obtain ⟨s1, s2⟩ := by_arm_slices starts ends hlen m hmpos hc
    rw [if_pos hc, if_pos (decide_eq_true hc), s1, s2]
    simp only [accept_found, found_positions, decide_eq_true_eq]
  · rw [if_neg hc, if_neg (by rw [decide_eq_true_eq]; exact hc)]
    rfl

/-- the gaps are taken between `start` of a bin and `end` of its predecessor, the arms meet at the chosen
    position, and the model's `byArm` uses the defaults the source declares (1e5 bases, 50 bins) -/
theorem by_arm_columns_arms_defaults :
    src_by_arm_gap_columns = ("start", "end") ∧
    (∀ idx, src_by_arm_p_hi idx = idx ∧ src_by_arm_q_lo idx = idx) ∧
    src_by_arm_default_min_gap_size = 100000 ∧ src_by_arm_default_min_arm_bins = 50 := by
  refine ⟨by decide, arms_meet, by decide +kernel, by decide +kernel⟩

example : srcCmereIdx [0, 10, 20] [5, 15, 25] 100000 50 = 0 := by decide +kernel

end CnvVerif.C03
