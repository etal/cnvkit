/-
  C17: consequences of the definitions of the spread statistics, for ALL inputs.
  Every spread statistic is non-negative; all of them are unchanged when the bins and the segment value move
  together (they are statistics of the deviations); standard deviation, SEM, MAD and IQR do not depend on the
  subtracted segment value at all, while the MSE does (it is the error from the segment value, fix M of DESIGN.md 9.3).
-/
import CnvVerif.Props.C17
import CnvVerif.Lemmas.StatsExt
namespace CnvVerif.C17
open CnvVerif CnvVerif.Stats

/-- every spread statistic `do_segmetrics` offers is ≥ 0 on every list of deviations (for `stdev`, `sem`,
    `bivar` -- square roots -- the radicand is; NaN results make no claim) -/
theorem spread_statistics_nonneg (nm : String) (f : List Rat → StatOut) (hf : spreadStat nm = some f)
    (d : List Rat) : (f d).val.NonNeg := by
  unfold spreadStat at hf
  split at hf <;> cases hf
  exacts [statStdev_nonneg d, statMad_nonneg d, statMse_nonneg d, statIqr_nonneg d, statBivar_nonneg d,
    statSem_nonneg d]

/-- moving every bin's log2 and the segment's log2 by the same amount `c` leaves every requested spread
    statistic of the row as it was: they are statistics of the deviations `bin − segment` -/
theorem spread_unchanged_by_common_shift (cfg : Cfg) (sg : Seg) (bs : List Bin) (boot : List BootRow) (c : Rat)
    (nm : String) (f : List Rat → StatOut) (hf : spreadStat nm = some f) (hn : nm ∈ cfg.spread) :
    (nm, f ((bs.map (·.log2)).map (· - sg.log2))) ∈
      (segRow cfg { sg with log2 := sg.log2 + c } (bs.map (fun b => { b with log2 := b.log2 + c })) boot).stats := by
  have h := spread_of_deviations_from_segment_log2 cfg { sg with log2 := sg.log2 + c } (bs.map (fun b => { b with log2 := b.log2 + c }))
    boot nm f hf hn
  have e : ((bs.map (fun b => { b with log2 := b.log2 + c })).map (·.log2)) = (bs.map (·.log2)).map (· + c) := by
    simp [List.map_map, Function.comp_def]
  rw [e, deviations_common_shift] at h
  exact h

/-- standard deviation, SEM, MAD and IQR measure spread about their own centre: whatever value `s` is subtracted
    from the bins (the segment's log2), they are the statistics of the bins' log2 themselves -/
theorem location_free_spreads_ignore_segment_value (l : List Rat) (s : Rat) :
    statStdev (l.map (· - s)) = statStdev l ∧ statSem (l.map (· - s)) = statSem l ∧
    statMad (l.map (· - s)) = statMad l ∧ statIqr (l.map (· - s)) = statIqr l :=
  ⟨statStdev_shift l s, statSem_shift l s, statMad_shift l s, statIqr_shift l s⟩

/-- … and the MSE is the one that does depend on it: the same two bins against segment values 0 and 2 -/
theorem mse_depends_on_segment_value :
    (statMse ([1, 3].map (· - 0))).val = .num 5 ∧ (statMse ([1, 3].map (· - 2))).val = .num 1 := by
  decide +kernel

/-! ### non-vacuity -/
example : spreadStat "iqr" = some statIqr := rfl
example : (statIqr [3, 1, 2, 7]).val.NonNeg := statIqr_nonneg _
example : (statStdev [1, 3]).val = .sqrtOf 1 ∧ (statStdev ([1, 3].map (· - 2))).val = .sqrtOf 1 := by decide +kernel
example : (statMad [1, 3, 8]).val.NonNeg := statMad_nonneg _

end CnvVerif.C17
