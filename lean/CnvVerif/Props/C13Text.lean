/-
  C13 at the level of the FASTA TEXT: "for any FASTA file, whatever its line width".  A text written record by
  record — `>name`, an optional description, then the sequence cut into physical lines of ANY widths, each
  followed by any trailing blanks (spaces, tabs, the '\r' of a CRLF line end), blank lines anywhere, '>' or blanks
  inside a sequence line — parses (`for line in infile`, `startswith(">")`, `split(None, 1)[0][1:]`, `rstrip()`) to
  exactly its records, and `get_regions` reports per sequence exactly the maximal runs of characters other than
  'N' of the concatenated sequence.  What counts as masked is the capital 'N' alone: lower-case 'n', IUPAC codes,
  interior blanks and a '>' that is not the first character of a line are ordinary sequence characters.
  A concrete well-formed text (`exampleRecs`) is evaluated at the end of Lemmas/AccessText.lean.
-/
import CnvVerif.Props.C13
import CnvVerif.Lemmas.AccessText
namespace CnvVerif.C13
open CnvVerif

/-- parsing a well-formed text yields its records, whatever the line widths, line ends and trailing blanks -/
theorem fasta_text_parses_to_its_records (recs : List TRec) (h : ∀ r ∈ recs, WFRec r) :
    parseFasta (String.ofList (renderText recs)) = renderRecords (recordsOfText recs) := by
  unfold parseFasta
  rw [String.toList_ofList, splitLines_renderText recs h, map_parseLine_textLines recs h]

/-- `get_regions` on the text = per sequence the maximal non-'N' runs of the concatenated lines -/
theorem get_regions_of_text (recs : List TRec) (h : ∀ r ∈ recs, WFRec r) :
    getRegions (parseFasta (String.ofList (renderText recs))) =
      .ok (recs.flatMap (fun r => tagRuns (String.ofList r.name) (maxRuns (r.lines.flatMap (·.body))))) := by
  rw [fasta_text_parses_to_its_records recs h, getRegions_records]
  unfold recordsOfText
  rw [List.flatMap_map]
  simp only [List.flatMap_def]

/-- in the property's words: `(name, s, e)` is reported iff `[s, e)` is a maximal run of non-'N' characters of
    the sequence of a record of that name -/
theorem text_reports_exactly_maximal_runs (recs : List TRec) (h : ∀ r ∈ recs, WFRec r) (reg : Region) :
    (∃ out, getRegions (parseFasta (String.ofList (renderText recs))) = .ok out ∧ reg ∈ out) ↔
      ∃ r ∈ recs, reg.1 = String.ofList r.name ∧
        IsMaxRun (nonN (r.lines.flatMap (·.body))) (r.lines.flatMap (·.body)).length reg.2.1 reg.2.2 := by
  rw [get_regions_of_text recs h]
  constructor
  · rintro ⟨out, ho, hm⟩
    cases ho
    obtain ⟨r, hr, hx⟩ := List.mem_flatMap.mp hm
    obtain ⟨hc, hx'⟩ := (mem_tagRuns ..).mp hx
    exact ⟨r, hr, hc, (mem_maxRuns_iff ..).mp hx'⟩
  · rintro ⟨r, hr, hname, hrun⟩
    exact ⟨_, rfl, List.mem_flatMap.mpr ⟨r, hr, (mem_tagRuns ..).mpr ⟨hname, (mem_maxRuns_iff ..).mpr hrun⟩⟩⟩

/-- a missing final newline changes nothing -/
theorem final_newline_is_optional (recs : List TRec) (h : ∀ r ∈ recs, WFRec r) :
    getRegions (parseFasta (String.ofList (renderText recs).dropLast)) =
      getRegions (parseFasta (String.ofList (renderText recs))) := by
  -- well-formedness is not needed: a text ends with '\n', and one more '\n' adds at most a blank line
  by_cases hr : recs = []
  · subst hr; rfl
  · obtain ⟨X, hX⟩ := renderText_ends recs hr
    rw [hX, List.dropLast_concat, getRegions_append_newline]

/-- only the capital 'N' masks: a sequence without it is one run, whatever else it holds -/
theorem only_capital_N_masks (w : List Char) (hne : w ≠ []) (h : 'N' ∉ w) : maxRuns w = [(0, w.length)] := by
  -- the character scanner meets no 'N': it opens a run at 0 and leaves it open
  have hscan := charScan_eq_idxScan 0 0 none w w.length (Nat.zero_add _).symm
  rw [(nIdxFrom_eq_nil 0 w).mpr h, idxScan, if_pos (List.length_pos_iff.mpr hne)] at hscan
  rw [maxRuns_eq_charScan, hscan]
  rfl

example : maxRuns "acgtnRYKMSW >x".toList = [(0, 14)] := by decide +kernel

end CnvVerif.C13
