/-
  C19, source tie of `smoothing.convolve_weighted`: the function body re-read from the source on every run
  (`Generated/ExprsCwIter.lean`, reading rules in harness/cwloop.py) equals the hand-written model
  `C19Iter.convolveWeighted` -- for every window, signal, weights and EVERY `n_iter`.  The theorems of `Props/C19Iter`
  are therefore theorems about the loop as it stands in the source.
-/
import CnvVerif.Props.C19Iter
import CnvVerif.Generated.ExprsCwIter
namespace CnvVerif.C19
open CnvVerif CnvVerif.Smooth CnvVerif.Generated CnvVerif.C19Iter

/-- the generated loop run `k` turns is the model's one-pass map iterated `k` times (each turn is `cwStep` by `rfl`) -/
theorem src_convolve_weighted_loop_eq (win : List Rat) :
    ∀ (k : Nat) (st : List (Option Rat) × List Rat),
      src_convolve_weighted_loop win k st = iterate (cwStep win) k st
  | 0, _ => rfl
  | k + 1, (y, w) => by
    show src_convolve_weighted_loop win k _ = iterate (cwStep win) k (cwStep win (y, w))
    rw [src_convolve_weighted_loop_eq win k]
    congr 1

/-- **the function as written equals the model, for every `n_iter`** -/
theorem src_convolve_weighted_eq (window signal weights : List Rat) (nIter : Nat) :
    src_convolve_weighted window signal weights nIter = convolveWeighted window signal weights nIter := by
  unfold src_convolve_weighted convolveWeighted
  split
  · rfl
  · simp only [src_convolve_weighted_loop_eq]

/-- so the loop in the source reproduces constants for every `n_iter` (no window sum of any pass vanishing) -/
theorem src_convolve_weighted_constant_every_n_iter (window w : List Rat) (c : Rat) (k : Nat)
    (hden : densNonzero window w k = true) :
    src_convolve_weighted window (List.replicate w.length c) w k =
      .ok (List.replicate w.length (some c), iterate (convSame (normalise window)) k w) := by
  rw [src_convolve_weighted_eq]
  exact convolve_weighted_constant_every_n_iter window w c k hden

end CnvVerif.C19
