/-
  C16: the property's hypothesis is NECESSARY, and what `by_gene` does where it fails.

  The partition theorem of Props/C16.lean assumes that every named gene's bins are consecutive (`Contiguous`).  The
  real code is also run at the excluded points (interleaved genes, comma-joined multi-gene bins: the malformed stream
  of the harness, compared with this model row for row); here is what the model -- and, by that comparison, the code --
  does there, for ALL tables:

  * no bin is ever lost (`byGene_every_bin_in_some_group`), so the groups never hold fewer bins than the table;
  * a bin belongs to the group of EACH gene its name lists (`byGene_bin_in_each_listed_gene`);
  * the groups hold exactly as many bins as the table -- no bin twice -- IF AND ONLY IF the hypothesis holds
    (`byGene_no_bin_twice_iff`), and concatenate to the chromosome's rows if and only if it holds
    (`byGene_partition_iff`): where genes interleave or a bin lists two genes, some bin IS yielded twice.

  `totalLen gs` = number of bins the groups hold together, a bin yielded twice counted twice.
-/
import CnvVerif.Props.C16
import CnvVerif.Lemmas.GenesExcl
namespace CnvVerif.C16
open CnvVerif CnvVerif.Genes

/-- **the partition theorem is an equivalence**: the groups of one chromosome, concatenated, are its rows exactly when
    every named gene's bins are consecutive -/
theorem byGene_partition_iff (ignore : List String) (rs : List Bin) :
    ((byGeneChrom ignore rs).map (·.2)).flatten = rs ↔ Contiguous (fullIgnore ignore) rs :=
  ⟨fun h => contiguous_of_length_eq ignore rs (by rw [totalLen, h]), byGeneChrom_flatten ignore rs⟩

/-- **no bin is ever lost** (no hypothesis): every row of the chromosome is in some yielded group -/
theorem byGene_every_bin_in_some_group (ignore : List String) (rs : List Bin) :
    ∀ b ∈ rs, ∃ p ∈ byGeneChrom ignore rs, b ∈ p.2 := byGeneChrom_covers ignore rs

/-- **never fewer bins than the chromosome has** (no hypothesis) -/
theorem byGene_bin_count_ge (ignore : List String) (rs : List Bin) :
    rs.length ≤ totalLen (byGeneChrom ignore rs) := byGeneChrom_length_ge ignore rs

/-- **none twice, exactly under the hypothesis**: the groups hold as many bins as the chromosome has iff every named
    gene's bins are consecutive; otherwise they hold more -- some bin is yielded twice -/
theorem byGene_no_bin_twice_iff (ignore : List String) (rs : List Bin) :
    totalLen (byGeneChrom ignore rs) = rs.length ↔ Contiguous (fullIgnore ignore) rs :=
  ⟨contiguous_of_length_eq ignore rs, fun h => by rw [totalLen, byGeneChrom_flatten ignore rs h]⟩

/-- **multi-gene bins**: a bin belongs to the group of each gene its (comma-separated) name lists -/
theorem byGene_bin_in_each_listed_gene (ignore : List String) (rs : List Bin) (i : Nat) (b : Bin) (g : String)
    (hb : rs[i]? = some b) (hn : g ∈ names b) (hg : (fullIgnore ignore).contains g = false) :
    ∃ grp, (g, grp) ∈ byGeneChrom ignore rs ∧ b ∈ grp := by
  obtain ⟨S, hS, e⟩ := byGeneChrom_spec ignore rs
  obtain ⟨s, hs, rfl⟩ := hS.complete ⟨b, hb, hn⟩ hg
  have hr := (hS.exact s hs).range i ⟨b, hb, hn⟩
  exact ⟨_, e ▸ mem_goSpans_of_mem hs 0, mem_slice_of_getElem? hr.1 (Nat.lt_succ_of_le hr.2) hb⟩

/-! ### whole tables (any row order) -/

/-- every bin of the table is in some yielded group -/
theorem byGene_table_every_bin_in_some_group (ignore : List String) (t : List Bin) :
    ∀ b ∈ t, ∃ p ∈ byGene ignore t, b ∈ p.2 := by
  intro b hb
  obtain ⟨l, hl, hbl⟩ := List.mem_flatten.mp ((byChrom_perm t).mem_iff.mpr hb)
  obtain ⟨c, hc, rfl⟩ := List.mem_map.mp hl
  obtain ⟨p, hp, hbp⟩ := byGeneChrom_covers ignore c.2 b hbl
  exact ⟨p, List.mem_flatMap.mpr ⟨c, hc, hp⟩, hbp⟩

/-- **every bin exactly once iff the hypothesis holds on every chromosome** -/
theorem byGene_each_bin_once_iff (ignore : List String) (t : List Bin) :
    (((byGene ignore t).map (·.2)).flatten).Perm t ↔ TableContiguous (fullIgnore ignore) t :=
  ⟨fun h => (byGene_length_eq_iff ignore t).mp h.length_eq, byGene_perm ignore t⟩

/-- the groups of a table never hold fewer bins than the table, and exactly as many iff the hypothesis holds -/
theorem byGene_table_bin_count (ignore : List String) (t : List Bin) :
    t.length ≤ totalLen (byGene ignore t) ∧
    (totalLen (byGene ignore t) = t.length ↔ TableContiguous (fullIgnore ignore) t) :=
  ⟨byGene_length_ge ignore t, byGene_length_eq_iff ignore t⟩

/-! ### the excluded points, concretely -/

/-- a comma-joined bin between two genes is yielded with BOTH (and so twice) -/
example : (byGene defaultIgnore
      [⟨0, "chr1", 0, 10, "A", 1, 1, 1⟩, ⟨1, "chr1", 10, 20, "A,B", 1, 1, 1⟩, ⟨2, "chr1", 20, 30, "B", 1, 1, 1⟩]).map
      (fun p => (p.1, p.2.map (·.label))) = [("A", [0, 1]), ("B", [1, 2])] := by decide +kernel

/-- interleaved genes A B A: B's bin is yielded with A and with B, and A's last bin once more as "Antitarget"
    (`prev_idx` went backwards) -/
example : (byGene defaultIgnore
      [⟨0, "chr1", 0, 10, "A", 1, 1, 1⟩, ⟨1, "chr1", 10, 20, "B", 1, 1, 1⟩, ⟨2, "chr1", 20, 30, "A", 1, 1, 1⟩]).map
      (fun p => (p.1, p.2.map (·.label))) = [("A", [0, 1, 2]), ("B", [1]), ("Antitarget", [2])] := by decide +kernel

/-- … and that table does not meet the hypothesis, in accordance with `byGene_no_bin_twice_iff` (5 bins yielded, 3 rows) -/
example : totalLen (byGeneChrom defaultIgnore
      [⟨0, "chr1", 0, 10, "A", 1, 1, 1⟩, ⟨1, "chr1", 10, 20, "B", 1, 1, 1⟩, ⟨2, "chr1", 20, 30, "A", 1, 1, 1⟩]) = 5 := by
  decide +kernel

/-- the demo table of Props/C16.lean meets it: 7 rows, 7 bins yielded -/
example : totalLen (byGene defaultIgnore demo) = demo.length := by decide +kernel

end CnvVerif.C16
