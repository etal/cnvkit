/-
  C12: tie to the source TEXT of the minimum size `do_antitarget` hands on.  `Generated.src_antitarget_min_given` and
  `src_antitarget_min_absent` (Generated/ExprsBins.lean) are re-translated from /repo's Python on every run by
  harness/exprtrans.py (arithmetic expressions); the model's `Src.effectiveMinSize` IS those expressions, for all
  arguments.  Each proof tries the direct route first (`Src.defaultMinSize_cast`) and falls back to case analysis, so
  that an equivalent spelling of the source (a flipped comparison, a negated test with swapped branches, renamed
  locals) still proves.
-/
import CnvVerif.Props.C12
import CnvVerif.Lemmas.SrcBinsMin
set_option linter.unusedTactic false
set_option linter.unreachableTactic false
set_option linter.unusedSimpArgs false
namespace CnvVerif.C12
open CnvVerif CnvVerif.Generated

/-- `do_antitarget` calls `get_antitargets` with this minimum size … -/
theorem do_antitarget_hands_on_effective_min (tg : Table) (acc : Option Table) (avg : Rat) (mn : Option Int) :
    doAntitarget tg acc avg mn = getAntitargets tg acc avg (Src.effectiveMinSize avg mn) := by
  cases mn <;> rfl

/-- … which IS the expression the source computes when `min_bin_size` is a number (`if not min_bin_size:` is true
    for 0: the default `2 * int(avg_bin_size * 2**MIN_REF_COVERAGE)` replaces it) … -/
theorem effective_min_is_the_source_given (avg : Rat) (m : Int) :
    ((Src.effectiveMinSize avg (some m) : Int) : Rat) = src_antitarget_min_given avg (m : Rat) := by
  unfold Src.effectiveMinSize src_antitarget_min_given
  by_cases hm : m = 0
  · subst hm
    simp only [beq_self_eq_true, if_true, Int.cast_zero, ne_eq, not_true_eq_false, not_false_eq_true,
      false_or, or_false, or_true, true_or, eq_self_iff_true]
    first
    | exact Src.defaultMinSize_cast avg
    | (rw [Src.defaultMinSize_cast avg]; split_ifs <;> first | rfl | ring | linarith)
  · have hb : (m == 0) = false := by simpa using hm
    have hq : ((m : Rat)) ≠ 0 := by exact_mod_cast hm
    have hq' : ¬ ((m : Rat)) = 0 := hq
    simp only [hb, hq, hq', ne_eq, not_false_eq_true, not_true_eq_false, if_false, Bool.false_eq_true,
      false_or, or_false, or_self, false_and, and_false]

/-- … and when it is left `None` -/
theorem effective_min_is_the_source_absent (avg : Rat) :
    ((Src.effectiveMinSize avg none : Int) : Rat) = src_antitarget_min_absent avg := by
  unfold Src.effectiveMinSize src_antitarget_min_absent
  first
  | exact Src.defaultMinSize_cast avg
  | (rw [Src.defaultMinSize_cast avg]; split_ifs <;> first | rfl | ring | linarith)

end CnvVerif.C12
