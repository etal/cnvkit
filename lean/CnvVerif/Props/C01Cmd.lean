/-
  C01 — the glue between `cnvkit.py call` and `do_call` (Model/CallCmd.lean): which purities the command
  refuses, that every purity it lets through meets the hypotheses of the inversion theorems, which re-centring runs, which
  sample sex is handed on; and the tie of the purity guard and of `verify_sample_sex` to the source text.
-/
import CnvVerif.Props.C01
import CnvVerif.Lemmas.CallCmd
import CnvVerif.Generated.ExprsCmd
namespace CnvVerif.C01
open CnvVerif

/-- the command refuses exactly the purities that are given, non-zero and outside (0, 1] -/
theorem cmd_refuses_iff (a : CmdCallArgs) (ploidy : Nat) (hapX : Bool) (par : Option String) (g : Bool) (tp : List Rat) :
    (∃ e, cmdCallPlan a ploidy hapX par g tp = .error e) ↔ ∃ p, a.purity = some p ∧ p ≠ 0 ∧ ¬ (0 < p ∧ p ≤ 1) := by
  rw [← cmdPurityRejected_iff]
  unfold cmdCallPlan
  cases cmdPurityRejected a.purity <;> simp

/-- … so whenever an accepted command reaches the purity-adjusted path, its purity satisfies `0 < p < 1`: the hypotheses
    of `absolute_inverts`, `clonal_reports_n` and `rescaled_ratio_*` hold for everything the command line lets through
    (`do_call` itself would take a negative purity into the formula) -/
theorem cmd_accepted_purity_is_in_unit_interval (a : CmdCallArgs) (ploidy : Nat) (hapX : Bool) (par : Option String)
    (g : Bool) (tp : List Rat) (rc : Recenter) (cfg : CallCfg)
    (h : cmdCallPlan a ploidy hapX par g tp = .ok (rc, cfg)) (p : Rat) (hp : purityActive cfg.purity = some p) :
    cfg.purity = some p ∧ 0 < p ∧ p < 1 := by
  obtain ⟨hrej, -, hpur⟩ := cmdCallPlan_ok h
  rw [hpur] at hp ⊢
  obtain ⟨ha, h0, h1⟩ := purityActive_eq_some hp
  refine ⟨ha, ?_, h1⟩
  -- a non-zero purity that is not positive would have been refused
  by_contra hneg
  have hr := (cmdPurityRejected_iff a.purity).mpr ⟨p, ha, h0, fun h => hneg h.1⟩
  rw [hrej] at hr
  cases hr

/-- `--center-at c` with c ≠ 0 shifts by c whatever `--center` says; `--center-at 0` is as good as absent -/
theorem cmd_center_at_shadows_center (c : Rat) (hc : c ≠ 0) (center : Option String) :
    cmdRecenter (some c) center = .shiftBy c := by
  simp [cmdRecenter, hc]

theorem cmd_center_at_zero_is_absent (center : Option String) : cmdRecenter (some 0) center = cmdRecenter none center := by
  simp [cmdRecenter]

/-- the sample sex is only handed on when a purity rescaling happens — and without one no call depends on it (nor on the
    genome option), so nothing is lost -/
theorem pure_path_ignores_sample_sex_and_genome (cfg : CallCfg) (h : purityActive cfg.purity = none) (female' : Bool)
    (par' : Option String) (m : Method) (thr : List Rat) (first : String) (hasBaf : Bool) (row : SegRow) :
    callRow { cfg with female := female', par := par' } m thr first hasBaf row = callRow cfg m thr first hasBaf row := by
  unfold callRow
  simp only [h]

-- the script after `Iff.rfl` serves an equivalent respelling of the source and is dead while `Iff.rfl` closes the goal
set_option linter.unusedTactic false in
set_option linter.unreachableTactic false in
/-- source tie: the model's refusal test IS the guard in front of `raise RuntimeError` in `commands._cmd_call` -/
theorem cmd_purity_guard_is_the_source (p : Rat) :
    cmdPurityRejected (some p) = true ↔ Generated.src_cmd_call_refuses_purity p := by
  have key : Generated.src_cmd_call_refuses_purity p ↔ (p ≠ 0 ∧ ¬ (0 < p ∧ p ≤ 1)) := by
    unfold Generated.src_cmd_call_refuses_purity
    first
    | exact Iff.rfl
    | (by_cases h0 : p = 0 <;> by_cases h1 : 0 < p <;> by_cases h2 : p ≤ 1 <;> simp_all <;> linarith)
  rw [cmdPurityRejected_iff, key]
  simp

/-- source tie: `cmdutil.verify_sample_sex` — a stated sex wins over the guess; y / m / male in any case are male,
    every other spelling female -/
theorem verify_sample_sex_is_the_source (g : Bool) (sexArg : Option String) :
    cmdVerifySex g sexArg = Generated.src_verify_sample_sex (sexArg.getD "") g := by
  unfold Generated.src_verify_sample_sex
  cases sexArg with
  | none => rfl
  | some s => simp only [cmdVerifySex, cmdSexArgFemale, Option.getD_some, ite_bne_self]

example : cmdPurityRejected (some (3/2)) = true ∧ cmdPurityRejected (some (-1/4)) = true ∧
    cmdPurityRejected (some 0) = false ∧ cmdPurityRejected (some 1) = false ∧ cmdPurityRejected none = false := by
  decide +kernel
example : cmdVerifySex true (some "Male") = false ∧ cmdVerifySex false (some "x") = true ∧ cmdVerifySex true none = true := by
  decide +kernel

end CnvVerif.C01
