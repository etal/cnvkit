/-
  C01 / C02: `do_call` as a WHOLE.  `Generated/ExprsDoCall.lean` is the step plan of cnvlib/call.py:do_call
  re-read from the source on every run (harness/stepplan.py): which effects on the output table run, in which order, under
  which tests.  Here: the model's plan IS that plan (all values of the tests); the loop bodies and the literal name lists
  are what the model assumes; `c01wDoCall` refuses exactly the methods the source's tuple does not list, specialises to the
  proved per-row models (`callTable`, `callTableV`) on every branch, and writes a column exactly when the plan has the step
  that writes it.
-/
import CnvVerif.Props.C01
import CnvVerif.Lemmas.CallWhole
namespace CnvVerif.C01
open CnvVerif Generated

/-- the hand-written order of effects is the one read from the source, for every outcome of the nine tests -/
theorem c01w_plan_is_the_source (bad filt vars pT pB mC mT mN baf : Bool) :
    c01wPlan bad filt vars pT pB mC mT mN baf = src_do_call_plan bad filt vars pT pB mC mT mN baf := by
  -- the two differ only in how the literal lists are bracketed
  simp only [c01wPlan, src_do_call_plan, List.append_assoc, List.cons_append, List.nil_append]

/-- one iteration of the first loop applies the filter and then removes its name from the (copied) list -/
theorem c01w_pre_iteration_is_the_source (inFilters : Bool) :
    src_do_call_pre_iter inFilters = if inFilters then [.applyFilter, .removeFromFilters] else [] := by
  cases inFilters <;> rfl

/-- one iteration of the second loop resets a non-unique index, then applies the filter (nothing is removed) -/
theorem c01w_post_iteration_is_the_source (indexUnique : Bool) :
    src_do_call_post_iter indexUnique = (if indexUnique then [] else [.resetIndex]) ++ [.applyFilter] := by
  cases indexUnique <;> rfl

/-- the literal name lists the model's `c01wMethod` / `c01wPre` / `c01wPost` rest on -/
theorem c01w_name_lists_are_the_source :
    src_do_call_methods = ["threshold", "clonal", "none"] ∧ src_do_call_pre_filters = ["ci", "sem"] := ⟨rfl, rfl⟩

/-- `do_call` raises ValueError exactly for a method outside the source's tuple -/
theorem c01w_method_refused_iff (s : String) : c01wMethod s = none ↔ s ∉ src_do_call_methods := by
  simp only [src_do_call_methods, List.mem_cons, List.not_mem_nil, or_false, not_or]
  rcases c01wMethod_cases s with ⟨h, e⟩ | ⟨h, e⟩ | ⟨h, e⟩ | ⟨h, e⟩
  · exact iff_of_false (by rw [e]; simp) (fun hn => hn.1 h)
  · exact iff_of_false (by rw [e]; simp) (fun hn => hn.2.1 h)
  · exact iff_of_false (by rw [e]; simp) (fun hn => hn.2.2 h)
  · exact iff_of_true e h

theorem c01w_refuses_iff (F : String → List SegRow → List SegRow) (a : C01wArgs) (rows : List SegRow) :
    c01wDoCall F a rows = .error "ValueError" ↔ a.method ∉ src_do_call_methods := by
  rw [← c01w_method_refused_iff]
  cases hm : c01wMethod a.method with
  | none => unfold c01wDoCall; rw [hm]; exact iff_of_true rfl rfl
  | some m => rw [c01wDoCall_of_method rows hm]; exact iff_of_false (by simp) (by simp)

/-- which filters run before the calling: `ci` and / or `sem`, in this order, each once, iff named -/
theorem c01w_pre_filters (fs : List String) :
    c01wPre fs = (if "ci" ∈ fs then ["ci"] else []) ++ (if "sem" ∈ fs then ["sem"] else []) := by
  unfold c01wPre src_do_call_pre_filters
  by_cases h1 : "ci" ∈ fs <;> by_cases h2 : "sem" ∈ fs <;> simp [List.filter, h1, h2]

/-- ... and which after it: the list as given minus the FIRST `ci` and the FIRST `sem` (a second mention runs again) -/
theorem c01w_post_filters (fs : List String) : c01wPost fs = (fs.erase "ci").erase "sem" := rfl

theorem c01w_no_filters : c01wPre [] = [] ∧ c01wPost [] = [] := ⟨rfl, rfl⟩

/-- a filter other than `ci` / `sem` runs after the calling exactly as often as it is named -/
theorem c01w_post_keeps_other (fs : List String) (f : String) (h1 : f ≠ "ci") (h2 : f ≠ "sem") :
    (c01wPost fs).count f = fs.count f := by
  rw [c01w_post_filters, List.count_erase_of_ne h2, List.count_erase_of_ne h1]

/-- the purity test of the plan is the model's `purityActive` -/
theorem c01w_purity_test (p : Option Rat) :
    (c01wPurityTruthy p && c01wPurityBelowOne p) = (purityActive p).isSome := by
  cases p with
  | none => rfl
  | some q =>
    show (q != 0 && decide (q < 1)) = (if q ≠ 0 ∧ q < 1 then some q else none).isSome
    by_cases h : q ≠ 0 ∧ q < 1
    · rw [if_pos h, bne_iff_ne.mpr h.1, decide_eq_true h.2]; rfl
    · rw [if_neg h]
      exact Bool.eq_false_iff.mpr fun hc => h (((Bool.and_eq_true _ _).mp hc).imp bne_iff_ne.mp of_decide_eq_true)

/-- Without filters and without variants the whole is the per-row table model of C01 / C02 -/
theorem c01w_specialises_plain (F : String → List SegRow → List SegRow) (a : C01wArgs) (m : Method) (rows : List SegRow)
    (hm : c01wMethod a.method = some m) (hf : a.filters = []) (hv : a.variants = false) :
    ∃ o, c01wDoCall F a rows = .ok o ∧ o.pre = [] ∧ o.post = [] ∧
      o.calls = callTable a.cfg m a.thr a.bafCol rows := by
  have hb : bafForCall a.cfg false = id := by
    funext r; unfold bafForCall; cases purityActive a.cfg.purity <;> rfl
  refine ⟨_, c01wDoCall_of_method rows hm, ?_, ?_, ?_⟩
  · rw [hf]; rfl
  · rw [hf]; rfl
  · simp only [hf, hv, c01w_no_filters.1, List.foldl_nil, Bool.false_or, hb, List.map_id]

/-- with `variants` the whole is `callTableV .. true` (BAFs from the variants, rescaled on the purity path) on the rows
    the pre-filters leave; with a `baf` column and no variants it is `callTableV .. false` -/
theorem c01w_specialises_baf (F : String → List SegRow → List SegRow) (a : C01wArgs) (m : Method) (rows : List SegRow)
    (hm : c01wMethod a.method = some m) (hb : (a.variants || a.bafCol) = true) :
    ∃ o, c01wDoCall F a rows = .ok o ∧
      o.calls = callTableV a.cfg m a.thr a.variants ((c01wPre a.filters).foldl (fun r f => F f r) rows) := by
  refine ⟨_, c01wDoCall_of_method rows hm, ?_⟩
  simp only [callTableV, hb]

/-- the filters before the calling act on the input rows only: with `F` the identity the calls do not depend on `filters` -/
theorem c01w_identity_filters (a : C01wArgs) (fs : List String) (rows : List SegRow) :
    (c01wDoCall (fun _ r => r) { a with filters := fs } rows).map (·.calls)
      = (c01wDoCall (fun _ r => r) a rows).map (·.calls) := by
  have h : ∀ (l : List String), l.foldl (fun (r : List SegRow) (_ : String) => r) rows = rows := by
    intro l; induction l <;> simp_all
  unfold c01wDoCall
  cases c01wMethod a.method <;> simp [Except.map, h]

/-- which step of the plan is present under which test (every value of the other tests) -/
theorem c01w_plan_steps (filt vars pT pB mC mT mN baf : Bool) :
    let pl := c01wPlan false filt vars pT pB mC mT mN baf
    (DoCallStep.writeCn ∈ pl ↔ mN = true) ∧ (DoCallStep.log2Rewrite ∈ pl ↔ (pT && pB) = true) ∧
    (DoCallStep.writeCn1 ∈ pl ↔ (mN && baf) = true) ∧ (DoCallStep.bafRescale ∈ pl ↔ (pT && pB && vars) = true) ∧
    (DoCallStep.absPure ∈ pl ↔ (!(pT && pB) && mC) = true) ∧ (DoCallStep.absThreshold ∈ pl ↔ mT = true) ∧
    (DoCallStep.preFilterLoop ∈ pl ↔ filt = true) ∧ (DoCallStep.postFilterLoop ∈ pl ↔ filt = true) ∧
    (DoCallStep.bafFromVariants ∈ pl ↔ vars = true) ∧ DoCallStep.raiseValueError ∉ pl := by
  -- membership in the concatenation of guarded blocks: a disjunction over the blocks, each `guard ∧ step in block`
  simp only [c01wPlan, Bool.false_eq_true, if_false, List.mem_append, mem_ite, List.mem_cons, List.not_mem_nil, reduceCtorEq,
    false_or, or_false, and_false, and_true, or_self, not_false_eq_true, Bool.and_eq_true, Bool.not_eq_true',
    Bool.and_eq_false_iff, not_and_or, Bool.not_eq_true, and_self]

/-- a refused call has the one-step plan -/
theorem c01w_plan_refused (filt vars pT pB mC mT mN baf : Bool) :
    c01wPlan true filt vars pT pB mC mT mN baf = [.raiseValueError] := rfl

theorem c01w_method_tests (s : String) (m : Method) (h : c01wMethod s = some m) :
    (s != "none") = (m != .none) ∧ (s == "clonal") = (m == .clonal) ∧ (s == "threshold") = (m == .threshold) := by
  rcases c01wMethod_cases s with ⟨hs, e⟩ | ⟨hs, e⟩ | ⟨hs, e⟩ | ⟨-, e⟩
  all_goals rw [e] at h
  · cases h; subst hs; decide
  · cases h; subst hs; decide
  · cases h; subst hs; decide
  · cases h

/-- one row of the per-row model: which of its fields are written under which method / purity / BAF presence -/
theorem c01w_row_fields (cfg : CallCfg) (m : Method) (thr : List Rat) (first : String) (hasBaf : Bool) (row : SegRow) :
    let c := callRow cfg m thr first hasBaf row
    (c.cn.isSome = (m != .none)) ∧ (c.ratio.isSome = (purityActive cfg.purity).isSome) ∧
    ((m = .none ∨ hasBaf = false) → c.cn1 = none ∧ c.cn2 = none) := by
  intro c
  have hcols := callRow_cn_columns cfg m thr first hasBaf row
  refine ⟨?_, by rw [show c.ratio = _ from callRow_ratio cfg m thr first hasBaf row, Option.isSome_map], ?_⟩
  · rcases hcols with ⟨hm, hn, -, -⟩ | ⟨hm, cn, a, hc, -, -⟩
    · rw [show c.cn = none from hn, hm]; rfl
    · rw [show c.cn = some cn from hc]; exact (bne_iff_ne.mpr hm).symm
  · intro h
    rcases hcols with ⟨-, -, h1, h2⟩ | ⟨hm, cn, a, -, e1, e2⟩
    · exact ⟨h1, h2⟩
    · rw [show c.cn1 = _ from e1, show c.cn2 = _ from e2, h.resolve_left hm]; exact ⟨rfl, rfl⟩

/-- plan against output, row by row: `cn` is written iff the plan has the step `writeCn` -/
theorem c01w_cn_written_iff_step (F : String → List SegRow → List SegRow) (a : C01wArgs) (rows : List SegRow) (o : C01wOut)
    (h : c01wDoCall F a rows = .ok o) :
    (DoCallStep.writeCn ∈ o.steps → ∀ c ∈ o.calls, c.cn.isSome) ∧
    (DoCallStep.writeCn ∉ o.steps → ∀ c ∈ o.calls, c.cn = none ∧ c.cn1 = none ∧ c.cn2 = none) := by
  obtain ⟨m, hm, rfl⟩ := c01wDoCall_ok h
  have hstep : DoCallStep.writeCn ∈ c01wSteps a ↔ (m != .none) = true := by
    rw [← (c01w_method_tests a.method m hm).1, c01wSteps, hm]
    exact (c01w_plan_steps _ _ _ _ _ _ _ _).1
  simp only [hstep]
  constructor
  · intro hN c hc
    obtain ⟨first, r, -, rfl⟩ := mem_callTable hc
    rw [(c01w_row_fields _ _ _ _ _ _).1]; exact hN
  · intro hN c hc
    obtain ⟨first, r, -, rfl⟩ := mem_callTable hc
    have hf := c01w_row_fields a.cfg m a.thr first (a.variants || a.bafCol) r
    have hnone : m = .none := by simpa using hN
    refine ⟨?_, hf.2.2 (Or.inl hnone)⟩
    rw [← Option.not_isSome_iff_eq_none, hf.1]; exact hN

/-- the log2 column is rewritten iff the plan has the step `log2Rewrite` (the purity path) -/
theorem c01w_log2_rewritten_iff_step (F : String → List SegRow → List SegRow) (a : C01wArgs) (rows : List SegRow) (o : C01wOut)
    (h : c01wDoCall F a rows = .ok o) :
    (DoCallStep.log2Rewrite ∈ o.steps ↔ (purityActive a.cfg.purity).isSome = true) ∧
    ∀ c ∈ o.calls, c.ratio.isSome = (purityActive a.cfg.purity).isSome := by
  obtain ⟨m, hm, rfl⟩ := c01wDoCall_ok h
  constructor
  · rw [← c01w_purity_test]
    simp only [c01wSteps, hm]
    exact (c01w_plan_steps _ _ _ _ _ _ _ _).2.1
  · intro c hc
    obtain ⟨first, r, -, rfl⟩ := mem_callTable hc
    exact (c01w_row_fields _ _ _ _ _ _).2.1

/-- the allelic columns are written only when the plan has the step `writeCn1` (a method other than none AND a baf column,
    from the table or from `variants`) -/
theorem c01w_allelic_only_with_step (F : String → List SegRow → List SegRow) (a : C01wArgs) (rows : List SegRow) (o : C01wOut)
    (h : c01wDoCall F a rows = .ok o) (hw : DoCallStep.writeCn1 ∉ o.steps) :
    ∀ c ∈ o.calls, c.cn1 = none ∧ c.cn2 = none := by
  obtain ⟨m, hm, rfl⟩ := c01wDoCall_ok h
  have hstep : DoCallStep.writeCn1 ∈ c01wSteps a ↔ (m != .none && (a.variants || a.bafCol)) = true := by
    rw [← (c01w_method_tests a.method m hm).1, c01wSteps, hm]
    exact (c01w_plan_steps _ _ _ _ _ _ _ _).2.2.1
  intro c hc
  obtain ⟨first, r, -, rfl⟩ := mem_callTable hc
  apply (c01w_row_fields _ _ _ _ _ _).2.2
  have := mt hstep.mpr hw
  rw [Bool.and_eq_true, not_and_or] at this
  exact this.imp (fun h => by simpa using h) (Bool.not_eq_true _).mp

/-- non-vacuity: a call that names `ci` twice runs it once before and once after the calling; an unknown method is refused;
    the hypotheses of the specialisation theorems are met by ordinary arguments -/
example : c01wPre ["ci", "cn", "ci", "sem"] = ["ci", "sem"] ∧ c01wPost ["ci", "cn", "ci", "sem"] = ["cn", "ci"] := by decide +kernel
example : c01wMethod "Threshold" = none ∧ c01wMethod "clonal" = some .clonal := by decide +kernel
example : ∃ a : C01wArgs, c01wMethod a.method = some .threshold ∧ a.filters = [] ∧ a.variants = false :=
  ⟨{ method := "threshold", variants := false, bafCol := true, filters := [], cfg := default, thr := [] }, by decide +kernel, rfl, rfl⟩
example : ∃ a : C01wArgs, c01wMethod a.method = some .none ∧ (a.variants || a.bafCol) = true :=
  ⟨{ method := "none", variants := true, bafCol := false, filters := ["sem"], cfg := default, thr := [] }, by decide +kernel, rfl⟩

end CnvVerif.C01
