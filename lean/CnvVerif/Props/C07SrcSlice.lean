/-
  C07: tie to the source TEXT of skgenome/intersect.py -- the binary-search path.  `Generated.src_*` (Generated/ExprsRanges.lean) is
  re-translated from /repo's Python on every run (harness/exprtrans_c07.py: one table, one query); the
  theorem states that the hand-written model IS that term, for all tables and queries.  A module of its own, so that an
  edit to this code path breaks exactly this obligation.
-/
import CnvVerif.Model.Ranges
import CnvVerif.Generated.ExprsRanges
namespace CnvVerif.C07
open CnvVerif

/-- binary-search path: the model's selection is `table[lo:hi]` with the two `searchsorted` calls (column, side,
    per mode) and the defaults `0` / `len(table)` that `_irange_simple` computes -/
theorem simple_slice_is_the_source (t : Table) (qs qe : Option Int) (inner : Bool) :
    irangeSimple t qs qe inner =
      (t.take (Generated.src_irange_simple_slice t inner qs qe).2).drop
        (Generated.src_irange_simple_slice t inner qs qe).1 := by
  cases qs <;> cases qe <;> cases inner <;> rfl

end CnvVerif.C07
