/-
  C01 — `cnvkit.py call --center <estimator>`: C15's `center_all` composed into the command model.  Centring and
  then calling IS calling the uniformly shifted table: every log2 minus ONE constant, the estimator (of the per-chromosome
  estimates) of the autosomes; that constant zeroes the estimator of the table `do_call` receives; and `--center name`
  equals `--center-at c` for that constant c.
-/
import CnvVerif.Props.C01Cmd
import CnvVerif.Lemmas.CallCmdCenterExt5c
namespace CnvVerif.C01
open CnvVerif CnvVerif.C01Ctr

/-- the table handed to `do_call` after `center_all` is the table as read with one constant taken off every log2 -/
theorem ctr_centered_rows_are_uniform_shift (est : List Rat → Rat) (skipLow : Bool) (par : Option String)
    (pow2 : Rat → Rat) (rows : List SegRow) :
    centerRows est skipLow par pow2 rows = shiftRows pow2 (-(centerConst est skipLow par rows)) rows := by
  unfold centerRows shiftRows centerConst centerEstimate centerAll binsOf
  rw [List.map_map, List.zip_map_right, List.zip, List.zipWith_self, List.map_map, List.map_map]
  apply List.map_congr_left
  intro r _
  cases hv : r.v <;> simp [hv]

/-- centring then calling equals calling the uniformly shifted table (any accepted purity, method, estimator) -/
theorem ctr_center_then_call_is_call_of_shifted (ests : String → Option (List Rat → Rat)) (skipLow : Bool)
    (pow2 : Rat → Rat) (a : CmdCallArgs) (ploidy : Nat) (hapX : Bool) (par : Option String) (g : Bool) (m : Method)
    (thr tp : List Rat) (hasBaf : Bool) (rows rs : List SegRow) (n : String) (cfg : CallCfg) (est : List Rat → Rat)
    (hplan : cmdCallPlan a ploidy hapX par g tp = .ok (.estimator n, cfg)) (hest : ests n = some est) :
    cmdCallCentered ests skipLow pow2 a ploidy hapX par g m thr tp hasBaf rows rs =
      .ok (callTable cfg m thr hasBaf (shiftRows pow2 (-(centerConst est skipLow par rows)) rows)) := by
  unfold cmdCallCentered
  rw [hplan]; simp only [hest, ctr_centered_rows_are_uniform_shift]

/-- an estimator name `center_all` does not know is refused (ValueError), never silently ignored -/
theorem ctr_unknown_estimator_refused (ests : String → Option (List Rat → Rat)) (skipLow : Bool)
    (pow2 : Rat → Rat) (a : CmdCallArgs) (ploidy : Nat) (hapX : Bool) (par : Option String) (g : Bool) (m : Method)
    (thr tp : List Rat) (hasBaf : Bool) (rows rs : List SegRow) (n : String) (cfg : CallCfg)
    (hplan : cmdCallPlan a ploidy hapX par g tp = .ok (.estimator n, cfg)) (hest : ests n = none) :
    cmdCallCentered ests skipLow pow2 a ploidy hapX par g m thr tp hasBaf rows rs = .error "ValueError" := by
  unfold cmdCallCentered
  rw [hplan]; simp only [hest]

/-- without `--center` (or under a non-zero `--center-at`) the extended command is the command of Model/CallCmd.lean -/
theorem ctr_other_branches_unchanged (ests : String → Option (List Rat → Rat)) (skipLow : Bool)
    (pow2 : Rat → Rat) (a : CmdCallArgs) (ploidy : Nat) (hapX : Bool) (par : Option String) (g : Bool) (m : Method)
    (thr tp : List Rat) (hasBaf : Bool) (rows rs : List SegRow)
    (h : ∀ n, cmdRecenter a.centerAt a.center ≠ .estimator n) :
    cmdCallCentered ests skipLow pow2 a ploidy hapX par g m thr tp hasBaf rows rs =
      cmdCall a ploidy hapX par g m thr tp hasBaf rows rs := by
  unfold cmdCallCentered
  cases hp : cmdCallPlan a ploidy hapX par g tp with
  | error e => rfl
  | ok pr =>
    obtain ⟨rc, cfg⟩ := pr
    cases rc with
    | shiftBy c => rfl
    | none => rfl
    | estimator n =>
      exact absurd (cmdCallPlan_ok hp).2.1.symm (h n)

/-- the constant zeroes the estimator: re-estimating the centre of the table `do_call` receives gives 0, for every
    translation-equivariant estimator (median and mean are: `C15.median_moves_with_data`, `C15.mean_moves_with_data`), every genome option,
    whenever all log2 are present and the autosome selection is non-empty (it is for every non-empty table) -/
theorem ctr_centered_table_has_zero_centre (est : List Rat → Rat) (he : TransEquiv est) (par : Option String)
    (pow2 : Rat → Rat) (rows : List SegRow) (hp : allPresent rows = true)
    (hsel : autosomesOf (((binsOf rows).head?.map (·.chrom)).getD "") par (binsOf rows) ≠ []) :
    centerConst est false par (centerRows est false par pow2 rows) = 0 := by
  rw [ctr_centered_rows_are_uniform_shift]
  unfold centerConst centerEstimate
  rw [binsOf_shiftRows _ _ _ hp, neg_neg, centerShift_of_centered est he par (binsOf rows) hsel, neg_zero]

/-- `--center name` is `--center-at c` for c = the estimate, whenever that estimate is not 0 (a zero estimate: both leave
    the table alone up to the identity shift) -/
theorem ctr_center_is_center_at_estimate (ests : String → Option (List Rat → Rat)) (skipLow : Bool)
    (pow2 : Rat → Rat) (purity : Option Rat) (sex : Option String) (ploidy : Nat) (hapX : Bool) (par : Option String)
    (g : Bool) (m : Method) (thr tp : List Rat) (hasBaf : Bool) (rows : List SegRow) (n : String) (hn : n ≠ "")
    (est : List Rat → Rat) (hest : ests n = some est) (hc : centerConst est skipLow par rows ≠ 0) :
    cmdCallCentered ests skipLow pow2 { purity, centerAt := none, center := some n, sampleSex := sex }
        ploidy hapX par g m thr tp hasBaf rows rows =
      cmdCall { purity, centerAt := some (centerConst est skipLow par rows), center := none, sampleSex := sex }
        ploidy hapX par g m thr tp hasBaf rows (shiftRows pow2 (-(centerConst est skipLow par rows)) rows) := by
  unfold cmdCallCentered cmdCall cmdCallPlan
  by_cases hr : cmdPurityRejected purity = true
  · simp [hr]
  · simp [hr, cmdRecenter, hn, hc, hest, ctr_centered_rows_are_uniform_shift]

example : estimatorOf medianR meanR medianR medianR "bogus" = none := by decide +kernel
example : TransEquiv meanR ∧ TransEquiv medianR := ⟨meanR_transEquiv, medianR_transEquiv⟩
example :
    let rows : List SegRow := [⟨"chr1", 0, 10, some 1, 2, none⟩, ⟨"chr1", 10, 20, some 3, 8, none⟩,
                               ⟨"chr2", 0, 10, some 4, 16, none⟩, ⟨"chrX", 0, 10, some (-7), 0, none⟩]
    allPresent rows = true ∧
    (shiftRows (fun x => x) (-3) rows).map (·.v) = [some (-2), some 0, some 1, some (-10)] := by
  decide +kernel

end CnvVerif.C01
