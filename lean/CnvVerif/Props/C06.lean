/-
  C06 — interval arithmetic (merge / flatten / subtract / trimmed intersection / subdivide /
  resize) is base-exact.
-/
import CnvVerif.Model.Interval
import CnvVerif.Model.IntervalSpec
import CnvVerif.Lemmas.Interval
import CnvVerif.Lemmas.IntervalSubdivide
import CnvVerif.Lemmas.IntervalTable
import CnvVerif.Lemmas.FlattenCov
namespace CnvVerif.C06
open CnvVerif

/-! First the statements about one chromosome's rows (`List Row`, chromosome field ignored by `cov`), which is what
    `mergeTable` / `subtractTable` / `subdivideTable` apply per `groupby` group; the same on whole tables follows below. -/

/-- merge never loses or invents a base, for every `bp ≥ 0` -/
theorem merge_cov (bp : Int) (hbp : 0 ≤ bp) (l : List Row) (hs : StartSorted l) (p : Int) :
    cov (mergeChrom bp l) p ↔ cov l p := mergeChrom_cov bp hbp l hs p

/-- merge (bp = 0) returns sorted, positive-length, disjoint, non-abutting intervals -/
theorem merge_canonical (l : List Row) (hs : StartSorted l) (hp : ∀ r ∈ l, r.s < r.e) :
    Canon (mergeChrom 0 l) := mergeChrom_canon l hs hp

/-- "minimal": a canonical list is determined by the set of bases it covers -/
theorem canonical_unique (a b : List Row) (ha : Canon a) (hb : Canon b)
    (h : ∀ p, cov a p ↔ cov b p) : a.map ivOf = b.map ivOf := canon_unique a b ha hb h

/-- the first merged row keeps the chromosome and the start of the first input row -/
theorem merge_first_fields (bp : Int) (x : Row) (xs : List Row) :
    ∃ r t, mergeChrom bp (x :: xs) = r :: t ∧ r.chrom = x.chrom ∧ r.s = x.s :=
  mergeGo_head bp x [x.gene] xs

/-- subtraction of one row: exactly the bases of the row not covered by the excluded rows;
    `ex` = the (merged, hence canonical) excluded rows overlapping the keeper, as selected by the
    `outer` range query -/
theorem subtract_cov (k : Row) (ex : List Row) (hc : Canon ex)
    (ho : ∀ x ∈ ex, x.e > k.s ∧ x.s < k.e) (p : Int) :
    cov (subtractRow k ex) p ↔ (k.s ≤ p ∧ p < k.e) ∧ ¬ cov ex p := subtractRow_cov k ex hc ho p

/-- with an arbitrary subtrahend `b` (overlapping, nested, duplicated rows) on the chromosome:
    merging first and selecting the overlapping merged rows gives exact set difference -/
theorem subtract_cov_arbitrary (k : Row) (b : List Row) (hs : StartSorted b)
    (hp : ∀ r ∈ b, r.s < r.e) (p : Int) :
    cov (subtractRow k ((mergeChrom 0 b).filter (fun x => x.e > k.s && x.s < k.e))) p ↔
      (k.s ≤ p ∧ p < k.e) ∧ ¬ cov b p := by
  rw [subtractRow_cov_overlapping k _ (mergeChrom_canon b hs hp) p, mergeChrom_cov 0 (Int.le_refl 0) b hs p]

/-- every piece carries the other fields of the row it came from and has positive length -/
theorem subtract_pieces_carry_row (k : Row) (ex : List Row) :
    ∀ q ∈ subtractRow k ex, q.chrom = k.chrom ∧ q.gene = k.gene ∧ q.s < q.e ∨ q = k :=
  subtractRow_carry k ex

/-- subdivide: `n` consecutive bins, exact cover, sizes within one base of each other -/
theorem subdivide_exact (r : Row) (n : Nat) (hn : 2 ≤ n) (hlen : (n : Int) ≤ r.e - r.s) :
    let bins := splitInto r n
    bins.length = n ∧
    (bins.head?.map (·.s)) = some r.s ∧ (bins.getLast?.map (·.e)) = some r.e ∧
    Consecutive bins ∧
    (∀ a ∈ bins, ∀ b ∈ bins, (a.e - a.s) - (b.e - b.s) ≤ 1) ∧
    (∀ a ∈ bins, a.s < a.e ∧ a.gene = r.gene ∧ a.chrom = r.chrom) := by
  have hn1 : 1 ≤ n := by omega
  have hn0 : n ≠ 0 := by omega
  -- every bin is `⌊span/n⌋` or one more long (`splitInto_sizes`), and `⌊span/n⌋ ≥ 1`
  have hq : 1 ≤ (r.e - r.s) / (n : Int) := Int.le_ediv_of_mul_le (by omega) (by omega)
  have hsz := splitInto_sizes r n hn1
  refine ⟨splitInto_length r n, ?_, ?_, (splitInto_tiles r n hn1 (by omega)).consecutive, ?_, ?_⟩
  · simp [splitInto_eq_cutRows, cutRows, List.head?_range, hn0, cutAt_zero]
  · simp only [splitInto_eq_cutRows, cutRows, List.getLast?_map, List.getLast?_range, hn0, if_false, Option.map_some]
    rw [show n - 1 + 1 = n by omega, cutAt_last r n hn1]
  · intro a ha b hb
    have := hsz a ha
    have := hsz b hb
    omega
  · intro a ha
    have := hsz a ha
    exact ⟨by omega, (splitInto_fields r n a ha).2, (splitInto_fields r n a ha).1⟩

/-- the bin count the code uses is `max 1 (round (length / avg))` and `splitRow` is `splitInto` -/
theorem subdivide_count (avg : Rat) (minSize : Int) (r : Row) (h : minSize ≤ r.e - r.s)
    (hnn : 0 ≤ roundHalfEven (((r.e - r.s : Int) : Rat) / avg)) :
    splitRow avg minSize r =
      (let n := (max 1 (roundHalfEven (((r.e - r.s : Int) : Rat) / avg))).toNat
       if n = 1 then [r] else splitInto r n) := by
  rw [splitRow_eq_splitInto, if_pos h]
  show _ = if _ = 1 then [r] else splitInto r _
  rw [ite_one_splitInto, ← binCount_eq_max avg r hnn, Int.toNat_natCast]

theorem subdivide_drops_small (avg : Rat) (minSize : Int) (r : Row) (h : r.e - r.s < minSize) :
    splitRow avg minSize r = [] := by
  rw [splitRow_eq_splitInto, if_neg (by omega)]

/-- resize: both ends move by `bp`, clipped to [0, size]; rows that shrink to nothing are dropped -/
theorem resize_spec (bp : Int) (sizes : String → Option Int) (t : Table) (q : Row) :
    q ∈ resizeTable bp sizes t ↔
      ∃ r ∈ t, q = { r with s := clipInt 0 (sizes r.chrom) (r.s - bp),
                             e := clipInt 0 (sizes r.chrom) (r.e + bp) } ∧
        (bp < 0 → q.e - q.s > 0) := by
  simp only [resizeTable_eq, List.mem_filter, List.mem_map, decide_eq_true_eq]
  exact ⟨fun ⟨⟨r, hr, h⟩, hq⟩ => ⟨r, hr, h.symm, hq⟩, fun ⟨r, hr, h, hq⟩ => ⟨⟨r, hr, h.symm⟩, hq⟩⟩

theorem clip_bounds (hi : Int) (hh : 0 ≤ hi) (x : Int) :
    0 ≤ clipInt 0 (some hi) x ∧ clipInt 0 (some hi) x ≤ hi ∧
    (0 ≤ x → x ≤ hi → clipInt 0 (some hi) x = x) := by
  simp only [clipInt]
  omega

/-! ### table level: any number of chromosomes, any row order

    The pandas-style wrappers (`sort_values`, `groupby(sort=False)`, the stable re-sort of
    chromosomes, `by_shared_chroms`, `by_ranges`) preserve the per-chromosome statements. -/

/-- merge never loses or invents a base on any chromosome, for every `bp ≥ 0` -/
theorem merge_cov_table (bp : Int) (hbp : 0 ≤ bp) (t : Table) (c : String) (p : Int) :
    cov (rowsOf (mergeTable bp t) c) p ↔ cov (rowsOf t c) p := mergeTable_cov bp hbp t c p

/-- merge (bp = 0) leaves, on every chromosome, the canonical list: sorted, positive-length,
    disjoint, non-abutting rows (unique by `canonical_unique`) -/
theorem merge_canonical_table (t : Table) (hp : ∀ r ∈ t, r.s < r.e) (c : String) :
    Canon (rowsOf (mergeTable 0 t) c) := mergeTable_canon t hp c

/-- a.subtract(b) covers, on every chromosome, exactly the bases of `a` that are not in `b` — also
    when b's intervals overlap or nest, and when a chromosome is missing from either table -/
theorem subtract_cov_table (a b : Table) (hb : ∀ r ∈ b, 0 ≤ r.s ∧ r.s < r.e)
    (ha : ∀ r ∈ a, 0 ≤ r.s ∧ r.s ≤ r.e) (c : String) (p : Int) :
    cov (rowsOf (subtractTable a b) c) p ↔ (cov (rowsOf a c) p ∧ ¬ cov (rowsOf b c) p) :=
  subtractTable_cov a b hb c p

/-- `intersection(mode=trim)` covers exactly a AND b: on one chromosome, a base is covered by the result iff it is
    covered by the table and by some query range -- whatever overlaps, nests or repeats on either side -/
theorem intersect_trim_cov (c : String) (table other : Table)
    (ht : ∀ r ∈ table, r.chrom = c) (ho : ∀ r ∈ other, r.chrom = c)
    (hwf : WFTable table) (hq : ∀ b ∈ other, 0 ≤ b.s) (p : Int) :
    cov (intersection table other .trim) p ↔ (cov table p ∧ cov other p) := by
  simp only [cov, mem_intersection_trim c table other ht ho hwf]
  constructor
  · rintro ⟨x, ⟨r, hr, b, hb, _, _, rfl⟩, h1, h2⟩
    obtain ⟨h1r, h1b⟩ := Int.max_le.mp h1
    obtain ⟨h2r, h2b⟩ := Int.lt_min.mp h2
    exact ⟨⟨r, hr, h1r, h2r⟩, ⟨b, hb, h1b, h2b⟩⟩
  · rintro ⟨⟨r, hr, h1, h2⟩, ⟨b, hb, h3, h4⟩⟩
    exact ⟨_, ⟨r, hr, b, hb, by omega, by omega, rfl⟩, Int.max_le.mpr ⟨h1, h3⟩, Int.lt_min.mpr ⟨h2, h4⟩⟩

/-- … each piece being a row of the table clipped to one query range, carrying that row's other fields -/
theorem intersect_trim_pieces_carry_row (c : String) (table other : Table)
    (ht : ∀ r ∈ table, r.chrom = c) (ho : ∀ r ∈ other, r.chrom = c)
    (hwf : WFTable table) (hq : ∀ b ∈ other, 0 ≤ b.s) :
    ∀ x ∈ intersection table other .trim, ∃ r ∈ table, ∃ b ∈ other,
      r.e > b.s ∧ r.s < b.e ∧ x = { r with s := max r.s b.s, e := min r.e b.e } :=
  fun x hx => (mem_intersection_trim c table other ht ho hwf x).mp hx

/-! ### flatten (one chromosome's rows, sorted by start; `flattenTable` applies `flattenChrom` to each chromosome) -/

/-- flatten returns pieces covering exactly the union of its input … -/
theorem flatten_cov (l : List Row) (hs : l.Pairwise (fun a b => a.s ≤ b.s)) (hwf : ∀ r ∈ l, r.s < r.e) (p : Int) :
    cov (flattenChrom l) p ↔ cov l p := by
  obtain ⟨im, ic, _⟩ := fc_groups_spec l hs
  -- group by group: the union of a group is an interval, which its pieces tile
  have hl := cov_flatMap_iff (overlapGroups l) id p
  rw [List.flatMap_id, overlapGroups_flatten] at hl
  rw [flattenChrom, cov_flatMap_iff, hl]
  refine exists_congr fun g => and_congr_right fun hg => ?_
  obtain ⟨lo, hi, hh⟩ := ic g hg
  exact fc_flattenGroup_cov g (fun r hr => hwf r ((im r).mp ⟨g, hg, hr⟩)) hh p

/-- … disjoint, of positive length and in order … -/
theorem flatten_disjoint (l : List Row) (hs : l.Pairwise (fun a b => a.s ≤ b.s)) (hwf : ∀ r ∈ l, r.s < r.e) :
    (∀ x ∈ flattenChrom l, x.s < x.e) ∧ (flattenChrom l).Pairwise (fun a b => a.e ≤ b.s) := by
  obtain ⟨im, _, ip⟩ := fc_groups_spec l hs
  have hgwf : ∀ g ∈ overlapGroups l, ∀ r ∈ g, r.s < r.e :=
    fun g hg r hr => hwf r ((im r).mp ⟨g, hg, hr⟩)
  unfold flattenChrom
  constructor
  · intro z hz
    obtain ⟨g, hg, hzg⟩ := List.mem_flatMap.mp hz
    exact (fc_flattenGroup_mem g (hgwf g hg) z hzg).2.2.1
  · -- in order inside a group; a piece lies inside the hull of its group, and the groups are apart
    rw [List.pairwise_flatMap]
    refine ⟨fun g _ => fc_flattenGroup_pairwise g, ?_⟩
    refine List.Pairwise.imp_of_mem ?_ ip
    intro g h hg hh hb z hz w hw
    obtain ⟨_, ⟨a, ha, h1⟩, _, _⟩ := fc_flattenGroup_mem g (hgwf g hg) z hz
    obtain ⟨⟨c, hc, h2⟩, _, _, _⟩ := fc_flattenGroup_mem h (hgwf h hh) w hw
    have := hb a ha c hc
    omega

/-- … and cut at every input boundary: no input start or end lies strictly inside a piece -/
theorem flatten_cut_at_every_boundary (l : List Row) (hs : l.Pairwise (fun a b => a.s ≤ b.s))
    (hwf : ∀ r ∈ l, r.s < r.e) :
    ∀ x ∈ flattenChrom l, ∀ r ∈ l, ¬ (x.s < r.s ∧ r.s < x.e) ∧ ¬ (x.s < r.e ∧ r.e < x.e) := by
  obtain ⟨im, _, ip⟩ := fc_groups_spec l hs
  have hgwf : ∀ g ∈ overlapGroups l, ∀ r ∈ g, r.s < r.e :=
    fun g hg r hr => hwf r ((im r).mp ⟨g, hg, hr⟩)
  intro x hx r hr
  obtain ⟨g, hg, hxg⟩ := List.mem_flatMap.mp hx
  obtain ⟨h, hh, hrh⟩ := (im r).mpr hr
  obtain ⟨⟨a, ha, h1⟩, ⟨c, hc, h2⟩, h3, h4⟩ := fc_flattenGroup_mem g (hgwf g hg) x hxg
  have hrwf := hwf r hr
  -- `r` is in the piece's own group, whose boundaries are all breaks, or in a group wholly before or after it
  rcases pairwise_eq_or_rel FcBefore _ ip g h hg hh with e | hb | hb
  · subst e
    have := h4 r hrh
    omega
  · have := hb c hc r hrh
    omega
  · have := hb r hrh a ha
    omega

/-- the table-level function is `flattenChrom` per chromosome (unless the table is empty or already flat, when
    it is returned as it is) -/
theorem flatten_table_is_per_chromosome (t : Table) (hne : t.isEmpty = false)
    (hflat : (((t.map (·.s)).drop 1).zip (cummax (t.map (·.e)))).all (fun p => p.1 ≥ p.2) = false) :
    flattenTable t = resortChrom ((groupByChrom (sortLex t)).flatMap (fun g => flattenChrom g.2)) := by
  simp only [flattenTable, hne, hflat, flattenChrom, Bool.false_eq_true, if_false]

/-! non-vacuity: concrete inputs meeting the hypotheses, evaluated by the kernel -/
example : mergeChrom 0 [⟨"chr1", 0, 5, "a"⟩, ⟨"chr1", 3, 8, "b"⟩, ⟨"chr1", 8, 9, "c"⟩, ⟨"chr1", 12, 13, "d"⟩]
    = [⟨"chr1", 0, 9, "a,b,c"⟩, ⟨"chr1", 12, 13, "d"⟩] := by decide +kernel
example : subtractRow ⟨"chr1", 0, 100, "a"⟩ (mergeChrom 0 [⟨"chr1", 10, 50, "x"⟩, ⟨"chr1", 20, 30, "y"⟩])
    = [⟨"chr1", 0, 10, "a"⟩, ⟨"chr1", 50, 100, "a"⟩] := by decide +kernel
example : (splitInto ⟨"chr1", 10, 20, "g"⟩ 3).map (fun r => (r.s, r.e)) = [(10, 13), (13, 16), (16, 20)] := by
  decide +kernel

end CnvVerif.C06
