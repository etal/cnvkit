/-
  C09: the text side of `bedcov` -- `detect_bedcov_columns` and the `read_csv` call -- as theorems.
  (i)  source ties: the model's column rule IS the decision structure re-read from `detect_bedcov_columns` on every
       run, its reader settings ARE the keyword arguments of the `read_csv` call (Generated/ExprsCovCols.lean);
  (ii) for every regions file whose lines have the same number n >= 3 of TAB-free fields (3 = no names, 4 = names,
       more = arbitrary columns after the name) and whatever count text samtools appends: the table has exactly one row
       per line, in order, and row i carries the chromosome / start / end (/ name) cells of line i and ITS count;
  (iii) the three refusals.
  Kept in a module of its own so that an edit to `detect_bedcov_columns` / `bedcov` breaks exactly these obligations.
-/
import CnvVerif.Lemmas.SrcCovCols
namespace CnvVerif.C09
open CnvVerif CnvVerif.C09Cols CnvVerif.Generated

/-! ### (i) tie to the source text -/

/-- `detect_bedcov_columns`, as a function of the number of TABs in the first line, is the model's `columnsOf`
    (names, or the class of the exception), for every number of TABs -/
theorem bedcov_columns_is_the_source (n : Nat) :
    (columnsOf n).mapError Err.pyName = src_bedcov_columns (n : Int) := by
  unfold columnsOf src_bedcov_columns
  by_cases h3 : n < 3
  · rw [if_pos h3, if_pos (by omega)]; rfl
  by_cases e3 : n = 3
  · subst e3; rfl
  by_cases e4 : n = 4
  · subst e4; rfl
  rw [if_neg h3, if_neg e3, if_neg e4, if_neg (by omega), if_neg (by omega), if_neg (by omega),
    show Int.toNat ((n : Int) - 3 - 1) = n - 4 by omega]
  simp only [fillers, Int.add_comm]
  rfl

/-- the integer it decides on is `text[:text.index("\n")].count("\t")` (the model's `firstLine` / `count`), the text
    is cut at TABs, the names handed to `read_csv` (names= and usecols=) are the detected ones of the very text that
    is read, an empty text is refused before, and no further keyword (header=, comment=, skiprows=, ..) is passed -/
theorem bedcov_call_shape_is_the_source :
    BEDCOV_TABCOUNT_TEXT = "text[:text.index('\\n')].count('\\t')" ∧ BEDCOV_SEP = "\t" ∧
    BEDCOV_NAMES_ARE_DETECTED = true ∧ BEDCOV_EMPTY_REFUSED = true ∧ BEDCOV_OTHER_KWARGS = [] ∧
    "chromosome" ∈ BEDCOV_STR_COLUMNS ∧ "gene" ∈ BEDCOV_STR_COLUMNS := by
  decide +kernel

/-- the reader the source configures: pandas' default missing-value markers are OFF and the only marker is the empty
    text -/
theorem bedcov_reader_is_the_source : srcReader.keepDefaultNa = false ∧ srcReader.naValues = [[]] :=
  ⟨rfl, rfl⟩

/-- hence a cell is missing exactly when its text is empty: names such as `NA`, `null`, `nan` keep their text
    (finding AI, DESIGN.md 9.3) -/
theorem bedcov_cell_missing_iff_empty (s : List Char) : cell srcReader s = none ↔ s = [] := by
  obtain ⟨h1, h2⟩ := bedcov_reader_is_the_source
  unfold cell
  rw [h1, h2]
  cases s <;> simp

/-! ### (ii) rows are the lines -/

/-- decidable well-formedness of the lines samtools was given and the counts it appends: at least one line, every
    line has `n` fields, neither a field nor a count text contains a TAB or a newline -/
def BedcovRowsOK (n : Nat) (rows : List (List (List Char) × List Char)) : Prop :=
  rows ≠ [] ∧ (∀ p ∈ rows, p.1.length = n) ∧ (∀ p ∈ rows, ∀ f ∈ p.1, '\t' ∉ f ∧ '\n' ∉ f) ∧
  (∀ p ∈ rows, '\t' ∉ p.2 ∧ '\n' ∉ p.2)

instance (n rows) : Decidable (BedcovRowsOK n rows) := by unfold BedcovRowsOK; infer_instance

theorem bedcovOutput_eq_text (rows : List (List (List Char) × List Char)) :
    bedcovOutput rows = text (rows.map (fun p => p.1 ++ [p.2])) := by
  simp [bedcovOutput, text, List.map_map, Function.comp_def]

theorem wf_of_rowsOK {n : Nat} {rows : List (List (List Char) × List Char)} (h : BedcovRowsOK n rows) :
    WF n (rows.map (fun p => p.1 ++ [p.2])) := by
  obtain ⟨hne, hlen, hf, hc⟩ := h
  refine ⟨by simpa using hne, ?_, ?_⟩
  · intro fs hfs
    rcases List.mem_map.1 hfs with ⟨p, hp, rfl⟩
    simp [hlen p hp]
  · intro fs hfs f hfm
    rcases List.mem_map.1 hfs with ⟨p, hp, rfl⟩
    rcases List.mem_append.1 hfm with h | h
    · exact hf p hp f h
    · have : f = p.2 := by simpa using h
      subst this; exact hc p hp

/-- the parse of what samtools prints, for 3-, 4- and more-column regions files: the names are `columnsOf n`
    (n + 1 of them) and the table is, line by line and in order, the cells of the line followed by the cell of its
    count -/
theorem bedcov_parse_is_the_lines (rd : Reader) {n : Nat} (hn : 3 ≤ n)
    {rows : List (List (List Char) × List Char)} (h : BedcovRowsOK n rows) :
    ∃ cols, columnsOf n = .ok cols ∧ cols.length = n + 1 ∧
      parse rd (bedcovOutput rows) = .ok (cols, rows.map (fun p => (p.1 ++ [p.2]).map (cell rd))) := by
  obtain ⟨cols, h1, h2, h3⟩ := parse_text rd hn (wf_of_rowsOK h)
  refine ⟨cols, h1, h2, ?_⟩
  rw [bedcovOutput_eq_text, h3, List.map_map]; rfl

/-- row count: one row per line of the regions file -/
theorem bedcov_row_count_is_line_count (rd : Reader) {n : Nat} (hn : 3 ≤ n)
    {rows : List (List (List Char) × List Char)} (h : BedcovRowsOK n rows) :
    ∃ cols tbl, parse rd (bedcovOutput rows) = .ok (cols, tbl) ∧ tbl.length = rows.length := by
  obtain ⟨cols, _, _, h3⟩ := bedcov_parse_is_the_lines rd hn h
  exact ⟨cols, _, h3, by simp⟩

/-- row / bin identity: the i-th record the pileup path goes on with has the first three cells of line i, its fourth
    cell as `gene` exactly when the lines have one (n ≥ 4; with 3 columns there is no `gene` column), and the count of
    line i as base count -- whatever stands in the columns after the name -/
theorem bedcov_row_is_its_line (rd : Reader) {n : Nat} (hn : 3 ≤ n)
    {rows : List (List (List Char) × List Char)} (h : BedcovRowsOK n rows) :
    ∃ cols tbl, parse rd (bedcovOutput rows) = .ok (cols, tbl) ∧
      ∀ (i : Nat) (hi : i < rows.length), ∃ row, tbl[i]? = some row ∧
        recOf cols row =
          { chrom := (rows[i].1[0]?).bind (cell rd), start := (rows[i].1[1]?).bind (cell rd),
            stop := (rows[i].1[2]?).bind (cell rd),
            gene := if 4 ≤ n then (rows[i].1[3]?).bind (cell rd) else none,
            basecount := cell rd rows[i].2 } := by
  obtain ⟨cols, h1, h2, h3⟩ := bedcov_parse_is_the_lines rd hn h
  refine ⟨cols, _, h3, ?_⟩
  intro i hi
  refine ⟨(rows[i].1 ++ [rows[i].2]).map (cell rd), ?_, ?_⟩
  · rw [List.getElem?_map, List.getElem?_eq_getElem hi]; rfl
  · obtain ⟨cols', h1', -, hg⟩ := columnsOf_spec hn
    obtain rfl : cols = cols' := Except.ok.inj (h1.symm.trans h1')
    exact recOf_line rd hn h2 hg _ _ (h.2.1 _ (List.getElem_mem hi))

/-! ### (iii) the refusals -/

/-- an empty text (samtools printed nothing: no chromosome name matched) is a ValueError -/
theorem bedcov_refuses_empty (rd : Reader) : parse rd [] = .error .empty := rfl

/-- a text without a newline is the ValueError of `text.index("\n")` -/
theorem bedcov_refuses_no_newline (rd : Reader) (t : List Char) (hne : t ≠ []) (h : '\n' ∉ t) :
    parse rd t = .error .noNewline := by
  unfold parse detect firstLine
  cases t with
  | nil => exact absurd rfl hne
  | cons a b => simp [h]

/-- only the first line decides: with fewer than 3 TABs in it the text is refused (RuntimeError), whatever follows -/
theorem bedcov_refuses_short_first_line (rd : Reader) (l r : List Char) (hl : '\n' ∉ l) (h : l.count '\t' < 3) :
    parse rd (l ++ '\n' :: r) = .error .badLine := by
  have hemp : (l ++ '\n' :: r).isEmpty = false := by cases l <;> rfl
  unfold parse
  rw [hemp, detect_append hl]
  simp [columnsOf, h]

/-- the names depend on nothing but the number of TABs in the first line -/
theorem bedcov_detect_reads_first_line_only (l r : List Char) (hl : '\n' ∉ l) :
    detect (l ++ '\n' :: r) = columnsOf (l.count '\t') :=
  detect_append hl r

/-! ### non-vacuity -/

example : BedcovRowsOK 3 [(["chr1".toList, "0".toList, "10".toList], "57".toList)] := by decide +kernel
example : BedcovRowsOK 6
    [(["chr1".toList, "0".toList, "10".toList, "NA".toList, "0".toList, "+".toList], "57".toList),
     (["chr1".toList, "5".toList, "9".toList, "g b".toList, "".toList, "-".toList], "0".toList)] := by decide +kernel
example : src_bedcov_columns 2 = .error "RuntimeError" ∧
    src_bedcov_columns 3 = .ok ["chromosome", "start", "end", "basecount"] ∧
    src_bedcov_columns 6 = .ok ["chromosome", "start", "end", "gene", "_1", "_2", "basecount"] :=
  ⟨rfl, rfl, rfl⟩
example : ('\n' ∉ "chr1\t0\t10".toList) ∧ ("chr1\t0\t10".toList).count '\t' < 3 := by decide +kernel

end CnvVerif.C09
