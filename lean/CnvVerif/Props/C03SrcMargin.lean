/-
  C03: tie to the source TEXT of the margin of `GenomicArray.by_arm` (see Props/C03Src.lean).  Lemmas in
  Lemmas/SrcArmMargin.lean.
-/
import CnvVerif.Model.Tile
import CnvVerif.Lemmas.SrcArmMargin
namespace CnvVerif.C03
open CnvVerif CnvVerif.Generated CnvVerif.Src

/-- the margin, on the whole range the property quantifies over (1..400 bins per chromosome; here up to 504): the
    source expression `max(min_arm_bins, int(round(0.1 * len)))` is 50, and so is the model's -/
theorem by_arm_margin_is_the_source_small (n : Nat) (h : n ≤ 504) :
    src_by_arm_margin src_by_arm_default_min_arm_bins (n : Rat) = 50 ∧ max 50 (roundTenth n) = 50 := by
  constructor
  · -- the product rounds to ⌊(n + 5) / 10⌋ ≤ 50 (just above the half when n ends in 5)
    rw [margin_of_near _ n ((n + 5) / 10) (by omega) (by omega) (by omega)]
    exact max_eq_left (by unfold src_by_arm_default_min_arm_bins; exact_mod_cast (by omega : (n + 5) / 10 ≤ 50))
  · have := (roundTenth_near n).1
    omega

/-- the margin beyond that: for every bin count not ending in 5 the source expression evaluated EXACTLY (0.1 as the
    double it is) equals the model's `max min_arm_bins (round-half-even of n/10)` -/
theorem by_arm_margin_is_the_source (minArmBins n : Nat) (h5 : n % 10 ≠ 5) (hn : n < 10 ^ 15) :
    src_by_arm_margin (minArmBins : Rat) (n : Rat) = ((max minArmBins (roundTenth n) : Nat) : Rat) := by
  obtain ⟨h1, h2⟩ := (roundTenth_near n).2 h5
  rw [margin_of_near _ n (roundTenth n) hn (by omega) (by omega), Nat.cast_max]

example : (1234 : Nat) % 10 ≠ 5 ∧ (1234 : Nat) < 10 ^ 15 ∧ (400 : Nat) ≤ 504 := by decide

end CnvVerif.C03
