/-
  C20: tie to the source TEXT of the SEG exporter.
  `Generated.src_seg_*`, `src_create_chrom_ids`, `src_write_seg_enumerates`, `src_export_seg_default` are re-read from
  skgenome/tabio/seg.py (`format_seg`, `create_chrom_ids`, `write_seg`) and cnvlib/export.py (`export_seg`) on every
  run (reader harness/segread_c20.py, extractor harness/extractors/exprs_export_seg.py).  The theorems state that the
  model of Model/Export.lean (`formatSeg`, `createChromIds`, `exportSeg`) IS what the source text says, per segment:
  sample ID, chromosome renaming under the numeric-ids option, 1-based start, end, probe count iff the sample has a
  `probes` column, log2 as the mean.  Proved by simp / case splits, so that equivalent spellings (renamed locals, a
  dict comprehension, `1 + dframe.start`, `enumerate(..., 1)`, split method chain) keep them green.
-/
import CnvVerif.Model.Export
import CnvVerif.Generated.ExprsExportSeg
namespace CnvVerif.C20SegSrc
-- some simp arguments serve an equivalent respelling of the source (`1 + start`, `c != str(i)`) and are unused on today's text
set_option linter.unusedSimpArgs false
open CnvVerif CnvVerif.Export

/-- the row of the SEG table the SOURCE text writes for one segment of a sample -/
def srcRow (ids : List (String × Nat)) (id : String) (hasProbes : Bool) (r : Seg) : SegOut :=
  { id := Generated.src_seg_ID id ids r.chrom r.s r.e r.probes r.v
    chrom := Generated.src_seg_chrom id ids r.chrom r.s r.e r.probes r.v
    start := Generated.src_seg_loc_start id ids r.chrom r.s r.e r.probes r.v
    endp := Generated.src_seg_loc_end id ids r.chrom r.s r.e r.probes r.v
    probes := if "num.mark" ∈ Generated.src_seg_columns hasProbes
              then some (Generated.src_seg_num_mark id ids r.chrom r.s r.e r.probes r.v) else none
    mean := Generated.src_seg_seg_mean id ids r.chrom r.s r.e r.probes r.v }

/-- the chromosome column of the source (`replace` only under a truthy mapping) is the model's `renameChrom` -/
theorem seg_chrom_is_the_source (id : String) (ids : List (String × Nat)) (r : Seg) :
    renameChrom ids r.chrom = Generated.src_seg_chrom id ids r.chrom r.s r.e r.probes r.v := by
  cases ids with
  -- an empty mapping renames nothing: `if chrom_ids` (falsy for `False` and for `{}`) and the model's `[]` agree
  | nil => simp [Generated.src_seg_chrom, renameChrom]
  | cons p t => simp [Generated.src_seg_chrom]

/-- the header `format_seg` writes: the five SEG columns, `num.mark` before the mean iff the sample has `probes` -/
theorem seg_columns_is_the_source (hp : Bool) :
    Generated.src_seg_columns hp =
      ["ID", "chrom", "loc.start", "loc.end"] ++ (if hp then ["num.mark"] else []) ++ ["seg.mean"] := by
  cases hp <;> simp [Generated.src_seg_columns]

/-- `format_seg`: every row of the model IS the row the source text writes for that segment -/
theorem format_seg_is_the_source (ids : List (String × Nat)) (sm : SegSample) :
    formatSeg ids sm = sm.rows.map (srcRow ids sm.id sm.hasProbes) := by
  unfold formatSeg
  apply List.map_congr_left
  intro r _
  have hc := seg_chrom_is_the_source sm.id ids r
  cases hp : sm.hasProbes <;>
    simp [srcRow, hc, Generated.src_seg_ID, Generated.src_seg_loc_start, Generated.src_seg_loc_end,
      Generated.src_seg_num_mark, Generated.src_seg_seg_mean, Generated.src_seg_columns, Generated.SEG_START_SHIFT,
      Int.add_comm]

/-- per segment: the start is 1-based, the end and the mean are the segment's, the ID is the sample's -/
theorem src_row_fields (ids : List (String × Nat)) (id : String) (hp : Bool) (r : Seg) :
    (srcRow ids id hp r).id = id ∧ (srcRow ids id hp r).start = r.s + 1 ∧ (srcRow ids id hp r).endp = r.e ∧
      (srcRow ids id hp r).mean = r.v ∧ (srcRow ids id hp r).probes = (if hp then some r.probes else none) := by
  -- the source's row of `r` is the model's row of the one-row sample `[r]`, whose fields can be read off
  have h := format_seg_is_the_source ids { id := id, hasProbes := hp, rows := [r] }
  simp [formatSeg, Generated.SEG_START_SHIFT] at h
  rw [← h]
  simp

/-- `create_chrom_ids` of the model is the source's comprehension -/
theorem create_chrom_ids_is_the_source (first : List Seg) :
    createChromIds first = Generated.src_create_chrom_ids (first.map (·.chrom)) := by
  unfold createChromIds Generated.src_create_chrom_ids
  refine congrArg (fun f => List.filterMap f _) ?_
  funext ⟨c, i⟩
  -- either spelling of the rank (`i + 1`, `1 + i`) and of the comparison (`str(i) != c`, `c != str(i)`)
  try simp only [Nat.add_comm 1 _, bne_comm (a := c)]
  try simp [Nat.add_comm]

/-- `export_seg` → `write_seg`: the chromosomes of the FIRST sample are numbered exactly under the source's test
    (`chrom_ids in (None, True)`), with the source's mapping; every sample is then formatted with that mapping -/
theorem export_seg_is_the_source (e : Bool) (first : SegSample) (rest : List SegSample) :
    exportSeg e (first :: rest) =
      (first :: rest).flatMap (fun sm => sm.rows.map (srcRow
        (if Generated.src_write_seg_enumerates (some e)
          then Generated.src_create_chrom_ids (first.rows.map (·.chrom)) else []) sm.id sm.hasProbes)) := by
  have hfun : (fun sm : SegSample => sm.rows.map (srcRow
        (if Generated.src_write_seg_enumerates (some e)
          then Generated.src_create_chrom_ids (first.rows.map (·.chrom)) else []) sm.id sm.hasProbes)) =
      formatSeg (if e then createChromIds first.rows else []) := by
    funext sm
    rw [format_seg_is_the_source, create_chrom_ids_is_the_source]
    cases e <;> simp [Generated.src_write_seg_enumerates]
  rw [hfun]
  simp [exportSeg]

/-- left out, the option means: keep the chromosome names -/
theorem export_seg_default_keeps_names :
    Generated.src_write_seg_enumerates Generated.src_export_seg_default = false := by
  simp [Generated.src_write_seg_enumerates, Generated.src_export_seg_default]

/-- non-vacuity: two samples, the second without probes and with a chromosome the first does not have -/
example :
    (exportSeg true
      [{ id := "A", hasProbes := true, rows := [{ chrom := "chr1", s := 0, e := 10, gene := "-", v := 1/2, t := 1, probes := 3, cn := 2 },
                                                  { chrom := "2", s := 5, e := 9, gene := "-", v := 0, t := 1, probes := 1, cn := 2 }] },
       { id := "B", hasProbes := false, rows := [{ chrom := "chrX", s := 7, e := 8, gene := "-", v := -1, t := 1, probes := 0, cn := 2 }] }]).map
      (fun o => (o.id, o.chrom, o.start, o.endp, o.probes)) =
    [("A", "1", 1, 10, some 3), ("A", "2", 6, 9, some 1), ("B", "chrX", 8, 8, none)] := by decide

end CnvVerif.C20SegSrc
