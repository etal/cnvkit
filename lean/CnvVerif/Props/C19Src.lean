/-
  C19: tie to the source TEXT.  The definitions `Generated.src_*` are re-translated from /repo's Python on every
  run (harness/exprtrans.py); these theorems state that the hand-written model formulas are those expressions.
  Kept in a module of their own so that an edit to a formula breaks exactly these obligations.
-/
import CnvVerif.Props.C19
import CnvVerif.Lemmas.SrcWing
namespace CnvVerif.C19
open CnvVerif CnvVerif.Desc CnvVerif.Smooth CnvVerif.Generated

/-- tie to the source text: the model's window half-width IS the expression `_width2wing` computes
    (Generated/ExprsWing.lean is re-translated from /repo on every run): the same value when the function returns,
    −1 on the ValueError branch, a value below 1 where the final `assert wing >= 1` fails -/
theorem width2wing_is_the_source (width : Rat) (n : Nat) :
    match Smooth.width2wing width n with
    | Except.ok w => src_width2wing width ((MIN_WING : Nat) : Rat) (n : Rat) = (w : Rat) ∧ 1 ≤ w
    | Except.error Smooth.WingErr.valueError => src_width2wing width ((MIN_WING : Nat) : Rat) (n : Rat) = -1
    | Except.error Smooth.WingErr.assertionError => src_width2wing width ((MIN_WING : Nat) : Rat) (n : Rat) < 1 := by
  unfold Smooth.width2wing src_width2wing
  -- `int(k)` of an integer literal is `k`; `int(width) == width` is the model's `width.isInt`
  simp only [Src.pyInt_intCast, Src.pyInt_eq_self_iff, ge_iff_le]
  by_cases h1 : 0 < width ∧ width < 1
  · simp only [if_pos h1]
    exact Src.width2wing_clip_is_source _ n
  · simp only [if_neg h1]
    by_cases h2 : 2 ≤ width ∧ width.isInt = true
    · rw [if_pos h2, if_pos h2]
      exact Src.width2wing_clip_is_source _ n
    · rw [if_neg h2, if_neg h2]

end CnvVerif.C19
