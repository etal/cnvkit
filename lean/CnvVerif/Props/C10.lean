/-
  C10 — results depend only on the arguments (not workers, RNG state, history); inputs untouched;
  guarded writers never overwrite.  The lemmas are in Lemmas/EffectsFs (directory), EffectsRng (generator),
  EffectsGather (worker pool) and EffectsArgs (list arguments).
  What is proved here is about the models of Model/Effects.lean and about the tables that
  harness/extractors/effects.py regenerates from the source on every run (Generated/EffectsConsts.lean);
  purity of the Python code itself is established by the differential histories of harness/props/C10.py.
-/
import CnvVerif.Model.Effects
import CnvVerif.Generated.EffectsConsts
import CnvVerif.Lemmas.EffectsFs
import CnvVerif.Lemmas.EffectsRng
import CnvVerif.Lemmas.EffectsGather
import CnvVerif.Lemmas.EffectsArgs
namespace CnvVerif.C10
open CnvVerif CnvVerif.Effects

/-! ### "Output writers that promise not to overwrite keep a pre-existing file intact under a numbered
    suffix, so k writes to one path leave k files" -/

/-- after any k guarded writes (`core.ensure_path` + `tabio.write`) to one path, in any directory: exactly k
    more files exist, and the contents are those that were there plus those written — nothing lost, nothing
    invented (multiset equality) -/
theorem ensure_path_history (fs : FS) (hw : WF fs) (p : String) (ws : List String) :
    (guardedWrites fs p ws).length = fs.length + ws.length ∧
    (contents (guardedWrites fs p ws)).Perm (ws.reverse ++ contents fs) ∧
    WF (guardedWrites fs p ws) :=
  let h := guardedWrites_grown hw p ws
  ⟨h.length.trans (by rw [List.length_reverse]), h.perm, h.wf⟩

/-- k writes to one path of an empty directory leave k files -/
theorem k_writes_leave_k_files (p : String) (ws : List String) :
    (guardedWrites [] p ws).length = ws.length := by
  simpa using (guardedWrites_grown WF_nil p ws).length

/-- the file found at the path is kept, content intact, under a numbered suffix that was free -/
theorem preexisting_file_kept_under_numbered_suffix (fs : FS) (p c0 c : String) (h : readFile fs p = some c0) :
    ∃ k, isFile fs (bakName p k) = false ∧ readFile (guardedWrite fs p c) (bakName p k) = some c0 :=
  ⟨_, firstFree_free (isFile_of_readFile h), by
    rw [guardedWrite_eq, ensurePath_existing h, readFile_cons_ne _ _ (Ne.symm (bakName_ne p _)), readFile_cons_eq]⟩

/-- the suffix is the least number ≥ 1 not in use (what the unbounded `while os.path.isfile(...)` loop of
    the source finds; the model's bounded search provably never runs out of fuel) -/
theorem backup_suffix_is_least_free (fs : FS) (p : String) (hp : isFile fs p = true) :
    let k := firstFree fs p fs.length 1
    1 ≤ k ∧ isFile fs (bakName p k) = false ∧ ∀ j, 1 ≤ j → j < k → isFile fs (bakName p j) = true :=
  ⟨(firstFree_spec fs p fs.length 1).1, firstFree_free hp, (firstFree_spec fs p fs.length 1).2.1⟩

/-- no other file of the directory is renamed, removed or rewritten -/
theorem other_files_untouched (fs : FS) (p : String) (ws : List String) (n : String) (hn : n ≠ p)
    (hf : isFile fs n = true) : readFile (guardedWrites fs p ws) n = readFile fs n := by
  induction ws generalizing fs with
  | nil => rfl
  | cons c rest ih =>
    rw [guardedWrites_cons, ih _ (isFile_guardedWrite_of_isFile p c hf), guardedWrite_other p c hn hf]

/-- the path itself holds what was written last -/
theorem path_holds_last_write (fs : FS) (p : String) (ws : List String) (c : String) :
    readFile (guardedWrites fs p (ws ++ [c])) p = some c := by
  induction ws generalizing fs with
  | nil => exact guardedWrite_reads_back fs p c
  | cons a rest ih => exact ih _

/-- contrast (what the guard is for): the same k writes without `ensure_path` leave no additional file -/
theorem unguarded_writes_overwrite (fs : FS) (hw : WF fs) (p : String) (hp : isFile fs p = true)
    (ws : List String) : (plainWrites fs p ws).length = fs.length := by
  induction ws generalizing fs with
  | nil => rfl
  | cons c rest ih =>
    obtain ⟨hwf, hfile, hlen⟩ := writeFile_existing hw hp c
    exact (ih _ hwf hfile).trans hlen

/-- every `core.ensure_path(x)` in the source is followed by a `tabio.write(_, x)` to the same path -/
theorem guarded_writers_write_the_guarded_path :
    Generated.GUARDED_WRITERS.all (fun e => e.2.2.1 == e.2.2.2) = true ∧ Generated.GUARDED_WRITERS ≠ [] := by
  decide +kernel

/-! ### "…the same table … under any state of the global random generators" -/

/-- a list of generator operations that starts with `seed c` yields the same draws, and leaves the same generator state, from
    every initial state -/
theorem reseed_independent {σ ν : Type} (g : Gen σ ν) (c : Nat) (l : List ROp) (s₁ s₂ : σ) :
    draws g (.seed (some c) :: l) s₁ = draws g (.seed (some c) :: l) s₂ ∧
    finalState g (.seed (some c) :: l) s₁ = finalState g (.seed (some c) :: l) s₂ := ⟨rfl, rfl⟩

/-- more generally: if on a straight-line run every draw comes after a constant re-seeding, the values
    drawn do not depend on the state the generator was in -/
theorem draws_after_reseed_independent {σ ν : Type} (g : Gen σ ν) (l : List ROp) (h : safeOps l false = true)
    (s₁ s₂ : σ) : draws g l s₁ = draws g l s₂ := (draws_of_safe g l false s₁ s₂ (by simp) h).1

/-- the analysis of a control-flow skeleton is sound for every path through it and every prefix of a
    path (early return, exception) -/
theorem skeleton_analysis_sound {σ ν : Type} (g : Gen σ ν) (sk : Sk) (b' : Bool)
    (hsafe : safeSk sk false = some b') (l t : List ROp) (hp : Path sk l) (ht : t <+: l) (s₁ s₂ : σ) :
    draws g t s₁ = draws g t s₂ := draws_independent_of_state g hsafe hp ht s₁ s₂

/-- every public function of cnvlib / skgenome that reaches `np.random.*` (table regenerated from the
    source, callees followed) re-seeds with a constant before its first draw, on every path -/
theorem all_skeletons_reseeded :
    Generated.RNG_TABLE.all (fun e => !e.2.1 || (safeSk e.2.2 false).isSome) = true := by decide +kernel

/-- hence: every run of every such entry point draws the same values whatever the generator state was -/
theorem entry_points_independent_of_rng_state {σ ν : Type} (g : Gen σ ν)
    (e : String × Bool × Sk) (he : e ∈ Generated.RNG_TABLE) (hpub : e.2.1 = true)
    (l t : List ROp) (hp : Path e.2.2 l) (ht : t <+: l) (s₁ s₂ : σ) : draws g t s₁ = draws g t s₂ :=
  draws_independent_of_table g all_skeletons_reseeded he hpub hp ht s₁ s₂

/-- nothing in the package uses Python's own `random` module or imports names from a random module -/
theorem no_python_random : Generated.PY_RANDOM_USERS = [] := by decide +kernel

/-! ### "…when run with 1 or N worker processes" -/

/-- `Executor.map`: the gathered results do not depend on the order in which the workers finish (any
    order, tasks may even complete more than once), and equal the serial map -/
theorem gather_order_independent {α β : Type} (f : α → β) (xs : List α) (o₁ o₂ : List Nat)
    (h₁ : ∀ i, i < xs.length → i ∈ o₁) (h₂ : ∀ i, i < xs.length → i ∈ o₂) :
    poolMap f xs o₁ = poolMap f xs o₂ ∧ poolMap f xs o₁ = xs.map (fun x => some (f x)) :=
  ⟨(poolMap_eq_map f xs o₁ h₁).trans (poolMap_eq_map f xs o₂ h₂).symm, poolMap_eq_map f xs o₁ h₁⟩

/-- every parallel section of the source gathers with `map` (ordered) or with futures kept in
    submission order; `as_completed` / `imap_unordered` / `wait` occur nowhere; segmentation and both
    coverage paths use `map` -/
theorem parallel_sections_gather_in_order :
    Generated.EXECUTOR_CALLS.all (fun e => e.2.2 == "map" || e.2.2 == "submit") = true ∧
    Generated.UNORDERED_GATHER_SITES = [] ∧
    Generated.EXECUTOR_CALLS.contains ("cnvlib/segmentation/__init__.py", "do_segmentation", "map") = true ∧
    (Generated.EXECUTOR_CALLS.filter (fun e => e.1 == "cnvlib/coverage.py")).all (fun e => e.2.2 == "map") = true := by
  decide +kernel

/-! ### "…and it leaves the arrays, lists and dicts passed to it unchanged" -/

/-- `do_call` leaves every list object of the caller — its `filters` argument included — as it was -/
theorem do_call_keeps_filters (h : Heap) (arg : Option Nat) :
    (doCallFilters h arg).1.take h.length = h := doCallFilters_take h arg

/-- …while applying exactly the filters the code without the copy (`doCallFiltersPrefix`) applies, in the same order -/
theorem do_call_filters_unchanged_semantics (h : Heap) (r : Nat) (hr : r < h.length) :
    (doCallFilters h (some r)).2 = (doCallFiltersPrefix h (some r)).2 := by
  cases he : (hget h r).isEmpty with
  | true => simp [doCallFilters, doCallFiltersPrefix, he]
  | false => rw [doCallFilters_some he, doCallFiltersPrefix_some hr he]

/-- `by_gene` / `squash_genes` / `transfer_fields` / `get_gene_intervals` / `gene_coords_by_range` leave the
    caller's `ignore` list alone and use the caller's names plus the antitarget aliases -/
theorem by_gene_keeps_ignore (h : Heap) (a : IgnoreArg) :
    (extendIgnore h a).1 = h ∧ (extendIgnore h a).2 = (extendIgnorePrefix h a).2 := by
  cases a <;> exact ⟨rfl, rfl⟩

/-- in any history of steps on shared arguments, every step returns the value it has on fresh copies
    (whatever came before, however many workers it asked for) and the caller's lists stay as they were -/
theorem history_depends_only_on_arguments (h : Heap) (steps : List Step) :
    runHistory false h steps = steps.map (fun s => (s.fresh, h)) := by
  induction steps with
  | nil => rfl
  | cons s r ih => rw [runHistory, stepHeap_id, ih]; rfl

/-- no optional collection-valued parameter (default None / tuple / list / dict / `params.` constant) is
    mutated in place anywhere in the package (table regenerated from the source) -/
theorem no_collection_parameter_mutated_in_place : Generated.COLLECTION_PARAM_MUTATIONS = [] := by
  decide +kernel

/-! ### the code without fix J (DESIGN.md 9.3) -/

/-- `do_call(filters=["ci","cn"])` consumed `ci` from the caller's list -/
theorem do_call_prefix_counterexample :
    (doCallFiltersPrefix [["ci", "cn"]] (some 0)).1 = [["cn"]] := by decide +kernel

/-- `by_gene(ignore=["-"])` extended the caller's list -/
theorem by_gene_prefix_counterexample :
    (extendIgnorePrefix [["-"]] (.list 0)).1 = [["-", "Antitarget", "Background"]] := by decide +kernel

/-- so the second of two identical calls saw another argument -/
theorem history_prefix_counterexample :
    (runHistory true [["ci", "cn"]] [⟨"call", 1, [⟨.filters, 0⟩], "v"⟩, ⟨"call", 1, [⟨.filters, 0⟩], "v"⟩]).map (·.2)
      = [[["cn"]], [["cn"]]] := by decide +kernel

/-- a directory where the path and its first two backups exist: the third suffix is used -/
example : (guardedWrite [("out.cnn", "A"), ("out.cnn.1", "B"), ("out.cnn.2", "C")] "out.cnn" "new") =
    [("out.cnn", "new"), ("out.cnn.3", "A"), ("out.cnn.1", "B"), ("out.cnn.2", "C")] := by decide +kernel

example : WF [("out.cnn", "A"), ("out.cnn.1", "B"), ("out.cnn.2", "C")] := by decide +kernel

/-- the table is not empty and lists the three functions that touch the generator directly -/
example : (["cnvlib.fix.center_by_window", "cnvlib.segmetrics.confidence_interval_bootstrap",
            "skgenome.gary.GenomicArray.shuffle"].all
    (fun n => Generated.RNG_TABLE.any (fun e => e.1 == n && e.2.1))) = true := by
  -- only the rows that match are looked at: no comparison of unequal names is evaluated
  simp only [Generated.RNG_TABLE, List.all_cons, List.all_nil, List.any_cons, beq_self_eq_true, Bool.and_self,
    Bool.true_or, Bool.or_true]

/-- a real path of the bootstrap: seed, randint, then the smoothing draws -/
example : Path Generated.SK_cnvlib_segmetrics_confidence_interval_bootstrap
    [.seed (some 679661), .draw "randint", .draw "randn", .draw "randn"] := by
  unfold Generated.SK_cnvlib_segmetrics_confidence_interval_bootstrap Generated.SK_cnvlib_segmetrics__smooth_samples_by_weight
  exact Path.seq (Path.op _) (Path.seq (l₁ := [_]) (Path.op _) (Path.altL
    (Path.starCons (l₁ := [_]) (Path.op _) (Path.starCons (l₁ := [_]) (Path.op _) Path.starNil))))

/-- the helper that draws without seeding is rejected on its own: the analysis is not vacuous -/
example : safeSk Generated.SK_cnvlib_segmetrics__smooth_samples_by_weight false = none := by decide +kernel

/-- and an unseeded draw really depends on the state -/
example : draws (σ := Nat) (ν := Nat) ⟨fun c => c, fun s => s, fun _ s => (s, s + 1)⟩ [.draw "randn"] 0 ≠
          draws (σ := Nat) (ν := Nat) ⟨fun c => c, fun s => s, fun _ s => (s, s + 1)⟩ [.draw "randn"] 1 := by decide

/-- the unordered alternative does depend on the completion order -/
example : asCompleted (fun x : Nat => x + 1) [10, 20] [1, 0] ≠ asCompleted (fun x : Nat => x + 1) [10, 20] [0, 1] := by
  decide

example : poolMap (fun x : Nat => x + 1) [10, 20] [1, 0] = [some 11, some 21] := by decide

end CnvVerif.C10
