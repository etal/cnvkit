/-
  C18: (1) the whole chain VCF -> load_het_snps -> per-segment BAF as one statement, and "frequencies stay
  attached" through every option of load_het_snps; (2) one BAF per range, at the position of its range.
  Helper lemmas: Lemmas/VcfCarries.lean.  (Command-line glue: Props/C18Cli.lean; literals of the source: Props/C18Lits.lean.)
-/
import CnvVerif.Props.C18
import CnvVerif.Lemmas.VcfCarries
namespace CnvVerif.C18
open CnvVerif CnvVerif.Vcf

/-! ### frequencies stay attached, through every option of `load_het_snps` -/

/-- whatever the selectors, the depth threshold, `zygosity_freq` and `tumor_boost`: every row `load_het_snps` returns
    carries (`Carries`) the chromosome, start, end, alleles, SOMATIC flag, depth, alt count and the normal's depth / count /
    frequency of ONE row of the table read, and its frequency is that same row's count / depth -- or, with TumorBoost, the
    boosted value of that same row's tumour and normal frequencies.  No hypothesis on genotypes (the no-het fallback and
    the frequency-based genotypes included). -/
theorem het_rows_stay_attached (samples : List String) (tags : List PedTag) (recs : List Rec)
    (o : HetOpts) (tb out : VTable)
    (hr : readVcf samples tags recs
            { sid := o.sid, nid := o.nid, minDepth := o.minDepth,
              skipReject := false, skipSomatic := true } = .ok tb)
    (ho : loadHetSnps samples tags recs o = .ok out) :
    out.paired = tb.paired ∧
    ∀ row ∈ out.rows, ∃ r0 ∈ tb.rows, Carries row r0 ∧
      row.t.altFreq = (if o.tumorBoost then boostRow r0 else r0.t.altFreq) := by
  rw [loadHetSnps_of_read samples tags recs o tb hr] at ho
  cases h1 : retype (effectiveZygFreq o tb) tb.rows with
  | error e => rw [h1] at ho; cases ho
  | ok rows1 =>
    simp only [h1, bind, Except.bind] at ho
    cases h2 : boostStage o.tumorBoost tb.paired (hetStage tb.paired rows1) with
    | error e => rw [h2] at ho; cases ho
    | ok rows2 =>
      rw [h2] at ho
      cases ho
      refine ⟨rfl, fun row hrow => ?_⟩
      obtain ⟨r1, hr1, hc1, hf1⟩ := boostStage_rows _ _ _ _ h2 row hrow
      obtain ⟨r0, hr0, hc0, hf0⟩ := retype_carries _ _ _ h1 r1 ((hetStage_sublist _ _).subset hr1)
      refine ⟨r0, hr0, hc1.trans hc0, ?_⟩
      rw [hf1, hf0, boostRow_congr r1 r0 hc0 hf0]

/-- … and on a biallelic file that row of the table read is the row of one of the file's records (`recRow`: 0-based
    start, count / depth of the chosen sample): the frequency behind every heterozygous row is its own record's -/
theorem het_rows_come_from_records (samples : List String) (tags : List PedTag) (recs : List Rec)
    (o : HetOpts) (out : VTable) (sid : String) (nid : Option String)
    (hc : chooseSamples samples tags o.sid o.nid = .ok (sid, nid))
    (hb : ∀ r ∈ recs, Biallelic r)
    (ho : loadHetSnps samples tags recs o = .ok out) :
    ∀ row ∈ out.rows, ∃ r ∈ recs,
      Carries row (recRow (samples.idxOf sid) ((truthy nid).map (fun n => samples.idxOf n)) r) ∧
      (o.tumorBoost = false →
        row.t.altFreq = (genoOf (r.smps[samples.idxOf sid]?.getD default) r).altFreq) := by
  obtain ⟨tb, h1, _⟩ := read_table samples tags recs
    { sid := o.sid, nid := o.nid, minDepth := o.minDepth, skipReject := false, skipSomatic := true }
    sid nid hc rfl hb
  have hatt := freqs_stay_attached samples tags recs
    { sid := o.sid, nid := o.nid, minDepth := o.minDepth, skipReject := false, skipSomatic := true }
    sid nid tb hc rfl hb h1
  obtain ⟨_, h2⟩ := het_rows_stay_attached samples tags recs o tb out h1 ho
  intro row hrow
  obtain ⟨r0, hr0, hcar, hf⟩ := h2 row hrow
  obtain ⟨r, hr, rfl⟩ := hatt r0 hr0
  refine ⟨r, hr, hcar, ?_⟩
  intro hbo
  rw [hf, hbo]
  rfl

/-! ### one BAF per range, at the position of its range -/

/-- `baf_by_ranges` answers with exactly one value per range, for EVERY variant table and segment table (no
    well-formedness needed) -/
theorem one_value_per_range (tb : VTable) (segs : List (String × Int × Int)) (above : Option Bool) (boost : Bool) :
    (bafByRanges tb segs above boost).length = segs.length := bafByRanges_length tb segs above boost

/-- … and (finding AZ of DESIGN.md 9.3) the value at position i is the BAF of the i-th range: stored as a column of the
    segment table, every segment receives its own BAF -/
theorem baf_follows_its_range (tb : VTable) (segs : List (String × Int × Int)) (boost : Bool)
    (hwf : WFRows tb.rows) (hseg : ∀ g ∈ segs, 0 ≤ g.2.1) (hg : ChromGrouped segs)
    (hh : ∃ r ∈ tb.rows, isHet r = true) (i : Nat) (hi : i < segs.length) :
    (bafByRanges tb segs none boost)[i]? = some (specBaf tb.paired boost none tb.rows segs[i]) := by
  rw [baf_is_median_of_mirrored tb segs boost hwf hseg hg hh, List.getElem?_map, List.getElem?_eq_getElem hi]
  rfl

/-! ### the whole chain: VCF → load_het_snps → BAF of each segment -/

/-- the rows of a table read from biallelic records with POS ≥ 1 and a non-empty ALT have coordinates ≥ 0 and positive
    length (what `baf_is_median_of_mirrored` asks of the table) -/
theorem read_rows_have_extent (samples : List String) (tags : List PedTag) (recs : List Rec) (o : ReadOpts)
    (sid : String) (nid : Option String) (tb : VTable)
    (hc : chooseSamples samples tags o.sid o.nid = .ok (sid, nid))
    (hr : o.skipReject = false) (hb : ∀ r ∈ recs, Biallelic r)
    (hp : ∀ r ∈ recs, 1 ≤ r.pos ∧ ∀ a ∈ r.alts, 0 < a.length)
    (ht : readVcf samples tags recs o = .ok tb) :
    WFRows tb.rows := by
  refine ⟨sortedV_of_readVcf samples tags recs o tb ht, ?_⟩
  intro row hrow
  obtain ⟨r, hr', rfl⟩ := freqs_stay_attached samples tags recs o sid nid tb hc hr hb ht row hrow
  obtain ⟨a, ha, _⟩ := hb r hr'
  obtain ⟨h1, h2⟩ := hp r hr'
  have h3 := h2 a (by simp [ha])
  simp only [recRow, ha, List.headD_cons]
  omega

/-- **end to end.**  For a table read (depth filter as asked, SOMATIC records dropped) that has a germline-heterozygous
    row, genotypes as called (a paired normal carrying at least one call), no TumorBoost: `load_het_snps` succeeds, and
    `baf_by_ranges` of what it returns gives, for every segment in the order given, the median of the frequencies
    count / depth of exactly the germline-heterozygous rows of the table read that lie inside that segment, mirrored to
    one side of 0.5 -- missing where there are none -/
theorem vcf_to_segment_baf (samples : List String) (tags : List PedTag) (recs : List Rec)
    (o : HetOpts) (tb : VTable) (segs : List (String × Int × Int))
    (hr : readVcf samples tags recs
            { sid := o.sid, nid := o.nid, minDepth := o.minDepth,
              skipReject := false, skipSomatic := true } = .ok tb)
    (hz : o.zygFreq = none) (hb : o.tumorBoost = false)
    (hn : tb.paired = true → ∃ r ∈ tb.rows, ∃ g, r.n = some g ∧ g.zyg ≠ 0)
    (hh : ∃ r ∈ tb.rows, isHet r = true)
    (hwf : WFRows tb.rows) (hseg : ∀ g ∈ segs, 0 ≤ g.2.1) (hg : ChromGrouped segs) :
    ∃ hets, loadHetSnps samples tags recs o = .ok hets ∧
      bafByRanges hets segs none false =
        segs.map (fun g => summarize none
          (((tb.rows.filter isHet).filter (overlaps g)).map (fun r => r.t.altFreq.toOpt))) := by
  refine ⟨_, het_keeps_exactly_hets samples tags recs o tb hr hz hb hn hh, ?_⟩
  obtain ⟨r, hr1, hr2⟩ := hh
  have hh' : ∃ x ∈ tb.rows.filter isHet, isHet x = true := ⟨r, List.mem_filter.mpr ⟨hr1, hr2⟩, hr2⟩
  rw [baf_is_median_of_mirrored { paired := tb.paired, rows := tb.rows.filter isHet } segs false
    (hwf.sublist List.filter_sublist) hseg hg hh']
  apply List.map_congr_left
  intro g _
  have e : bafFreq tb.paired false = fun r : VRow => r.t.altFreq.toOpt := by
    funext r
    simp [bafFreq]
  simp [specBaf, e, List.filter_filter]

/-! ### non-vacuity -/

/-- the example records of Props/C18 meet the extent hypothesis of `read_rows_have_extent` -/
example : ∀ r ∈ exRecs, 1 ≤ r.pos ∧ ∀ a ∈ r.alts, 0 < a.length := by decide +kernel
/-- … and on the example table (which meets `WFRows`, see Props/C18) the second range's own BAF is 1/4 -/
example : ([("chr1", 0, 25), ("chr1", 25, 100), ("chr2", 0, 9)].map (specBaf true false none exRows))[1]? =
    some (some (1/4)) := by decide +kernel

end CnvVerif.C18
