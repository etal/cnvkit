/-
  C06: tie to the source TEXT (subdivide: the keep-test, the bin count (`round`, `int`, `or`) and the cut position of `_split_targets`).
  The definitions `Generated.src_*` of Generated/ExprsInterval.lean are re-translated from /repo's Python on every run
  (harness/exprtrans.py, "pieces"; harness/extractors/exprs_interval.py names the pieces and the column expressions read
  elementwise).  These theorems state that the hand-written model functions are built from exactly those pieces.
  One module per source function so that an edit breaks exactly the obligations about that function.
-/
import CnvVerif.Props.C06
import CnvVerif.Lemmas.SrcIntervalSubdivide
namespace CnvVerif.C06
open CnvVerif CnvVerif.Generated

/-- the model's `splitRow` is: the source's keep-test `span >= min_size`, then the bin count, then the equal split -/
theorem subdivide_region_is_keep_test_count_split (avg : Rat) (minSize : Int) (r : Row) :
    splitRow avg minSize r =
      if src_split_keeps r.s r.e minSize = true then
        (if Src.binCount avg r == 1 then [r] else splitInto r (Src.binCount avg r))
      else [] := by
  rw [Src.src_split_keeps_nf, splitRow_eq_binCount]
  simp only [decide_eq_true_eq]

/-- the model's bin count IS the source expression `int(round(span / avg_size)) or 1` (Python 3 `round`: half to even;
    `int`: truncation; `or`: truthiness of a number), for every positive -- also fractional -- average size -/
theorem subdivide_bin_count_is_the_source (avg : Rat) (havg : 0 < avg) (r : Row) (hlen : r.s ≤ r.e) :
    src_split_nbins (r.s : Rat) (r.e : Rat) avg = ((Src.binCount avg r : Nat) : Rat) :=
  Src.src_split_nbins_eq avg havg r hlen

/-- the model's cut positions `start + ⌊i·span/n⌋` (the bins of `splitInto r n` are `[cut i, cut (i+1))`) ARE the source
    expression `row.start + int(i * bin_size)` with `bin_size = span / nbins` -/
theorem subdivide_cut_is_the_source (avg : Rat) (havg : 0 < avg) (r : Row) (hlen : r.s ≤ r.e) (i : Nat) :
    src_split_bin_end (r.s : Rat) (r.e : Rat) avg (i : Rat) =
      ((r.s + ((i : Int) * (r.e - r.s)) / ((Src.binCount avg r : Nat) : Int) : Int) : Rat) :=
  Src.src_split_bin_end_eq avg havg r hlen i

/-! non-vacuity: the generated pieces evaluated on concrete numbers (`round` is half-to-even: 2.5 ↦ 2, 3.5 ↦ 4) -/
example : src_split_nbins 0 10 4 = 2 ∧ src_split_nbins 0 14 4 = 4 ∧ src_split_nbins 0 1 4 = 1 := by
  refine ⟨?_, ?_, ?_⟩ <;> decide +kernel
example : src_split_bin_end 10 20 3 2 = 16 := by decide +kernel

end CnvVerif.C06
