/-
  C02: tie to the source TEXT.  The definitions `Generated.src_*` are re-translated from /repo's Python on every
  run (harness/exprtrans.py); these theorems state that the hand-written model formulas are those expressions.
  Kept in a module of their own so that an edit to a formula breaks exactly these obligations.
-/
import CnvVerif.Props.C02
import CnvVerif.Generated.ExprsBaf
import Mathlib.Tactic.Ring
-- `first | rfl | script`: the script serves an equivalent respelling of the source and is dead while `rfl` closes the goal
set_option linter.unusedTactic false
set_option linter.unreachableTactic false
namespace CnvVerif.C02
open CnvVerif

/-- the model's BAF rescale IS the expression `rescale_baf` computes (normal BAF 0.5) -/
theorem rescale_baf_is_the_source (p b : Rat) :
    callRescaleBaf p b = Generated.src_rescale_baf p b (1/2) := by
  unfold callRescaleBaf Generated.src_rescale_baf
  first | rfl | ring

end CnvVerif.C02
