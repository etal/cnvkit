/-
  C20, the command line: `cnvkit.py export bed | vcf` (commands._cmd_export_bed, _cmd_export_vcf,
  cmdutil.verify_sample_sex) hand the exporters the sex the user states (else the inferred one), the label the options
  ask for, and every file in turn.  Model: Model/ExportExt.lean; source tie of `verify_sample_sex` and of the label: below; of the rows: Props/C20Src.lean.
-/
import CnvVerif.Props.C20
import CnvVerif.Model.ExportExt
import CnvVerif.Generated.ExprsExport
namespace CnvVerif.C20
open CnvVerif CnvVerif.Export

/-- every spelling argparse accepts for the sample sex (the list is read from commands.py) is understood as the sex
    it spells, whatever the table suggests: female iff it is f / x / female in any case, male iff m / y / male in any
    case -- no accepted spelling falls through to a default -/
theorem cli_stated_sex_wins (guess : Bool) :
    ∀ s ∈ Generated.EXPORT_SEX_CHOICES,
      (verifySampleSex guess (some s) = true ↔ s.toLower ∈ ["f", "x", "female"]) ∧
      (verifySampleSex guess (some s) = false ↔ s.toLower ∈ ["m", "y", "male"]) := by
  -- a stated, non-empty sex is read without looking at `guess`; what is left is a table of eight spellings
  have table : ∀ s ∈ Generated.EXPORT_SEX_CHOICES, s.isEmpty = false ∧
      ((!(maleSpellings.contains s.toLower)) = true ↔ s.toLower ∈ ["f", "x", "female"]) ∧
      ((!(maleSpellings.contains s.toLower)) = false ↔ s.toLower ∈ ["m", "y", "male"]) := by decide +kernel
  intro s hs
  obtain ⟨h0, h⟩ := table s hs
  simpa only [verifySampleSex, h0, Bool.false_eq_true, if_false] using h

/-- no sex on the command line: the exporters get the sex inferred from the table (C15's subject) -/
theorem cli_sex_inferred_when_not_stated (guess : Bool) : verifySampleSex guess none = guess := rfl

/-- `export bed FILE...`: each file's segments in file order, and per file exactly the segments `--show` selects for
    the sex in force for THAT file (stated, else inferred from it), with the file's own columns deciding whether the
    copy number is the cn column or the rounded ratio -/
theorem cli_bed_lists_each_file_in_order (a : CmdArgs) (files : List SegFile) :
    cmdExportBed a files =
      files.flatMap (fun f =>
        (f.rows.filter (bedKeep (fileCfg a f) (firstChrom f.rows) a.showMode)).map
          (bedRowOf (fileCfg a f) (firstChrom f.rows) (cmdBedLabel a.sampleId a.labelGenes f.segId))) := by
  unfold cmdExportBed
  congr 1
  funext f
  exact exportBed_eq_spec _ _ _ _

/-- the 4th column: `-i LABEL` wins; else `--label-genes` gives each segment's gene names; else the file's sample ID -/
theorem cli_bed_label_rule (lg : Bool) (segId : String) (r : Seg) :
    (∀ l : String, l ≠ "" → bedLabel (cmdBedLabel (some l) lg segId) r = l) ∧
    bedLabel (cmdBedLabel none true segId) r = r.gene ∧
    (segId ≠ "" → bedLabel (cmdBedLabel none false segId) r = segId) := by
  refine ⟨fun l hl => ?_, rfl, fun h => ?_⟩
  · simp [cmdBedLabel, bedLabel, String.isEmpty_iff, hl]
  · simp [cmdBedLabel, bedLabel, String.isEmpty_iff, h]

/-- `export vcf FILE`: the sample column is `-i` or the file's sample ID, the records are one per segment whose copy
    number differs from the one expected for the sex in force, in order -/
theorem cli_vcf_records (a : CmdArgs) (f : SegFile) (h : ProbesOk (fileCfg a f) f.rows) :
    cmdExportVcf a f =
      (vcfSampleColumn a.sampleId f.segId,
       (f.rows.filter (fun r => ncopiesOf (fileCfg a f) (firstChrom f.rows) r
            != expectedCopies (fileCfg a f) (firstChrom f.rows) r)).map
         (vcfRecOf (fileCfg a f) (firstChrom f.rows))) := by
  unfold cmdExportVcf
  rw [segments2vcf_eq_spec _ _ h]
  rfl

/-- a male X segment with one copy: listed when the command line says female, silent when it says male -- whatever the
    table's own coverage suggests (non-vacuity of the sex handoff) -/
theorem cli_sex_changes_the_listing :
    let r : Seg := { chrom := "chrX", s := 5000000, e := 6000000, gene := "G", v := 0, t := 1, probes := 4, cn := 1 }
    let f : SegFile := { segId := "S", guess := true, hasCn := true, hasProbes := true, rows := [r] }
    let a (sex : Option String) : CmdArgs :=
      { ploidy := 2, hapX := false, par := none, sexArg := sex, sampleId := none, labelGenes := false, showMode := .variant }
    (cmdExportBed (a (some "Male")) [f]).length = 0 ∧ (cmdExportBed (a (some "x")) [f]).length = 1 ∧
    (cmdExportBed (a none) [f]).length = 1 := by
  decide +kernel

/-! ### the glue is what the source says (Generated/ExprsExport.lean, re-read on every run) -/

/-- `verify_sample_sex` -/
theorem verify_sample_sex_is_the_source (guess : Bool) (sexArg : Option String) :
    verifySampleSex guess sexArg = Generated.src_export_verify_sample_sex guess (sexArg.getD "") := by
  unfold Generated.src_export_verify_sample_sex verifySampleSex maleSpellings
  cases sexArg with
  | none => simp
  | some s =>
    by_cases hs : s = ""
    · subst hs; simp
    · cases guess <;> simp [hs, String.isEmpty_iff]

/-- the label `_cmd_export_bed` hands to `export_bed` (which only tests its truthiness: `none` and `""` both mean
    "use the gene names") -/
theorem cmd_bed_label_is_the_source (sampleId : Option String) (labelGenes : Bool) (segId : String) :
    (cmdBedLabel sampleId labelGenes segId).getD "" =
      Generated.src_cmd_export_bed_label (sampleId.getD "") labelGenes segId := by
  unfold Generated.src_cmd_export_bed_label cmdBedLabel
  cases sampleId with
  | none => cases labelGenes <;> simp
  | some s => by_cases hs : s = "" <;> cases labelGenes <;> simp [hs, String.isEmpty_iff]

end CnvVerif.C20
