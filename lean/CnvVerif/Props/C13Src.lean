/-
  C13: tie to the source TEXT.  `Generated.src_get_regions_step` / `_final` are re-translated from the body of
  `cnvlib/access.py:get_regions` on every run (harness/looptrans.py, reading rules at its top; library calls read as Model/PyPrims.lean).  These
  theorems state that the hand-written scanner model IS that loop.  Kept in a module of their own so
  that an edit to a branch, an index, a comparison or an update of the loops breaks exactly these obligations.

  Vocabulary.  `Py.genLoop step final init xs`: what a generator `for x in xs: <step>` + `<final>` yields.
  `Src.stepFn` / `Src.finalFn`: the generated loop body / flush of `get_regions` as functions of the loop-carried
  triple (`chrom`, `cursor`, `run_start`).  `Src.tag c r = (c, r.1, r.2)`, `Src.toRegion` turns the name into a
  `String`.  `join_regions` has its own module, Props/C13SrcJoin.lean.
-/
import CnvVerif.Props.C13
import CnvVerif.Lemmas.SrcAccess
namespace CnvVerif.C13
open CnvVerif CnvVerif.Generated

/-- one sequence line: the model's `stepLine` on the `rstrip`ped line (blank / all-N shortcut / mixed line via
    `n_indices`, `np.diff`, masks / N-free) IS the non-header branch of the loop body in the source, for every
    state and every line that does not start with '>' -/
theorem scanner_line_is_the_source (c : List Char) (cursor : Nat) (rs : Option Nat) (l : List Char)
    (h : l.head? ≠ some '>') :
    src_get_regions_step c cursor rs l =
      ((stepLine ⟨cursor, rs⟩ (rstripChars l)).1.map (Src.tag c),
       (c, (stepLine ⟨cursor, rs⟩ (rstripChars l)).2.cursor,
           (stepLine ⟨cursor, rs⟩ (rstripChars l)).2.runStart)) := by
  unfold src_get_regions_step
  simp only [Src.startsWith_body l h, Py.rstrip, Bool.false_eq_true, if_false]
  obtain ⟨b, hb⟩ : ∃ b, b = rstripChars l := ⟨_, rfl⟩
  simp only [← hb]
  clear hb h l
  unfold stepLine
  by_cases he : b.isEmpty = true
  · rw [if_pos he, if_pos he]; rfl
  · rw [if_neg he, if_neg he]
    by_cases hN : b.contains 'N' = true
    · rw [if_pos hN, if_pos hN]
      -- the translator writes the all-N test with `decide (c = 'N')`, the model with `== 'N'`
      have hall : (b.all fun c => decide (c = 'N')) = b.all (· == 'N') := by
        congr 1
      rw [hall]
      by_cases ha : b.all (· == 'N') = true
      · rw [if_pos ha, if_pos ha]
        cases rs <;> rfl
      · rw [if_neg ha, if_neg ha]
        simp only [Src.whereEq_N]
        by_cases hm : Py.anyTrue (Py.gtMask (Py.diff (nIndices b)) 1) = true
        · simp only [hm, if_true, Src.mid_is_source, Py.first, Py.last]
          exact Src.mixed_shape c _ _ _ _ _ _ (Src.first_block_is_source c cursor _ rs)
        · simp only [hm, Bool.false_eq_true, if_false, Src.mid_none _ hm, Py.first, Py.last,
            List.map_nil, List.append_nil]
          have key := Src.mixed_shape c (cursor + b.length) (cursor + (nIndices b).getLastD 0 + 1)
            ((nIndices b).getLastD 0 + 1 < b.length) _ _ [] (Src.first_block_is_source c cursor ((nIndices b).headD 0) rs)
          simp only [List.map_nil, List.append_nil] at key
          exact key
    · rw [if_neg hN, if_neg hN]
      cases rs <;> rfl

/-- a header line: the open run is flushed at the old cursor, the name is the text after '>' up to the first
    blank, cursor and run start are reset -/
theorem scanner_header_is_the_source (c : List Char) (cursor : Nat) (rs : Option Nat) (rest : List Char) :
    src_get_regions_step c cursor rs ('>' :: rest) =
      ((emitOpen rs cursor).map (Src.tag c), (rest.takeWhile (fun ch => !isPySpace ch), 0, none)) := by
  unfold src_get_regions_step
  simp only [Src.startsWith_header, if_true, Src.firstWord_gt (ch := '>') (by decide)]
  cases rs <;> simp [emitOpen, Src.tag]

/-- the statements after the loop flush the open run -/
theorem scanner_flush_is_the_source (c : List Char) (cursor : Nat) (rs : Option Nat) :
    src_get_regions_final c cursor rs = (emitOpen rs cursor).map (Src.tag c) := by
  unfold src_get_regions_final
  cases rs <;> simp [emitOpen, Src.tag]

/-- from any state after a header (any sequence name, cursor, open run) the model's scan of the remaining lines
    yields what the generated loop yields from that state -/
theorem scan_loop_is_the_source (c : List Char) (st : Scan) (ls : List (List Char)) :
    scanFile (some (String.ofList c)) st (ls.map parseLine) =
      .ok ((Py.genLoop Src.stepFn Src.finalFn (c, st.cursor, st.runStart) ls).map Src.toRegion) := by
  induction ls generalizing c st with
  | nil =>
    simp only [List.map_nil, scanFile, Py.genLoop, Src.finalFn, scanner_flush_is_the_source, Src.map_toRegion_tag,
      Option.getD_some]
    rfl
  | cons l ls ih =>
    by_cases hh : l.head? = some '>'
    · obtain ⟨rest, rfl⟩ := List.head?_eq_some_iff.mp hh
      simp only [List.map_cons, parseLine_gt, scanFile, Py.genLoop, Src.stepFn, scanner_header_is_the_source]
      rw [ih (rest.takeWhile (fun ch => !isPySpace ch)) ⟨0, none⟩]
      simp only [List.map_append, Src.map_toRegion_tag, Option.getD_some]
      rfl
    · simp only [List.map_cons, parseLine_not_gt l hh, Py.genLoop, Src.stepFn, scanner_line_is_the_source _ _ _ l hh]
      rw [scanFile_body, ih c (stepLine st (rstripChars l)).2]
      simp only [Except.map, tagRuns, List.map_append, Src.map_toRegion_tag]

/-- the whole function: for every file that is empty or starts with a header line, the model `getRegions` on
    the parsed lines yields exactly what the source's loop body, iterated over the raw lines from
    `chrom = cursor = run_start = None` and followed by the source's flush, yields -/
theorem get_regions_is_the_source (ls : List (List Char))
    (h : ∀ l, ls.head? = some l → l.head? = some '>') :
    getRegions (ls.map parseLine) =
      .ok ((Py.genLoop Src.stepFn Src.finalFn ([], 0, none) ls).map Src.toRegion) := by
  cases ls with
  | nil =>
    simp [getRegions, scanFile, Py.genLoop, Src.finalFn, scanner_flush_is_the_source, emitOpen]
    rfl
  | cons l ls =>
    obtain ⟨rest, rfl⟩ := List.head?_eq_some_iff.mp (h l rfl)
    simp only [getRegions, List.map_cons, parseLine_gt, scanFile, Py.genLoop, Src.stepFn, scanner_header_is_the_source]
    rw [scan_loop_is_the_source (rest.takeWhile (fun ch => !isPySpace ch)) ⟨0, none⟩]
    simp [emitOpen]

/-! ### non-vacuity: the generated loop, run by the kernel on a concrete file -/

example : (Py.genLoop Src.stepFn Src.finalFn ([], 0, none)
      [">c1 x\n".toList, "ACN\n".toList, "NG \r\n".toList, "\n".toList, "TNA\n".toList, ">c2\n".toList, "AC".toList]).map
        Src.toRegion =
    [("c1", 0, 2), ("c1", 4, 6), ("c1", 7, 8), ("c2", 0, 2)] := by decide +kernel

example : ∀ l, ([">c1 x\n".toList, "ACN\n".toList] : List (List Char)).head? = some l → l.head? = some '>' := by
  intro l hl; simp at hl; subst hl; rfl

end CnvVerif.C13
