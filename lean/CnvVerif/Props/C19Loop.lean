/-
  C19: the outer loop of `biweight_location` -- statements about EVERY value the variable `result` takes (the
  trace of the loop), hence about the value returned.  `Desc.bilocLoop` / `Desc.bilocIter` are the model functions that
  Props/C19SrcLoop.lean and Props/C19SrcBiloc.lean prove equal to the source text; `iterates` lists, in order, the values
  of `result`.  No size bound, every cut-off `c`, tolerance `eps`, number of rounds and starting value.
-/
import CnvVerif.Lemmas.DescBiweight
namespace CnvVerif.C19.Loop
open CnvVerif CnvVerif.Desc CnvVerif.C19Loop


/-- the values `result` takes in `biweight_location(a, initial=init, c, epsilon=eps, max_iter=fuel+1)` -/
abbrev iterates (c eps : Rat) (a : List Rat) (fuel : Nat) (init : Rat) : List Rat :=
  trace (bilocIter c eps a) eps fuel init

/-- the value returned is the last iterate; there are between 1 and `max_iter` of them; the first is the step at `init`
    and each further one is the step applied to its predecessor -/
theorem result_is_last_iterate (c eps : Rat) (a : List Rat) (fuel : Nat) (init : Rat) :
    (iterates c eps a fuel init).getLast? = some (bilocLoop (bilocIter c eps a) eps fuel init) ∧
    1 ≤ (iterates c eps a fuel init).length ∧ (iterates c eps a fuel init).length ≤ fuel + 1 ∧
    List.IsChain (fun p r => r = bilocIter c eps a p) (init :: iterates c eps a fuel init) :=
  ⟨trace_getLast _ _ _ _, (trace_length _ _ _ _).1, (trace_length _ _ _ _).2, trace_chain _ _ _ _⟩

/-- why the loop ends: all `max_iter` rounds were used, or the last round moved the estimate by at most `eps` -/
theorem loop_ends_converged_or_exhausted (c eps : Rat) (a : List Rat) (fuel : Nat) (init : Rat) :
    (iterates c eps a fuel init).length = fuel + 1 ∨
      ∃ p, (p = init ∨ p ∈ iterates c eps a fuel init) ∧
        bilocIter c eps a p = bilocLoop (bilocIter c eps a) eps fuel init ∧
        absR (bilocLoop (bilocIter c eps a) eps fuel init - p) ≤ eps :=
  trace_exit _ _ _ _

/-- EVERY iterate lies within `[lo, hi]` when the data and the starting value do -/
theorem every_iterate_in_range (c eps : Rat) (a : List Rat) (fuel : Nat) (init lo hi : Rat)
    (hinit : lo ≤ init ∧ init ≤ hi) (h : ∀ x ∈ a, lo ≤ x ∧ x ≤ hi) :
    ∀ r ∈ iterates c eps a fuel init, lo ≤ r ∧ r ≤ hi :=
  trace_in_range _ _ lo hi (fun x hx => bilocIter_in_range c eps a x lo hi hx h) fuel init hinit

/-- EVERY iterate moves with the data: adding `t` to every value and to the start adds `t` to each iterate (so the loop
    leaves after the same number of rounds) -/
theorem every_iterate_translation (c eps : Rat) (a : List Rat) (fuel : Nat) (init t : Rat) :
    iterates c eps (a.map (· + t)) fuel (init + t) = (iterates c eps a fuel init).map (· + t) :=
  trace_map (· + t) _ _ eps eps (fun x => bilocIter_shift c eps a x t) (fun x y => by rw [add_sub_add_right_eq_sub])
    fuel init

/-- EVERY iterate is proportional under a positive rescaling `k` of the data, PROVIDED the floor / tolerance `eps` is
    rescaled along (`max(c * mad, epsilon)` and `<= epsilon` are absolute quantities: the property text claims
    proportionality for the SCALE estimators only, and for the location this is the form in which it holds) -/
theorem every_iterate_scale (c eps : Rat) (a : List Rat) (fuel : Nat) (init k : Rat) (hk : 0 < k) :
    iterates c (k * eps) (a.map (k * ·)) fuel (k * init) = (iterates c eps a fuel init).map (k * ·) :=
  trace_map (k * ·) _ _ eps (k * eps) (fun x => bilocIter_scale c eps a x k hk)
    (fun x y => by rw [← mul_sub, absR_mul _ _ hk.le]; exact mul_le_mul_iff_of_pos_left hk) fuel init

/-- hence the value returned, started at the median: it is proportional when `eps` is rescaled along -/
theorem result_scale (c eps : Rat) (a : List Rat) (fuel : Nat) (k : Rat) (hk : 0 < k) :
    bilocLoop (bilocIter c (k * eps) (a.map (k * ·))) (k * eps) fuel (median (a.map (k * ·))) =
      k * bilocLoop (bilocIter c eps a) eps fuel (median a) := by
  rw [median_map_mul k hk.le]
  exact loop_of_trace_map _ _ _ _ fuel _ _ (k * ·) (every_iterate_scale c eps a fuel (median a) k hk)

/-- and the result of a translation, for every `c`, `eps`, number of rounds and start -/
theorem result_translation (c eps : Rat) (a : List Rat) (fuel : Nat) (init t : Rat) :
    bilocLoop (bilocIter c eps (a.map (· + t))) eps fuel (init + t) = bilocLoop (bilocIter c eps a) eps fuel init + t :=
  loop_of_trace_map _ _ _ _ fuel _ _ (· + t) (every_iterate_translation c eps a fuel init t)

/-- a fixed point of the step ends the loop in its first round and is returned -/
theorem fixed_point_returned (c eps : Rat) (heps : 0 ≤ eps) (a : List Rat) (fuel : Nat) (init : Rat)
    (h : bilocIter c eps a init = init) :
    iterates c eps a fuel init = [init] ∧ bilocLoop (bilocIter c eps a) eps fuel init = init :=
  ⟨trace_fixed_point _ eps heps fuel init h, bilocLoop_of_fixed _ eps heps fuel init h⟩

/-- constant data: the constant is a fixed point of the step (any `c`, `eps`) ... -/
theorem constant_is_fixed_point (c eps : Rat) (a : List Rat) (v : Rat) (h : ∀ x ∈ a, x = v) :
    bilocIter c eps a v = v :=
  eq_of_range (bilocIter_in_range c eps a v v v ⟨le_refl _, le_refl _⟩ (const_range h))

/-- ... so the loop started there returns it after one round -/
theorem constant_data_one_round (c eps : Rat) (heps : 0 ≤ eps) (a : List Rat) (v : Rat) (h : ∀ x ∈ a, x = v) (fuel : Nat) :
    iterates c eps a fuel v = [v] ∧ bilocLoop (bilocIter c eps a) eps fuel v = v :=
  fixed_point_returned c eps heps a fuel v (constant_is_fixed_point c eps a v h)

/-- ... and started ANYWHERE ELSE (`initial=` given) the first step lands exactly on the constant when the cut-off exceeds 1,
    so the loop returns the constant after at most two rounds -/
theorem constant_data_any_start (c eps : Rat) (hc : 1 < c) (heps : 0 < eps) (n : Nat) (v init : Rat) (fuel : Nat) :
    bilocLoop (bilocIter c eps (List.replicate (n + 1) v)) eps fuel init = v := by
  have h1 := bilocIter_const_any_start c eps hc heps (List.replicate (n + 1) v) List.replicate_succ_ne_nil v
    (fun x hx => List.eq_of_mem_replicate hx) init
  cases fuel with
  | zero => exact h1
  | succ m =>
    unfold bilocLoop
    simp only []
    rw [h1]
    split
    · rfl
    · exact (constant_data_one_round c eps heps.le _ v (fun x hx => List.eq_of_mem_replicate hx) m).2

/-- the hypotheses are satisfiable by the defaults of the signature, and a trace can have more than one entry -/
example : (1 : Rat) < Generated.BILOC_C ∧ (0 : Rat) < Generated.BILOC_EPS := by
  unfold Generated.BILOC_C Generated.BILOC_EPS; constructor <;> norm_num
example : trace (fun x => x / 2) (1/4) 4 1 = [1/2, 1/4] := by decide +kernel

end CnvVerif.C19.Loop
