/-
  C19, tie to the source TEXT: `smoothing._pad_array` -- `np.concatenate((x[wing-1::-1], x, x[:-wing-1:-1]))` --
  is the model's `Smooth.padArray` for every half-width `wing ≥ 1` (what `_width2wing` asserts), with Python's own rule for
  step −1 slices (`C19Pad.sliceRev`, Model/PadExt5.lean).  `Generated.src_pad_array` is re-read from /repo's
  cnvlib/smoothing.py on every run by harness/padslices.py.  Plus what the padding IS: length, the three index ranges
  (mirror, copy, mirror) and its symmetry under reversal.
-/
import CnvVerif.Generated.ExprsPad
import CnvVerif.Lemmas.SmoothSlide
import CnvVerif.Lemmas.SmoothPadSlice
namespace CnvVerif.C19.Pad
open CnvVerif CnvVerif.Smooth CnvVerif.Generated CnvVerif.C19Pad

/-- `x[w-1::-1]` is the first `w` values, reversed (also when `w` exceeds the length) -/
theorem head_slice {α} (x : List α) (w : Nat) (hw : 1 ≤ w) :
    sliceRev (some ((w : Int) - 1)) none x = (x.take w).reverse := by
  have h : clipRev (x.length : Int) ((w : Int) - 1) = min ((w : Int) - 1) ((x.length : Int) - 1) :=
    clipRev_of_nonneg _ _ (by omega)
  simp only [sliceRev, h]
  congr 1
  rw [show ((-1 : Int) + 1).toNat = 0 from rfl, List.drop_zero]
  exact List.take_eq_take_iff.mpr (by omega)

/-- `x[:-w-1:-1]` is the last `w` values, reversed (also when `w` exceeds the length) -/
theorem tail_slice {α} (x : List α) (w : Nat) :
    sliceRev none (some (-(w : Int) - 1)) x = x.reverse.take w := by
  simp only [sliceRev, clipRev_of_neg _ _ (show -(w : Int) - 1 < 0 by omega)]
  rw [List.take_reverse, show ((x.length : Int) - 1 + 1).toNat = x.length by omega, List.take_length]
  congr 2
  omega

/-- an explicit start `-1` is the omitted start (so `x[-1:-wing-1:-1]` reads like `x[:-wing-1:-1]`) -/
theorem start_last {α} (x : List α) (stop : Option Int) : sliceRev (some (-(1 : Int))) stop x = sliceRev none stop x := by
  have h : clipRev (x.length : Int) (-(1 : Int)) = (x.length : Int) - 1 := by
    rw [clipRev_of_neg _ _ (by omega)]; omega
  simp only [sliceRev, h]

/-- the source's `_pad_array(x, wing)` is the model's `padArray x wing` for every `wing ≥ 1` -/
theorem pad_array_is_the_source {α} (x : List α) (wing : Nat) (hw : 1 ≤ wing) :
    src_pad_array x (wing : Int) = padArray x wing := by
  unfold src_pad_array padArray
  have e1 : ∀ k : Int, k = (wing : Int) - 1 → sliceRev (some k) none x = (x.take wing).reverse :=
    fun k hk => hk ▸ head_slice x wing hw
  have e2 : ∀ k : Int, k = -(wing : Int) - 1 → sliceRev none (some k) x = x.reverse.take wing :=
    fun k hk => hk ▸ tail_slice x wing
  rw [e1 _ (by omega), e2 _ (by omega)]

/-- at `wing = 0` the two DIFFER (`x[-1::-1]` is the whole vector reversed): the assertion `wing >= 1` of `_width2wing` is needed -/
theorem pad_array_wing_zero_differs : src_pad_array [1, 2, 3] 0 = [3, 2, 1, 1, 2, 3] ∧ padArray [1, 2, 3] 0 = [1, 2, 3] := by
  decide +kernel

/-- padding commutes with reversal: the padded reversed signal is the reversed padded signal (left and right edge are treated alike) -/
theorem pad_symmetric {α} (x : List α) (wing : Nat) : padArray x.reverse wing = (padArray x wing).reverse := by
  unfold padArray
  simp [List.reverse_append, List.append_assoc]

/-- length `n + 2·wing` for `wing ≤ n`, any element type -/
theorem pad_length {α} (x : List α) (wing : Nat) (h : wing ≤ x.length) : (padArray x wing).length = x.length + 2 * wing :=
  length_padArray x wing h

/-- the three index ranges: `pad[j] = x[wing-1-j]` (mirror incl. the edge value), `pad[wing+i] = x[i]`, `pad[wing+n+j] = x[n-1-j]` -/
theorem pad_entries (x : List Rat) (wing : Nat) (h : wing ≤ x.length) :
    (∀ j, j < wing → (padArray x wing)[j]? = x[wing - 1 - j]?) ∧
    (∀ i, i < x.length → (padArray x wing)[wing + i]? = x[i]?) ∧
    (∀ j, j < wing → (padArray x wing)[wing + x.length + j]? = x[x.length - 1 - j]?) := by
  have hl1 : ((x.take wing).reverse).length = wing := by
    rw [List.length_reverse, List.length_take, Nat.min_eq_left h]
  have hl2 : (x.take wing).length = wing := by rw [List.length_take, Nat.min_eq_left h]
  unfold padArray
  refine ⟨fun j hj => ?_, fun i hi => ?_, fun j hj => ?_⟩
  · rw [List.append_assoc, List.getElem?_append_left (hl1.symm ▸ hj), List.getElem?_reverse (hl2.symm ▸ hj), hl2,
      List.getElem?_take_of_lt (by omega)]
  · rw [List.append_assoc, List.getElem?_append_right (by omega), hl1, Nat.add_sub_cancel_left,
      List.getElem?_append_left hi]
  · rw [List.getElem?_append_right (by rw [List.length_append, hl1]; omega), List.length_append, hl1,
      Nat.add_sub_cancel_left, List.getElem?_take_of_lt hj, List.getElem?_reverse (by omega)]

end CnvVerif.C19.Pad
