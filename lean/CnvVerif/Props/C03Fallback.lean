/-
  C03, the fallback branches of `transfer_fields` ("Each segment's weight is the sum, and its depth the
  weight-averaged depth, of all input bins it spans", at the points where a weighted average does not exist):

    * the spanned bins weigh nothing in total            ⇒ weight 0, depth 0.0          (`seg_dp = 0.0`)
    * the bin table has no weight column                 ⇒ weight = number of spanned bins, depth = their mean
    * the two branches agree when every weight is 1 (a missing weight column means "weight 1 each")
    * no bins ⇒ segments unchanged; no segments ⇒ the null row of `make_null_segment`
    * `assembleUnit` (the composite the other C03 theorems speak about) IS `transferFields` applied to the segments of
      the partition, so everything proved here holds for the segments `do_segmentation` reports.

  Model: Model/TileFallback.lean; lemmas: Lemmas/TileFallback.lean.
-/
import CnvVerif.Model.Tile
import CnvVerif.Model.TileFallback
import CnvVerif.Lemmas.Tile
import CnvVerif.Lemmas.TileFallback
namespace CnvVerif.C03
open CnvVerif

/-- a segment whose spanned bins have no positive total weight gets depth 0 (not a division by zero, not NaN), and
    its weight is that total -/
theorem fallback_no_positive_weight_depth_zero (unit : List Bin) (g : SegO)
    (h : ¬ 0 < sumQ ((spanned unit g).map (·.weight))) :
    (aggregate unit g).depth = 0 ∧ (aggregate unit g).weight = sumQ ((spanned unit g).map (·.weight)) := by
  refine ⟨?_, rfl⟩
  rw [aggregate_depth_eq, if_neg h]

/-- a segment that spans only zero-weight bins has weight 0 and depth 0 -/
theorem fallback_zero_weight_bins (unit : List Bin) (g : SegO) (h0 : ∀ b ∈ spanned unit g, b.weight = 0) :
    (aggregate unit g).weight = 0 ∧ (aggregate unit g).depth = 0 := by
  have hs : sumQ ((spanned unit g).map (·.weight)) = 0 := by
    rw [sumQ_map_const _ _ 0 h0, Rat.mul_zero]
  refine ⟨by rw [aggregate_weight_eq, hs], ?_⟩
  rw [aggregate_depth_eq, hs]
  rfl

/-- conversely, with non-negative bin weights the reported weight is 0 ONLY when every spanned bin weighs 0; in every
    other case the depth is the weight-averaged depth -/
theorem fallback_weight_zero_iff (unit : List Bin) (g : SegO) (hnn : ∀ b ∈ spanned unit g, 0 ≤ b.weight) :
    ((aggregate unit g).weight = 0 ↔ ∀ b ∈ spanned unit g, b.weight = 0) ∧
    ((∃ b ∈ spanned unit g, b.weight ≠ 0) →
      (aggregate unit g).depth * (aggregate unit g).weight =
        sumQ ((spanned unit g).map (fun b => b.depth * b.weight))) := by
  refine ⟨by rw [aggregate_weight_eq]; exact sumQ_eq_zero_iff _ _ hnn, ?_⟩
  rintro ⟨b, hb, hne⟩
  have h0 := sumQ_nonneg (spanned unit g) (·.weight) hnn
  have hpos : 0 < sumQ ((spanned unit g).map (·.weight)) := by
    rcases Rat.le_iff_lt_or_eq.mp h0 with h | h
    · exact h
    · exact absurd ((sumQ_eq_zero_iff _ _ hnn).mp h.symm b hb) hne
  rw [aggregate_depth_eq, if_pos hpos, aggregate_weight_eq]
  exact Rat.div_mul_cancel (Rat.ne_of_gt hpos)

/-- no weight column: the weight is the NUMBER of spanned bins and the depth their plain mean; gene, end points,
    probes and log2 are what the weighted branch gives -/
theorem fallback_no_weight_column (unit : List Bin) (g : SegO) :
    (aggregateNW unit g).weight = ((spanned unit g).length : Rat) ∧
    (spanned unit g ≠ [] →
      (aggregateNW unit g).depth * ((spanned unit g).length : Rat) = sumQ ((spanned unit g).map (·.depth))) ∧
    (aggregateNW unit g).gene = (aggregate unit g).gene ∧
    (aggregateNW unit g).chrom = g.chrom ∧ (aggregateNW unit g).s = g.s ∧ (aggregateNW unit g).e = g.e ∧
    (aggregateNW unit g).probes = g.probes ∧ (aggregateNW unit g).log2 = g.log2 := by
  refine ⟨rfl, ?_, rfl, rfl, rfl, rfl, rfl, rfl⟩
  intro hne
  show meanQ ((spanned unit g).map (·.depth)) * _ = _
  unfold meanQ
  rw [List.length_map]
  have hlen : ((spanned unit g).length : Rat) ≠ 0 := by
    have : 0 < (spanned unit g).length := List.length_pos_iff.mpr hne
    exact_mod_cast Nat.pos_iff_ne_zero.mp this
  exact Rat.div_mul_cancel hlen

/-- a table without a weight column is treated exactly like one whose weights are all 1 -/
theorem fallback_unweighted_is_unit_weights (unit : List Bin) (g : SegO)
    (h1 : ∀ b ∈ spanned unit g, b.weight = 1) : aggregate unit g = aggregateNW unit g := by
  have hw : sumQ ((spanned unit g).map (·.weight)) = ((spanned unit g).length : Rat) := by
    rw [sumQ_map_const _ _ 1 h1]; ring
  have hd : sumQ ((spanned unit g).map (fun b => b.depth * b.weight)) = sumQ ((spanned unit g).map (·.depth)) :=
    congrArg sumQ (List.map_congr_left fun b hb => by rw [h1 b hb, mul_one])
  have hdepth : (aggregate unit g).depth = (aggregateNW unit g).depth := by
    rw [aggregate_depth_eq, hw, hd]
    show _ = meanQ ((spanned unit g).map (·.depth))
    unfold meanQ
    rw [List.length_map]
    split
    · rfl
    · rename_i hn
      have hz : ((spanned unit g).length : Rat) = 0 := by
        have : (0 : Rat) ≤ ((spanned unit g).length : Rat) := by exact_mod_cast Nat.zero_le _
        linarith [not_lt.mp hn]
      rw [hz, div_zero]
  have hweight : (aggregate unit g).weight = (aggregateNW unit g).weight := by
    rw [aggregate_weight_eq, hw]; rfl
  show ({ g with weight := (aggregate unit g).weight, depth := (aggregate unit g).depth,
                 gene := (aggregate unit g).gene } : SegO) = _
  rw [hdepth, hweight]
  rfl

/-- no bins: the segments come back untouched -/
theorem fallback_no_bins (hw : Bool) (segs : List SegO) : transferFields hw [] segs = .unchanged segs := rfl

/-- bins but no segment: the null row — the unit's chromosome, from its first bin's start to its last bin's end,
    gene "-", probes / weight / depth / log2 all 0 — and NOT a table -/
theorem fallback_no_segments (hw : Bool) (cn : List Bin) (hne : cn ≠ []) :
    ∃ f l, cn.head? = some f ∧ cn.getLast? = some l ∧
      transferFields hw cn [] =
        .nullRow { chrom := f.chrom, s := f.s, e := l.e, gene := "-", log2 := 0, probes := 0, weight := 0, depth := 0 } := by
  cases cn with
  | nil => exact absurd rfl hne
  | cons f t =>
    obtain ⟨l, hl⟩ := exists_getLast_cons f t
    refine ⟨f, l, rfl, hl, ?_⟩
    show TransferOut.nullRow (nullSegment f.chrom f.s (((f :: t).getLast?).getD f).e) = _
    rw [hl]
    rfl

/-- bins and segments: a table with one row per input segment, in the same order, each keeping its chromosome, log2
    and probes -/
theorem fallback_table_keeps_rows (hw : Bool) (cn : List Bin) (segs : List SegO) (hc : cn ≠ []) (hs : segs ≠ []) :
    ∃ out, transferFields hw cn segs = .table out ∧ out.length = segs.length ∧
      out.map (fun g => (g.chrom, g.log2, g.probes)) = segs.map (fun g => (g.chrom, g.log2, g.probes)) := by
  cases cn with
  | nil => exact absurd rfl hc
  | cons f t =>
    cases segs with
    | nil => exact absurd rfl hs
    | cons g segs =>
      refine ⟨_, transferFields_cons_cons hw f t g segs, ?_, ?_⟩
      · rw [List.length_map, stretchEnds_length]
      · rw [List.map_map, ← stretchEnds_keeps f (((f :: t).getLast?).getD f) (g :: segs)]
        cases hw <;> rfl

/-- the composite model of the other C03 theorems is this function applied to the segments of the partition -/
theorem assembleUnit_is_transferFields (unit : List Bin) (runs : List Nat)
    (hs : (splitLens (unit.filter (·.keep)) runs).filterMap segOfRun ≠ []) :
    transferFields true unit ((splitLens (unit.filter (·.keep)) runs).filterMap segOfRun) =
      .table (assembleUnit unit runs) := by
  rw [assembleUnit_eq]
  cases unit with
  | nil => exact absurd ((rawSegs_eq_nil_iff [] runs).mpr rfl) hs
  | cons f t =>
    obtain ⟨g, segs, hq⟩ := List.exists_cons_of_ne_nil hs
    rw [C03Baf.rawSegs, hq]; rfl

/-- the oracle that judges the rows of the real `transfer_fields` (`transferSpec`: per row, on its own span, the three
    cases above) accepts every table the model returns — so a row the oracle rejects differs from the model -/
theorem fallback_model_meets_row_oracle (hw : Bool) (cn : List Bin) (segs out : List SegO)
    (h : transferFields hw cn segs = .table out) : transferSpec hw cn out = [] := by
  cases cn with
  | nil => exact absurd h (by simp [transferFields])
  | cons f t =>
    cases segs with
    | nil => exact absurd h (by simp [transferFields])
    | cons g segs =>
      rw [transferFields_cons_cons] at h
      injection h with h
      subst h
      cases hw
      · exact transferSpec_map_aggregateNW _ _
      · exact transferSpec_map_aggregate _ _

/-- a segment over two zero-weight bins (depths 7 and 9): weight 0, depth 0 — and the hypothesis of
    `fallback_zero_weight_bins` holds for it -/
example :
    let u : List Bin := [ ⟨"chr1", 0, 10, "A", 0, 0, 7, false⟩, ⟨"chr1", 10, 20, "A", 0, 0, 9, false⟩,
                          ⟨"chr1", 20, 30, "B", 1, 2, 5, true⟩ ]
    let g : SegO := ⟨"chr1", 0, 20, "-", 0, 2, 0, 0⟩
    (spanned u g).length = 2 ∧ (∀ b ∈ spanned u g, b.weight = 0) ∧
      ((aggregate u g).weight, (aggregate u g).depth) = (0, 0) := by decide +kernel

/-- the same segment read from a table without weight column: weight 2, depth the mean 8; and with weights all 1
    the weighted branch gives exactly that -/
example :
    let u : List Bin := [ ⟨"chr1", 0, 10, "A", 0, 1, 7, true⟩, ⟨"chr1", 10, 20, "A", 0, 1, 9, true⟩,
                          ⟨"chr1", 20, 30, "B", 1, 1, 5, true⟩ ]
    let g : SegO := ⟨"chr1", 0, 20, "-", 0, 2, 0, 0⟩
    (∀ b ∈ spanned u g, b.weight = 1) ∧ ((aggregateNW u g).weight, (aggregateNW u g).depth) = (2, 8) ∧
      aggregate u g = aggregateNW u g := by decide +kernel

/-- with unequal weights the two branches differ (the agreement theorem is not trivial) -/
example :
    let u : List Bin := [ ⟨"chr1", 0, 10, "A", 0, 3, 7, true⟩, ⟨"chr1", 10, 20, "A", 0, 1, 9, true⟩ ]
    let g : SegO := ⟨"chr1", 0, 20, "-", 0, 2, 0, 0⟩
    aggregate u g ≠ aggregateNW u g ∧ (aggregate u g).depth = 15 / 2 := by decide +kernel

/-- the three outcomes of `transferFields` -/
example :
    let cn : List Bin := [ ⟨"chr1", 5, 10, "A", 0, 1, 7, true⟩, ⟨"chr1", 10, 20, "A", 0, 1, 9, true⟩ ]
    let g : SegO := ⟨"chr1", 10, 20, "-", 3, 1, 0, 0⟩
    transferFields true [] [g] = .unchanged [g] ∧
    transferFields false cn [] = .nullRow ⟨"chr1", 5, 20, "-", 0, 0, 0, 0⟩ ∧
    transferFields false cn [g] = .table [⟨"chr1", 5, 20, "A", 3, 1, 2, 8⟩] := by decide +kernel

/-- the row oracle is not trivially empty: depth 8 on a zero-weight segment, or weight 1 for two unweighted bins, is
    rejected -/
example :
    let cn : List Bin := [ ⟨"chr1", 0, 10, "A", 0, 0, 7, true⟩, ⟨"chr1", 10, 20, "A", 0, 0, 9, true⟩ ]
    transferSpec true cn [⟨"chr1", 0, 20, "A", 0, 2, 0, 8⟩] = ["zero_weight_segment_has_depth_zero"] ∧
    transferSpec false cn [⟨"chr1", 0, 20, "A", 0, 2, 1, 8⟩] = ["no_weight_column_counts_bins_and_averages"] ∧
    transferSpec false cn [⟨"chr1", 0, 20, "A", 0, 2, 2, 8⟩] = [] := by decide +kernel

end CnvVerif.C03
