/-
  C18: tie to the source TEXT of `_mirrored_baf` (cnvlib/vary.py).  `Generated.src_mirrored_baf_auto` is re-translated
  from /repo's Python on every run (harness/exprtrans.py); the theorem states that the model's `mirrorOne` is that expression.
  Kept in a module of their own so that an edit to a formula breaks exactly these obligations.
-/
import CnvVerif.Props.C18
import CnvVerif.Generated.ExprsMirror
namespace CnvVerif.C18
open CnvVerif CnvVerif.Vcf

/-- the model's mirroring IS the expression `_mirrored_baf` computes when the side is left to the median test -/
theorem mirrored_baf_is_the_source (v m : Rat) :
    Vcf.mirrorOne (decide (m > 1/2)) v = Generated.src_mirrored_baf_auto v m := by
  unfold Vcf.mirrorOne Generated.src_mirrored_baf_auto Vcf.absQ
  by_cases h : m > 1/2
  · rw [decide_eq_true h, if_pos rfl, if_pos h]
  · rw [decide_eq_false h, if_neg Bool.false_ne_true, if_neg h]

end CnvVerif.C18
