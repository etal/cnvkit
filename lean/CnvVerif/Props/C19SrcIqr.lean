/-
  C19, tie to the source text: `interquartile_range`.  `Generated.src_interquartile_range` is the expression
  harness/vectrans.py reads from cnvlib/descriptives.py (see Lemmas/SrcDescVocab.lean).
-/
import CnvVerif.Generated.ExprsDesc
import CnvVerif.Lemmas.SrcDescVocab
namespace CnvVerif.C19
open CnvVerif CnvVerif.Desc CnvVerif.Generated CnvVerif.Src


/-- `interquartile_range`: the model is the source expression (the two percentiles and their difference) -/
theorem iqr_is_the_source (a : List Rat) : src_interquartile_range a = iqrCore a := by
  unfold src_interquartile_range iqrCore IQR_Q_HI IQR_Q_LO
  norm_num

end CnvVerif.C19
