/-
  C09: tie to the source TEXT.  The definitions `Generated.src_*` are re-translated from cnvlib/coverage.py on
  every run (harness/extractors/exprs_cov.py, reading rules in harness/exprtrans.py); these theorems state that the
  model's depth formula, its rule for the log2 column and the cut-off handed to samtools ARE those expressions, for
  all arguments.  Kept in a module of its own so that an edit to a formula breaks exactly these obligations.
-/
import CnvVerif.Props.C09
import CnvVerif.Lemmas.SrcCov
namespace CnvVerif.C09
open CnvVerif CnvVerif.Cov CnvVerif.Generated

/-- `--count`: the model's `depthOf bases start end` is the expression `region_depth_count` puts into the row
    (`bases / (end - start) if end > start else 0`) -/
theorem count_depth_is_the_source (bases s e : Int) :
    depthOf bases s e = src_count_depth (bases : Rat) (s : Rat) (e : Rat) :=
  Src.depthOf_eq_ite bases s e _ Int.cast_lt

/-- pileup: the same model function is the `depth` column the masked pandas updates at the end of
    `interval_coverages_pileup` produce (`basecount / span` where `span > 0`, else 0.0) -/
theorem pileup_depth_is_the_source (basecount s e : Int) :
    depthOf basecount s e = src_pileup_depth (basecount : Rat) (s : Rat) (e : Rat) :=
  Src.depthOf_eq_ite basecount s e _ (sub_pos.trans Int.cast_lt)

/-- hence both algorithms turn a base count into a depth by one and the same formula in the source -/
theorem both_paths_one_depth_formula (n s e : Int) :
    src_count_depth (n : Rat) (s : Rat) (e : Rat) = src_pileup_depth (n : Rat) (s : Rat) (e : Rat) := by
  rw [← count_depth_is_the_source, ← pileup_depth_is_the_source]

/-- `--count`: the log2 entry of the row is the source's `math.log(depth, 2) if depth else NULL_LOG2_COVERAGE`:
    the sentinel (−20, from params.py) where the model says `some`, the logarithm `L` where it says `none` -/
theorem count_log2_rule_is_the_source (b : Row) (d L : Rat) :
    (mkRow b d).log2.getD L = src_count_log2 d L := by
  unfold mkRow src_count_log2
  simp only
  by_cases h : d = 0
  · subst h
    simp [null_log2_is_minus_20.1]
  · have hb : (d == 0) = false := by simpa using h
    rw [hb]
    simp [h]

/-- pileup: the log2 column after `table.assign(log2=NULL_LOG2_COVERAGE)` and the `depth > 0` mask, for every base
    count samtools can report (≥ 0) -/
theorem pileup_log2_rule_is_the_source (b : Row) (basecount s e : Int) (h : 0 ≤ basecount) (L : Rat) :
    (mkRow b (depthOf basecount s e)).log2.getD L =
      src_pileup_log2 (basecount : Rat) (s : Rat) (e : Rat) L := by
  have hd : src_pileup_log2 (basecount : Rat) (s : Rat) (e : Rat) L =
      if src_pileup_depth (basecount : Rat) (s : Rat) (e : Rat) > 0 then L else -20 := rfl
  rw [hd, ← pileup_depth_is_the_source, count_log2_rule_is_the_source]
  unfold src_count_log2
  have hn := Src.depthOf_nonneg basecount s e h
  by_cases h0 : depthOf basecount s e = 0
  · rw [h0]; simp
  · rw [if_pos h0, if_pos (lt_of_le_of_ne hn (Ne.symm h0))]

/-- `bedcov` passes `-Q min_mapq` exactly when `min_mapq` is positive and nothing (samtools' default 0) otherwise:
    the cut-off samtools works with is `min_mapq` for every cut-off ≥ 0 — the `q` of the model's `bedcovCounted` -/
theorem bedcov_cutoff_is_the_source (q : Nat) : src_bedcov_minq (q : Rat) = (q : Rat) := by
  unfold src_bedcov_minq
  by_cases h : q = 0
  · subst h; simp
  · have h1 : (q : Rat) ≠ 0 := Nat.cast_ne_zero.mpr h
    rw [if_pos ⟨h1, lt_of_le_of_ne (Nat.cast_nonneg q) h1.symm⟩]

/-! ### non-vacuity -/

example : src_count_depth 30 10 20 = 3 ∧ src_count_depth 30 20 20 = 0 ∧ src_pileup_depth 7 0 2 = 7 / 2 ∧
    src_count_log2 0 5 = -20 ∧ src_count_log2 3 5 = 5 ∧ src_pileup_log2 0 0 9 5 = -20 ∧ src_pileup_log2 4 9 9 5 = -20 ∧
    src_bedcov_minq 0 = 0 ∧ src_bedcov_minq 30 = 30 := by
  decide +kernel

end CnvVerif.C09
