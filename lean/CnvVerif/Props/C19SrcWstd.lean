/-
  C19, tie to the source text: `weighted_std` behind its decorator (equal lengths): where the model returns a variance, the source returns its root.  `Generated.src_weighted_std` is the expression
  harness/vectrans.py reads from cnvlib/descriptives.py (see Lemmas/SrcDescVocab.lean).
-/
import CnvVerif.Generated.ExprsDesc
import CnvVerif.Lemmas.SrcDescVocab
namespace CnvVerif.C19
open CnvVerif CnvVerif.Desc CnvVerif.Generated CnvVerif.Src


/-- `weighted_std`: where the model returns a variance (total weight not 0), the source returns its root -/
theorem wstd_is_the_source (a w : List Rat) (h : a.length = w.length) (v : Rat)
    (hv : weightedVarCore (a.zip w) = some v) : src_weighted_std a w = ScaleOut.root v := by
  unfold weightedVarCore at hv
  unfold src_weighted_std
  simp only []
  cases hm : wavg (a.zip w) with
  | none => rw [hm] at hv; exact absurd hv (by simp)
  | some mean =>
    rw [hm] at hv
    simp only [] at hv
    rw [wavg_zip a w h mean hm]
    have hz : (a.zip w).map (fun q => (sq (q.1 - mean), q.2)) = ((a.map (fun v => v - mean)).map (fun v => v ^ 2)).zip w := by
      rw [List.map_map]
      apply List.ext_getElem (by simp [List.length_zip])
      intro i h1 h2
      simp [Desc.sq, pow_two]
    rw [hz] at hv
    rw [wavg_zip _ w (by simp [h]) v hv]

example : weightedVarCore ([1, 3].zip [1, 1]) = some 1 := by decide +kernel

end CnvVerif.C19
