/-
  C05 -- the per-cluster columns `log2_i` / `spread_i` of `reference --cluster` (`create_clusters`).
  The k-means membership is a parameter (observed from the real run); everything the property says about a reference
  column -- "the robust per-bin consensus over the samples" -- is proved for each cluster column over exactly its
  member samples.  Model: Model/ReferenceExt5Cluster.lean; lemmas: Lemmas/ReferenceExt5Cluster.lean, short proofs in place.
-/
import CnvVerif.Props.C05
import CnvVerif.Lemmas.ReferenceExt5Cluster
namespace CnvVerif.C05
open CnvVerif CnvVerif.Ref CnvVerif.Ref.C05Cl

/-- the cell of cluster `idx` at bin `j` is Tukey's biweight location of the values the MEMBER samples have at that
    bin (no pseudo-sample, no other sample), paired with the biweight midvariance of the same values started there -/
theorem cluster_cell_is_the_summary_of_its_member_samples (n : Nat) (logr : List (List Rat)) (idx : List Nat)
    (j : Nat) (hj : j < n) :
    (clusterColumn n logr idx)[j]? =
      some (let col := idx.map fun s => (logr.getD s []).getD j 0
            (locOf col, spreadOf col (locOf col))) := by
  simp [clusterColumn, columns, memberRows, cellOf, List.getElem?_map, List.getElem?_range hj, List.map_map,
    Function.comp_def]

/-- one cell per bin -/
theorem cluster_column_has_one_cell_per_bin (n : Nat) (logr : List (List Rat)) (idx : List Nat) :
    (clusterColumn n logr idx).length = n := by
  simp [clusterColumn, columns]

/-- which columns there are: the i-th cluster returned by k-means (from 0) gives the columns numbered i + 1 exactly
    when it has at least `min_cluster_size` members; a skipped cluster's number is not reused -/
theorem cluster_columns_numbering_and_minimum_size (members : List (List Nat)) (minSize n : Nat)
    (logr : List (List Rat)) (lbl : Nat) (col : List (Rat × Desc.ScaleOut)) :
    (lbl, col) ∈ clusterCols members minSize n logr ↔
      ∃ i idx, members[i]? = some idx ∧ minSize ≤ idx.length ∧ lbl = i + 1 ∧ col = clusterColumn n logr idx := by
  unfold clusterCols
  simp only [List.mem_filterMap]
  constructor
  · rintro ⟨⟨idx, i⟩, hm, hp⟩
    have hm' := List.mk_mem_zipIdx_iff_getElem?.mp hm
    by_cases hlt : idx.length < minSize
    · simp [hlt] at hp
    · simp only [hlt, if_false, Option.some.injEq, Prod.mk.injEq] at hp
      exact ⟨i, idx, hm', by omega, hp.1.symm, hp.2.symm⟩
  · rintro ⟨i, idx, hm, hsz, rfl, rfl⟩
    refine ⟨(idx, i), List.mk_mem_zipIdx_iff_getElem?.mpr hm, ?_⟩
    have : ¬ idx.length < minSize := by omega
    simp [this]

/-- samples outside a cluster do not influence its columns: two sample matrices that agree on the member rows give
    the same cluster columns -/
theorem cluster_columns_depend_on_member_samples_only (n : Nat) (logr logr' : List (List Rat)) (idx : List Nat)
    (h : ∀ s ∈ idx, logr.getD s [] = logr'.getD s []) :
    clusterColumn n logr idx = clusterColumn n logr' idx := by
  unfold clusterColumn memberRows
  rw [List.map_congr_left h]

/-- the order in which k-means lists the members of a cluster is irrelevant -/
theorem cluster_columns_do_not_depend_on_member_order (n : Nat) (logr : List (List Rat)) {idx idx' : List Nat}
    (h : idx.Perm idx') : clusterColumn n logr idx = clusterColumn n logr idx' := by
  unfold clusterColumn memberRows
  exact columns_map_summary_perm n (h.map _)

/-- the cluster of ALL samples: the summaries of the whole sample matrix -- what the pooled columns are
    (`reference_values_are_biweight_of_columns`) except that the neutral pseudo-sample row is left out -/
theorem cluster_of_all_samples_is_the_pooled_summary_without_pseudo_sample (n : Nat) (logr : List (List Rat)) :
    clusterColumn n logr (List.range logr.length) =
      (columns n logr).map (fun c => (locOf c, spreadOf c (locOf c))) := by
  unfold clusterColumn memberRows
  rw [map_getD_range]
  rfl

/-- the sample rows the clusters are formed from are the rows the pooled reference is formed from: whenever the
    cluster path accepts a block with bins `bins` and sample rows `logr`, the pooled path accepts it, has the same
    bins, and its (log2, spread) columns are the same summary of `pseudo-sample :: logr` -/
theorem cluster_rows_are_the_pooled_rows (hapX : Bool) (par : Option String) (skipLow : Bool)
    (sexes : List (String × Bool)) (samples : List Sample) (bins : List CovRow) (logr : List (List Rat))
    (h : blockLogr hapX par skipLow sexes samples = .ok (bins, logr)) :
    ∃ outs, refBlock hapX par skipLow sexes samples = .ok outs ∧
      outs.map (fun o => (o.chrom, o.s, o.e, o.gene)) = bins.map binKey ∧
      (bins ≠ [] → outs.map (fun o => (o.log2, o.spread)) =
        (columns bins.length (expectFlat hapX par (bins.map toC) :: logr)).map
          (fun c => (locOf c, spreadOf c (locOf c)))) := by
  rw [blockLogr_eq] at h
  rw [refBlock_eq]
  cases hs : sortSamples samples with
  | nil =>
    rw [blockBy_nil _ _ _ hs] at h
    cases h
    exact ⟨[], blockBy_nil _ _ _ hs, rfl, fun hne => absurd rfl hne⟩
  | cons first rest =>
    rcases blockBy_ok _ _ samples first rest _ hs h with ⟨he, hx⟩ | ⟨hne, hall, hx⟩
    · cases hx
      exact ⟨[], blockBy_empty _ _ _ _ _ hs he, rfl, fun hne => absurd rfl hne⟩
    · cases hx
      refine ⟨_, blockBy_full _ _ _ _ _ hs hne hall, blockRows_keys _ hapX par sexes first rest, fun _ => ?_⟩
      unfold blockRows
      rw [List.map_map]
      exact map_zip_zip_mid cellOf first.rows _ _ (columns_length _ _) (columns_length _ _)

/-- … and a block is accepted by the cluster path exactly when the pooled path accepts it (differing bins reject) -/
theorem cluster_path_accepts_iff_pooled_path_accepts (hapX : Bool) (par : Option String) (skipLow : Bool)
    (sexes : List (String × Bool)) (samples : List Sample) :
    (∃ x, blockLogr hapX par skipLow sexes samples = .ok x) ↔
      (∃ y, refBlock hapX par skipLow sexes samples = .ok y) := by
  rw [blockLogr_eq, refBlock_eq]
  exact blockBy_ok_iff _ _ _ _ samples

/-- the whole `combine_probes(do_cluster=True)` table: every column present belongs to a k-means cluster of at least
    the minimum size, carries its number, and has one cell for every bin of the table -/
theorem cluster_table_columns (hapX : Bool) (par : Option String) (sexes : List (String × Bool))
    (targets : List Sample) (antitargets : Option (List Sample)) (members : List (List Nat)) (minSize : Nat)
    (tbl : ClusterTable) (h : doCluster hapX par sexes targets antitargets members minSize = .ok tbl)
    (lbl : Nat) (col : List (Rat × Desc.ScaleOut)) (hc : (lbl, col) ∈ tbl.cols) :
    col.length = tbl.bins.length ∧ ∃ i idx, members[i]? = some idx ∧ minSize ≤ idx.length ∧ lbl = i + 1 := by
  obtain ⟨mat, hm⟩ := doCluster_cols hapX par sexes targets antitargets members minSize tbl h
  rw [hm] at hc
  obtain ⟨i, idx, h1, h2, h3, h4⟩ := (cluster_columns_numbering_and_minimum_size members minSize _ mat lbl col).mp hc
  exact ⟨by rw [h4]; exact cluster_column_has_one_cell_per_bin _ _ _, i, idx, h1, h2, h3⟩

/-! non-vacuity: two clusters over four samples and two bins, minimum size 2 -- the cluster of one is skipped and its
    number is not reused; a member permutation -/
example : (clusterCols [[0, 2], [1], [3, 1]] 2 2 [[0, 1], [5, 5], [2, 3], [1, 1]]).map (·.1) = [1, 3] := by
  decide +kernel
example : ([0, 2] : List Nat).Perm [2, 0] := List.Perm.swap _ _ _
example : (2 : Nat) ≤ ([0, 2] : List Nat).length ∧ (1 : Nat) < 2 := by decide

end CnvVerif.C05
