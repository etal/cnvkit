/-
  C08 — the regular expression of `rangelabel.re_label` inside the proof, and the whole of `from_label`.

  `Generated/RegexLabel.lean: src_re_label` is the pattern of `re_label` as a regex AST, re-read from the source text
  on every run (harness/extractors/regex_label.py, through Python's own pattern parser).  `Model/FormatsExt5Label.lean`
  gives that AST the backtracking semantics of `re.match` (greedy `?`, `*`, `+`; capture groups).  Theorems:
  the hand-written parser `Fmt.fromLabel` — the one `text_write_read`, `cross_format_same_table`, … are about —
  returns exactly the groups of the source pattern for EVERY text (so what it accepts and what it refuses is what the
  pattern accepts and refuses); `from_label (to_label r) = r` for the full function (both `keep_gene` settings);
  texts without `:` or without any `-` are refused; an open-ended range gives `None`, not a number.
-/
import CnvVerif.Lemmas.FormatsChars
import CnvVerif.Lemmas.FormatsExt5Label
namespace CnvVerif.C08
open CnvVerif CnvVerif.Fmt CnvVerif.Generated CnvVerif.Fmt.C08L

open LabelRe

/-- THE TIE OF THE PATTERN: for every text, the hand-written parser `Fmt.fromLabel` (which all text theorems of C08
    are about) returns exactly `re_label.match(text).groups()` — the pattern being the AST regenerated from
    `skgenome/rangelabel.py`, under the backtracking semantics of Python's `re` — and refuses exactly when the
    pattern does not match. -/
theorem fromLabel_is_re_label (l : List Char) : fromLabel l = fromLabelRe src_re_label l := by
  rw [fromLabel_tail]
  unfold fromLabelRe
  rw [reMatch_src, k0_eq]
  cases l with
  | nil => exact (k1_tail_nil []).symm
  | cons x t =>
    by_cases hw : isWordCh x = true
    · simp only [hw, ↓reduceIte]
      exact (k1_tail (fun caps => (1, x :: t.takeWhile (fun c => isWordCh c || c == '.')) :: caps) _ _
        (capOf_1234 _)).symm
    · have hw' : isWordCh x = false := by simpa using hw
      simp only [hw', Bool.false_eq_true, ↓reduceIte]
      exact (k1_tail_nil (x :: t)).symm

/-- `from_label` applies the pattern with `match` (anchored at the start only), as the model does -/
theorem re_label_applied_with_match : src_re_label_method = "match" := by decide


/-! ### the whole of `from_label` -/

/-- `from_label (to_label r) = r` for the full function: chromosome, start (the `+1` of `to_label` undone by the `-1`
    of `from_label`), end, and the gene field as `keep_gene` asks — for every chromosome name the pattern accepts and
    all non-negative coordinates -/
theorem from_label_to_label (c : String) (a b : Int) (hc : LabelName c) (ha : 0 ≤ a) (hb : 0 ≤ b) (keepGene : Bool) :
    fromLabelFull (toLabel c a b).toList keepGene =
      .ok { chrom := some c, s := some a, e := some b, gene := if keepGene then some "" else none } := by
  have ha' : 0 ≤ a + WRITE_SHIFT_to_label := by simp only [WRITE_SHIFT_to_label]; omega
  obtain ⟨h1, hd1⟩ := toString_digits _ ha'
  obtain ⟨h2, hd2⟩ := toString_digits _ hb
  rw [toLabel_toList, fromLabelFull_parts c hc _ _ hd1 hd2]
  simp only [List.isEmpty_eq_false_iff.mpr h1, List.isEmpty_eq_false_iff.mpr h2, Bool.false_eq_true, ↓reduceIte,
    String.ofList_toList, parseInt_toString, Option.map_some]
  rw [show a + WRITE_SHIFT_to_label + READ_SHIFT_from_label = a by
    simp only [WRITE_SHIFT_to_label, READ_SHIFT_from_label]; omega]

/-- open-ended ranges: `chr1:1234-` has no end and `chr1:-5678` no start (`None`, not 0 and not -1) -/
theorem open_ended_labels (c : String) (n : Int) (hc : LabelName c) (hn : 0 ≤ n) (keepGene : Bool) :
    fromLabelFull (c.toList ++ ':' :: ((toString n).toList ++ ['-'])) keepGene =
      .ok { chrom := some c, s := some (n + READ_SHIFT_from_label), e := none,
            gene := if keepGene then some "" else none } ∧
    fromLabelFull (c.toList ++ ':' :: ([] ++ '-' :: (toString n).toList)) keepGene =
      .ok { chrom := some c, s := none, e := some n, gene := if keepGene then some "" else none } := by
  obtain ⟨h1, hd⟩ := toString_digits _ hn
  have he := List.isEmpty_eq_false_iff.mpr h1
  have hnil : ∀ x ∈ ([] : List Char), x.isDigit = true := fun _ h => nomatch h
  constructor
  · rw [fromLabelFull_parts c hc _ [] hd hnil]
    simp only [he, List.isEmpty_nil, Bool.false_eq_true, ↓reduceIte, String.ofList_toList, parseInt_toString,
      Option.map_some]
  · rw [fromLabelFull_parts c hc [] _ hnil hd]
    simp only [he, List.isEmpty_nil, Bool.false_eq_true, ↓reduceIte, String.ofList_toList, parseInt_toString]

private theorem tailOf_no_colon (chrom m : List Char) (h : ':' ∉ m) :
    LabelRe.tailOf chrom m = .error "ValueError: Invalid range spec" := by
  unfold LabelRe.tailOf
  split
  · simp at h
  · rfl

private theorem tailOf_no_dash (chrom m : List Char) (h : '-' ∉ m) :
    LabelRe.tailOf chrom m = .error "ValueError: Invalid range spec" := by
  unfold LabelRe.tailOf
  split
  · rename_i r1
    split
    · rename_i r3 heq
      have : '-' ∈ r1.dropWhile Char.isDigit := by rw [heq]; simp
      have := (List.dropWhile_sublist Char.isDigit).subset this
      simp [this] at h
    · rfl
  · rfl

/-- texts the pattern cannot match are REFUSED (ValueError), by the parser and by the source pattern alike:
    no colon, or no dash, anywhere in the text -/
theorem label_without_colon_or_dash_refused (l : List Char) (h : ':' ∉ l ∨ '-' ∉ l) (keepGene : Bool) :
    fromLabelFull l keepGene = .error "ValueError: Invalid range spec" ∧ reMatch src_re_label l = none := by
  have hfl : fromLabel l = .error "ValueError: Invalid range spec" := by
    rw [LabelRe.fromLabel_tail]
    cases l with
    | nil => rfl
    | cons x t =>
      have hsub : ∀ y, y ∈ t.dropWhile (fun c => isWordCh c || c == '.') → y ∈ x :: t := fun y hy =>
        List.mem_cons_of_mem _ ((List.dropWhile_sublist _).subset hy)
      show (if isWordCh x then _ else _) = _
      rcases h with h | h
      · split
        · exact tailOf_no_colon _ _ (fun hm => h (hsub _ hm))
        · exact tailOf_no_colon _ _ h
      · split
        · exact tailOf_no_dash _ _ (fun hm => h (hsub _ hm))
        · exact tailOf_no_dash _ _ h
  constructor
  · unfold fromLabelFull; rw [hfl]; rfl
  · have := fromLabel_is_re_label l
    rw [hfl] at this
    unfold fromLabelRe at this
    cases hm : reMatch src_re_label l with
    | none => rfl
    | some caps => rw [hm] at this; cases this

/-! ### non-vacuity: the semantics run on concrete texts -/
/-- groups of the source pattern on a text, or `none` when it does not match -/
def groupsOf (text : String) : Option (String × String × String × String) :=
  match fromLabelRe src_re_label text.toList with
  | .ok (a, b, c, d) => some (String.ofList a, String.ofList b, String.ofList c, String.ofList d)
  | .error _ => none
example : groupsOf "chr1:10-20 BRCA1" = some ("chr1", "10", "20", "BRCA1") := by decide +kernel
example : groupsOf "GL000207.1:-77" = some ("GL000207.1", "", "77", "") := by decide +kernel
example : groupsOf "chr 1:10-20" = none := by decide +kernel
example : groupsOf ":5-" = some ("", "5", "", "") := by decide +kernel
example : groupsOf "chr1:10-20\tA B" = some ("chr1", "10", "20", "A") := by decide +kernel

end CnvVerif.C08
