/-
  C11, observation Z as THEOREMS.  `cnvlib/segmentation/haar.py:FDRThres(x, q, stdev)` modelled as written
  (`Model/HaarExt5Fdr.lean`), `stats.norm.cdf` a parameter `cdf v loc` of which only monotonicity in `v` is used.

  What is proved, for every peak array `x` (two or more peaks), every `q`, `stdev`:
    * the threshold is either one of the `|x[k]|` (some p-value passes; then it is the value at the LARGEST passing
      index of the descending sort) or `rnd (max|x| + 1e-16)` (no p-value passes);
    * no p-value passes unless `cdf(max|x|, stdev) >= 1 - q/2` (real arithmetic) -- the only peak that matters for
      that question is the largest one; and the first index passes as soon as `cdf(max|x|, stdev) >= 1 - q/(2M)`;
    * the keep test `|x[k]| >= T` of `haarSeg` keeps SOME peak iff a p-value passes or the bump `+ 1e-16` is absorbed
      by the rounding (`rnd (max|x| + 1e-16) <= max|x|`); when it is absorbed exactly the maxima are kept, when it
      survives nothing is kept and the level adds no breakpoint; in real arithmetic it always survives.
  The float side (`fl64 (t + 1e-16) <= t  <->  1 <= t` for a double `t >= 0`) is checked by the driver on every case
  (op `fdr_cdf`), together with the threshold and the keep mask of the real code.
-/
import CnvVerif.Lemmas.HaarExt5Fdr
import Mathlib.Tactic.Positivity
namespace CnvVerif.C11
open CnvVerif CnvVerif.Haar CnvVerif.HaarFdr

/-- forming the p-values as the source does and handing them to `fdrThres` (Model/Haar.lean; p-values an input) is the
function modelled here -/
theorem fdrz_is_fdrThres_on_source_pvalues (rnd : Rat → Rat) (cdf : Rat → Rat → Rat) (x : List Rat) (q sd : Rat) :
    fdrThresCdf rnd cdf x q sd = fdrThres rnd x q (pvals rnd cdf (xSorted x) sd) := rfl

/-- `if M < 2: return 0` -/
theorem fdrz_fewer_than_two_peaks (rnd : Rat → Rat) (cdf : Rat → Rat → Rat) (x : List Rat) (q sd : Rat)
    (h : x.length < 2) : fdrThresCdf rnd cdf x q sd = 0 :=
  if_pos h

/-- some p-value passes: the threshold is `x_sorted[j]` for the LARGEST index `j` with `p[j] <= (m*q)[j]`; it is one
of the `|x[k]|` and at most the largest of them -/
theorem fdrz_threshold_when_some_pvalue_passes (rnd : Rat → Rat) (cdf : Rat → Rat → Rat) (x : List Rat) (q sd : Rat)
    (h2 : 2 ≤ x.length) (hp : passing rnd cdf x q sd ≠ []) :
    ∃ j, j < x.length ∧ passes rnd cdf x q sd j = true ∧
      (∀ k, j < k → k < x.length → passes rnd cdf x q sd k = false) ∧
      fdrThresCdf rnd cdf x q sd = (xSorted x).getD j 0 ∧
      fdrThresCdf rnd cdf x q sd ≤ top x ∧ ∃ v ∈ x, absQ v = fdrThresCdf rnd cdf x q sd := by
  cases hl : (passing rnd cdf x q sd).getLast? with
  | none => exact absurd (List.getLast?_eq_none_iff.mp hl) hp
  | some j =>
    obtain ⟨h1, h2', h3⟩ := getLast_filter_range_some _ _ j hl
    have hT : fdrThresCdf rnd cdf x q sd = (xSorted x).getD j 0 := by
      rw [fdrThresCdf_of_two rnd cdf x q sd h2, hl]
    have hmem := getD_mem_xSorted x j h1
    rw [hT]
    exact ⟨j, h1, h2', h3, rfl, le_top_of_mem_xSorted _ x hmem, (mem_xSorted _ x).mp hmem⟩

/-- no p-value passes: `T = x_sorted[0] + 1e-16` (rounded) -/
theorem fdrz_threshold_when_no_pvalue_passes (rnd : Rat → Rat) (cdf : Rat → Rat → Rat) (x : List Rat) (q sd : Rat)
    (h2 : 2 ≤ x.length) (hp : passing rnd cdf x q sd = []) :
    fdrThresCdf rnd cdf x q sd = rnd (top x + Generated.HAAR_FDR_EPS) := by
  rw [fdrThresCdf_of_two rnd cdf x q sd h2, hp]
  rfl

/-- element `i` of `p` in real arithmetic -/
theorem fdrz_pvalue_at (cdf : Rat → Rat → Rat) (x : List Rat) (sd : Rat) (i : Nat) (hi : i < x.length) :
    (pvals id cdf (xSorted x) sd).getD i 1 = 2 * (1 - cdf ((xSorted x).getD i 0) sd) := by
  have hi' : i < (xSorted x).length := by rw [length_xSorted]; exact hi
  simp [pvals, List.getD_eq_getElem?_getD, List.getElem?_eq_getElem hi', List.getElem?_map]

/-- **only the largest peak decides whether any p-value passes** (real arithmetic, `cdf` monotone in its first
argument, `q >= 0`): if `cdf(max|x|, stdev) < 1 - q/2`, i.e. the largest peak's p-value exceeds `q`, then NO p-value
passes, whatever the other peaks are.  With `cdf(v, loc) = Phi(v - loc)` (what `norm.cdf(x_sorted, stdev)` computes)
and `q = 1e-4` this is every level whose largest normalised response is below `stdev + 3.89`. -/
theorem fdrz_no_pvalue_passes_below_the_quantile (cdf : Rat → Rat → Rat) (x : List Rat) (q sd : Rat)
    (hq : 0 ≤ q) (hmono : ∀ a b, a ≤ b → cdf a sd ≤ cdf b sd)
    (htop : cdf (top x) sd < 1 - q / 2) :
    passing id cdf x q sd = [] := by
  unfold passing
  apply List.filter_eq_nil_iff.mpr
  intro i hi
  have hi := List.mem_range.mp hi
  have hle : (xSorted x).getD i 0 ≤ top x := le_top_of_mem_xSorted _ x (getD_mem_xSorted x i hi)
  have hc := hmono _ _ hle
  have hMpos : (0 : Rat) < (x.length : Rat) := Nat.cast_pos.mpr (by omega)
  have hfrac : (((i + 1 : Nat) : Rat) / (x.length : Rat)) ≤ 1 := by
    rw [div_le_one hMpos]
    exact_mod_cast hi
  have hm : mq id x.length q i ≤ q := mul_le_of_le_one_left hq hfrac
  unfold passes
  rw [fdrz_pvalue_at cdf x sd i hi]
  simp only [decide_eq_true_eq, not_le]
  linarith

/-- the first index passes (so some p-value passes) as soon as the largest peak's p-value is at
most `q / M` -/
theorem fdrz_some_pvalue_passes_above_the_quantile (cdf : Rat → Rat → Rat) (x : List Rat) (q sd : Rat)
    (h1 : 1 ≤ x.length) (htop : 1 - q / (2 * (x.length : Rat)) ≤ cdf (top x) sd) :
    passing id cdf x q sd ≠ [] := by
  intro hnil
  apply List.filter_eq_nil_iff.mp hnil 0 (List.mem_range.mpr (by omega))
  have htopeq : (xSorted x).getD 0 0 = top x := by
    unfold top
    cases xSorted x <;> rfl
  have hMpos : (0 : Rat) < (x.length : Rat) := Nat.cast_pos.mpr (by omega)
  have hq : q / (2 * (x.length : Rat)) = ((0 + 1 : Nat) : Rat) / (x.length : Rat) * q / 2 := by
    push_cast
    field_simp
  unfold passes
  rw [fdrz_pvalue_at cdf x sd 0 (by omega), htopeq, mq_id, decide_eq_true_eq]
  rw [hq] at htop
  linarith

/-- **the largest peak is kept iff a p-value passes or the bump is absorbed**: the keep test `|x[k]| >= T` of
`haarSeg` lets some peak through exactly when some p-value passes or `rnd (max|x| + 1e-16) <= max|x|` -/
theorem fdrz_some_peak_kept_iff (rnd : Rat → Rat) (cdf : Rat → Rat → Rat) (x : List Rat) (q sd : Rat)
    (h2 : 2 ≤ x.length) :
    (∃ v ∈ x, fdrThresCdf rnd cdf x q sd ≤ absQ v) ↔
      (passing rnd cdf x q sd ≠ [] ∨ rnd (top x + Generated.HAAR_FDR_EPS) ≤ top x) := by
  obtain ⟨v0, hv0, hv0t⟩ := top_mem x (by omega)
  by_cases hp : passing rnd cdf x q sd = []
  · -- no p-value passes: the threshold is the bumped maximum, and the maximum is the peak most easily kept
    rw [fdrz_threshold_when_no_pvalue_passes rnd cdf x q sd h2 hp]
    constructor
    · rintro ⟨v, hv, hT⟩
      exact Or.inr (le_trans hT (abs_le_top x v hv))
    · rintro (h | h)
      · exact absurd hp h
      · exact ⟨v0, hv0, hv0t ▸ h⟩
  · obtain ⟨j, _, _, _, _, hle, _⟩ := fdrz_threshold_when_some_pvalue_passes rnd cdf x q sd h2 hp
    exact ⟨fun _ => Or.inl hp, fun _ => ⟨v0, hv0, hv0t ▸ hle⟩⟩

/-- no p-value passes and the bump is absorbed (`rnd (max|x| + 1e-16) = max|x|`, in doubles: `max|x| >= 1`): exactly
the peaks of maximal absolute value are kept -/
theorem fdrz_absorbed_bump_keeps_exactly_the_maxima (rnd : Rat → Rat) (cdf : Rat → Rat → Rat) (x : List Rat)
    (q sd : Rat) (h2 : 2 ≤ x.length) (hp : passing rnd cdf x q sd = [])
    (habs : rnd (top x + Generated.HAAR_FDR_EPS) = top x) :
    ∀ v ∈ x, (fdrThresCdf rnd cdf x q sd ≤ absQ v ↔ absQ v = top x) := by
  intro v hv
  rw [fdrz_threshold_when_no_pvalue_passes rnd cdf x q sd h2 hp, habs]
  have := abs_le_top x v hv
  constructor
  · intro h; linarith
  · intro h; linarith

/-- no p-value passes and the bump survives the rounding (in doubles: `max|x| < 1`): NO peak is kept -/
theorem fdrz_surviving_bump_keeps_nothing (rnd : Rat → Rat) (cdf : Rat → Rat → Rat) (x : List Rat)
    (q sd : Rat) (h2 : 2 ≤ x.length) (hp : passing rnd cdf x q sd = [])
    (hsurv : top x < rnd (top x + Generated.HAAR_FDR_EPS)) :
    keepMask x (fdrThresCdf rnd cdf x q sd) = List.replicate x.length false := by
  rw [fdrz_threshold_when_no_pvalue_passes rnd cdf x q sd h2 hp]
  unfold keepMask
  rw [List.eq_replicate_iff]
  refine ⟨by simp, ?_⟩
  intro b hb
  obtain ⟨v, hv, rfl⟩ := List.mem_map.mp hb
  have := abs_le_top x v hv
  simp only [decide_eq_false_iff_not, not_le]
  linarith

/-- in REAL arithmetic the bump always survives: whenever no p-value passes, `FDRThres` as written rejects every
peak.  (The detection of the real code on property-sized steps rests on `x0 + 1e-16 == x0` in doubles.) -/
theorem fdrz_real_arithmetic_keeps_nothing (cdf : Rat → Rat → Rat) (x : List Rat) (q sd : Rat)
    (h2 : 2 ≤ x.length) (hp : passing id cdf x q sd = []) :
    keepMask x (fdrThresCdf id cdf x q sd) = List.replicate x.length false := by
  apply fdrz_surviving_bump_keeps_nothing id cdf x q sd h2 hp
  have := eps_pos
  simp only [id]
  linarith

/-- a level of `haarSeg` at which no p-value passes and the bump survives adds NO breakpoint -/
theorem fdrz_level_without_kept_peak_adds_nothing (rnd : Rat → Rat) (cdf : Rat → Rat → Rat) (q sd : Rat)
    (conv : List Rat) (w : Nat) (bp : List Nat)
    (h2 : 2 ≤ ((findLocalPeaks conv).map (nth conv.toArray)).length)
    (hp : passing rnd cdf ((findLocalPeaks conv).map (nth conv.toArray)) q sd = [])
    (hsurv : top ((findLocalPeaks conv).map (nth conv.toArray))
      < rnd (top ((findLocalPeaks conv).map (nth conv.toArray)) + Generated.HAAR_FDR_EPS)) :
    levelStep (fun x => fdrThresCdf rnd cdf x q sd) conv w bp = bp := by
  unfold levelStep
  dsimp only
  rw [fdrz_threshold_when_no_pvalue_passes rnd cdf _ q sd h2 hp, List.filter_eq_nil_iff.mpr ?_, unifyLevels_nil_addon]
  intro k hk
  have := abs_le_top ((findLocalPeaks conv).map (nth conv.toArray)) _ (List.mem_map.mpr ⟨k, hk, rfl⟩)
  simp only [decide_eq_true_eq, not_le]
  linarith

/-- a step function standing in for `norm.cdf(., loc)`: monotone, below `1 - q/2` up to 4 above `loc` -/
def fdrzStepCdf : Rat → Rat → Rat := fun v loc => if v < loc + 4 then 1 / 2 else 1

/-- three peaks, none passes (hypotheses of `fdrz_no_pvalue_passes_below_the_quantile` hold), the bump survives in
real arithmetic, nothing is kept -/
example : passing id fdrzStepCdf [3, -2, 1] (1 / 10000) (1 / 100) = [] ∧
    fdrThresCdf id fdrzStepCdf [3, -2, 1] (1 / 10000) (1 / 100) = 3 + Generated.HAAR_FDR_EPS ∧
    keepMask [3, -2, 1] (fdrThresCdf id fdrzStepCdf [3, -2, 1] (1 / 10000) (1 / 100)) = [false, false, false] := by
  decide +kernel

/-- a peak far enough out passes (hypothesis of `fdrz_some_pvalue_passes_above_the_quantile`); the threshold is the
value at the largest passing index -/
example : passing id fdrzStepCdf [5, -2, 6] (1 / 10000) (1 / 100) = [0, 1] ∧
    fdrThresCdf id fdrzStepCdf [5, -2, 6] (1 / 10000) (1 / 100) = 5 ∧
    keepMask [5, -2, 6] (fdrThresCdf id fdrzStepCdf [5, -2, 6] (1 / 10000) (1 / 100)) = [true, false, true] := by
  decide +kernel

/-- the double rounding absorbs the bump at 1 and above, not below: `fl64 (1 + 1e-16) = 1`, `fl64 (3/4 + 1e-16) > 3/4` -/
example : fl64 (1 + Generated.HAAR_FDR_EPS) = 1 ∧ (3 / 4 : Rat) < fl64 (3 / 4 + Generated.HAAR_FDR_EPS) ∧
    fl64 ((75 / 32 : Rat) + Generated.HAAR_FDR_EPS) = 75 / 32 := by
  decide +kernel

end CnvVerif.C11
