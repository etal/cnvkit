/-
  C12 — target and antitarget bins partition exactly the space they should.

  Vocabulary (one chromosome's rows, chromosome field ignored):
  `cov l p`            base `p` lies in a row of `l`;
  `Tiles bins a b`     `bins` are consecutive, from `a` to `b`;
  `inShrunk 500 acc p` `p` lies in an accessible region shrunk by 500 bases at both ends;
  `nearTarget 500 tg p` `p` is within 500 bases of a target row (a zero-width row is a position);
  `WFTargets tg`       every target row has `0 ≤ start ≤ end` — nothing else: rows may overlap,
                       nest, repeat, abut, be empty, come in any order.
  `targetChrom` / `antiChrom` are what `do_target --split` / `get_antitargets` compute on one
  chromosome; `target_table_is_chrom` / `antitarget_table_is_chrom` tie them to the table-level
  model that the correspondence check runs against the real code, for tables on one chromosome; for every chromosome
  of any tables the tie is `target_rowsOf` / `antitarget_rowsOf` of Lemmas/BinsTable.lean.
-/
import CnvVerif.Model.Bins
import CnvVerif.Lemmas.Bins
import CnvVerif.Lemmas.BinsLabels
import CnvVerif.Lemmas.BinsSize
import CnvVerif.Lemmas.BinsAnti
import CnvVerif.Lemmas.BinsTable
import CnvVerif.Lemmas.BinsContigs
import CnvVerif.Lemmas.ContigName
namespace CnvVerif.C12
open CnvVerif

/-! ### the numbers the property names, read from the source -/

/-- the margin `pad_size = 2 * INSERT_SIZE` is the property's 500 bases -/
theorem pad_eq : Generated.ANTI_PAD = 500 := by decide

theorem pad_is_twice_insert_size : Generated.ANTI_PAD = 2 * Generated.INSERT_SIZE := by decide

/-- access is shrunk (`resize_ranges(-pad)`), targets are grown (`resize_ranges(pad)`) -/
theorem resize_signs :
    Generated.ANTI_ACCESS_RESIZE_SIGN = -1 ∧ Generated.ANTI_TARGET_RESIZE_SIGN = 1 := by decide

theorem antitarget_name_eq : Generated.ANTITARGET_NAME = "Antitarget" := by decide

theorem telomere_eq : Generated.TELOMERE_SIZE = 150000 := by decide

theorem split_min_eq : Generated.TARGET_SPLIT_MIN = 0 := by decide

/-- the default minimum size is `2·⌊avg/32⌋` … -/
theorem default_min_formula (avg : Rat) (h : 0 ≤ avg) :
    defaultMinSize avg = 2 * (avg / 32).floor := by
  have h0 : (0 : Rat) ≤ avg * (1 / 32) := by positivity
  have he : avg * (1 / 32) = avg / 32 := by ring
  unfold defaultMinSize truncRat Generated.ANTI_MIN_FACTOR Generated.ANTI_MIN_SCALE
  rw [if_pos h0, he]

/-- … at most avg/16, so the default never leaves the range in which `anti_size_lower` holds -/
theorem default_min_small (avg : Rat) (h : 0 ≤ avg) : (defaultMinSize avg : Rat) ≤ avg / 16 := by
  rw [default_min_formula avg h]
  have h1 : ((avg / 32).floor : Rat) ≤ avg / 32 := Rat.floor_le _
  push_cast
  linarith

/-- the contig-name rule on the names the documentation mentions -/
theorem contig_rule_examples :
    isCanonicalName "chr1" = true ∧ isCanonicalName "22" = true ∧ isCanonicalName "chrX" = true ∧
    isCanonicalName "chrM" = false ∧ isCanonicalName "MT" = false ∧
    isCanonicalName "chr6_GL000250v2_alt" = false ∧ isCanonicalName "chr1_KI270706v1_random" = false ∧
    isCanonicalName "chrUn_GL000195v1" = false ∧ isCanonicalName "chr6_cox_hap2" = false ∧
    isCanonicalName "HLA-A*01:01" = false ∧ isCanonicalName "chrEBV" = false :=
  have ⟨c1, c22, cX, cM, cMT, alt, rnd, un, hap, hla, ebv, _⟩ := isCanonicalName_examples
  ⟨c1, c22, cX, cM, cMT, alt, rnd, un, hap, hla, ebv⟩

/-- without `--split`: the non-empty baits, unchanged -/
theorem target_nosplit_identity (baits : Table) (avg : Rat) :
    doTargetCore baits false avg = baits.filter (fun r => r.s != r.e) := rfl

/-- `--split` covers exactly the union of the non-empty baits -/
theorem target_split_cov (avg : Rat) (havg : 0 < avg) (baits : List Row)
    (hb : ∀ r ∈ baits, r.s ≤ r.e) (p : Int) :
    cov (targetChrom avg baits) p ↔ cov (baits.filter (fun r => r.s != r.e)) p := by
  have hc := mergeSorted_canon _ (nonempty_baits_pos baits hb)
  unfold targetChrom
  rw [flatMap_splitRow_cov avg havg _ _ (fun m hm => Int.le_of_lt (hc.1 m hm)) p, split_min_eq, ← mergeSorted_cov]
  constructor
  · rintro ⟨m, hm, _, h1, h2⟩
    exact ⟨m, hm, h1, h2⟩
  · rintro ⟨m, hm, h1, h2⟩
    exact ⟨m, hm, by omega, h1, h2⟩

/-- `--split` bins come in genomic order and do not overlap -/
theorem target_sorted_disjoint (avg : Rat) (havg : 0 < avg) (baits : List Row)
    (hb : ∀ r ∈ baits, r.s ≤ r.e) :
    (targetChrom avg baits).Pairwise (fun x y => x.e ≤ y.s) :=
  flatMap_splitRow_pairwise avg havg _ _ (mergeSorted_canon _ (nonempty_baits_pos baits hb))

/-- the `--split` bins are, merged bait by merged bait, the bins `_split_targets` (`skgenome/subdivide.py`) makes of it -/
theorem target_bins_per_merged_bait (avg : Rat) (havg : 0 < avg) (baits : List Row)
    (hb : ∀ r ∈ baits, r.s ≤ r.e) :
    targetChrom avg baits =
      (mergeSorted (baits.filter (fun r => r.s != r.e))).flatMap fun m =>
        if nbinsOf avg m = 1 then [m] else splitInto m (nbinsOf avg m) := by
  have hc := mergeSorted_canon _ (nonempty_baits_pos baits hb)
  apply flatMap_congr
  intro m hm
  have hpos := hc.1 m hm
  rw [ite_one_splitInto, splitRow_nbins avg havg _ m (by omega), if_pos (by rw [split_min_eq]; omega)]

/-- … each region is cut into `max 1 (round (length/avg))` consecutive bins that cover it exactly
    and whose sizes differ by at most one base -/
theorem target_bin_count (avg : Rat) (m : Row) (hm : m.s ≤ m.e) :
    let bins := if nbinsOf avg m = 1 then [m] else splitInto m (nbinsOf avg m)
    nbinsOf avg m = (max 1 (roundHalfEven (((m.e - m.s : Int) : Rat) / avg))).toNat ∧
    bins.length = nbinsOf avg m ∧ Tiles bins m.s m.e ∧
    (∀ a ∈ bins, ∀ b ∈ bins, (a.e - a.s) - (b.e - b.s) ≤ 1) ∧
    (∀ a ∈ bins, a.chrom = m.chrom ∧ a.gene = m.gene) := by
  intro bins
  have hb : bins = splitInto m (nbinsOf avg m) := ite_one_splitInto m _
  have hpos := nbinsOf_pos avg m
  rw [hb]
  refine ⟨rfl, splitInto_length m _, splitInto_tiles m _ hpos hm, ?_, splitInto_fields m _⟩
  intro a ha b hb'
  have h2 := splitInto_sizes m _ hpos a ha
  have h3 := splitInto_sizes m _ hpos b hb'
  omega

/-- the merged baits are the sorted, disjoint, non-abutting regions with the baits' coverage -/
theorem merged_baits_canonical (l : List Row) (hp : ∀ r ∈ l, r.s < r.e) :
    Canon (mergeSorted l) ∧ ∀ p, cov (mergeSorted l) p ↔ cov l p :=
  ⟨mergeSorted_canon l hp, mergeSorted_cov l⟩

/-- label shortening and annotation never change the number or the coordinates of the bins … -/
theorem labels_keep_bins (baits : Table) (annot : Option Table) (short split : Bool) (avg : Rat)
    (rows : Table) (c : Option (List (List String)))
    (h : doTarget baits annot short split avg = .ok (rows, c)) :
    coordsOfRows rows = coordsOfRows (doTargetCore baits split avg) := by
  rw [doTarget_eq] at h
  split at h
  · obtain rfl : (shortened _ _).1 = rows := congrArg Prod.fst (Except.ok.inj h)
    exact coords_shortened _ _
  · split at h
    · cases h
    · obtain rfl : (shortened _ _).1 = rows := congrArg Prod.fst (Except.ok.inj h)
      exact (coords_shortened _ _).trans (coords_annotated _ _)

/-- … and never fail: `shorten_labels` yields one label per bin, `into_ranges` one per bin; the only
    refusal is an annotation file sharing no chromosome name with the baits -/
theorem labels_never_fail (baits : Table) (annot : Option Table) (short split : Bool) (avg : Rat)
    (h : ∀ a, annot = some a → chromNamesClash (doTargetCore baits split avg) a = false) :
    ∃ rows c, doTarget baits annot short split avg = .ok (rows, c) := by
  rw [doTarget_eq]
  split
  · exact ⟨_, _, rfl⟩
  · rw [h _ rfl]; exact ⟨_, _, rfl⟩

theorem shorten_same_length (labels : List String) :
    (shortenLabels labels).length = labels.length := shortenLabels_length labels

/-- table level = chromosome level, for a bait table on one chromosome (any order of rows) -/
theorem target_table_is_chrom (c : String) (baits : Table) (avg : Rat)
    (hc : ∀ r ∈ baits, r.chrom = c) (hb : ∀ r ∈ baits, r.s ≤ r.e) :
    (doTargetCore baits true avg).map ivOf = (targetChrom avg baits).map ivOf := by
  have h := target_rowsOf baits avg hb c
  rwa [rowsOf_eq_self baits c hc, rowsOf_eq_self _ c fun r hr => ?_] at h
  unfold doTargetCore at hr
  rw [if_pos rfl] at hr
  obtain ⟨x, hx, hxc⟩ := mem_subdivideTable_chrom hr
  rw [← hxc, hc x (List.mem_filter.mp hx).1]

theorem anti_named (avg : Rat) (m : Int) (acc tg : List Row) :
    ∀ b ∈ antiChrom Generated.ANTI_PAD avg m acc tg, b.gene = "Antitarget" := by
  intro b hb
  obtain ⟨r, _, rfl⟩ := (mem_nameAnti _ b).mp hb
  exact antitarget_name_eq

/-- every base of every bin lies inside an accessible region shrunk by the 500-base margin -/
theorem anti_inside_shrunk_access (avg : Rat) (havg : 0 < avg) (m : Int) (acc tg : List Row)
    (h : WFTargets tg) :
    ∀ b ∈ antiChrom Generated.ANTI_PAD avg m acc tg, ∀ p, b.s ≤ p → p < b.e → inShrunk 500 acc p := by
  rw [pad_eq]
  exact fun b hb p h1 h2 => (antiChrom_inside_far 500 (by decide) avg havg m acc tg h b hb p h1 h2).1

/-- no base of any bin is within 500 bases of any target row — whatever the targets look like
    (overlapping, nested, duplicated, zero-width) -/
theorem anti_far_from_targets (avg : Rat) (havg : 0 < avg) (m : Int) (acc tg : List Row)
    (h : WFTargets tg) :
    ∀ b ∈ antiChrom Generated.ANTI_PAD avg m acc tg, ∀ p, b.s ≤ p → p < b.e →
      ∀ r ∈ tg, ¬ (r.s - 500 ≤ p ∧ p < r.e + 500) := by
  rw [pad_eq]
  intro b hb p h1 h2 r hr hnear
  exact (antiChrom_inside_far 500 (by decide) avg havg m acc tg h b hb p h1 h2).2 ⟨r, hr, hnear⟩

/-- bins are sorted and do not overlap each other -/
theorem anti_disjoint (avg : Rat) (havg : 0 < avg) (m : Int) (acc tg : List Row) :
    (antiChrom Generated.ANTI_PAD avg m acc tg).Pairwise (fun x y => x.e ≤ y.s) :=
  antiChrom_pairwise _ avg havg m acc tg

/-- each bin has at least the minimum size — provided the minimum is at most 3/4 of the average -/
theorem anti_size_lower (avg : Rat) (havg : 0 < avg) (m : Int) (hm : (m : Rat) ≤ 3 / 4 * avg)
    (acc tg : List Row) :
    ∀ b ∈ antiChrom Generated.ANTI_PAD avg m acc tg, m ≤ b.e - b.s :=
  antiChrom_of_splitRow (P := fun s e => m ≤ e - s) fun M hM =>
    splitRow_size_lower avg havg m hm M (Int.le_of_lt hM)

/-- the hypothesis cannot be dropped (finding K): avg 1000, min 900, a free stretch of 1500 bases
    is cut into two bins of 750 -/
theorem anti_size_lower_needs_bound :
    (antiChrom Generated.ANTI_PAD 1000 900 [⟨"chr1", 11000, 13500, "y"⟩] [⟨"chr1", 10000, 10100, "a"⟩]).map ivOf
      = [(11500, 12250), (12250, 13000)] := by decide +kernel

/-- each bin has at most 1.5 × the average size (`avg ≥ 4`) -/
theorem anti_size_upper (avg : Rat) (havg : 4 ≤ avg) (m : Int) (acc tg : List Row) :
    ∀ b ∈ antiChrom Generated.ANTI_PAD avg m acc tg, ((b.e - b.s : Int) : Rat) ≤ 3 / 2 * avg :=
  antiChrom_of_splitRow (P := fun s e => ((e - s : Int) : Rat) ≤ 3 / 2 * avg) fun M hM =>
    splitRow_size_upper avg havg m M (Int.le_of_lt hM)

theorem anti_bins_nonempty (avg : Rat) (havg : 1 ≤ avg) (m : Int) (acc tg : List Row) :
    ∀ b ∈ antiChrom Generated.ANTI_PAD avg m acc tg, b.s < b.e :=
  antiChrom_of_splitRow (P := fun s e => s < e) fun M hM => splitRow_positive avg havg m M hM

/-- together the bins cover every stretch of off-target shrunk-accessible sequence of at least the
    minimum size -/
theorem anti_covers_all_large_stretches (avg : Rat) (havg : 0 < avg) (m : Int) (acc tg : List Row)
    (h : WFTargets tg) (u v : Int) (huv : u < v) (hlen : m ≤ v - u)
    (hfree : ∀ p, u ≤ p → p < v → inShrunk 500 acc p ∧ ¬ nearTarget 500 tg p) :
    ∀ p, u ≤ p → p < v → cov (antiChrom Generated.ANTI_PAD avg m acc tg) p := by
  rw [pad_eq]
  exact antiChrom_covers 500 (by decide) avg havg m acc tg h u v huv hlen hfree

/-- what is binned is exactly: shrunk access minus everything within 500 bases of a target -/
theorem anti_regions_exact (acc tg : List Row) (h : WFTargets tg) (p : Int) :
    cov (antiRegionsChrom Generated.ANTI_PAD acc tg) p ↔ inShrunk 500 acc p ∧ ¬ nearTarget 500 tg p := by
  rw [pad_eq]
  exact antiRegionsChrom_cov 500 (by decide) acc tg h p

/-- `get_antitargets` returns `nameAnti (subdivideTable …)` of the accessible table it settled on … -/
theorem get_antitargets_unfold (tg : Table) (acc : Option Table) (avg : Rat) (m : Int) (a : Table)
    (h : effectiveAccess tg acc = .ok a) :
    getAntitargets tg acc avg m = .ok (nameAnti (subdivideTable avg m (antiRegions a tg))) := by
  simp [getAntitargets, h, bind, Except.bind, pure, Except.pure]

/-- … whose bin coordinates, for tables on one chromosome, are those of `antiChrom` (table level = chromosome level) -/
theorem antitarget_table_is_chrom (c : String) (a tg : Table) (avg : Rat) (m : Int)
    (ha : ∀ r ∈ a, r.chrom = c) (ht : ∀ r ∈ tg, r.chrom = c) (hwf : WFTargets tg) :
    (nameAnti (subdivideTable avg m (antiRegions a tg))).map ivOf =
      (antiChrom Generated.ANTI_PAD avg m a tg).map ivOf := by
  have h := antitarget_rowsOf a tg avg m hwf c
  rwa [rowsOf_eq_self a c ha, rowsOf_eq_self tg c ht, rowsOf_eq_self _ c fun r hr => ?_] at h
  obtain ⟨x, hx, rfl⟩ := (mem_nameAnti _ r).mp hr
  obtain ⟨y, hy, hyc⟩ := mem_subdivideTable_chrom hx
  obtain ⟨z, hz, hzc⟩ := mem_antiRegions_chrom hwf hy
  exact hyc.symm.trans (hzc.symm.trans (ha z hz))

/-! ### contig selection: "on every contig that is targeted or canonically named" -/

/-- an accessible contig that carries a target is kept -/
theorem contig_kept_when_targeted (acc tg a : Table) (h : dropNoncanonical acc tg = .ok a)
    (r : Row) (hr : r ∈ acc) (ht : ∃ t ∈ tg, t.chrom = r.chrom) : r ∈ a :=
  (dropNoncanonical_mem_iff acc tg a h r).mpr ⟨hr, .inl ht⟩

/-- a canonically named accessible contig is kept — when some targeted contig is canonically named -/
theorem contig_kept_when_canonical (acc tg a : Table) (h : dropNoncanonical acc tg = .ok a)
    (hc : ∃ t ∈ tg, isCanonicalName t.chrom = true)
    (r : Row) (hr : r ∈ acc) (hn : isCanonicalName r.chrom = true) : r ∈ a :=
  (dropNoncanonical_mem_iff acc tg a h r).mpr ⟨hr, .inr (by rw [if_pos hc]; exact hn)⟩

/-- nothing else is kept, and nothing is invented -/
theorem contig_only_targeted_or_canonical (acc tg a : Table) (h : dropNoncanonical acc tg = .ok a)
    (hc : ∃ t ∈ tg, isCanonicalName t.chrom = true) :
    ∀ r ∈ a, r ∈ acc ∧ ((∃ t ∈ tg, t.chrom = r.chrom) ∨ isCanonicalName r.chrom = true) :=
  fun r hr => by
    have := (dropNoncanonical_mem_iff acc tg a h r).mp hr
    rwa [if_pos hc] at this

/-- the two files are refused exactly when they share no chromosome name -/
theorem access_refused_iff_no_shared_name (acc tg : Table) :
    (∃ e, dropNoncanonical acc tg = .error e) ↔ chromNamesClash acc tg = true := by
  rw [dropNoncanonical_eq]
  constructor
  · rintro ⟨e, he⟩
    split at he
    · assumption
    · cases he
  · intro hc
    rw [if_pos hc]
    exact ⟨_, rfl⟩

/-- the hypothesis `hc` cannot be dropped (finding AB): with targets on chrM only, the untargeted
    canonical contig chr10 is skipped because its name is longer than "chrM"; chr1 is kept -/
theorem contig_rule_needs_canonical_target :
    (dropNoncanonical [⟨"chr1", 0, 5000, "x"⟩, ⟨"chr10", 0, 5000, "x"⟩, ⟨"chrM", 0, 5000, "x"⟩]
        [⟨"chrM", 100, 200, "m"⟩]).toOption.map (fun t => t.map (·.chrom)) = some ["chr1", "chrM"] := by
  decide +kernel

/-! ### non-vacuity: concrete inputs meeting the hypotheses, evaluated by the kernel -/

example : WFTargets [⟨"chr1", 5000, 9000, "a"⟩, ⟨"chr1", 6000, 6100, "b"⟩, ⟨"chr1", 7000, 7000, "z"⟩] := by
  unfold WFTargets; decide
/-- nested + zero-width targets inside one accessible region: bins stop 500 short on both sides -/
example : (antiChrom 500 1000 62 [⟨"chr1", 0, 12000, "x"⟩]
      [⟨"chr1", 5000, 9000, "a"⟩, ⟨"chr1", 6000, 6100, "b"⟩, ⟨"chr1", 7000, 7000, "z"⟩]).map ivOf
    = [(500, 1500), (1500, 2500), (2500, 3500), (3500, 4500), (9500, 10500), (10500, 11500)] := by
  have hg : mergeSorted (growRows 500
      [⟨"chr1", 5000, 9000, "a"⟩, ⟨"chr1", 6000, 6100, "b"⟩, ⟨"chr1", 7000, 7000, "z"⟩])
      = [⟨"chr1", 4500, 9500, "a,b,z"⟩] := by
    unfold mergeSorted
    rw [sortSE_of_sorted _ (by decide)]
    decide
  have hs : (shrinkRows 500 [⟨"chr1", 0, 12000, "x"⟩]).flatMap
      (fun k => subtractRow k (overlapping k [⟨"chr1", 4500, 9500, "a,b,z"⟩]))
      = [⟨"chr1", 500, 4500, "x"⟩, ⟨"chr1", 9500, 11500, "x"⟩] := by decide
  unfold antiChrom antiRegionsChrom
  rw [hg, hs]
  unfold mergeSorted
  rw [sortSE_of_sorted _ (by decide)]
  decide +kernel
example : (targetChrom 200 [⟨"chr1", 100, 100, "z"⟩, ⟨"chr1", 200, 900, "a"⟩, ⟨"chr1", 500, 600, "b"⟩,
      ⟨"chr1", 900, 1000, "c"⟩]).map ivOf = [(200, 400), (400, 600), (600, 800), (800, 1000)] := by
  unfold targetChrom mergeSorted
  rw [show ([⟨"chr1", 100, 100, "z"⟩, ⟨"chr1", 200, 900, "a"⟩, ⟨"chr1", 500, 600, "b"⟩,
      ⟨"chr1", 900, 1000, "c"⟩] : List Row).filter (fun r => r.s != r.e)
      = [⟨"chr1", 200, 900, "a"⟩, ⟨"chr1", 500, 600, "b"⟩, ⟨"chr1", 900, 1000, "c"⟩] from by decide,
    sortSE_of_sorted _ (by decide)]
  decide +kernel
/-- the theorems' hypotheses are met by such inputs -/
example := anti_far_from_targets 1000 (by decide +kernel) 62 [⟨"chr1", 0, 12000, "x"⟩]
  [⟨"chr1", 5000, 9000, "a"⟩, ⟨"chr1", 6000, 6100, "b"⟩, ⟨"chr1", 7000, 7000, "z"⟩]
  (by unfold WFTargets; decide)
example : ((62 : Int) : Rat) ≤ 3 / 4 * 1000 := by decide +kernel
example : defaultMinSize 1000 = 62 := by decide +kernel

end CnvVerif.C12
