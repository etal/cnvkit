/-
  C14: tie of `squash_region` to the source TEXT.  `Generated.src_squash_region` is re-read from
  cnvlib/segfilters.py on every run (harness/extractors/exprs_squash.py, reading rules in harness/squashtrans.py);
  the theorem states that the model's `squashCols` IS that list of cells, for every value of the reductions.
  A module of its own: it rests on the model and the generated text alone, no lemma.
-/
import CnvVerif.Model.SegFilterExt5
import CnvVerif.Generated.ExprsSquash
namespace CnvVerif.C14
open CnvVerif CnvVerif.C14Sq

/-- every cell `squash_region` writes -- which reduction of which column, under which condition the column exists, in
    which order -- is the model's -/
theorem squash_region_is_the_source (R : Reds) : squashCols R = Generated.src_squash_region R := by
  simp only [squashCols, Generated.src_squash_region, wmeanCell, wmedCell]

end CnvVerif.C14
