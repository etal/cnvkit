/-
  C05 -- the bias corrections and the sex bookkeeping of `do_reference` INSIDE the model
  (Model/ReferenceExt.lean; lemmas in Lemmas/ReferenceExt.lean, short proofs in place).

  `doReferenceOpts doGc doEdge doRmask kT kA …` is `do_reference(…, do_gc, do_edge, do_rmask)`: after centring and the sex
  shift each sample goes through `fix.center_by_window` (C04's model, composed here) for GC, RepeatMasker and edge bias
  as the decision table `blockCfg` says; the pseudo-sample is never corrected.  The correspondence run ties this model
  exactly to `do_reference` with corrections ON (general cohorts: noise, sex mixes, FASTA / gc column / neither).
-/
import CnvVerif.Props.C05
import CnvVerif.Lemmas.ReferenceExt
namespace CnvVerif.C05
open CnvVerif CnvVerif.Ref

/-- with all three corrections off the extended model IS the model of the property's first sentence -/
theorem corrections_off_is_the_plain_reference (kT kA : BlockKeys) (hapX : Bool) (par : Option String)
    (sexes : List (String × Bool)) (targets : List Sample) (anti : Option (List Sample)) :
    doReferenceOpts false false false kT kA hapX par sexes targets anti = doReference hapX par sexes targets anti :=
  doReferenceOn_off _ _ (blockCfg_off true kT) (blockCfg_off false kA) hapX par sexes targets anti

/-- … and so is a block none of whose key columns exists (no FASTA, no gc column, antitargets: no edge keys) -/
theorem no_key_column_no_correction (cfg : CorrCfg) (hg : cfg.gc = none) (hr : cfg.rmask = none) (he : cfg.edge = none)
    (hapX : Bool) (par : Option String) (skipLow : Bool) (sexes : List (String × Bool)) (samples : List Sample) :
    refBlockOn cfg hapX par skipLow sexes samples = refBlock hapX par skipLow sexes samples :=
  refBlockOn_off cfg hg hr he hapX par skipLow sexes samples

/-- with corrections on, a reference block still has exactly the bins of the coverage files, in order -/
theorem corrected_reference_has_exactly_the_bins (cfg : CorrCfg) (hapX : Bool) (par : Option String) (skipLow : Bool)
    (sexes : List (String × Bool)) (samples : List Sample) (out : List RefOut) (first : Sample) (rest : List Sample)
    (hs : sortSamples samples = first :: rest)
    (h : refBlockOn cfg hapX par skipLow sexes samples = .ok out) :
    out.map (fun o => (o.chrom, o.s, o.e, o.gene)) = first.rows.map binKey :=
  blockBy_rows_bins _ hapX par sexes samples out first rest hs h

/-- … and files whose bins differ are still rejected -/
theorem corrected_reference_rejects_differing_bins (cfg : CorrCfg) (hapX : Bool) (par : Option String) (skipLow : Bool)
    (sexes : List (String × Bool)) (samples : List Sample) (first : Sample) (rest : List Sample) (bad : Sample)
    (hs : sortSamples samples = first :: rest) (hne : first.rows ≠ [])
    (hb : bad ∈ rest) (hd : bad.rows.map binKey ≠ first.rows.map binKey) :
    ∃ e, refBlockOn cfg hapX par skipLow sexes samples = .error e := by
  rw [refBlockOn_eq]
  exact blockBy_error _ _ samples first rest bad hs hne hb hd

/-- normals that differ only in sequencing depth contribute the same values WITH the corrections on, whatever the
    key columns, the shuffle and the window: the depth scale is removed by the centring before any correction runs
    (the correspondence run tests the same clause: `depth_only_normals_same_profile_corrections_on`, harness/props/C05.py) -/
theorem depth_scale_collapses_with_corrections (cfg : CorrCfg) (hapX : Bool) (par : Option String) (isXX : Option Bool)
    (flat : List Rat) (rows : List CovRow) (c : Rat) (hne : rows ≠ []) :
    sampleLogrOn cfg hapX par false isXX flat (rows.map (fun r => { r with log2 := r.log2 + c }))
      = sampleLogrOn cfg hapX par false isXX flat rows := by
  unfold sampleLogrOn
  rw [sampleLogr_depth_scale hapX par false isXX flat rows c (autosomesOf_ne_nil _ par _ (by simpa using hne)) nofun,
    correctLogr_rows_log2]

/-- the decision table: targets never get the RepeatMasker correction, antitargets never the edge correction, the
    edge correction of the targets follows `do_edge` alone, `do_gc = false` switches GC off everywhere and
    `do_rmask = false` the RepeatMasker correction -/
theorem which_correction_runs_where (doGc doEdge doRmask : Bool) (k : BlockKeys) :
    (blockCfg true doGc doEdge doRmask k).rmask = none ∧
    (blockCfg false doGc doEdge doRmask k).edge = none ∧
    (blockCfg true doGc doEdge doRmask k).edge = (if doEdge then some k.edge else none) ∧
    (doGc = false → (blockCfg true doGc doEdge doRmask k).gc = none ∧ (blockCfg false doGc doEdge doRmask k).gc = none) ∧
    (doRmask = false → (blockCfg false doGc doEdge doRmask k).rmask = none) :=
  ⟨rfl, rfl, rfl, fun h => by subst h; exact ⟨rfl, rfl⟩, fun h => by subst h; rfl⟩

/-- with a genome FASTA its G+C fractions are the GC key (a gc column in the files is then ignored) and its lowercase
    fractions the antitargets' RepeatMasker key; without one the files' gc column is the GC key -/
theorem where_the_gc_key_comes_from (isTarget doEdge doRmask : Bool) (k : BlockKeys) (g m : List Rat)
    (hk : k.fastaGc = some g) (hm : k.fastaRm = some m) :
    (blockCfg isTarget true doEdge doRmask k).gc = some g ∧
    (blockCfg isTarget true doEdge doRmask { k with fastaGc := none, fastaRm := none }).gc = k.fileGc ∧
    (blockCfg false true doEdge true k).rmask = some m := by
  cases isTarget <;> cases doEdge <;> cases doRmask <;> simp [blockCfg, hk, hm]

/-- a sex given on the command line / as `female_samples` applies to the sample of every target file (and to nothing else) -/
theorem given_sex_applies_to_every_target_sample (f : Bool) (ids : List String) (tInf aInf : List (String × Option Bool))
    (k : String) : lookup (resolveSexes (some f) ids tInf aInf) k = if k ∈ ids then some f else none := by
  unfold resolveSexes
  rw [lookup_foldl_given]
  rfl

/-- sexes inferred: the answer from a sample's antitarget file wins; without one the answer from its target file
    stands; a sample without any answer has no entry (`shift_sex_chroms` then treats it like a male one) -/
theorem antitargets_decide_the_inferred_sex (ids : List String) (tInf aInf : List (String × Option Bool)) (k : String) :
    lookup (resolveSexes none ids tInf aInf) k =
      match lookup (inferSexes aInf) k with | some b => some b | none => lookup (inferSexes tInf) k :=
  lookup_foldl_update _ _ k (inferSexes_keys aInf)

/-- `infer_sexes` file by file: an answer is recorded under the file's sample id (replacing an earlier one), no
    answer (empty file, no sex chromosome) leaves the dictionary as it is -/
theorem inferred_sexes_file_by_file (inf : List (String × Option Bool)) (id : String) (ans : Option Bool) (k : String) :
    lookup (inferSexes (inf ++ [(id, ans)])) k =
      match ans with
      | some b => if k = id then some b else lookup (inferSexes inf) k
      | none => lookup (inferSexes inf) k := by
  unfold inferSexes
  rw [List.foldl_append]
  cases ans with
  | none => rfl
  | some b => simp only [List.foldl_cons, List.foldl_nil]; exact lookup_dictSet _ _ _ _

/-! non-vacuity: a block configuration in which every kind of key is live, and a sex dictionary -/
example :
    let k : BlockKeys := { fastaGc := some [3/10, 1/2], fastaRm := some [0, 1/4], fileGc := some [2/5, 2/5],
                           edge := [-1/3, -1/5], perm := [1, 0], wing := 1 }
    (blockCfg true true true true k).gc = some [3/10, 1/2] ∧ (blockCfg true true true true k).edge = some [-1/3, -1/5] ∧
    (blockCfg false true true true k).rmask = some [0, 1/4] ∧
    (blockCfg true true false false { k with fastaGc := none, fastaRm := none }).gc = some [2/5, 2/5] := by
  decide +kernel
example : ([⟨"chr1", 0, 100, "a", 1, 2⟩] : List CovRow) ≠ [] := by simp
example : lookup (resolveSexes none ["a", "b"] [("a", some true), ("b", some false)] [("a", some false), ("b", none)]) "a"
    = some false ∧
    lookup (resolveSexes none ["a", "b"] [("a", some true), ("b", some false)] [("a", some false), ("b", none)]) "b"
    = some false ∧ lookup (resolveSexes (some true) ["a"] [] []) "b" = none := by decide +kernel

end CnvVerif.C05
