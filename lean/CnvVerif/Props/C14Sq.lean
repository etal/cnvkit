/-
  C14: what the merged row holds in every column `squash_region` writes (Model/SegFilterExt5.lean), for
  all runs of rows and all column sets: the span, the distinct gene names in order, the weight-averaged depth / baf,
  the largest p_bintest, cn2 = cn - cn1, the row count for a table without probes.
-/
import CnvVerif.Lemmas.SegFilterExt5
namespace CnvVerif.C14
open CnvVerif CnvVerif.C14Sq

/-- the merged row starts where the run's first row starts, ends where its last row ends, on the first row's chromosome -/
theorem merged_row_spans_first_start_to_last_end (cols : List String) (a : XRow) (rest : List XRow) :
    cellOf "start" (squashRowX cols (a :: rest)) = some (.num (a.s : Rat)) ∧
    cellOf "end" (squashRowX cols (a :: rest)) = some (.num (((a :: rest).getLast (by simp)).e : Rat)) ∧
    cellOf "chromosome" (squashRowX cols (a :: rest)) = some (.str a.chrom) := by
  refine ⟨?_, ?_, ?_⟩
  · rw [squashRowX, squashCols_cell _ (i := 1) rfl, if_pos rfl, redsOf_first_cons, numCol_start]
  · rw [squashRowX, squashCols_cell _ (i := 2) rfl, if_pos rfl, redsOf_last _ _ (by simp), numCol_end]
  · rw [squashRowX, squashCols_cell _ (i := 0) rfl, if_pos rfl, redsOf_firstS_cons, strCol_chrom]

/-- the merged gene cell joins the run's DISTINCT gene names, each once, in the order of their first appearance -/
theorem merged_gene_is_the_distinct_names_in_order (cols : List String) (rows : List XRow) :
    ∃ l : List String, cellOf "gene" (squashRowX cols rows) = some (.str (",".intercalate l)) ∧
      l.Nodup ∧ l.Sublist (rows.map (·.gene)) ∧ ∀ g, g ∈ l ↔ ∃ r ∈ rows, r.gene = g := by
  refine ⟨(rows.map (·.gene)).eraseDups, ?_, nodup_eraseDups _, eraseDups_sublist _, ?_⟩
  · rw [squashRowX, squashCols_cell _ (i := 4) rfl, if_pos rfl, redsOf_joinUniq, strCol_gene]
  · intro g
    rw [List.mem_eraseDups, List.mem_map]

/-- with weight in the run, depth times the total weight is the sum of depth times weight: the weight-averaged depth -/
theorem merged_depth_is_the_weighted_mean (cols : List String) (rows : List XRow)
    (hd : cols.contains "depth" = true) (hw : sumRat (rows.map (·.weight)) > 0) :
    ∃ d : Rat, cellOf "depth" (squashRowX cols rows) = some (.num d) ∧
      d * sumRat (rows.map (·.weight)) = sumRat (rows.map (fun r => r.depth * r.weight)) :=
  wmean_cell_spec cols rows "depth" _ numCol_depth (i := 7) rfl hd hw

/-- the same for the B-allele frequency -/
theorem merged_baf_is_the_weighted_mean (cols : List String) (rows : List XRow)
    (hd : cols.contains "baf" = true) (hw : sumRat (rows.map (·.weight)) > 0) :
    ∃ d : Rat, cellOf "baf" (squashRowX cols rows) = some (.num d) ∧
      d * sumRat (rows.map (·.weight)) = sumRat (rows.map (fun r => r.baf * r.weight)) :=
  wmean_cell_spec cols rows "baf" _ numCol_baf (i := 8) rfl hd hw

/-- a run without weight: the plain mean of the depths -/
theorem merged_depth_without_weight_is_the_mean (cols : List String) (rows : List XRow)
    (hd : cols.contains "depth" = true) (hw : ¬ sumRat (rows.map (·.weight)) > 0) :
    cellOf "depth" (squashRowX cols rows) =
      some (.num (sumRat (rows.map (·.depth)) / (rows.length : Rat))) := by
  rw [squashRowX, squashCols_cell _ (i := 7) rfl, redsOf_has, if_pos hd, wmeanCell_redsOf, if_neg hw, numCol_depth]

/-- p_bintest of the merged row is the LARGEST of the run: no member exceeds it and some member has it -/
theorem merged_pbintest_is_the_largest (cols : List String) (rows : List XRow) (hne : rows ≠ [])
    (hp : cols.contains "p_bintest" = true) :
    ∃ m : Rat, cellOf "p_bintest" (squashRowX cols rows) = some (.num m) ∧
      (∀ r ∈ rows, r.pb ≤ m) ∧ ∃ r ∈ rows, r.pb = m := by
  have hne' : rows.map (·.pb) ≠ [] := by simpa using hne
  obtain ⟨hub, hmem⟩ := maxL_spec (rows.map (·.pb)) hne'
  refine ⟨maxL (rows.map (·.pb)), ?_, ?_, ?_⟩
  · rw [squashRowX, squashCols_cell _ (i := 12) rfl, redsOf_has, if_pos hp, ← numCol_pb]
    rfl
  · intro r hr
    exact hub _ (List.mem_map_of_mem hr)
  · obtain ⟨r, hr, e⟩ := List.mem_map.mp hmem
    exact ⟨r, hr, e⟩

/-- allele-specific copy numbers of the merged row add up: cn2 = cn - cn1 -/
theorem merged_cn2_is_cn_minus_cn1 (cols : List String) (rows : List XRow)
    (h : cols.contains "cn" = true) (h1 : cols.contains "cn1" = true) :
    ∃ a b : Rat, cellOf "cn" (squashRowX cols rows) = some (.num a) ∧
      cellOf "cn1" (squashRowX cols rows) = some (.num b) ∧
      cellOf "cn2" (squashRowX cols rows) = some (.num (a - b)) := by
  have h2 : ((redsOf cols rows).has "cn" && (redsOf cols rows).has "cn1") = true := Bool.and_eq_true_iff.mpr ⟨h, h1⟩
  exact ⟨_, _, (squashCols_cell _ (i := 9) rfl).trans (if_pos h), (squashCols_cell _ (i := 10) rfl).trans (if_pos h2),
    (squashCols_cell _ (i := 11) rfl).trans (if_pos h2)⟩

/-- the optional columns exist in the merged row exactly when the table has them (cn1 / cn2 only next to cn) -/
theorem merged_optional_columns (cols : List String) (rows : List XRow) :
    ((cellOf "depth" (squashRowX cols rows)).isSome = cols.contains "depth") ∧
    ((cellOf "baf" (squashRowX cols rows)).isSome = cols.contains "baf") ∧
    ((cellOf "p_bintest" (squashRowX cols rows)).isSome = cols.contains "p_bintest") ∧
    ((cellOf "cn2" (squashRowX cols rows)).isSome = (cols.contains "cn" && cols.contains "cn1")) :=
  ⟨squashCols_cell_isSome _ (i := 7) rfl, squashCols_cell_isSome _ (i := 8) rfl,
   squashCols_cell_isSome _ (i := 12) rfl, squashCols_cell_isSome _ (i := 11) rfl⟩

/-- a table without a probes column: each row counts as one probe -/
theorem merged_probes_counts_rows_without_column (cols : List String) (rows : List XRow)
    (h : cols.contains "probes" = false) :
    cellOf "probes" (squashRowX cols rows) = some (.num (rows.length : Rat)) := by
  rw [squashRowX, squashCols_cell _ (i := 5) rfl, if_pos rfl, if_neg (by rw [redsOf_has, h]; decide)]
  rfl

/-- on the columns the model `squashRegion` (Model/SegFilter.lean) has, the merged row of this module IS that model's row: the
    theorems of Props/C14.lean / C14Ext.lean about `squashRegion` speak about the same cells -/
theorem merged_row_extends_squashRegion (cols : List String) (h : Bool) (a : XRow) (rest : List XRow)
    (hp : cols.contains "probes" = true) :
    ∃ sg : Seg, squashRegion ((a :: rest).map (toSeg h)) = some sg ∧
      cellOf "chromosome" (squashRowX cols (a :: rest)) = some (.str sg.chrom) ∧
      cellOf "start" (squashRowX cols (a :: rest)) = some (.num (sg.s : Rat)) ∧
      cellOf "end" (squashRowX cols (a :: rest)) = some (.num (sg.e : Rat)) ∧
      cellOf "log2" (squashRowX cols (a :: rest)) = some (.num sg.log2) ∧
      cellOf "gene" (squashRowX cols (a :: rest)) = some (.str sg.gene) ∧
      cellOf "probes" (squashRowX cols (a :: rest)) = some (.num (sg.probes : Rat)) ∧
      cellOf "weight" (squashRowX cols (a :: rest)) = some (.num sg.weight) := by
  obtain ⟨hs, he, hc⟩ := merged_row_spans_first_start_to_last_end cols a rest
  refine ⟨_, rfl, hc, hs, ?_, ?_, ?_, ?_, ?_⟩
  · rw [he]
    show _ = some (Cell.num ((((a :: rest).map (toSeg h)).getLast?.getD (toSeg h a)).e : Rat))
    rw [List.getLast?_map, List.getLast?_eq_some_getLast (by simp)]
    rfl
  · rw [squashRowX, squashCols_cell _ (i := 3) rfl, if_pos rfl, wmeanCell_redsOf, numCol_log2]
    simp only [List.map_map, List.length_map]
    rfl
  · rw [squashRowX, squashCols_cell _ (i := 4) rfl, if_pos rfl, redsOf_joinUniq, strCol_gene]
    simp only [List.map_map]
    rfl
  · rw [squashRowX, squashCols_cell _ (i := 5) rfl, if_pos rfl, if_pos (by rw [redsOf_has, hp]), redsOf_sum,
      numCol_probes, cast_sumInt]
    simp only [List.map_map]
    rfl
  · rw [squashRowX, squashCols_cell _ (i := 6) rfl, if_pos rfl, redsOf_sum, numCol_weight]
    simp only [List.map_map]
    rfl

/-- non-vacuity: two rows, unequal weights, depth 10 and 40 -> depth (10*1 + 40*3)/4 -/
example : cellOf "depth" (squashRowX ["depth"]
    [{ chrom := "chr1", s := 0, e := 10, gene := "A", log2 := 0, probes := 1, weight := 1, depth := 10 },
     { chrom := "chr1", s := 20, e := 30, gene := "A", log2 := 0, probes := 1, weight := 3, depth := 40 }])
    = some (.num (65 / 2)) := by decide +kernel

end CnvVerif.C14
