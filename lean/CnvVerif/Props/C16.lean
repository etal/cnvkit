/-
  C16 — gene-level grouping yields each gene's own bins, each bin exactly once.
  Property theorems only; helper lemmas live in Lemmas/Genes.lean (`by_gene`), Lemmas/GenesReports.lean (genemetrics,
  breaks) and Lemmas/GenesContig.lean (the executable hypothesis); for the squash loop its definitions and lemmas are in
  Props/C16SquashLoop.lean; the model is Model/Genes.lean.  "fix L": DESIGN.md 9.3.

  Vocabulary (Model/Genes.lean): a `Bin` carries its pandas index label; `names b` are the
  comma-separated names of a bin, `named ign b` those that are neither ignored nor an Antitarget
  alias; `Contiguous ign rs` is the property's hypothesis for the rows of one chromosome ("every
  named gene's bins are consecutive, possibly interrupted only by Antitarget or ignored-name
  bins"), `TableContiguous` the same for every chromosome of a table; `slice rs a b` = `iloc[a:b]`.
-/
import CnvVerif.Lemmas.Genes
import CnvVerif.Lemmas.GenesReports
import CnvVerif.Lemmas.GenesContig
import CnvVerif.Props.C16SquashLoop
namespace CnvVerif.C16
open CnvVerif CnvVerif.Genes

/-! ### the constants the property names -/

/-- the names that never form a gene: '-', '.', 'CGH' and the Antitarget aliases -/
theorem ignored_names_are :
    fullIgnore defaultIgnore = ["-", ".", "CGH", "Antitarget", "Background"] ∧ antitarget = "Antitarget" := by
  decide +kernel

/-- `skip_low` drops the bins below log2 −15 (= −20 − (−5)) -/
theorem low_coverage_cutoff : minCvg = -15 := by decide +kernel

/-! ### by_gene on one chromosome -/

/-- **each bin exactly once, in genomic order**: concatenating the yielded groups gives back the
    chromosome's rows -/
theorem byGene_partition (ignore : List String) (rs : List Bin)
    (h : Contiguous (fullIgnore ignore) rs) :
    ((byGeneChrom ignore rs).map (·.2)).flatten = rs := byGeneChrom_flatten ignore rs h

/-- **a gene's group is exactly its bins from first to last**: it is the slice `[f, l]` where `f`
    and `l` carry the gene's name and no bin outside `[f, l]` does (no hypothesis needed) -/
theorem byGene_gene_group_exact (ignore : List String) (rs : List Bin) (g : String) (grp : List Bin)
    (hmem : (g, grp) ∈ byGeneChrom ignore rs) (hg : (fullIgnore ignore).contains g = false) :
    ∃ f l, f ≤ l ∧ grp = slice rs f (l + 1) ∧
      (∃ b, rs[f]? = some b ∧ g ∈ names b) ∧ (∃ b, rs[l]? = some b ∧ g ∈ names b) ∧
      ∀ i b, rs[i]? = some b → g ∈ names b → f ≤ i ∧ i ≤ l := by
  obtain ⟨S, hS, e⟩ := byGeneChrom_spec ignore rs
  rcases mem_goSpans _ _ _ (e ▸ hmem) with ⟨s, hs, hp⟩ | hp
  · cases hp
    have x := hS.exact s hs
    exact ⟨s.first, s.last, x.le, rfl, x.first, x.last, fun i b hb hn => x.range i ⟨b, hb, hn⟩⟩
  · rw [show g = antitarget from hp, antitarget_ignored] at hg
    cases hg

/-- **every named gene gets exactly one group**: the gene-labelled groups carry pairwise different
    names, and a name labels a group iff it is a (non-ignored) name of some bin -/
theorem byGene_each_gene_once (ignore : List String) (rs : List Bin) :
    (((byGeneChrom ignore rs).map (·.1)).filter (fun g => !(fullIgnore ignore).contains g)).Nodup ∧
    ∀ g, g ∈ ((byGeneChrom ignore rs).map (·.1)).filter (fun g => !(fullIgnore ignore).contains g) ↔
      ((fullIgnore ignore).contains g = false ∧ ∃ b ∈ rs, g ∈ names b) := by
  obtain ⟨S, hS, e⟩ := byGeneChrom_spec ignore rs
  rw [e, goSpans_labels _ (by rw [antitarget_ignored]; rfl) _ 0 (fun s hs => by rw [hS.notIgnored s hs]; rfl)]
  exact hS.genes

/-- **the other groups are the stretches of other bins**: a group whose label is not a gene is
    labelled Antitarget, is not empty and holds only bins without a gene name … -/
theorem byGene_antitarget_gaps (ignore : List String) (rs : List Bin)
    (h : Contiguous (fullIgnore ignore) rs) (g : String) (grp : List Bin)
    (hmem : (g, grp) ∈ byGeneChrom ignore rs) (hg : (fullIgnore ignore).contains g = true) :
    g = antitarget ∧ grp ≠ [] ∧ ∀ b ∈ grp, named (fullIgnore ignore) b = [] := by
  obtain ⟨S, hS, e⟩ := byGeneChrom_spec ignore rs
  rcases goSpans_gaps _ 0 hS.wf (hS.fits_iff.mpr h) _ (e ▸ hmem) with
    ⟨s, hs, hp⟩ | ⟨a, b, hp, _, hab, hb, hdis⟩
  · cases hp
    rw [hS.notIgnored s hs] at hg
    cases hg
  · cases hp
    exact ⟨rfl, slice_ne_nil hab hb, hS.unnamed_of_disjoint hdis⟩

/-- … and a stretch is never cut in two: no two consecutive groups are both Antitarget -/
theorem byGene_antitarget_maximal (ignore : List String) (rs : List Bin) :
    NoTwoAT (byGeneChrom ignore rs) := by
  obtain ⟨S, hS, e⟩ := byGeneChrom_spec ignore rs
  rw [e]
  refine goSpans_noTwoAT _ 0 (fun s hs he => ?_)
  have := hS.notIgnored s hs
  rw [he, antitarget_ignored] at this
  cases this

/-- **any index labelling** (default, offset, filtered, permuted): relabelling the rows relabels
    the groups and changes nothing else -/
theorem byGene_any_labelling (f : Bin → Int) (ignore : List String) (rs : List Bin) :
    byGeneChrom ignore (rs.map (relabel f)) =
      (byGeneChrom ignore rs).map (fun p => (p.1, p.2.map (relabel f))) :=
  byGeneChrom_map (relabel f) (names_relabel f) ignore rs

/-! ### by_gene on a whole table -/

/-- chromosome by chromosome, in the order `by_chromosome()` hands them out -/
theorem byGene_genomic_order (ignore : List String) (t : List Bin)
    (h : TableContiguous (fullIgnore ignore) t) :
    ((byGene ignore t).map (·.2)).flatten = ((byChrom t).map (·.2)).flatten :=
  byGene_flatten ignore t h

/-- **in genomic order**: when the rows of each chromosome are adjacent (a sorted table) the
    yielded groups, concatenated, are the table itself -/
theorem byGene_table_partition (ignore : List String) (t : List Bin)
    (h : TableContiguous (fullIgnore ignore) t) (hg : ChromGrouped t) :
    ((byGene ignore t).map (·.2)).flatten = t := by
  rw [byGene_flatten ignore t h, byChrom_flatten_of_grouped t hg]

/-- **every bin is yielded exactly once and none twice** (any row order) -/
theorem byGene_each_bin_once (ignore : List String) (t : List Bin)
    (h : TableContiguous (fullIgnore ignore) t) :
    (((byGene ignore t).map (·.2)).flatten).Perm t := byGene_perm ignore t h

/-- the check the driver runs before evaluating the clauses is this hypothesis -/
theorem hypothesis_decidable (ign : List String) (t : List Bin) :
    tableContiguousB ign t = true ↔ TableContiguous ign t := by
  simp only [tableContiguousB, TableContiguous, List.all_eq_true, contiguousB_iff]

/-! ### genemetrics -/

/-- **the reported row of a gene group**: the gene's true start, end, bin count, summed weight,
    weight-averaged depth and mean log2 -/
theorem genemetrics_row_exact (g : String) (rows : List Bin) (skip : Bool) (r : GRow)
    (h : groupRow g rows skip = some r) :
    ∃ first last, rows.head? = some first ∧ rows.getLast? = some last ∧
      r.gene = g ∧ r.chrom = first.chrom ∧ r.s = first.s ∧ r.e = last.e ∧
      r.probes = rows.length ∧ r.weight = sumRat (rows.map (·.weight)) ∧
      r.log2 = segmentMean rows skip ∧ r.segWeight = none ∧ r.segProbes = none ∧
      (r.weight ≠ 0 → r.depth = some (sumRat (rows.map (fun b => b.depth * b.weight)) / r.weight)) :=
  groupRow_fields h

/-- the mean is the weight-averaged log2 of the bins kept (all bins, or with `skip_low` those that
    are not below −15 and have depth ≠ 0) -/
theorem genemetrics_weighted_mean (rows : List Bin) (skip : Bool)
    (h : ((if skip then rows.filter keptLow else rows).any (fun b => b.weight != 0)) = true) :
    segmentMean rows skip =
      some (sumRat ((if skip then rows.filter keptLow else rows).map (fun b => b.log2 * b.weight)) /
            sumRat ((if skip then rows.filter keptLow else rows).map (·.weight))) := by
  unfold segmentMean
  have hne : (if skip then rows.filter keptLow else rows).isEmpty = false := by
    cases hk : (if skip then rows.filter keptLow else rows) with
    | nil => rw [hk] at h; simp at h
    | cons _ _ => rfl
  simp only [hne, h]
  simp

/-- **exactly the genes reaching the threshold with at least `min_probes` bins**: without
    segments, a row is reported iff it is the row of a gene group (of the sex-adjusted table)
    whose mean reaches the threshold and that has at least `minProbes` bins -/
theorem genemetrics_selection (t : List Bin) (thr : Rat) (minProbes : Nat) (skip hapX : Bool)
    (isXX : Option Bool) (out : List GRow)
    (h : doGenemetrics t none thr minProbes skip hapX isXX = .ok out) (r : GRow) :
    r ∈ out ↔
      ∃ g grp, (g, grp) ∈ byGene defaultIgnore (shiftBins t hapX isXX) ∧ grp ≠ [] ∧
        skipNames.contains g = false ∧ groupRow g grp skip = some r ∧
        reaches r.log2 thr = true ∧ (minProbes = 0 ∨ minProbes ≤ grp.length) := by
  simp only [doGenemetrics, Bool.false_eq_true, ↓reduceIte] at h
  split at h
  · cases h
  · cases h
    -- no row carries `segment_probes`: the filter is on the gene's own bin count
    have hplain : ∀ x ∈ metricsByGene (shiftBins t hapX isXX) thr skip, x.segProbes = none := by
      intro x hx
      obtain ⟨g, grp, _, _, _, hr, _⟩ := mem_metricsByGene.mp hx
      obtain ⟨_, _, _, _, _, _, _, _, _, _, _, _, hsp, _⟩ := groupRow_fields hr
      exact hsp
    rw [mem_minProbesFilter (Or.inr hplain)]
    constructor
    · rintro ⟨hx, hp⟩
      obtain ⟨g, grp, hm, hne, hs, hr, hreach⟩ := mem_metricsByGene.mp hx
      obtain ⟨_, _, _, _, _, _, _, _, hpr, _⟩ := groupRow_fields hr
      rw [hplain r hx, hpr] at hp
      exact ⟨g, grp, hm, hne, hs, hr, hreach, hp⟩
    · rintro ⟨g, grp, hm, hne, hs, hr, hreach, hp⟩
      obtain ⟨_, _, _, _, _, _, _, _, hpr, _⟩ := groupRow_fields hr
      have hx := mem_metricsByGene.mpr ⟨g, grp, hm, hne, hs, hr, hreach⟩
      exact ⟨hx, by rw [hplain r hx, hpr]; exact hp⟩

/-- **given segments**: for each segment reaching the threshold, the part of every gene inside it
    (the gene groups of the bins overlapping the segment) with the segment's log2 -/
theorem by_segment_parts (t : List Bin) (segs : List SegRow) (thr : Rat) (skip : Bool) (r : GRow) :
    r ∈ metricsBySegment t segs thr skip ↔
      ∃ sg ∈ segs, ratAbs sg.log2 ≥ thr ∧
        ∃ g grp r0, (g, grp) ∈ byGene defaultIgnore (binsOfSegment t sg) ∧ grp ≠ [] ∧
          skipNames.contains g = false ∧ groupRow g grp skip = some r0 ∧
          r = { r0 with log2 := some sg.log2, segWeight := sg.weight, segProbes := sg.probes } := by
  simp only [metricsBySegment, segmentPart, List.mem_flatMap, List.mem_filter, mem_segsInOrder,
    List.mem_map, mem_groupByGenes, decide_eq_true_eq]
  constructor
  · rintro ⟨sg, ⟨hs, hthr⟩, r0, ⟨g, grp, hm, hne, hsk, hr⟩, rfl⟩
    exact ⟨sg, hs, hthr, g, grp, r0, hm, hne, hsk, hr, rfl⟩
  · rintro ⟨sg, hs, hthr, g, grp, r0, hm, hne, hsk, hr, rfl⟩
    exact ⟨sg, ⟨hs, hthr⟩, r0, ⟨g, grp, hm, hne, hsk, hr⟩, rfl⟩

/-- the bins inside a segment: same chromosome, overlapping it -/
theorem bins_inside_segment (t : List Bin) (sg : SegRow) (b : Bin) :
    b ∈ binsOfSegment t sg ↔ b ∈ t ∧ b.chrom = sg.chrom ∧ sg.s < b.e ∧ b.s < sg.e := by
  simp [binsOfSegment, and_assoc]

/-! ### squash_genes -/

/-- **one row per gene with those coordinates**: a gene group becomes a single row on the gene's
    chromosome from its first bin's start to its last bin's end … -/
theorem squash_one_row_per_gene (f : Summary) (sa : Bool) (g : String) (grp : List Bin)
    (hg : Generated.ANTITARGET_ALIASES.contains g = false) (hne : grp ≠ []) :
    ∃ r first last, squashGroup f sa (g, grp) = [r] ∧ grp.head? = some first ∧ grp.getLast? = some last ∧
      r.chrom = first.chrom ∧ r.s = first.s ∧ r.e = last.e ∧ (2 ≤ grp.length → r.gene = g) := by
  -- the one row is `squashloopRow`; its fields are read off `squash_rows` for one bin and for several
  refine ⟨squashloopRow f g grp, ?_⟩
  have hrow := squashloop_one_row f sa g grp hne (Or.inl hg)
  match grp, hne, hrow with
  | [a], _, hrow => exact ⟨a, a, hrow, rfl, rfl, rfl, rfl, rfl, fun h => absurd h (Nat.not_succ_le_self 1)⟩
  | a :: b :: bs, _, hrow =>
    have hl := List.getLast?_eq_some_getLast (List.cons_ne_nil a (b :: bs))
    refine ⟨a, _, hrow, rfl, hl, ?_⟩
    unfold squashloopRow squashRows
    rw [hl]
    exact ⟨rfl, rfl, rfl, fun _ => rfl⟩

/-- … the other bins stay as they are, and the table is the groups of `by_gene` in order -/
theorem squash_keeps_other_bins (f : Summary) (ignore : List String) (t : List Bin) :
    squashGenes f false ignore t = (byGene ignore t).flatMap (squashGroup f false) ∧
    ∀ g grp, Generated.ANTITARGET_ALIASES.contains g = true → squashGroup f false (g, grp) = grp :=
  ⟨rfl, squashloop_passthrough f⟩

/-! ### breaks -/

/-- **breaks lists exactly the genes with at least `min_probes` bins on each side of a boundary
    between two segments** (`min_probes ≥ 1`, bins of positive length) -/
theorem breaks_exact (t : List Bin) (m : Nat) (segs : List SegRow) (hm : 1 ≤ m)
    (hpos : ∀ b ∈ t, b.s < b.e) (brk : Brk) :
    brk ∈ breakpoints t m segs ↔
      ∃ cur nxt, Consecutive cur nxt segs ∧ nxt.chrom = cur.chrom ∧
        ∃ g, (fullIgnore defaultIgnore).contains g = false ∧ geneBins t cur.chrom g ≠ [] ∧
          m ≤ (geneBins t cur.chrom g).countP (fun b => decide (b.s < cur.e)) ∧
          m ≤ (geneBins t cur.chrom g).countP (fun b => decide (b.s ≥ cur.e)) ∧
          brk = { gene := g, chrom := cur.chrom, loc := cur.e, change := nxt.log2 - cur.log2,
                  left := (geneBins t cur.chrom g).countP (fun b => decide (b.s < cur.e)),
                  right := (geneBins t cur.chrom g).countP (fun b => decide (b.s ≥ cur.e)) } := by
  rw [mem_breakpoints]
  constructor
  · rintro ⟨cur, nxt, hc, hb⟩
    exact ⟨cur, nxt, hc, (mem_breaksAt t m cur nxt hm hpos brk).mp hb⟩
  · rintro ⟨cur, nxt, hc, hb⟩
    exact ⟨cur, nxt, hc, (mem_breaksAt t m cur nxt hm hpos brk).mpr hb⟩

/-! ### the code before fix L, and non-vacuity -/

/-- two bins of gene A and one trailing '-' bin; on a second chromosome two bins of gene B with an Antitarget bin
    between them, then a trailing CGH bin -/
def demo : List Bin :=
  [⟨0, "chr1", 0, 10, "A", 1, 1, 1⟩, ⟨1, "chr1", 10, 20, "A", 1, 1, 1⟩, ⟨2, "chr1", 20, 30, "-", -3, 1, 1⟩,
   ⟨3, "chr2", 0, 10, "B", 1, 1, 1⟩, ⟨4, "chr2", 10, 20, "Antitarget", 0, 1, 1⟩, ⟨5, "chr2", 20, 30, "B", 1, 1, 1⟩,
   ⟨6, "chr2", 30, 40, "CGH", 0, 1, 1⟩]

/-- before fix L (label-based, end-inclusive `.loc` slices) gene A swallowed the next bin, the
    trailing bin of chr1 was yielded by nobody else, chr2 opened with a spurious Antitarget group
    holding B's first bin and lost its trailing bin -/
theorem prefix_counterexample :
    (byGeneLoc defaultIgnore demo).map (fun p => (p.1, p.2.map (·.label))) =
      [("A", [0, 1, 2]), ("Antitarget", [3]), ("B", [3, 4, 5, 6])] := by decide +kernel

/-- the repaired code on the same table -/
theorem repaired_example :
    (byGene defaultIgnore demo).map (fun p => (p.1, p.2.map (·.label))) =
      [("A", [0, 1]), ("Antitarget", [2]), ("B", [3, 4, 5]), ("Antitarget", [6])] := by decide +kernel

/-- the demo table meets the hypothesis (gene B is interrupted by an Antitarget bin) -/
example : TableContiguous (fullIgnore defaultIgnore) demo :=
  (hypothesis_decidable _ _).mp (by decide +kernel)

/-- … and its groups, concatenated, are the table itself, as `byGene_table_partition` says of a table whose chromosomes
    are adjacent blocks (here by evaluation) -/
example : ((byGene defaultIgnore demo).map (·.2)).flatten = demo := by decide +kernel

/-- a table with interleaved genes does not -/
example : ¬ Contiguous (fullIgnore defaultIgnore)
    [⟨0, "chr1", 0, 10, "A", 1, 1, 1⟩, ⟨1, "chr1", 10, 20, "B", 1, 1, 1⟩, ⟨2, "chr1", 20, 30, "A", 1, 1, 1⟩] :=
  fun h => absurd ((contiguousB_iff _ _).mpr h) (by decide +kernel)

/-- genemetrics on the demo table (threshold 1/5, min_probes 2): A and B with their own bins -/
example : (doGenemetrics demo none (1/5) 2 false false (some true)).toOption.map
      (fun rows => rows.map (fun r => (r.gene, r.s, r.e, r.probes))) =
    some [("A", 0, 20, 2), ("B", 0, 30, 3)] := by decide +kernel

/-- breaks on the demo table: a boundary at 10 on chr2 splits gene B one bin against one -/
example : ({ gene := "B", chrom := "chr2", loc := 10, change := 1, left := 1, right := 1 } : Brk) ∈
    breakpoints demo 1 [⟨"chr2", 0, 10, "-", 0, none, none⟩, ⟨"chr2", 10, 40, "-", 1, none, none⟩] :=
  (breaks_exact demo 1 _ (by decide) (by decide) _).mpr
    ⟨⟨"chr2", 0, 10, "-", 0, none, none⟩, ⟨"chr2", 10, 40, "-", 1, none, none⟩, ⟨[], [], rfl⟩, rfl, "B",
     by decide, by decide, by decide, by decide, by decide +kernel⟩

end CnvVerif.C16
