/-
  C07: tie to the source TEXT of skgenome/intersect.py -- the summary choice of into_ranges.  `Generated.src_*` (Generated/ExprsRanges.lean) is
  re-translated from /repo's Python on every run (harness/exprtrans_c07.py: one table, one query); the
  theorems state that the hand-written model IS that term, for every summary argument, first cell and list of hits.  A module of its own, so that an
  edit to this code path breaks exactly this obligation.
-/
import CnvVerif.Lemmas.SrcRangesSummary
namespace CnvVerif.C07
open CnvVerif

/-- `into_ranges`: the summary is chosen by the cascade in the source (type of the first cell; non-callable →
    constant; callable → itself) … -/
theorem summary_choice_is_the_source (s : Summary) (first : Val) :
    pickSummary s first =
      Src.summaryOfCode s (Generated.src_into_ranges_summary (Src.Summary.isNone s) (Src.Summary.isCallable s)
        (Src.Val.isStr first) (Src.Val.isFloat first)) := by
  cases s
  · cases first <;> rfl
  · rfl
  · rfl

/-- … and applied as `series2value` does: default for no hit, the value itself for one, the summary otherwise -/
theorem series2value_is_the_source (d : Val) (f : List Val → Val) (vs : List Val) :
    seriesToValue d f vs =
      (match Generated.src_series2value vs.length with
       | 0 => d
       | 1 => vs.headD d
       | _ => f vs) := by
  match vs with
  | [] => rfl
  | [v] => rfl
  | v :: w :: rest => rfl

end CnvVerif.C07
