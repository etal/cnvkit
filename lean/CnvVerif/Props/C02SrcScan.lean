/-
  C02: tie of the THRESHOLD SCAN to the source text.  `Generated/ExprsScan.lean` is re-translated from
  `call.absolute_threshold` on every run (`scan_rows` of harness/exprtrans.py): the loop
  `for cnum, thresh in enumerate(thresholds): if row.log2 <= thresh: ...; break` with its `else`, as a recursion over the
  threshold list.  The theorems state that the model's `thresholdCall` is that recursion, for every list.
-/
import CnvVerif.Props.C02
import CnvVerif.Lemmas.SrcScan
namespace CnvVerif.C02
open CnvVerif

/-- a row with a log2 value: comparison `log2 ≤ thresh`, scaling `int(cnum·ref_copies/ploidy)` when the reference copies
    differ from the ploidy, `int(ceil(ref_copies·2^log2))` when no threshold is reached -/
theorem threshold_scan_is_the_source (thr : List Rat) (ploidy r : Nat) (v t : Rat) :
    ((thresholdCall thr ploidy r (some v) t : Int) : Rat) =
      Generated.src_absolute_threshold_row v t (ploidy : Rat) (r : Rat) thr := by
  unfold Generated.src_absolute_threshold_row
  rw [Src.scan_from thr ploidy r v t 0, thresholdCall_some]
  cases thr.findIdx? (fun th => decide (v ≤ th)) <;> simp only [Nat.zero_add]

set_option linter.unusedTactic false in
set_option linter.unreachableTactic false in
/-- a row whose log2 is NaN: the reference copies -/
theorem threshold_nan_is_the_source (thr : List Rat) (ploidy r : Nat) (v t : Rat) :
    ((thresholdCall thr ploidy r none t : Int) : Rat) =
      Generated.src_absolute_threshold_nan v t (ploidy : Rat) (r : Rat) := by
  unfold Generated.src_absolute_threshold_nan thresholdCall
  first | rfl | simp

/-- the reference copies the scan reads come from `_reference_copies_pure` of the row's chromosome, the ploidy and the
    reference sex (tied to the model by C01 `reference_copies_pure_is_the_source`) -/
theorem threshold_scan_reference_copies :
    Generated.src_absolute_threshold_calls = ["_reference_copies_pure(chromosome, ploidy, is_haploid_x_reference)"] := rfl

example : Generated.src_absolute_threshold_row (1/10) 1 2 1 [-11/10, -1/4, 1/5, 7/10] = 1 := by decide +kernel

end CnvVerif.C02
