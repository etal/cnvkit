/-
  C06: tie to the source TEXT (subtract: the BODY of the keeper loop of `_subtraction` -- which of the four `np.r_`
  assemblies of `starts` / `ends` is taken when, and what is yielded).
  `Generated.src_subloop_*` (Generated/ExprsSubLoop.lean) is re-read from /repo's Python on every run by harness/subloop.py.
  These theorems state that the model's `subtractRow` / `subtractTable` EQUAL that reading, for every keeper and every
  list of excluded rows.
-/
import CnvVerif.Props.C06
import CnvVerif.Lemmas.SrcIntervalSubLoop
namespace CnvVerif.C06
open CnvVerif CnvVerif.Generated

/-- one keeper: the (start, end) pairs of the model's `subtractRow` ARE the pairs the source loop body yields from the
    keeper's (start, end) and the start / end columns of its excluded rows -- the keeper itself when nothing is excluded;
    else `zip(starts, ends)` filtered by `end > start`, with `starts` / `ends` assembled by the case
    (keep_left, keep_right, more than one excluded row) exactly as the source's `np.r_` expressions do; nothing when one
    excluded row covers the keeper -/
theorem subtract_row_loop_is_the_source (k : Row) (ex : List Row) :
    (subtractRow k ex).map (fun x => (x.s, x.e)) = src_subloop_body k.s k.e (ex.map (·.s)) (ex.map (·.e)) := by
  cases ex with
  | nil => rfl
  | cons f t =>
    have hl : ((f :: t).map (·.e)).getLastD 0 = ((f :: t).getLast?.getD f).e := by
      rw [List.getLastD_eq_getLast?, List.getLast?_map, List.getLast?_eq_some_getLast (List.cons_ne_nil f t)]; rfl
    have hh : ((f :: t).map (·.s)).headD 0 = f.s := rfl
    have hlen : (f :: t).length ≠ 0 := Nat.succ_ne_zero _
    simp only [subtractRow, src_subloop_body, Src.subLoop_filter_pairs, hl, hh, List.length_map, List.append_nil,
      List.singleton_append, if_pos hlen]
    -- both sides branch on the same two edge tests; in each of the four cases they assemble the same pairs
    by_cases h1 : k.s < f.s <;> by_cases h2 : k.e > ((f :: t).getLast?.getD f).e <;>
      simp only [h1, h2, decide_true, decide_false, Bool.and_self, Bool.and_false, Bool.false_and, if_true, if_false,
        Bool.false_eq_true]
    exact apply_ite (List.flatMap _) _ _ _

/-- … and every yielded row is the keeper with only `start` / `end` replaced -/
theorem subtract_row_loop_replaces_only_start_end (k : Row) (ex : List Row) :
    ∀ x ∈ subtractRow k ex, { x with s := k.s, e := k.e } = k :=
  subtractRow_fields k ex

/-- the whole generator: the loop runs over `by_ranges(other, table, "outer", True)` (`other` merged by `subtract`),
    carries nothing from one keeper to the next, and the table-level model yields exactly what the source loop yields -/
theorem subtract_table_loop_is_the_source (t other : Table) (hne : other.isEmpty = false) :
    src_subloop_over_by_ranges_outer = true ∧
    (subtractTable t other).map (fun x => (x.s, x.e)) =
      (byRangesDf (mergeTable 0 other) t .outer true).flatMap
        (fun p => src_subloop_body p.1.s p.1.e (p.2.map (·.s)) (p.2.map (·.e))) := by
  refine ⟨rfl, ?_⟩
  rw [subtractTable, if_neg (by simp [hne]), List.map_flatMap]
  exact congrArg (fun f => List.flatMap f _) (funext fun p => subtract_row_loop_is_the_source p.1 p.2)

/-! non-vacuity: the generated body on concrete keepers -- both edges kept, left only, right only, both edges cut with two
    excluded rows, covered, nothing excluded, an abutting pair discarded by `end > start` -/
example : src_subloop_body 0 100 [10, 40] [20, 50] = [(0, 10), (20, 40), (50, 100)] := by decide +kernel
example : src_subloop_body 0 100 [10, 90] [20, 120] = [(0, 10), (20, 90)] := by decide +kernel
example : src_subloop_body 0 100 [-5, 40] [20, 50] = [(20, 40), (50, 100)] := by decide +kernel
example : src_subloop_body 0 100 [-5, 90] [20, 120] = [(20, 90)] := by decide +kernel
example : src_subloop_body 0 100 [-5] [120] = [] ∧ src_subloop_body 0 100 [] [] = [(0, 100)] := by decide +kernel
example : src_subloop_body 0 100 [0, 20] [20, 50] = [(50, 100)] := by decide +kernel

end CnvVerif.C06
