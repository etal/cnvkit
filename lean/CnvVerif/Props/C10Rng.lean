/-
  C10 — "…the same table … under any state of the global random generators", with the closure of the RNG table
  extended to LIBRARY routines that draw from numpy's global generator internally (scipy k-means++, scikit-learn
  estimators with `random_state=None`, `DataFrame.sample`, `.rvs`): harness/extractors/effects_rng.py →
  Generated/EffectsRng.lean.  A function that reaches such a routine is in the table even when it never spells
  `np.random.*` itself, and its skeleton has a `draw "hidden"` loop where the library may draw.
  Also the exactness of the skeleton analysis for every skeleton (`skeleton_analysis_exact`; its soundness,
  `skeleton_analysis_sound`, stands in Props/C10.lean).
-/
import CnvVerif.Model.Effects
import CnvVerif.Lemmas.EffectsRng
import CnvVerif.Generated.EffectsConsts
import CnvVerif.Generated.EffectsRng
namespace CnvVerif.C10
open CnvVerif CnvVerif.Effects

/-- every public function of cnvlib / skgenome that reaches a global random generator — directly or inside a
    scipy / scikit-learn / pandas routine — re-seeds with a constant before the first possible draw, on every path -/
theorem all_skeletons_reseeded_incl_library_draws :
    Generated.RNG_TABLE_LIB.all (fun e => !e.2.1 || (safeSk e.2.2 false).isSome) = true := by decide +kernel

/-- hence every run of every such entry point draws the same values, inside the libraries too, whatever the
    generator state was -/
theorem entry_points_independent_of_rng_state_incl_library_draws {σ ν : Type} (g : Gen σ ν)
    (e : String × Bool × Sk) (he : e ∈ Generated.RNG_TABLE_LIB) (hpub : e.2.1 = true)
    (l t : List ROp) (hp : Path e.2.2 l) (ht : t <+: l) (s₁ s₂ : σ) : draws g t s₁ = draws g t s₂ :=
  draws_independent_of_table g all_skeletons_reseeded_incl_library_draws he hpub hp ht s₁ s₂

/-- the wider reading loses nothing: every function of the source-level table is in the extended one -/
theorem library_closure_extends_source_closure :
    Generated.RNG_TABLE.all (fun e => Generated.RNG_TABLE_LIB.any (fun x => x.1 == e.1 && x.2.1 == e.2.1)) = true :=
  -- the two tables list the same functions with the same visibility, row by row
  all_any_of_map_eq (fun e : String × Bool × Sk => (e.1, e.2.1)) rfl

/-- every library call read as a possible draw is either given a literal seed of its own or sits in a function of
    the table (and is therefore covered by `all_skeletons_reseeded_incl_library_draws`) -/
theorem library_draw_sites_are_seeded_or_listed :
    Generated.LIBRARY_DRAW_SITES.all (fun s => s.2.2.2 ||
      Generated.RNG_TABLE_LIB.any (fun e => e.1.endsWith ("." ++ s.2.1))) = true ∧
    Generated.LIBRARY_DRAW_SITES ≠ [] := by decide +kernel

/-- the analysis is exact, not only sound: it accepts a skeleton IF AND ONLY IF on every complete path through it
    every draw comes after a constant re-seeding — a rejection always comes with a real path that draws first -/
theorem skeleton_analysis_exact (sk : Sk) :
    (safeSk sk false).isSome = true ↔ ∀ l, Path sk l → safeOps l false = true := by
  constructor
  · intro h l hp
    obtain ⟨b', hb'⟩ := Option.isSome_iff_exists.mp h
    exact (safeSk_sound hp false b' hb').1
  · intro h
    cases hs : safeSk sk false with
    | some b' => rfl
    | none =>
      obtain ⟨l, hp, hu⟩ := safeSk_exact hs
      rw [h l hp] at hu
      cases hu

/-- the k-means step of `reference --cluster` is in the extended table with its library draw after the seed -/
example : Generated.SKL_cnvlib_cluster_kmeans =
    Sk.seq (Sk.op (ROp.seed (some 679661))) (Sk.star (Sk.op (ROp.draw "hidden"))) := rfl

/-- the skeleton of the PCA call without its seed (`pca_sk` draws first): rejected -/
example : safeSk (Sk.seq (Sk.star (Sk.op (ROp.draw "hidden")))
    (Sk.seq (Sk.op (ROp.seed (some 679661))) (Sk.star (Sk.op (ROp.draw "hidden"))))) false = none := by decide +kernel

/-- a real path: seed, then two draws inside scipy -/
example : Path Generated.SKL_cnvlib_cluster_kmeans [.seed (some 679661), .draw "hidden", .draw "hidden"] := by
  unfold Generated.SKL_cnvlib_cluster_kmeans
  exact Path.seq (Path.op _) (Path.starCons (l₁ := [_]) (Path.op _) (Path.starCons (l₁ := [_]) (Path.op _) Path.starNil))

end CnvVerif.C10
