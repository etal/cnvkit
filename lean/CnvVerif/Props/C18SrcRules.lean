/-
  C18: from the source text to the property's wording in one statement.  `Props/C18SrcChoose` says that `chooseNamesH` IS the
  re-read step sequence of `_choose_samples`; `Props/C18Bridge` says that on PEDIGREE-declared pairs `chooseNamesH` IS
  `chooseNames`; `sample_choice_rules` (Props/C18) says that `chooseNames` answers the documented rule `specPair`.  Together:
  the step sequence re-read from /repo on every run, instantiated on the model's data, answers "header-declared pairs first,
  else the given tumour and normal ids, else the first sample" and refuses exactly when that rule leaves no tumour sample.
-/
import CnvVerif.Props.C18Bridge
import CnvVerif.Props.C18SrcChoose
namespace CnvVerif.C18
open CnvVerif CnvVerif.Vcf

/-- the documented rule, for the model the driver runs (`chooseNamesH`), on PEDIGREE-declared pairs -/
theorem sample_choice_rules_H (samples : List String) (peds : List (String × String))
    (sid nid : Option String) (hnd : samples.Nodup)
    (hs : selOk samples sid = true) (hn : selOk samples nid = true) (hp : PedsValid samples peds) :
    chooseNamesH samples (peds.map bridgeLiftPair) sid nid =
      match specPair samples peds (truthy sid) (truthy nid) with
      | some p => .ok (some p.1, p.2)
      | none => .error .indexError := by
  rw [chooseNamesH_eq_chooseNames, sample_choice_rules samples peds sid nid hnd hs hn hp]
  cases specPair samples peds (truthy sid) (truthy nid) <;> rfl

/-- the source's own step sequence answers the documented rule -/
theorem source_steps_answer_the_documented_rule (samples : List String) (peds : List (String × String))
    (sid nid : Option String) (hnd : samples.Nodup)
    (hs : selOk samples sid = true) (hn : selOk samples nid = true) (hp : PedsValid samples peds) :
    Generated.src_choose_samples_pairs (P := SrcChoose.Pairs) (R := SrcChoose.Outcome)
        (!(peds.map bridgeLiftPair).isEmpty) (truthy nid).isSome (truthy sid).isSome
        [] ((peds.map bridgeLiftPair).map (fun p => (p.1, some p.2))) (SrcChoose.othersWithNormal samples nid)
        (SrcChoose.allUnpaired samples) [(sid, none)] (SrcChoose.keepSample sid) (fun ps => !ps.isEmpty)
        (SrcChoose.confirmUnique samples) (.error .indexError) SrcChoose.firstPair =
      match specPair samples peds (truthy sid) (truthy nid) with
      | some p => .ok (some p.1, p.2)
      | none => .error .indexError := by
  rw [← sample_choice_rules_H samples peds sid nid hnd hs hn hp, choose_samples_steps_are_the_source]
  simp [hs, hn]

/-- non-vacuity of the hypotheses on the sample names: a two-sample file, one sample selected or none -/
example : (["N", "T"] : List String).Nodup ∧ selOk ["N", "T"] (some "T") = true ∧ selOk ["N", "T"] none = true := by decide

end CnvVerif.C18
