/-
  C17: segments without bins and one-bin segments in `do_segmetrics` (Model/StatsSmallExt5c.lean, op
  `seg_small`).  Every statement holds for ANY behaviour of the statistics on two or more values (`B : Big`), any
  segment log2, any `--bootstrap` count and both values of `--smooth-bootstrap`.
-/
import CnvVerif.Props.C17
import CnvVerif.Model.StatsSmallExt5c
import CnvVerif.Lemmas.StatsSmall
namespace CnvVerif.C17
open CnvVerif.C17Small

/-- the population variance of one value is 0, whatever the value -/
theorem small_variance_singleton (x : Rat) : variance [x] = 0 :=
  variance_singleton x

/-- a segment without bins: every statistic, location, spread and interval, is NaN -/
theorem small_empty_all_nan (B : Big) (sm : Bool) (n : Nat) (s : Rat) :
    (segRow B sm n s []).cells = List.replicate 14 Cell.nan := by
  rw [segRow_nil]
  rfl

/-- a one-bin segment: mean, median and mode are the bin's value, not the segment's log2 -/
theorem small_singleton_location (B : Big) (sm : Bool) (n : Nat) (s b : Rat) :
    (segRow B sm n s [b]).mean = .num b ∧ (segRow B sm n s [b]).median = .num b ∧ (segRow B sm n s [b]).mode = .num b := by
  rw [segRow_singleton]
  exact ⟨rfl, rfl, rfl⟩

/-- a one-bin segment: stdev, MAD, MSE, IQR and biweight midvariance are 0, however far the bin is from the
    segment's log2 (MSE included: the `on_array(0)` shortcut answers before the deviation is squared) -/
theorem small_singleton_spread_zero (B : Big) (sm : Bool) (n : Nat) (s b : Rat) :
    (segRow B sm n s [b]).stdev = .num 0 ∧ (segRow B sm n s [b]).mad = .num 0 ∧ (segRow B sm n s [b]).mse = .num 0 ∧
    (segRow B sm n s [b]).iqr = .num 0 ∧ (segRow B sm n s [b]).bivar = .num 0 := by
  rw [segRow_singleton]
  exact ⟨rfl, rfl, rfl, rfl, rfl⟩

/-- a one-bin segment has no degree of freedom: the standard error and the t-test p-value are NaN -/
theorem small_singleton_no_dof (B : Big) (sm : Bool) (n : Nat) (s b : Rat) :
    (segRow B sm n s [b]).sem = .nan ∧ (segRow B sm n s [b]).ttest = .nan := by
  rw [segRow_singleton]
  exact ⟨rfl, rfl⟩

/-- a one-bin segment: confidence and prediction interval are the degenerate interval at the bin's value -- for every
    bootstrap count and WITH OR WITHOUT `--smooth-bootstrap` (the shortcut precedes the smoothing) -/
theorem small_singleton_intervals (B : Big) (sm : Bool) (n : Nat) (s b : Rat) :
    (segRow B sm n s [b]).ci = (.num b, .num b) ∧ (segRow B sm n s [b]).pi = (.num b, .num b) := by
  rw [segRow_singleton]
  exact ⟨rfl, rfl⟩

/-- the rows of segments with at most one bin do not depend on `--smooth-bootstrap`, on the bootstrap count, or on what
    the statistics do with larger samples -/
theorem small_row_independent_of_options (B B' : Big) (sm sm' : Bool) (n n' : Nat) (s : Rat) (bins : List Rat)
    (h : bins.length ≤ 1) : (segRow B sm n s bins).cells = (segRow B' sm' n' s bins).cells := by
  match bins, h with
  | [], _ => rw [small_empty_all_nan, small_empty_all_nan]
  | [b], _ => rw [segRow_singleton, segRow_singleton]

/-- ... and a one-bin row does not depend on the segment's own log2 either -/
theorem small_singleton_ignores_segment_log2 (B : Big) (sm : Bool) (n : Nat) (s s' b : Rat) :
    (segRow B sm n s [b]).cells = (segRow B sm n s' [b]).cells := by
  rw [segRow_singleton, segRow_singleton]

/-- `on_array(default)`: with a default one value gives the default, without one the value; nothing gives NaN -/
theorem small_on_array_cases (f : List Rat → Cell) (d x : Rat) :
    onArray (some d) f [x] = .num d ∧ onArray none f [x] = .num x ∧ onArray (some d) f [] = .nan ∧
    onArray none f [] = .nan :=
  ⟨rfl, rfl, rfl, rfl⟩

/-- on two or more values the decorator hands over to the decorated function -/
theorem small_on_array_big (dflt : Option Rat) (f : List Rat → Cell) (x y : Rat) (r : List Rat) :
    onArray dflt f (x :: y :: r) = f (x :: y :: r) := rfl

def smallDummy : Big :=
  { median := fun _ => .nan, mode := fun _ => .nan, ttest := fun _ => .nan, std := fun _ => .nan, sem := fun _ => .nan,
    mad := fun _ => .nan, mse := fun _ => .nan, iqr := fun _ => .nan, bivar := fun _ => .nan,
    ci := fun _ _ _ => (.nan, .nan), pi := fun _ => (.nan, .nan) }

-- non-vacuity: a one-bin segment at log2 0.3 whose bin is 0.75
example : ((segRow smallDummy true 100 (3/10) [3/4]).cells =
    [.num (3/4), .num (3/4), .num (3/4), .nan, .num 0, .nan, .num 0, .num 0, .num 0, .num 0,
     .num (3/4), .num (3/4), .num (3/4), .num (3/4)]) := by
  rw [segRow_singleton]
  rfl

end CnvVerif.C17
