/-
  C17, tie to the source TEXT: `cnvlib/bintest.py: p_adjust_bh` at the level of vectors.
  `Generated.src_p_adjust_bh` (Generated/ExprsBh.lean) is re-translated from /repo's Python on every run by
  harness/vectrans.py + harness/vectrans_bh.py (typed reading of the numpy vector subset: reversed `argsort` = a parameter,
  `argsort` of that permutation = its inverse, `np.arange(n, 0, -1)`, `np.minimum.accumulate`, `np.minimum(1, ·)`, take).
  It is proved here that the hand-written model `padjustBH` IS that expression for every vector, and that the expression
  has the Benjamini–Hochberg closed form for EVERY permutation `argsort` may return.  In a module of its own: an edit to
  `p_adjust_bh` breaks exactly these obligations.
-/
import CnvVerif.Props.C17
import CnvVerif.Lemmas.SrcStatsBh
namespace CnvVerif.C17
open CnvVerif CnvVerif.Stats CnvVerif.Generated CnvVerif.Src.Bh

-- the `first` alternatives below are for equivalent spellings of the source (`values * steps`)
set_option linter.unusedTactic false
set_option linter.unreachableTactic false

/-- the model's `padjustBH` is what `p_adjust_bh` computes, for every vector (the permutation handed over is the one
    the model's own stable sort produces) -/
theorem padjustBH_is_the_source (p : List Rat) :
    padjustBH p = src_p_adjust_bh p ((bhDescending p).map (·.2)) := by
  rw [padjustBH_eq_withOrder]
  have ho : ((bhDescending p).map (·.2)).length = p.length := by rw [List.length_map, bhDescending_length]
  first
    | exact withOrder_is_vector_expr p _ ho
    | exact withOrder_is_vector_expr' p _ ho

example : src_p_adjust_bh [1/100, 1/25, 1/50, 1/2] [3, 1, 2, 0] = [1/25, 4/75, 1/25, 1/2] := by decide +kernel

/-- whatever permutation `argsort` returns (any tie order): if `by_descend` is a permutation of `0..n-1` that lists the
    values in non-increasing order, the source expression is the Benjamini–Hochberg closed form
    `q_i = min(1, min_{j : p_j ≥ p_i} n·p_j / #{k | p_k ≤ p_j})`, given back at the ORIGINAL positions -/
theorem source_bh_is_closed_form (p : List Rat) (by_descend : List Nat) (h0 : ∀ x ∈ p, 0 ≤ x)
    (hperm : by_descend.Perm (List.range p.length)) (hdesc : Desc (Np.take p by_descend)) :
    src_p_adjust_bh p by_descend = bhClosed p := by
  rw [← bhWithOrder_eq_closed p by_descend h0 hperm hdesc]
  have ho : by_descend.length = p.length := by rw [hperm.length_eq, List.length_range]
  first
    | exact (withOrder_is_vector_expr p _ ho).symm
    | exact (withOrder_is_vector_expr' p _ ho).symm

/-- so the result does not depend on how `argsort` orders tied p-values -/
theorem source_bh_tie_order_irrelevant (p : List Rat) (o1 o2 : List Nat) (h0 : ∀ x ∈ p, 0 ≤ x)
    (h1 : o1.Perm (List.range p.length)) (d1 : Desc (Np.take p o1))
    (h2 : o2.Perm (List.range p.length)) (d2 : Desc (Np.take p o2)) :
    src_p_adjust_bh p o1 = src_p_adjust_bh p o2 := by
  rw [source_bh_is_closed_form p o1 h0 h1 d1, source_bh_is_closed_form p o2 h0 h2 d2]

/-- the hypotheses are satisfiable with ties: two admissible orders of the tied vector -/
example : ([2, 0, 1] : List Nat).Perm (List.range 3) ∧ ([2, 1, 0] : List Nat).Perm (List.range 3) := by decide
example : src_p_adjust_bh [1/50, 1/50, 1/2] [2, 0, 1] = src_p_adjust_bh [1/50, 1/50, 1/2] [2, 1, 0] := by
  decide +kernel

end CnvVerif.C17
