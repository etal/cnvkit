/-
  C15: the robustness margin of the sex inference for tables WITH a weight column, and for any location estimator.
  On the median-difference path `compare_sex_chromosomes` sees the data only through five location estimates
  (autosomes; chrX and chrY each shifted for the female / male hypothesis).  If those estimates stay within `d < 1/4`
  of the levels — which every estimator that lies within the range of its data does when the bins do — the decision
  is the true sex.  Instantiated for `descriptives.weighted_median` (C19's exact model).  Proofs: Lemmas/SexExt.lean.
-/
import CnvVerif.Model.SexExt
import CnvVerif.Lemmas.SexExt
import CnvVerif.Lemmas.DescWeighted
namespace CnvVerif.C15
open CnvVerif

/-- any estimator: estimates within `d < 1/4` of the levels (chrY of a female sample: at least 2 below the
    autosomes, its two estimates 3 apart up to `d`) ⇒ the true sex -/
theorem sex_inferred_within_margin_any_estimator (hapX female : Bool) (a d A XF XM : Rat) (Y : Option (Rat × Rat))
    (hd : 4 * d < 1) (hA : |A - a| ≤ d)
    (hXF : |XF - (a + expectedX hapX female + (xShifts hapX).1)| ≤ d)
    (hXM : |XM - (a + expectedX hapX female + (xShifts hapX).2)| ≤ d)
    (hY : ∀ p, Y = some p →
      if female then (|p.1 - (p.2 + 3)| ≤ d ∧ p.2 ≤ a - 2) else (|p.1 - (a + 3)| ≤ d ∧ |p.2 - a| ≤ d)) :
    sexIsMaleOfEstimates A XF XM Y = !female :=
  sexIsMaleOfEstimates_within_margin hapX female a d A XF XM Y hd hA hXF hXM hY

/-- tables with a weight column (`descriptives.weighted_median`, any non-negative weights, whatever sorting
    permutations numpy returned): every bin within `d < 1/4` of its level ⇒ the true sex -/
theorem sex_inferred_within_margin_weighted (hapX female : Bool) (a d : Rat) (oA oX oY : List Nat)
    (pA pX pY : List (Rat × Rat)) (hd : 4 * d < 1)
    (hoA : oA ≠ [] ∧ ∀ i ∈ oA, i < pA.length) (hoX : oX ≠ [] ∧ ∀ i ∈ oX, i < pX.length)
    (hoY : pY ≠ [] → oY ≠ [] ∧ ∀ i ∈ oY, i < pY.length)
    (hwA : ∀ q ∈ pA, 0 ≤ q.2) (hwX : ∀ q ∈ pX, 0 ≤ q.2) (hwY : ∀ q ∈ pY, 0 ≤ q.2)
    (hA : ∀ q ∈ pA, |q.1 - a| ≤ d) (hX : ∀ q ∈ pX, |q.1 - (a + expectedX hapX female)| ≤ d)
    (hY : if female then ∀ q ∈ pY, q.1 ≤ a - 2 else ∀ q ∈ pY, |q.1 - a| ≤ d) :
    sexIsMaleOfEstimates (Desc.weightedMedianCore false oA pA)
      (Desc.weightedMedianCore false oX (Desc.shiftP (xShifts hapX).1 pX))
      (Desc.weightedMedianCore false oX (Desc.shiftP (xShifts hapX).2 pX))
      (if pY.isEmpty then none else
        some (Desc.weightedMedianCore false oY (Desc.shiftP yShifts.1 pY),
              Desc.weightedMedianCore false oY (Desc.shiftP yShifts.2 pY)))
      = !female := by
  exact sexIsMaleOfEstimates_of_estimator Prod.fst hapX female a d pA pX pY _ (Desc.weightedMedianCore false oX pX) _ _
    (Desc.weightedMedianCore false oY pY) _ _ hd
    (Desc.weightedMedianCore_inHull oA pA hoA.1 hoA.2 hwA) (Desc.weightedMedianCore_inHull oX pX hoX.1 hoX.2 hwX)
    (fun hE => Desc.weightedMedianCore_inHull oY pY (hoY hE).1 (hoY hE).2 hwY)
    (Desc.weightedMedianCore_shift oX _ pX hoX.1 hoX.2 hwX) (Desc.weightedMedianCore_shift oX _ pX hoX.1 hoX.2 hwX)
    (fun hE => Desc.weightedMedianCore_shift oY _ pY (hoY hE).1 (hoY hE).2 hwY)
    (fun hE => Desc.weightedMedianCore_shift oY _ pY (hoY hE).1 (hoY hE).2 hwY) hA hX hY

/-- the unweighted decision is the same function, of the plain medians -/
theorem unweighted_decision_is_function_of_medians (hapX : Bool) (auto xs ys : List Rat) :
    sexIsMaleFallback hapX auto xs ys =
      sexIsMaleOfEstimates (medianR auto) (medianR (shiftVals xs (xShifts hapX).1))
        (medianR (shiftVals xs (xShifts hapX).2))
        (if ys.isEmpty then none else
          some (medianR (shiftVals ys yShifts.1), medianR (shiftVals ys yShifts.2))) :=
  sexIsMaleFallback_eq_estimates hapX auto xs ys

/-! non-vacuity: a female sample against a male reference, estimates off by up to 0.2 -/
example : sexIsMaleOfEstimates (1/5) (-1/5) (6/5) (some (-7/2, -13/2)) = false :=
  sex_inferred_within_margin_any_estimator true true 0 (1/5) (1/5) (-1/5) (6/5) (some (-7/2, -13/2))
    (by norm_num) (by norm_num [abs_le]) (by norm_num [expectedX, xShifts, abs_le])
    (by norm_num [expectedX, xShifts, abs_le])
    (by intro p hp; simp only [Option.some.injEq] at hp; subst hp; norm_num [abs_le])

end CnvVerif.C15
