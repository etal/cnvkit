/-
  C16: what the dict loop of `_get_gene_map` builds, for ALL tables (no hypothesis on the gene layout).

  `GeneExt.geneMapOfBins rs` is the map built the way the code builds it (and, by Props/C16SrcGeneMap.lean, the way the
  source text says); `Genes.byGeneChrom` -- the subject of every `byGene_*` theorem -- iterates the closed form
  `(firstByName T, geneIdx T)` with `T = taggedFrom 0 rs`.  `gene_map_is_the_model` closes the gap between the two.
-/
import CnvVerif.Lemmas.GeneMap
namespace CnvVerif.C16
open CnvVerif CnvVerif.Genes CnvVerif.GeneExt CnvVerif.PyDict16

/-- the loop is a left fold of single visits `(row, name)` in table order, names of one row left to right -/
theorem gene_map_is_fold_of_visits (rs : List Bin) : geneMapOfBins rs = fold (taggedFrom 0 rs) [] := by
  unfold geneMapOfBins geneMap
  rw [loopFrom_fold, taggedOpt_bins]

/-- **the map the loop builds IS the map `by_gene` is modelled to iterate**: its items, in order, are the names in order of
    first appearance, each with `geneIdx` -/
theorem gene_map_is_the_model (rs : List Bin) :
    geneMapOfBins rs = (firstByName (taggedFrom 0 rs)).map (fun p => (p.2, geneIdx (taggedFrom 0 rs) p.2)) := by
  rw [gene_map_is_fold_of_visits, fold_eq_closedForm]; rfl

/-- the keys are distinct and in order of first appearance -/
theorem gene_map_keys (rs : List Bin) :
    keys (geneMapOfBins rs) = (firstByName (taggedFrom 0 rs)).map (·.2) ∧ (keys (geneMapOfBins rs)).Nodup := by
  have h : keys (geneMapOfBins rs) = (firstByName (taggedFrom 0 rs)).map (·.2) := by
    rw [gene_map_is_fold_of_visits, keys_fold_nil]
  exact ⟨h, h ▸ firstByName_keys_nodup _⟩

/-- a name is a key exactly when some bin's name list contains it -/
theorem gene_map_key_iff (rs : List Bin) (g : String) :
    g ∈ keys (geneMapOfBins rs) ↔ ∃ b ∈ rs, g ∈ names b := by
  rw [(gene_map_keys rs).1]
  constructor
  · intro h
    obtain ⟨x, hx, rfl⟩ := List.mem_map.mp h
    obtain ⟨b, hb, hg⟩ := mem_tagged.mp ((firstByName_sublist _).subset hx)
    exact ⟨b, List.mem_of_getElem? hb, hg⟩
  · rintro ⟨b, hb, hg⟩
    obtain ⟨i, hi⟩ := List.mem_iff_getElem?.mp hb
    obtain ⟨f, hf⟩ := firstByName_covers (mem_tagged.mpr ⟨b, hi, hg⟩)
    exact List.mem_map.mpr ⟨(f, g), hf, rfl⟩

/-- **the value of a key lists exactly the positions of the bins whose name list contains it** … -/
theorem gene_map_index_iff (rs : List Bin) (g : String) (i : Nat) :
    i ∈ get (geneMapOfBins rs) g ↔ ∃ b, rs[i]? = some b ∧ g ∈ names b := by
  rw [gene_map_is_fold_of_visits, get_fold]
  simp only [PyDict16.get, List.find?_nil, List.nil_append, mem_geneIdx, mem_tagged]

/-- … **in table order** (a position is repeated only when the bin's own list repeats the name, as in `"A,A"`) -/
theorem gene_map_index_sorted (rs : List Bin) (g : String) : (get (geneMapOfBins rs) g).Pairwise (· ≤ ·) := by
  rw [gene_map_is_fold_of_visits, get_fold]
  simpa [PyDict16.get] using geneIdx_sorted (taggedFrom_sorted 0 rs) g

/-- a bin is listed under a name as often as that name occurs among its names (once when they are distinct) -/
theorem gene_map_index_count (rs : List Bin) (g : String) (i : Nat) :
    (get (geneMapOfBins rs) g).count i = ((taggedFrom 0 rs).filter (fun x => x.2 == g && x.1 == i)).length := by
  rw [gene_map_is_fold_of_visits, get_fold]
  simp only [PyDict16.get, List.find?_nil, List.nil_append, geneIdx, List.count_eq_length_filter, List.filter_map,
    List.length_map, List.filter_filter]
  congr 1
  apply List.filter_congr
  intro x _
  simp [Bool.and_comm]

/-- **no key has an empty list**: the branch "Specified gene name somehow missing" of `by_gene` (`if not len(gene_idx)`)
    is dead code for the map this loop builds -/
theorem gene_map_values_nonempty (rs : List Bin) : ∀ kv ∈ geneMapOfBins rs, kv.2 ≠ [] := by
  intro kv hkv
  rw [gene_map_is_the_model] at hkv
  obtain ⟨p, hp, rfl⟩ := List.mem_map.mp hkv
  have hm : p.1 ∈ geneIdx (taggedFrom 0 rs) p.2 := mem_geneIdx.mpr ((firstByName_sublist _).subset hp)
  exact List.ne_nil_of_mem hm

/-- a null name contributes nothing but still counts as a position -/
theorem gene_map_null_row (gs : List (Option String)) (k : Nat) (d : Dict) :
    loopFrom k d (none :: gs) = loopFrom (k + 1) d gs := rfl

/-- **`by_gene` on one chromosome is its loop run over the ITEMS of the map the dict loop builds** (`for gene, gene_idx in
    gene_map.items()`: start `gene_idx[0]`, end `gene_idx[-1] + 1` read from the dict's own lists) -/
theorem by_gene_iterates_the_built_map (ignore : List String) (rs : List Bin) :
    byGeneChrom ignore rs = goItems rs (fullIgnore ignore) 0 (geneMapOfBins rs) := by
  rw [gene_map_is_the_model, goItems_closed]; rfl

/-- non-vacuity: the map the loop builds on a column with a two-name bin and a nameless one -/
example : geneMap [some "A", some "A,B", none, some "B", some "A"] = [("A", [0, 1, 4]), ("B", [1, 3])] := by decide +kernel

end CnvVerif.C16
