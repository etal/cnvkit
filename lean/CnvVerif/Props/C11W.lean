/-
  Property C11, WEIGHTED path.  `segment_haar` / `one_chrom` always call `haarSeg(I, q, W = cnarr["weight"])`, and
  the property quantifies over bin weights in [0.5, 1]; the theorems of Props/C11.lean are about `W = None`.
  Here: the weighted `HaarConv` loop (four running sums, mirrored ends) computes, at every position, `sqrt(h/2)`
  times the difference of the weighted means of the high and the low window; on a noise-free step under ANY
  positive weights the response is zero outside `(b-h, b+h)`, rises strictly up to `b`, where it is the whole step,
  and falls strictly after it; its only peak is `b`; the weighted `haarSeg` reports exactly the step.

  Exact arithmetic (`Rat`).  In floats the quotients `lowNonNormed / lowWeightSum` carry rounding noise, so the real
  response is zero only to ~1e-16 where it is exactly zero here; the differential harness ties the closed form
  to the real `HaarConv` at 1e-9 (clause `weighted_ideal_response`) and the whole weighted `haarSeg` on noise-free
  steps of the property's heights (op `haar_seg_w`).
-/
import CnvVerif.Lemmas.HaarWeightedSeg
namespace CnvVerif.C11
open CnvVerif.Haar

/-- **loop invariant**: for a signal of `n >= h >= 1` bins whose window weight sums never vanish, the weighted
`HaarConv` stores 0 at position 0 and, at every `k >= 1`, `fac * (mean_w(high window) - mean_w(low window))`, the
windows being `k .. k+h-1` and `k-h .. k-1` of the signal mirrored at both ends (`respW`, window sums through
prefix sums) -/
theorem weighted_conv_is_difference_of_window_means (fac : Rat) (sig wt : List Rat) (h n : Nat)
    (hlen : sig.length = n) (h1 : 1 ≤ h) (hh : h ≤ n)
    (hnz : ∀ k, 1 ≤ k → k < n → lowWin (wOf wt.toArray) h k ≠ 0 ∧ highWin (wOf wt.toArray) n h k ≠ 0) :
    haarConvW fac sig wt h
      = some (0 :: (List.range' 1 (n - 1)).map (fun k =>
          fac * (-(lowWin (swOf sig.toArray wt.toArray) h k) / lowWin (wOf wt.toArray) h k
                 + highWin (swOf sig.toArray wt.toArray) n h k / highWin (wOf wt.toArray) n h k))) :=
  haarConvW_eq fac sig wt h n hlen h1 hh hnz

/-- the running sums really are window sums: each step of the loop adds the entering element and drops the
leaving one (`lowEnd` / `highEnd` with their mirror rules) -/
theorem window_sums_follow_the_loop (x : Nat → Rat) (n h k : Nat) (hk : 1 ≤ k) (hkn : k < n) (hh : h ≤ n)
    (h1 : 1 ≤ h) :
    lowWin x h k = lowWin x h (k - 1) + (x (k - 1) - x (loIdx h k)) ∧
    highWin x n h k = highWin x n h (k - 1) + (x (hiIdx n h k) - x (k - 1)) :=
  ⟨lowWin_step x h k hk, highWin_step x n h k hk hkn hh⟩

/-- positive weights: no window weight sum vanishes (the loop never divides by zero) -/
theorem positive_weights_never_divide_by_zero (w : Nat → Rat) (n h : Nat) (h1 : 1 ≤ h) (hh : h ≤ n)
    (pos : ∀ i, i < n → 0 < w i) (k : Nat) (hk : k < n) : 0 < lowWin w h k ∧ 0 < highWin w n h k :=
  ⟨lowWin_pos w n h h1 hh pos k hk, highWin_pos w n h h1 hh pos k hk⟩

/-- closed form: `HaarConv(step, W, h)[k] = fac * (hi - lo) * share(k)` -/
theorem haarConvW_ideal_step (fac lo hi : Rat) (b n h : Nat) (wt : List Rat) (h1 : 1 ≤ h) (hb : h ≤ b)
    (hn : b + h ≤ n) (hw : wt.length = n) (hpos : ∀ x ∈ wt, 0 < x) :
    haarConvW fac (stepSig lo hi b n) wt h = some (stepRespW fac lo hi wt b n h) :=
  Haar.haarConvW_ideal_step fac lo hi b n h wt h1 hb hn hw hpos

/-- shape of the share: 0 up to `b - h` and from `b + h` on; on the rising flank the share of the high window's
weight beyond `b`, on the falling flank the share of the low window's weight before `b`; exactly 1 at `b`
(so `HaarConv(step, W, h)[b] = sqrt(h/2) * (hi - lo)` whatever the weights) -/
theorem weighted_step_share (wt : List Rat) (b n h : Nat) (h1 : 1 ≤ h) (hb : h ≤ b) (hn : b + h ≤ n)
    (hw : wt.length = n) (hpos : ∀ x ∈ wt, 0 < x) :
    (∀ k, k + h ≤ b → stepShareW (wfun wt) b n h k = 0) ∧
    (∀ k, k < n → b + h ≤ k → stepShareW (wfun wt) b n h k = 0) ∧
    (∀ k, k ≤ b → b ≤ k + h → stepShareW (wfun wt) b n h k
        = (pre (wfun wt) (k + h) - pre (wfun wt) b) / (pre (wfun wt) (k + h) - pre (wfun wt) k)) ∧
    (∀ k, b ≤ k → k < n → k ≤ b + h → stepShareW (wfun wt) b n h k
        = (pre (wfun wt) b - pre (wfun wt) (k - h)) / (pre (wfun wt) k - pre (wfun wt) (k - h))) ∧
    stepShareW (wfun wt) b n h b = 1 := by
  have H := stepW_of_list wt b n h h1 hb hn hw hpos
  exact ⟨fun k hk => share_zero_left H k hk, fun k hk1 hk2 => share_zero_right H k hk1 hk2,
    fun k hk1 hk2 => share_rise H k hk1 hk2, fun k hk1 hk2 hk3 => share_fall H k hk1 hk2 hk3, share_at_step H⟩

/-- the share is strictly rising from `b - h` to `b`, strictly falling from `b` to `b + h`, positive in between -/
theorem weighted_step_share_unimodal (wt : List Rat) (b n h : Nat) (h1 : 1 ≤ h) (hb : h ≤ b) (hn : b + h ≤ n)
    (hw : wt.length = n) (hpos : ∀ x ∈ wt, 0 < x) :
    (∀ k, b ≤ k + h → k < b → stepShareW (wfun wt) b n h k < stepShareW (wfun wt) b n h (k + 1)) ∧
    (∀ k, b ≤ k → k + 1 < n → k < b + h → stepShareW (wfun wt) b n h (k + 1) < stepShareW (wfun wt) b n h k) ∧
    (∀ k, k < n → b < k + h → k < b + h → 0 < stepShareW (wfun wt) b n h k) := by
  have U := (stepW_of_list wt b n h h1 hb hn hw hpos).unimodal
  exact ⟨U.rise, U.fall, U.pos⟩

/-- `FindLocalPeaks` on ANY unimodal response (zero outside `(b-h, b+h)`, strictly rising to `b`, strictly falling
after it), of either sign: exactly `[b]` -/
theorem peaks_of_unimodal (c : Rat) (hc : c ≠ 0) (t : Nat → Rat) (b n h : Nat) (h1 : 1 ≤ h) (hb : h ≤ b)
    (hn2 : b + 2 ≤ n)
    (U1 : ∀ k, k < n → k + h ≤ b → t k = 0) (U2 : ∀ k, k < n → b + h ≤ k → t k = 0)
    (U3 : ∀ k, b ≤ k + h → k < b → t k < t (k + 1))
    (U4 : ∀ k, b ≤ k → k + 1 < n → k < b + h → t (k + 1) < t k)
    (U5 : ∀ k, k < n → b < k + h → k < b + h → 0 < t k) :
    findLocalPeaks ((List.range n).map (fun k => c * t k)) = [b] :=
  (Unimodal.mk U1 U2 U3 U4 U5).peaks (c * ·) (mul_zero c) (mul_strict hc) h1 hb hn2

/-- the only peak of the weighted response to a step is the step position -/
theorem peaks_of_weighted_step (fac lo hi : Rat) (hfac : 0 < fac) (hne : lo ≠ hi) (b n h : Nat) (wt : List Rat)
    (h1 : 1 ≤ h) (hb : h ≤ b) (hn : b + h ≤ n) (hn2 : b + 2 ≤ n) (hw : wt.length = n) (hpos : ∀ x ∈ wt, 0 < x) :
    findLocalPeaks (stepRespW fac lo hi wt b n h) = [b] :=
  peaks_stepRespW fac lo hi hfac hne b n h wt h1 hb hn hn2 hw hpos

/-- **noise-free step, weighted path** (full strength): every step `lo ≠ hi` with at least 32 bins a side, ANY
positive bin weights, every FDR `q`, p-values, positive factors `sqrt(h/2)` and rounding of the threshold:
exactly one breakpoint, at `b`; sizes `(b, n - b)`; weighted means `(lo, hi)` -/
theorem haarSegW_ideal_step (rnd : Rat → Rat) (fac : Nat → Rat) (hfac : ∀ h, 0 < fac h) (p : Nat → List Rat)
    (q lo hi : Rat) (hne : lo ≠ hi) (b n : Nat) (hb : 32 ≤ b) (hn : b + 32 ≤ n) (wt : List Rat)
    (hw : wt.length = n) (hpos : ∀ x ∈ wt, 0 < x) :
    haarSegW rnd fac p q (stepSig lo hi b n) wt
      = { start := [0, b], stop := [(b : Int) - 1, (n : Int) - 1],
          size := [(b : Int), (n : Int) - (b : Int)], mean := [lo, hi] } :=
  Haar.haarSegW_ideal_step rnd fac hfac p q lo hi hne b n hb hn wt hw hpos

/-- the property's wording on the noise-free core of the path `segment_haar` takes: levels 0 / -1, 0 / +0.585,
0 / +1 in either order, at least 100 bins a side, bin weights in [0.5, 1]: exactly one breakpoint, within 5 bins
of the true one (in fact at it), segment means within 0.1 of the true levels (in fact equal) -/
theorem clear_step_found_and_localised_weighted (rnd : Rat → Rat) (fac : Nat → Rat) (hfac : ∀ h, 0 < fac h)
    (p : Nat → List Rat) (q lo hi : Rat)
    (hlv : (lo, hi) ∈ [((0 : Rat), (-1 : Rat)), (-1, 0), (0, 585 / 1000), (585 / 1000, 0), (0, 1), (1, 0)])
    (b n : Nat) (hb : 100 ≤ b) (hn : 100 ≤ n - b) (wt : List Rat) (hw : wt.length = n)
    (hwt : ∀ x ∈ wt, 1 / 2 ≤ x ∧ x ≤ 1) :
    ∃ bp m1 m2, (haarSegW rnd fac p q (stepSig lo hi b n) wt).start = [0, bp] ∧
      (haarSegW rnd fac p q (stepSig lo hi b n) wt).mean = [m1, m2] ∧
      ((bp : Int) - (b : Int)).natAbs ≤ 5 ∧ absQ (m1 - lo) ≤ 1 / 10 ∧ absQ (m2 - hi) ≤ 1 / 10 :=
  SegTable.clear_step
    (Haar.haarSegW_ideal_step rnd fac hfac p q lo hi (property_levels_ne hlv) b n (by omega) (by omega) wt hw
      fun x hx => lt_of_lt_of_le (by norm_num) (hwt x hx).1)

/-- **flat profile, weighted path** (exact arithmetic): a constant signal with positive weights has zero response
at every level and yields exactly one segment with the constant as its mean -/
theorem haarSegW_flat (rnd : Rat → Rat) (fac : Nat → Rat) (p : Nat → List Rat) (q c : Rat) (n : Nat) (hn : 1 ≤ n)
    (wt : List Rat) (hw : wt.length = n) (hpos : ∀ x ∈ wt, 0 < x) :
    haarSegW rnd fac p q (List.replicate n c) wt
      = { start := [0], stop := [(n : Int) - 1], size := [(n : Int)], mean := [c] } :=
  Haar.haarSegW_flat rnd fac p q c n hn wt hw hpos

/-- weights alternating 1/2, 1, 3/4 on 64 bins are positive: the smallest step `haarSegW_ideal_step` admits (32 + 32
bins) meets its hypotheses under weights that are not constant -/
example : haarSegW id (fun _ => 1) (fun _ => []) (1 / 10000) (stepSig 0 (585 / 1000) 32 64)
      ((List.range 64).map fun i => if i % 3 = 0 then 1 / 2 else if i % 3 = 1 then 1 else 3 / 4)
    = { start := [0, 32], stop := [31, 63], size := [32, 32], mean := [0, 585 / 1000] } :=
  haarSegW_ideal_step id _ (fun _ => one_pos) _ _ 0 (585 / 1000) (by norm_num) 32 64
    (Nat.le_refl _) (Nat.le_refl _) _ (by simp) (by decide +kernel)

/-- the weighted response really depends on the weights (it is not the tent): one light bin before the step -/
example : haarConvW 1 (stepSig 0 1 4 8) [1, 1, 1, 1 / 2, 1, 1, 1, 1] 2
    = some [0, 0, 0, 2 / 3, 1, 1 / 3, 0, 0] := by decide +kernel

/-- the hypotheses of `haarSegW_ideal_step` are met by the property's smallest case -/
example : (haarSegW id (fun _ => 1) (fun _ => []) (1 / 10000) (stepSig 0 (-1) 100 200)
    (List.replicate 200 (1 / 2))).start = [0, 100] := by
  rw [haarSegW_ideal_step id (fun _ => 1) (fun _ => by norm_num) _ _ 0 (-1) (by norm_num) 100 200
    (by norm_num) (by norm_num) _ (List.length_replicate ..) (by intro x hx; rw [(List.mem_replicate.mp hx).2]; norm_num)]

end CnvVerif.C11
