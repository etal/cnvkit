/-
  C15 — centring is a uniform shift zeroing the autosomes; sample sex is inferred right.
  Lemmas in Lemmas/Center.lean (the noise-free sex inference: Lemmas/SexExt.lean); the autosome rule and the `expect_flat_log2` table are proved here.
-/
import CnvVerif.Model.Center
import CnvVerif.Lemmas.Center
import CnvVerif.Lemmas.SexExt
namespace CnvVerif.C15
open CnvVerif

/-- center_all adds ONE constant to every bin and touches nothing else -/
theorem center_uniform_shift (est : List Rat → Rat) (byChrom skipLow : Bool) (par : Option String)
    (t : List CBin) :
    centerAll est byChrom skipLow par t =
      t.map (fun b => { b with log2 := b.log2 + centerShift est byChrom skipLow par t }) := by
  rfl

/-- … so differences between bins are untouched -/
theorem center_keeps_differences (est : List Rat → Rat) (byChrom skipLow : Bool) (par : Option String)
    (t : List CBin) (i j : Nat) (hi : i < t.length) (hj : j < t.length)
    (hi' : i < (centerAll est byChrom skipLow par t).length)
    (hj' : j < (centerAll est byChrom skipLow par t).length) :
    ((centerAll est byChrom skipLow par t)[i]).log2 - ((centerAll est byChrom skipLow par t)[j]).log2
      = (t[i]).log2 - (t[j]).log2 := by
  simp only [centerAll, List.getElem_map]
  show (t[i]).log2 + _ - ((t[j]).log2 + _) = _
  ring

/-- … and the chosen estimator of the selected (autosomal, optionally non-null) bins — per chromosome
    first, then across chromosomes, or over all bins — becomes zero, for EVERY estimator that moves
    with the data (median, mean, biweight location, KDE mode) -/
theorem center_zeroes_estimator (est : List Rat → Rat) (he : TransEquiv est) (byChrom : Bool)
    (sel : List CBin) (hsel : sel ≠ []) :
    est (centerValues est byChrom
          (sel.map (fun b => { b with log2 := b.log2 + (-(est (centerValues est byChrom sel))) }))) = 0 :=
  CnvVerif.center_zeroes_estimator est he byChrom sel hsel

/-- median and mean do move with the data (biweight and mode are parameters of the model; their
    equivariance is C19's subject) -/
theorem median_moves_with_data : TransEquiv medianR := medianR_transEquiv
theorem mean_moves_with_data : TransEquiv meanR := meanR_transEquiv

/-- which bins are "autosomal": names `(chr)?digits`; all bins when no name looks like that; PAR-X
    counted when a diploid-PAR genome is named -/
theorem autosomes_rule (first : String) (par : Option String) (t : List CBin)
    (h : ∃ b ∈ t, isAutosomeName b.chrom = true) (b : CBin) :
    b ∈ autosomesOf first par t ↔ b ∈ t ∧ (isAutosomeName b.chrom = true ∨
      ∃ g, par = some g ∧ b.chrom = xLabel first ∧ inPar g "PAR1X" "PAR2X" b.s b.e = true) := by
  have hany : t.any (fun b => isAutosomeName b.chrom) = true := List.any_eq_true.mpr h
  unfold autosomesOf
  simp only [hany, Bool.not_true, Bool.false_eq_true, if_false, List.mem_filter]
  cases par with
  | none => simp
  | some g => simp

theorem autosomes_none_named (first : String) (par : Option String) (t : List CBin)
    (h : ∀ b ∈ t, isAutosomeName b.chrom = false) : autosomesOf first par t = t := by
  have hany : t.any (fun b => isAutosomeName b.chrom) = false :=
    List.any_eq_false.mpr fun b hb => by simp [h b hb]
  unfold autosomesOf
  simp [hany]

theorem autosome_name_examples :
    isAutosomeName "chr12" = true ∧ isAutosomeName "7" = true ∧ isAutosomeName "chrX" = false ∧
    isAutosomeName "X" = false ∧ isAutosomeName "chr1_random" = false ∧ isAutosomeName "chr" = false ∧
    isAutosomeName "" = false ∧ isAutosomeName "chrM" = false := by
  have h1 : ("chr12".drop 3).isEmpty = false := by decide
  have h4 : ("chr".drop 3).isEmpty = true := by decide
  refine ⟨?_, ?_, ?_, ?_, ?_, ?_, ?_, ?_⟩
  · simp [isAutosomeName, h1]
  · simp [isAutosomeName]
  · simp [isAutosomeName]
  · simp [isAutosomeName]
  · simp [isAutosomeName]
  · simp [isAutosomeName, h4]
  · simp [isAutosomeName]
  · simp [isAutosomeName]

/-- shift_xx moves only chrX, by −1 / +1 / 0 according to (sample sex, reference sex) … -/
theorem shift_xx_table (hapX isXX : Bool) (t : List CBin) :
    shiftXX hapX isXX t = t.map (fun b =>
      if b.chrom == xLabel ((t.head?.map (·.chrom)).getD "")
      then { b with log2 := b.log2 + (if isXX && hapX then -1 else if !isXX && !hapX then 1 else 0) }
      else b) := rfl

/-- … which brings a chrX sitting at its expected level to the autosomal level -/
theorem shift_xx_brings_x_to_autosomal_level (hapX isXX : Bool) :
    expectedX hapX isXX + (if isXX && hapX then -1 else if !isXX && !hapX then 1 else 0) = 0 :=
  shiftXX_levels hapX isXX

/-- expect_flat_log2 is 0 on autosomes, −1 on Y, and −1 on X only for a male reference -/
theorem expect_flat_table (hapX : Bool) (par : Option String) (t : List CBin) :
    expectFlat hapX par t = t.map (fun b =>
      let first := (t.head?.map (·.chrom)).getD ""
      let cls := classOf first par b.chrom b.s b.e
      if hapX then (if cls = .x ∨ cls = .y then (-1 : Rat) else 0)
      else (if b.chrom = yLabel first then (-1 : Rat) else 0)) := by
  unfold expectFlat
  apply List.map_congr_left
  intro b _
  cases hapX <;> simp

/-- sex inference, noise-free case (partial: bounded noise is Props/C15Margin.lean and C15MarginW.lean; beyond a bound the
    claim is statistical and is covered by an oracle run on the real code only): a sample whose chrX — and chrY, if present — sit at the levels
    expected for its sex relative to the stated reference sex is inferred as that sex -/
theorem sex_inferred_ideal_partial (hapX female : Bool) (a : Rat) (y : Option Rat)
    (hy : female = false → y = none ∨ y = some 0) :
    isMale (idealCmp a (a + expectedX hapX female) (xShifts hapX).1)
           (idealCmp a (a + expectedX hapX female) (xShifts hapX).2)
           (y.map fun yl => (idealCmp a (a + yl) yShifts.1, idealCmp a (a + yl) yShifts.2))
      = !female := sex_ideal hapX female a y hy

/-! non-vacuity (on values without chromosome names; tables with names are evaluated in Props/C15Glue.lean) -/
example : meanR [1, 2, 6] = 3 := by decide +kernel
example : isMale (idealCmp 0 (0 + expectedX true false) (xShifts true).1)
                 (idealCmp 0 (0 + expectedX true false) (xShifts true).2) none = true := by decide +kernel

end CnvVerif.C15
