/-
  C10 — "…and it leaves the arrays, lists and dicts passed to it unchanged": the argument-aliasing skeleton of EVERY
  function of cnvlib / skgenome, regenerated from the source on every run (harness/extractors/effects_alias.py →
  Generated/EffectsAlias.lean), is checked by a may-alias analysis that is proved sound here for all skeletons:
  a function that passes writes only the parameters its summary names, and the summaries of the pipeline steps and
  public array methods name nothing but, for the in-place methods, the receiver.  A dropped `.copy()` (`outarr =
  cnarr` in `do_call`, `filters = list(filters)` removed) changes the generated skeleton and breaks
  `every_function_respects_its_summary` or `pipeline_steps_write_no_argument` — not only the differential history.
  What stays trusted: the reading rules of the extractor (what is a new object, what is a view), listed at its top.
-/
import CnvVerif.Model.Alias
import CnvVerif.Lemmas.Alias
import CnvVerif.Generated.EffectsAlias
namespace CnvVerif.C10
open CnvVerif CnvVerif.Alias

/-- soundness of the analysis, for every skeleton, every run (any branch, any number of loop rounds, any choice
    among the possible aliases), any number `n` of caller-owned objects: if the analysis passes from `T` and only the
    names in `T` hold caller objects, the run performs no checked use (in-place write / return) of a caller object
    and afterwards only the names in the computed set hold caller objects -/
theorem alias_analysis_sound (chk : Kind → Bool) (n : Nat) (a : ASt) (T T' : Taint) (s s' : St)
    (h : taint chk a T = some T') (hi : Inv n T s) (hx : Exec a s s') :
    Inv n T' s' ∧ callerEvents chk n s' = callerEvents chk n s := taint_sound chk n hx T T' h hi

/-- in the property's words: a function whose skeleton respects its summary, called with caller objects in its
    parameters only, writes in place no caller object that is not held by a parameter its summary names … -/
theorem respects_summary_writes_only_declared (f : Fn) (h : f.respectsSummary = true) (n : Nat) (s s' : St)
    (hs : ∀ x, s.env x < n → x ∈ without f.params f.writes) (hn : n ≤ s.next) (hx : Exec f.body s s') :
    ∀ o, o < n → (Kind.mut, o) ∈ s'.events → (Kind.mut, o) ∈ s.events :=
  no_caller_event_of_taint _ .mut rfl (Bool.and_eq_true_iff.mp h).1 n hs hn hx

/-- … and returns no caller object that is not held by a parameter its summary names -/
theorem respects_summary_returns_only_declared (f : Fn) (h : f.respectsSummary = true) (n : Nat) (s s' : St)
    (hs : ∀ x, s.env x < n → x ∈ without f.params f.returns) (hn : n ≤ s.next) (hx : Exec f.body s s') :
    ∀ o, o < n → (Kind.ret, o) ∈ s'.events → (Kind.ret, o) ∈ s.events :=
  no_caller_event_of_taint _ .ret rfl (Bool.and_eq_true_iff.mp h).2 n hs hn hx

/-- every function of the package (table regenerated from the source) writes and returns only what its summary
    says — the summaries used at its call sites are therefore justified function by function -/
theorem every_function_respects_its_summary :
    Generated.ALIAS_CHUNKS.all (fun c => c.all Fn.respectsSummary) = true := by
  -- evaluated on bit masks: `taint` itself doubles its lists at every branch
  rw [funext respectsSummary_eq]; decide +kernel

/-- no pipeline step (`do_*`, `export_*`) writes any of its arguments in place, and a public method of
    GenomicArray / CopyNumArray / VariantArray writes at most its receiver -/
theorem pipeline_steps_write_no_argument :
    Generated.ALIAS_CHUNKS.all (fun c => c.all Fn.entryOk) = true ∧ Generated.ENTRY_POINTS_WRITING_AN_ARGUMENT = [] := by
  decide +kernel

/-- every array method that works in place is one of the documented ones (setters, the label caches the property
    exempts, `center_all`, `add`, `sort`, `sort_columns`, `shuffle`, and `by_arm`'s recast of the chromosome column) -/
theorem in_place_methods_are_the_documented_ones :
    Generated.IN_PLACE_METHODS.all (fun m =>
      ["cnvlib.cnary.CopyNumArray.log2", "cnvlib.cnary.CopyNumArray.chr_x_label", "cnvlib.cnary.CopyNumArray.chr_y_label",
       "cnvlib.cnary.CopyNumArray.center_all", "skgenome.gary.GenomicArray.__setitem__", "skgenome.gary.GenomicArray.by_arm",
       "skgenome.gary.GenomicArray.add", "skgenome.gary.GenomicArray.shuffle", "skgenome.gary.GenomicArray.sort",
       "skgenome.gary.GenomicArray.sort_columns"].contains m) = true ∧
    Generated.EXEMPT_SELF_WRITERS = ["skgenome.gary.GenomicArray.by_arm"] := by decide +kernel

/-- together: any run of a listed pipeline step whose summary is empty — e.g. `do_call` — started with the caller's
    objects in its parameters writes none of them in place -/
theorem pipeline_step_leaves_arguments_unchanged (c : List Fn) (hc : c ∈ Generated.ALIAS_CHUNKS) (f : Fn) (hf : f ∈ c)
    (hw : f.writes = []) (n : Nat) (s s' : St) (hs : ∀ x, s.env x < n → x ∈ f.params) (hn : n ≤ s.next)
    (hx : Exec f.body s s') : ∀ o, o < n → (Kind.mut, o) ∈ s'.events → (Kind.mut, o) ∈ s.events := by
  have h := List.all_eq_true.mp (List.all_eq_true.mp every_function_respects_its_summary c hc) f hf
  refine respects_summary_writes_only_declared f h n s s' ?_ hn hx
  intro x hx'
  simp [without, hw, hs x hx']

/-- `do_call` is in the table, is a pipeline step, and its summary is empty -/
example : Generated.FN_cnvlib_call_do_call.entry = true ∧ Generated.FN_cnvlib_call_do_call.writes = [] ∧
    Generated.ALIAS_CHUNKS.any (fun c => c.any (fun f => f.name == "cnvlib.call.do_call")) = true := by decide +kernel

/-- the analysis rejects the code without fix J (DESIGN.md 9.3): `filters.remove(filt)` on the caller's list (no `list(filters)`) -/
example : taint (fun k => k == .mut) (.star (.seq (.bind 7 []) (.alt (.use .mut [4]) .nop))) [0, 4] = none := by
  decide +kernel

/-- and `outarr = cnarr` instead of `cnarr.copy()` followed by `outarr["cn"] = …` -/
example : taint (fun k => k == .mut) (.seq (.bind 6 [0]) (.use .mut [6])) [0] = none := by decide +kernel

/-- while the copy makes the same write harmless -/
example : taint (fun k => k == .mut) (.seq (.bind 6 []) (.use .mut [6])) [0] = some [0] := by decide +kernel

/-- a loop that only taints on the second round is still caught (the loop rule iterates to a fixed point) -/
example : taint (fun k => k == .mut) (.star (.seq (.use .mut [2]) (.seq (.bind 2 [1]) (.bind 1 [0])))) [0] = none := by
  decide +kernel

/-- a real run that the analysis speaks about: the write hits caller object 0 -/
example : Exec (.seq (.bind 6 [0]) (.use .mut [6])) ⟨fun _ => 0, 1, []⟩
    ⟨fun y => if y = 6 then 0 else 0, 1, [(.mut, 0)]⟩ :=
  Exec.seq (Exec.bindAlias 6 [0] 0 _ (by simp)) (Exec.use .mut [6] 6 _ (by simp))

end CnvVerif.C10
