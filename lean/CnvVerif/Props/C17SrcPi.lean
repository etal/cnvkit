/-
  C17: tie to the source TEXT, cnvlib/segmetrics.py (make_pi_func): the two percentile levels of the model's `piFunc` (Model/Stats.lean) are
  the expression(s) `Generated.src_*` of Generated/ExprsStats.lean, re-translated from /repo's Python on every run
  (harness/exprtrans.py, `emit_values`).  In a module of its own so that an edit to the formula breaks exactly this obligation.
-/
import CnvVerif.Props.C17
import CnvVerif.Lemmas.SrcStatsPi
namespace CnvVerif.C17
open CnvVerif CnvVerif.Stats CnvVerif.Generated

/-- the prediction interval's percentile levels ARE the two levels `make_pi_func` hands to `np.percentile` -/
theorem pi_levels_are_the_source (l : List Rat) (alpha : Rat) :
    piFunc l alpha = (percentile l (src_pi_pct_lo alpha), percentile l (src_pi_pct_hi alpha)) := by
  rw [← Src.pi_lo_level, ← Src.pi_hi_level]
  rfl

end CnvVerif.C17
