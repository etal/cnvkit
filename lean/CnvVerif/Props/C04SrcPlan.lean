/-
  C04: tie to the source TEXT of the DECISIONS of `fix.apply_weights` / `fix.load_adjust_coverages`
  (Generated/ExprsFixPlan.lean, re-read from /repo on every run by harness/fixplan.py; reading rules at the top of that file):
  the pooled-or-flat test (`.any()` reductions over the reference's spread / log2 columns), the "most bins have no coverage"
  test (`.sum()` against `len // 2`) and the plan of `center_by_window` calls (flag × column present, order, sort key).
  A module of its own: an edit to one of these decisions breaks exactly these obligations.
  The proofs carry fallbacks for algebraically equivalent rewrites of the source; those the present text does not need
  are what the linters switched off below would report.
-/
import CnvVerif.Props.C04
import CnvVerif.Lemmas.SrcFixPlan
set_option linter.unusedTactic false
set_option linter.unreachableTactic false
set_option linter.unusedSimpArgs false
namespace CnvVerif.C04
open CnvVerif

/-- the model's pooled-or-flat verdict (`pooledRef`, the one `weight_column_is_the_formula` is stated with) IS the test in
    `apply_weights`, evaluated on the matched reference's spread and log2 columns with epsilon = 1e-4 -/
theorem pooled_test_is_the_source (rows : List (SRow × RRow × Rat)) :
    pooledRef rows = Generated.src_pooled_test Generated.WEIGHT_EPSILON (rows.map (·.2.1.spread)) (rows.map (·.2.1.log2)) := by
  rw [pooledRef_cols, C04x.pooledCols_is_source]

/-- the "most bins have no or very low coverage" test of `load_adjust_coverages` -/
theorem skip_test_is_the_source (log2s : List Rat) :
    C04x.skipCorrections log2s = Generated.src_skip_corrections log2s :=
  by
  unfold C04x.skipCorrections Generated.src_skip_corrections
  have h : (Generated.NULL_LOG2_COVERAGE - Generated.MIN_REF_COVERAGE : Rat) = -15 := by
    unfold Generated.NULL_LOG2_COVERAGE Generated.MIN_REF_COVERAGE; norm_num
  rw [h]
  norm_num

/-- which `center_by_window` calls `load_adjust_coverages` makes, in which order, with which sort key -/
theorem correction_plan_is_the_source (skip fixGc fixEdge fixRmask hasGc hasRmask : Bool) :
    C04x.correctionPlan skip fixGc fixEdge fixRmask hasGc hasRmask =
      Generated.src_correction_plan skip fixGc fixEdge fixRmask hasGc hasRmask :=
  by
  -- the model tests `flag && column present` where the source nests the two tests; should the source come to arrange
  -- its tests another way, the table of the 64 cases decides
  first
  | (unfold C04x.correctionPlan Generated.src_correction_plan
     simp only [Bool.and_eq_true, ite_and])
  | (cases skip <;> cases fixGc <;> cases fixEdge <;> cases fixRmask <;> cases hasGc <;> cases hasRmask <;>
       simp [C04x.correctionPlan, Generated.src_correction_plan])

/-- the margin of the edge-bias key is params.INSERT_SIZE (inlined by the reader as its value) -/
theorem edge_margin_is_insert_size : Generated.FIX_EDGE_MARGIN_EXPR = toString Generated.INSERT_SIZE := by decide

end CnvVerif.C04
