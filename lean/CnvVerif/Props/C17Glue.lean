/-
  C17: the glue of `do_segmetrics` / `_cmd_segmetrics` around the statistics (Model/StatsGlue.lean).
  Every requested statistic ends up in the column of its name holding the FRESHLY computed values -- also when the
  segment table already had a column of that name (an earlier segmetrics run) --, every other column of the segment
  table is returned as it was and where it was, nothing else is added; the command refuses alpha outside (0, 1],
  does nothing without a statistic and otherwise writes to `-o` or `<sample>.segmetrics.cns`.
-/
import CnvVerif.Props.C17
import CnvVerif.Lemmas.StatsGlue
namespace CnvVerif.C17
open CnvVerif CnvVerif.Stats

variable {α : Type}

/-- the names the statistics tables of the model know are disjoint: a location statistic is not a spread statistic
    and neither is one of the interval columns -/
theorem statistic_names_disjoint (nm : String) :
    (locationStat nm).isSome → (spreadStat nm).isNone ∧ nm ∉ ["ci_lo", "ci_hi", "pi_lo", "pi_hi"] := by
  unfold locationStat
  split
  · exact fun _ => by decide
  · exact fun _ => by decide
  · exact fun _ => by decide
  · exact fun h => nomatch h

/-- a requested location statistic is in the column of its name, freshly computed, whatever the segment table
    held there before (`nm` not also asked for as a spread statistic; it cannot be an interval column) -/
theorem requested_location_column_is_fresh (segs : Frame α) (loc spread interval : List String)
    (locVal spreadVal : String → α) (ciLo ciHi piLo piHi : α) (nm : String)
    (h : nm ∈ loc) (hs : nm ∉ spread) (hi : nm ∉ ["ci_lo", "ci_hi", "pi_lo", "pi_hi"]) :
    (segmetricsFrame segs loc spread interval locVal spreadVal ciLo ciHi piLo piHi).get? nm = some (locVal nm) := by
  simp only [List.mem_cons, List.not_mem_nil, or_false, not_or] at hi
  simp only [segmetricsFrame_get?, hi, and_false, if_false, hs, h, if_true]

/-- a requested spread statistic is in the column of its name, freshly computed (spread statistics are assigned
    after the location statistics, so a location statistic of the same name would not survive either) -/
theorem requested_spread_column_is_fresh (segs : Frame α) (loc spread interval : List String)
    (locVal spreadVal : String → α) (ciLo ciHi piLo piHi : α) (nm : String)
    (h : nm ∈ spread) (hi : nm ∉ ["ci_lo", "ci_hi", "pi_lo", "pi_hi"]) :
    (segmetricsFrame segs loc spread interval locVal spreadVal ciLo ciHi piLo piHi).get? nm = some (spreadVal nm) := by
  simp only [List.mem_cons, List.not_mem_nil, or_false, not_or] at hi
  simp only [segmetricsFrame_get?, hi, and_false, if_false, h, if_true]

/-- the interval columns hold the interval just computed iff their statistic is among `interval_stats`, in whatever
    order (or how often) it was named, and whatever the location / spread statistics were called -/
theorem requested_interval_columns_are_fresh (segs : Frame α) (loc spread interval : List String)
    (locVal spreadVal : String → α) (ciLo ciHi piLo piHi : α) :
    let out := segmetricsFrame segs loc spread interval locVal spreadVal ciLo ciHi piLo piHi
    ("ci" ∈ interval → out.get? "ci_lo" = some ciLo ∧ out.get? "ci_hi" = some ciHi) ∧
    ("pi" ∈ interval → out.get? "pi_lo" = some piLo ∧ out.get? "pi_hi" = some piHi) := by
  intro out
  exact ⟨fun hc => by simp [out, segmetricsFrame_get?, hc], fun hp => by simp [out, segmetricsFrame_get?, hp]⟩

/-- a column of the segment table that no requested statistic is named after comes back with what it held -/
theorem unrequested_column_unchanged (segs : Frame α) (loc spread interval : List String)
    (locVal spreadVal : String → α) (ciLo ciHi piLo piHi : α) (nm : String)
    (hl : nm ∉ loc) (hs : nm ∉ spread) (hi : nm ∉ ["ci_lo", "ci_hi", "pi_lo", "pi_hi"]) :
    (segmetricsFrame segs loc spread interval locVal spreadVal ciLo ciHi piLo piHi).get? nm = segs.get? nm := by
  simp only [List.mem_cons, List.not_mem_nil, or_false, not_or] at hi
  simp only [segmetricsFrame_get?, hi, and_false, if_false, hs, hl]

/-- the segment table's own columns stay where they were (the result's column names start with them) … -/
theorem own_columns_keep_their_place (segs : Frame α) (loc spread interval : List String)
    (locVal spreadVal : String → α) (ciLo ciHi piLo piHi : α) :
    segs.names <+: (segmetricsFrame segs loc spread interval locVal spreadVal ciLo ciHi piLo piHi).names :=
  Frame.names_assignAll_prefix segs _

/-- … and the columns of the result are exactly those and the requested ones: `ci_lo`/`ci_hi` iff "ci" is among
    the interval statistics, `pi_lo`/`pi_hi` iff "pi" is, in whatever order they were asked for -/
theorem result_columns_exact (segs : Frame α) (loc spread interval : List String)
    (locVal spreadVal : String → α) (ciLo ciHi piLo piHi : α) (k : String) :
    k ∈ (segmetricsFrame segs loc spread interval locVal spreadVal ciLo ciHi piLo piHi).names ↔
      k ∈ segs.names ∨ k ∈ loc ∨ k ∈ spread ∨ ("ci" ∈ interval ∧ (k = "ci_lo" ∨ k = "ci_hi")) ∨
        ("pi" ∈ interval ∧ (k = "pi_lo" ∨ k = "pi_hi")) := by
  simp only [Frame.mem_names_iff, segmetricsFrame_get?, isSome_ite_some, and_or_left]
  grind

/-- without any statistic the table is returned as it is -/
theorem no_statistics_no_change (segs : Frame α) (locVal spreadVal : String → α) (ciLo ciHi piLo piHi : α) :
    segmetricsFrame segs [] [] [] locVal spreadVal ciLo ciHi piLo piHi = segs := rfl

/-- the command writes a table iff `0 < alpha ≤ 1` and some statistic is asked for … -/
theorem command_writes_iff (alpha : Rat) (loc spread interval : List String) (output : Option String) (sid : String) :
    (∃ p, cmdSegmetrics alpha loc spread interval output sid = .write p) ↔
      (0 < alpha ∧ alpha ≤ 1) ∧ ¬ (loc = [] ∧ spread = [] ∧ interval = []) := by
  simp only [cmdSegmetrics_write_iff]
  exact ⟨fun ⟨_, ha, he, _⟩ => ⟨ha, he⟩, fun ⟨ha, he⟩ => ⟨_, ha, he, rfl⟩⟩

/-- … to the `-o` file when one is named, else to `<sample id>.segmetrics.cns` -/
theorem command_output_name (alpha : Rat) (loc spread interval : List String) (sid o p : String) :
    (cmdSegmetrics alpha loc spread interval none sid = .write p → p = sid ++ ".segmetrics.cns") ∧
    (o ≠ "" → cmdSegmetrics alpha loc spread interval (some o) sid = .write p → p = o) := by
  simp only [cmdSegmetrics_write_iff]
  refine ⟨fun h => h.2.2, fun ho h => ?_⟩
  have he : ¬ o.isEmpty = true := fun he => ho (String.isEmpty_iff.mp he)
  rw [h.2.2, if_neg he]

/-! ### non-vacuity: a segment table that already carries `mean` and `ci_lo` from an earlier run -/
example :
    (segmetricsFrame [("log2", "own"), ("mean", "stale"), ("ci_lo", "stale")] ["mean"] ["mad"] ["pi", "ci"]
      (fun nm => "loc:" ++ nm) (fun nm => "spread:" ++ nm) "ci_lo" "ci_hi" "pi_lo" "pi_hi") =
    [("log2", "own"), ("mean", "loc:mean"), ("ci_lo", "ci_lo"), ("mad", "spread:mad"), ("ci_hi", "ci_hi"),
     ("pi_lo", "pi_lo"), ("pi_hi", "pi_hi")] := by decide +kernel
example : cmdSegmetrics (1 / 20) ["mean"] [] [] none "S" = .write "S.segmetrics.cns" := by decide +kernel
example : cmdSegmetrics 0 ["mean"] [] [] none "S" = .refuse := by decide +kernel
example : cmdSegmetrics (1 / 20) [] [] [] (some "x") "S" = .nothing := by decide +kernel

end CnvVerif.C17
