/-
  C19, tie to the source TEXT of `weighted_mad`: the body -- weighted median, weighted median of the absolute
  deviations from it, the factor 1.4826 under `scale_to_sd` -- is re-read on every run (Generated/ExprsWmad.lean, reading
  rules in harness/wmadcall.py); its two calls of `weighted_median` are the GENERATED `src_weighted_median`, each with
  the permutation its own `argsort` returned as a parameter.  Proved here: the hand-written `Desc.weightedMadCore`
  IS that expression, for all values, weights, both permutations and both settings of `scale_to_sd`.
-/
import CnvVerif.Generated.ExprsWmad
import CnvVerif.Props.C19SrcWmedian
import CnvVerif.Props.C19
namespace CnvVerif.C19
open CnvVerif CnvVerif.Desc CnvVerif.Generated CnvVerif.Src

theorem wmad_dev_zip (a w : List Rat) (m : Rat) :
    (a.zip w).map (fun q => (absR (q.1 - m), q.2)) = (a.map (fun x => absR (x - m))).zip w := by
  rw [List.zip_map_left]
  rfl

/-- `weighted_mad` behind its decorator (equal lengths): the model with the two permutations is the source expression -/
theorem wmad_is_the_source (a w : List Rat) (order order2 : List Nat) (scaleToSd : Bool) (h : a.length = w.length) :
    src_weighted_mad a w order order2 scaleToSd = weightedMadCore false order order2 (a.zip w) scaleToSd := by
  unfold src_weighted_mad weightedMadCore
  simp only []
  rw [wmedian_is_the_source a w order h, wmad_dev_zip,
    wmedian_is_the_source _ w order2 (by simpa using h)]
  cases scaleToSd <;> simp [MAD_SCALE_WEIGHTED]

/-- the invariants of `Props/C19` therefore hold of the source expression: e.g. non-negativity -/
theorem src_weighted_mad_nonneg (a w : List Rat) (o1 o2 : List Nat) (h : a.length = w.length) (hne : o2 ≠ [])
    (hidx : ∀ i ∈ o2, i < a.length) (hw : ∀ v ∈ w, 0 ≤ v) : 0 ≤ src_weighted_mad a w o1 o2 true := by
  rw [wmad_is_the_source a w o1 o2 true h]
  apply wmad_nonneg o1 o2 (a.zip w) hne
  · intro i hi
    simpa [List.length_zip, h] using hidx i hi
  · intro q hq
    exact hw q.2 (List.of_mem_zip hq).2

/-! non-vacuity of the hypotheses: five values, equal weights, two permutations of `0..4` -/
example : ([1, 2, 4, 8, 16] : List Rat).length = ([1, 1, 1, 1, 1] : List Rat).length ∧ ([2, 1, 0, 3, 4] : List Nat) ≠ [] ∧
    (∀ i ∈ ([2, 1, 0, 3, 4] : List Nat), i < ([1, 2, 4, 8, 16] : List Rat).length) ∧
    (∀ v ∈ ([1, 1, 1, 1, 1] : List Rat), 0 ≤ v) := by decide +kernel

end CnvVerif.C19
