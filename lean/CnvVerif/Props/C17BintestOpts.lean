/-
  C17: the option structure of `do_bintest` / `cnvkit.py bintest` (`alpha`, `target_only`, the selection
  of the returned rows), as theorems about the model that the op `bintest` ties to the code (Model/Stats.lean
  `bintestAll`, `doBintest`).  `bintest` has no guard on alpha (unlike `segmetrics`): any number is accepted, and the
  theorems say what it then returns.
-/
import CnvVerif.Props.C17
namespace CnvVerif.C17
open CnvVerif CnvVerif.Stats

/-- the rows returned are rows of the tested table, in the table's order, none repeated beyond the table's own rows
    (a sublist): selection never reorders, duplicates or invents a row -/
theorem bintest_hits_in_table_order (tail : Rat → Rat) (bins : List Bin) (segs : List Seg) (alpha : Rat) (t : Bool) :
    (doBintest tail bins segs alpha t).Sublist (bintestAll tail bins segs t) :=
  List.filter_sublist

/-- every returned row carries the residual of ITS OWN bin: (bin, residual) is a row of the tested table -/
theorem bintest_hit_carries_own_row (tail : Rat → Rat) (bins : List Bin) (segs : List Seg) (alpha : Rat) (t : Bool)
    (h : Hit) (hh : h ∈ doBintest tail bins segs alpha t) : (h.bin, h.resid) ∈ testedRows bins segs t :=
  mem_adjusted ((bintest_selects_below_alpha tail bins segs alpha t h).mp hh).1

/-- a larger alpha returns the same hits and possibly more, in the same order -/
theorem bintest_alpha_monotone (tail : Rat → Rat) (bins : List Bin) (segs : List Seg) (a a' : Rat) (t : Bool)
    (h : a ≤ a') : (doBintest tail bins segs a t).Sublist (doBintest tail bins segs a' t) :=
  List.monotone_filter_right _ fun _ hx => decide_eq_true (lt_of_lt_of_le (of_decide_eq_true hx) h)

/-- an adjusted p-value never exceeds 1 (whatever the raw values) -/
theorem padjustBH_le_one (p : List Rat) : ∀ x ∈ padjustBH p, x ≤ 1 :=
  fun _ hx => mem_padjustBH_le_one hx

/-- `alpha > 1` (accepted by `bintest`): every tested bin is returned -/
theorem bintest_alpha_above_one_returns_all_tested (tail : Rat → Rat) (bins : List Bin) (segs : List Seg)
    (alpha : Rat) (t : Bool) (ha : 1 < alpha) :
    doBintest tail bins segs alpha t = bintestAll tail bins segs t :=
  List.filter_eq_self.mpr fun h hh => decide_eq_true (lt_of_le_of_lt (adjusted_q_le_one tail _ h hh) ha)

/-- `target_only` changes nothing when no tested bin carries an off-target name (the `if antitarget_idx.any()`
    branch of `do_bintest` is not taken) -/
theorem target_only_noop_without_antitargets (tail : Rat → Rat) (bins : List Bin) (segs : List Seg)
    (hno : ∀ r ∈ bintestRows bins segs, r.1.gene ∉ Generated.ANTITARGET_ALIASES) :
    bintestAll tail bins segs true = bintestAll tail bins segs false := by
  rw [bintestAll_eq, bintestAll_eq, testedRows_eq, testedRows_eq, onTarget_of_none hno, onTarget_of_none hno]

/-- the off-target names are the ones read from `params.ANTITARGET_ALIASES`; a look-alike name is tested -/
example : ("Antitarget2" ∉ Generated.ANTITARGET_ALIASES) ∧ ("Antitarget" ∈ Generated.ANTITARGET_ALIASES) := by decide

end CnvVerif.C17
