/-
  C19, tie to the source TEXT: the outer `for _i in range(max_iter)` loop of `biweight_location` -- its exit test,
  the variable it carries, the number of rounds, the default of `initial` -- is the model's `bilocLoop` / `biweightLocationCore`.
  `Generated.src_biweight_location(_loop)` (Generated/ExprsDescLoop.lean) is re-translated from /repo's cnvlib/descriptives.py on
  every run by harness/breakloop.py (bounded loop with an early `break` -> recursion with fuel; the reading rules are at
  the top of that file).  The nested step function is tied in Props/C19SrcBiloc.lean; here it is composed with the loop.
-/
import CnvVerif.Generated.ExprsDescLoop
import CnvVerif.Props.C19SrcBiloc
import CnvVerif.Model.DescLoopExt5
namespace CnvVerif.C19.Loop
open CnvVerif CnvVerif.Desc CnvVerif.Generated


/-- the loop of the source, run for `n + 1` rounds from ANY state, leaves in `result` what the model's `bilocLoop` with
    fuel `n` returns -- for every step function, vector, tolerance and starting value -/
theorem loop_is_the_source (step : List Rat → Rat → Rat) (a : List Rat) (eps : Rat) (n : Nat) (r0 : Option Rat) (init : Rat) :
    (src_biweight_location_loop step a eps (n + 1) (r0, init)).1 = some (bilocLoop (step a) eps n init) := by
  induction n generalizing r0 init with
  | zero =>
    unfold src_biweight_location_loop bilocLoop
    simp only []
    split <;> simp [src_biweight_location_loop]
  | succ m ih =>
    unfold src_biweight_location_loop bilocLoop
    simp only []
    split
    · simp_all
    · exact ih _ _

/-- zero rounds: the name `result` is never bound (Python raises UnboundLocalError) -/
theorem zero_rounds_unbound (step : List Rat → Rat → Rat) (a : List Rat) (initial : Option Rat) (eps : Rat) :
    src_biweight_location step a initial eps 0 = none := by
  unfold src_biweight_location src_biweight_location_loop; rfl

/-- `biweight_location` of the source with `max_iter = n + 1`, cut-off `c` and tolerance `eps` IS the model's loop over the
    model's step, started at `initial` or, without one, at the median -/
theorem biweight_location_is_the_source (a : List Rat) (initial : Option Rat) (c eps : Rat) (n : Nat) :
    src_biweight_location (fun v i => src_biloc_iter v i c eps) a initial eps (n + 1) =
      some (bilocLoop (bilocIter c eps a) eps n (initial.getD (median a))) := by
  unfold src_biweight_location
  simp only []
  rw [loop_is_the_source]
  have hstep : (fun i => src_biloc_iter a i c eps) = bilocIter c eps a := by
    funext i; exact C19.biweight_step_is_the_source a i c eps
  rw [hstep]
  cases initial <;> rfl

/-- ... for EVERY `max_iter`, zero included: the source function is the driver's `biweightLocationOpts`, the function the
    correspondence run compares the real `biweight_location(a, initial=, c=, epsilon=, max_iter=)` with -/
theorem biweight_location_opts_is_the_source (a : List Rat) (initial : Option Rat) (c eps : Rat) (m : Nat) :
    src_biweight_location (fun v i => src_biloc_iter v i c eps) a initial eps m =
      C19Loop.biweightLocationOpts a initial c eps m := by
  cases m with
  | zero => exact zero_rounds_unbound _ a initial eps
  | succ n => exact biweight_location_is_the_source a initial c eps n

/-- with the defaults read from the signature (`c = 6.0`, `epsilon = 1e-3`, `max_iter = 5`) this is `biweightLocationCore`,
    the function every C19 / C05 / C17 theorem about the biweight location speaks of -/
theorem biweight_location_defaults_are_the_source (a : List Rat) (initial : Option Rat) :
    src_biweight_location (fun v i => src_biloc_iter v i BILOC_C BILOC_EPS) a initial BILOC_EPS BILOC_MAX_ITER =
      some (biweightLocationCore false a initial) := by
  have h5 : BILOC_MAX_ITER = (BILOC_MAX_ITER - 1) + 1 := by unfold BILOC_MAX_ITER; rfl
  rw [h5, biweight_location_is_the_source]
  rfl

end CnvVerif.C19.Loop
