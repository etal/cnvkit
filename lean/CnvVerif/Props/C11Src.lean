/-
  C11: tie to the source TEXT.  `Generated.src_haarconv_*` are re-translated from ONE iteration of the
  `for k in range(1, signalSize)` loop of `cnvlib/segmentation/haar.py:HaarConv` on every run (harness/exprtrans.py,
  loop-body reading).  Kept in a module of their own so that an edit to one of these formulas breaks exactly these
  obligations (the initial HMM has its own module, Props/C11Hmm.lean).  Proofs go through `omega` / `ring` with
  fallbacks (`first | rfl | ring | ..`), so algebraically equivalent rewrites of the source (`stepHalfSize + k - 1`,
  `highEnd > signalSize - 1`, `2 * signalSize - 1 - highEnd`, reordered operands) keep them green; a changed formula
  does not.  The fallbacks that the present source text does not need are what the linters below would report.
-/
import CnvVerif.Lemmas.HaarWeightedLoop
import CnvVerif.Generated.ExprsHaar
import Mathlib.Tactic.SplitIfs
set_option linter.unusedTactic false
set_option linter.unreachableTactic false
set_option linter.unusedSimpArgs false
namespace CnvVerif.C11
open CnvVerif CnvVerif.Haar

/-- the model's window-edge indices ARE the source's `highEnd` / `lowEnd` (with their mirror rules at both ends),
for every position `1 <= k < n` and half-window `h <= n` -/
theorem haarconv_indices_are_the_source (n h k : Nat) (hk : 1 ≤ k) (hkn : k < n) (hh : h ≤ n) :
    (hiIdx n h k : Int) = Generated.src_haarconv_highEnd (k : Int) (n : Int) (h : Int) ∧
    (loIdx h k : Int) = Generated.src_haarconv_lowEnd (k : Int) (h : Int) := by
  unfold hiIdx loIdx Generated.src_haarconv_highEnd Generated.src_haarconv_lowEnd
  constructor <;> split_ifs <;> omega

/-- the unweighted loop of the model stores, at every step, the source's expression for `result[k]` -/
theorem haarconv_unweighted_update_is_the_source (a : Array Rat) (n h fuel k : Nat) (prev : Rat) :
    haarRawGo a n h (fuel + 1) k prev
      = Generated.src_haarconv_result_unweighted prev (nth a (hiIdx n h k)) (nth a (k - 1)) (nth a (loIdx h k)) ::
        haarRawGo a n h fuel (k + 1)
          (Generated.src_haarconv_result_unweighted prev (nth a (hiIdx n h k)) (nth a (k - 1)) (nth a (loIdx h k))) := by
  show rawUpdate prev _ _ _ :: haarRawGo a n h fuel (k + 1) (rawUpdate prev _ _ _) = _
  have e : ∀ sHi sLo sK, rawUpdate prev sHi sLo sK = Generated.src_haarconv_result_unweighted prev sHi sK sLo := by
    intro sHi sLo sK
    unfold rawUpdate Generated.src_haarconv_result_unweighted
    first
    | rfl
    | ring
    | (simp only []; split_ifs <;> ring)
  rw [e]

/-- the four running sums of the weighted branch and the value it stores are the source's expressions -/
theorem haarconv_weighted_update_is_the_source (fac : Rat) (acc : WAcc) (sLo wLo sHi wHi sK wK : Rat) :
    (wStep acc sLo wLo sHi wHi sK wK).lowN = Generated.src_haarconv_lowNonNormed acc.lowN sK sLo wK wLo ∧
    (wStep acc sLo wLo sHi wHi sK wK).highN = Generated.src_haarconv_highNonNormed acc.highN sHi sK wHi wK ∧
    (wStep acc sLo wLo sHi wHi sK wK).lowW = Generated.src_haarconv_lowWeightSum acc.lowW wK wLo ∧
    (wStep acc sLo wLo sHi wHi sK wK).highW = Generated.src_haarconv_highWeightSum acc.highW wHi wK ∧
    wValue fac (wStep acc sLo wLo sHi wHi sK wK)
      = Generated.src_haarconv_result_weighted acc.highN acc.highW acc.lowN acc.lowW sHi sK sLo fac wHi wK wLo := by
  unfold wValue wStep Generated.src_haarconv_lowNonNormed Generated.src_haarconv_highNonNormed Generated.src_haarconv_lowWeightSum
    Generated.src_haarconv_highWeightSum Generated.src_haarconv_result_weighted
  refine ⟨?_, ?_, ?_, ?_, ?_⟩
  iterate 4 first | rfl | (simp only []; ring)
  first
  | rfl
  | (simp only []; ring)
  | (simp only []
     by_cases h1 : acc.lowW + (wK - wLo) = 0
     · simp [h1]; try ring
     · by_cases h2 : acc.highW + (wHi - wK) = 0
       · simp [h2]; try ring
       · field_simp; try ring)

/-- one round of the model's weighted loop `haarWGo` is `wStep`, the zero-sum guard, then `wValue` -/
theorem haarconv_weighted_loop_runs_the_step (s w : Array Rat) (n h : Nat) (fac : Rat) (fuel k : Nat) (acc : WAcc) :
    haarWGo s w n h fac (fuel + 1) k acc
      = (let acc' := wStep acc (nth s (loIdx h k)) (nth w (loIdx h k)) (nth s (hiIdx n h k)) (nth w (hiIdx n h k))
                      (nth s (k - 1)) (nth w (k - 1))
         if acc'.lowW = 0 ∨ acc'.highW = 0 then none else
         match haarWGo s w n h fac fuel (k + 1) acc' with
         | none => none
         | some rest => some (wValue fac acc' :: rest)) :=
  haarWGo_succ s w n h fac fuel k acc

example : Generated.src_haarconv_highEnd 3 10 4 = 6 ∧ Generated.src_haarconv_highEnd 8 10 4 = 8 ∧
    Generated.src_haarconv_lowEnd 3 4 = 1 ∧ Generated.src_haarconv_lowEnd 8 4 = 3 := by decide
example : hiIdx 10 4 8 = 8 ∧ loIdx 4 3 = 1 := by decide

end CnvVerif.C11
