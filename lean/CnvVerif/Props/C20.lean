/-
  C20 — exports state exactly the calls they were given.
  Lemmas in Lemmas/Export.lean, model in Model/Export.lean (tied to
  cnvlib/export.py and skgenome/tabio/seg.py by the runs of harness/props/C20.py and, on the source text, by
  Props/C20Src.lean, C20SegSrc.lean and C20CiSrc.lean).
-/
import CnvVerif.Model.Export
import CnvVerif.Lemmas.Export
namespace CnvVerif.C20
open CnvVerif CnvVerif.Export

/-! Ratio space: a segment carries `t`, the value of `2^log2`; every double is a rational, so
    quantifying over `t : ℚ` covers every float input.  `first` is the chromosome of the table's
    first row, which fixes the naming style ("chrX" / "X"). -/

/-! ### the literals read from the source are the ones the property names -/

/-- POS: a start of 0 is replaced by 1; a loss is DEL, a gain DUP; a loss's length is multiplied by −1 -/
theorem vcf_literals :
    Generated.VCF_POS_REPLACE_FROM = 0 ∧ Generated.VCF_POS_REPLACE_TO = 1 ∧
    Generated.VCF_SVTYPE_LOSS = "DEL" ∧ Generated.VCF_SVTYPE_GAIN = "DUP" ∧
    Generated.VCF_SVLEN_LOSS_FACTOR = -1 ∧
    Generated.VCF_FORMAT_GAIN = ["GT", "GQ", "CN", "CNQ"] ∧ Generated.VCF_FORMAT_LOSS = ["GT", "GQ"] :=
  ⟨rfl, rfl, rfl, rfl, rfl, rfl, rfl⟩

/-- SEG starts are 1-based: the writer adds 1 to the 0-based start -/
theorem seg_start_shift : Generated.SEG_START_SHIFT = 1 := rfl

/-- the copy number expected for a segment's chromosome and the sample's sex, as `call.absolute_expect`
    computes it, is: the ploidy on autosomes and on PAR-X of a diploid-PAR genome; on X the ploidy for a
    female sample and half of it for a male one; on Y nothing / half; nothing on PAR-Y -/
theorem expected_copies_table (cfg : Cfg) (first : String) (r : Seg) :
    expectOf cfg first r =
      match classOf first cfg.par r.chrom r.s r.e with
      | .auto => (cfg.ploidy : Int)
      | .parx => (cfg.ploidy : Int)
      | .x => if cfg.female then (cfg.ploidy : Int) else ((cfg.ploidy / 2 : Nat) : Int)
      | .y => if cfg.female then 0 else ((cfg.ploidy / 2 : Nat) : Int)
      | .pary => 0 :=
  expectOf_eq cfg first r

/-- with a `cn` column the stated copy number is that column -/
theorem copy_number_is_cn_column (cfg : Cfg) (h : cfg.hasCn = true) (first : String) (r : Seg) :
    ncopiesOf cfg first r = r.cn := by
  unfold ncopiesOf
  rw [if_pos h]

/-- without one it is `round(r·2^log2)` (half to even), `r` = the reference copies of the segment's
    class — in both exporters -/
theorem copy_number_rounds_ratio (cfg : Cfg) (h : cfg.hasCn = false) (first : String) (r : Seg) :
    ncopiesOf cfg first r =
      roundHE (((refExpect cfg.ploidy cfg.hapX cfg.female
        (classOf first cfg.par r.chrom r.s r.e)).1 : Rat) * r.t) := by
  unfold ncopiesOf
  rw [if_neg (by simp [h])]
  simp only [absoluteOf_pure _ _ _ purityActive_one]

/-- … an integer nearest to `r·2^log2` -/
theorem copy_number_nearest (cfg : Cfg) (h : cfg.hasCn = false) (first : String) (r : Seg) :
    ((ncopiesOf cfg first r : Int) : Rat) -
        ((refExpect cfg.ploidy cfg.hapX cfg.female (classOf first cfg.par r.chrom r.s r.e)).1 : Rat) * r.t ≤ 1/2 ∧
    ((refExpect cfg.ploidy cfg.hapX cfg.female (classOf first cfg.par r.chrom r.s r.e)).1 : Rat) * r.t -
        ((ncopiesOf cfg first r : Int) : Rat) ≤ 1/2 := by
  rw [copy_number_rounds_ratio cfg h first r]
  exact roundHalfEven_nearest _

/-- `--show all`: every segment, in order, with its 0-based coordinates unchanged and its integer
    copy number -/
theorem bed_all (cfg : Cfg) (label : Option String) (rows : List Seg) :
    exportBed cfg label .all rows =
      rows.map (fun r => { chrom := r.chrom, s := r.s, e := r.e, label := bedLabel label r,
                           ncopies := ncopiesOf cfg (firstChrom rows) r }) := rfl

/-- `--show ploidy`: exactly the segments whose copy number differs from the ploidy -/
theorem bed_ploidy_iff (cfg : Cfg) (label : Option String) (rows : List Seg) :
    exportBed cfg label .ploidy rows =
      (rows.filter (fun r => ncopiesOf cfg (firstChrom rows) r != (cfg.ploidy : Int))).map
        (bedRowOf cfg (firstChrom rows) label) :=
  exportBed_eq_spec cfg label .ploidy rows

/-- `--show variant`: exactly the segments whose copy number differs from the one expected for
    their chromosome and the sample's sex -/
theorem bed_variant_iff (cfg : Cfg) (label : Option String) (rows : List Seg) :
    exportBed cfg label .variant rows =
      (rows.filter (fun r => ncopiesOf cfg (firstChrom rows) r != expectedCopies cfg (firstChrom rows) r)).map
        (bedRowOf cfg (firstChrom rows) label) :=
  exportBed_eq_spec cfg label .variant rows

/-- a listed row repeats the segment's chromosome, start and end as they are -/
theorem bed_row_coordinates (cfg : Cfg) (first : String) (label : Option String) (r : Seg) :
    (bedRowOf cfg first label r).chrom = r.chrom ∧ (bedRowOf cfg first label r).s = r.s ∧
    (bedRowOf cfg first label r).e = r.e ∧ (bedRowOf cfg first label r).ncopies = ncopiesOf cfg first r :=
  ⟨rfl, rfl, rfl, rfl⟩

/-- one record per segment of that last kind (copy number ≠ expected), in order, and no others;
    the table carries non-negative integer probe counts -/
theorem vcf_record_iff_variant (cfg : Cfg) (rows : List Seg) (h : ProbesOk cfg rows) :
    segments2vcf cfg rows =
      (rows.filter (fun r => ncopiesOf cfg (firstChrom rows) r != expectedCopies cfg (firstChrom rows) r)).map
        (vcfRecOf cfg (firstChrom rows)) :=
  segments2vcf_eq_spec cfg rows h

/-- so `export vcf` and `export bed --show variant` report the same segments -/
theorem vcf_reports_bed_variant_segments (cfg : Cfg) (label : Option String) (rows : List Seg)
    (h : ProbesOk cfg rows) :
    (segments2vcf cfg rows).map (fun v => (v.chrom, v.endp)) =
      (exportBed cfg label .variant rows).map (fun b => (b.chrom, b.e)) := by
  rw [segments2vcf_eq_spec cfg rows h, exportBed_eq_spec]
  unfold vcfSpec bedSpec
  simp only [List.map_map]
  rfl

/-- POS = start (1 where start is 0), END = end -/
theorem vcf_pos_end (cfg : Cfg) (first : String) (r : Seg) :
    (vcfRecOf cfg first r).chrom = r.chrom ∧
    (vcfRecOf cfg first r).pos = (if r.s = 0 then 1 else r.s) ∧
    (vcfRecOf cfg first r).endp = r.e :=
  ⟨rfl, rfl, rfl⟩

/-- copy number below the expected one: SVTYPE = DEL, ALT = <DEL>, SVLEN = −(end − start) -/
theorem vcf_fields_loss (cfg : Cfg) (first : String) (r : Seg)
    (h : ncopiesOf cfg first r < expectedCopies cfg first r) :
    (vcfRecOf cfg first r).svtype = "DEL" ∧ (vcfRecOf cfg first r).alt = "<DEL>" ∧
    (vcfRecOf cfg first r).svlen = -(r.e - r.s) := by
  simp [vcfRecOf, h]

/-- above: SVTYPE = DUP, ALT = <DUP>, SVLEN = +(end − start), and the sample field's CN entry is the
    copy number -/
theorem vcf_fields_gain (cfg : Cfg) (first : String) (r : Seg)
    (h : expectedCopies cfg first r < ncopiesOf cfg first r) :
    (vcfRecOf cfg first r).svtype = "DUP" ∧ (vcfRecOf cfg first r).alt = "<DUP>" ∧
    (vcfRecOf cfg first r).svlen = r.e - r.s ∧
    sampleField (vcfRecOf cfg first r) "CN" = some (toString (ncopiesOf cfg first r)) := by
  have hn : ¬ (ncopiesOf cfg first r < expectedCopies cfg first r) := by omega
  simp [vcfRecOf, hn, sampleField]

/-- the excluded point of `ProbesOk`: a table without a probes column yields no record at all -/
theorem vcf_without_probes_is_empty (cfg : Cfg) (rows : List Seg) (h : cfg.hasProbes = false) :
    segments2vcf cfg rows = [] := by
  rw [segments2vcf_eq, List.map_eq_nil_iff, List.filter_eq_nil_iff]
  simp [probesDigit, h]

/-- each sample's segments, sample after sample, under its ID, with 1-based start, end, probe
    count and mean (chromosome names kept) -/
theorem seg_rows (samples : List SegSample) :
    exportSeg false samples =
      samples.flatMap (fun sm => sm.rows.map (fun r =>
        { id := sm.id, chrom := r.chrom, start := r.s + 1, endp := r.e,
          probes := if sm.hasProbes then some r.probes else none, mean := r.v })) := by
  cases samples with
  | nil => rfl
  | cons a t => exact exportSeg_cons false a t

/-- `--enumerate-chroms` changes the chromosome column only -/
theorem seg_rows_enumerated (en : Bool) (samples : List SegSample) :
    (exportSeg en samples).map (fun o => (o.id, o.start, o.endp, o.probes, o.mean)) =
      (exportSeg false samples).map (fun o => (o.id, o.start, o.endp, o.probes, o.mean)) := by
  cases samples with
  | nil => rfl
  | cons a t => simp only [exportSeg_cons, List.map_flatMap, formatSeg_eq, List.map_map, Function.comp_def]

/-- inputs whose bins differ (coordinates or gene) from the first sample's are refused; labels
    identify bins when chromosome names hold no ':' and starts are not negative -/
theorem merge_refuses_differing_bins (first : BinSample) (rest : List BinSample)
    (hw : ∀ sm ∈ first :: rest, ∀ b ∈ sm.bins, BinOk b)
    (h : ∃ sm ∈ rest, sm.bins.map binKey ≠ first.bins.map binKey) :
    ∃ e, mergeSamples (first :: rest) = .error e := by
  obtain ⟨sm, hsm, hne⟩ := h
  obtain ⟨e, he⟩ := mergeLoop_mismatch (labelCol first) [(first.id, log2Col first)] 1 rest ⟨sm, hsm, fun heq =>
    hne (bins_eq_of_labels sm.bins first.bins (hw sm (by simp [hsm])) (hw first (by simp)) heq)⟩
  exact ⟨e, by simp only [mergeSamples, he]⟩

/-- equal bins but a repeated sample ID: refused as a duplicate -/
theorem merge_rejects_duplicate_id (first : BinSample) (rest : List BinSample)
    (hb : ∀ sm ∈ rest, sm.bins.map binKey = first.bins.map binKey)
    (hd : ¬ ((first :: rest).map (·.id)).Nodup) :
    ∃ id, mergeSamples (first :: rest) = .error (.duplicate id) :=
  (mergeSamples_equal_bins first rest hb).2.2 hd

/-- equal bins and distinct sample IDs (whatever they are): the table is made, and in JTV form it
    has one row per bin carrying the bin's label and each sample's log2 in its own column -/
theorem table_one_row_per_bin_jtv (first : BinSample) (rest : List BinSample)
    (hb : ∀ sm ∈ rest, sm.bins.map binKey = first.bins.map binKey)
    (hd : ((first :: rest).map (·.id)).Nodup) :
    ∃ f, mergeSamples (first :: rest) = .ok f ∧
      (fmtJtv ((first :: rest).map (·.id)) f).1 = ["CloneID", "Name"] ++ (first :: rest).map (·.id) ∧
      (fmtJtv ((first :: rest).map (·.id)) f).2.length = first.bins.length ∧
      ∀ i, i < first.bins.length →
        (fmtJtv ((first :: rest).map (·.id)) f).2[i]? =
          some ([Cell.str "IMAGE:", Cell.str (labelWithGene (first.bins.getD i default))] ++
                (first :: rest).map (fun sm => Cell.num ((sm.bins.getD i default).v))) := by
  obtain ⟨hlen, hok, -⟩ := mergeSamples_equal_bins first rest hb
  refine ⟨_, hok hd, rfl, ?_⟩
  exact merged_rows first (first :: rest) hlen (fun n name => [List.replicate n (Cell.str "IMAGE:"), name]) _ fun i hi => by
    simp only [List.map_cons, List.map_nil, labelCol_getD first i hi]
    simp [List.getD_eq_getElem?_getD, hi]

/-- the same in CDT form, after its two header rows -/
theorem table_one_row_per_bin_cdt (first : BinSample) (rest : List BinSample)
    (hb : ∀ sm ∈ rest, sm.bins.map binKey = first.bins.map binKey)
    (hd : ((first :: rest).map (·.id)).Nodup) :
    ∃ f, mergeSamples (first :: rest) = .ok f ∧
      (fmtCdt ((first :: rest).map (·.id)) f).1 = ["GID", "CLID", "NAME", "GWEIGHT"] ++ (first :: rest).map (·.id) ∧
      (((fmtCdt ((first :: rest).map (·.id)) f).2).drop 2).length = first.bins.length ∧
      ∀ i, i < first.bins.length →
        (((fmtCdt ((first :: rest).map (·.id)) f).2).drop 2)[i]? =
          some ([Cell.str ("GENE" ++ toString i ++ "X"), Cell.str ("IMAGE:" ++ toString i),
                 Cell.str (labelWithGene (first.bins.getD i default)), Cell.int 1] ++
                (first :: rest).map (fun sm => Cell.num ((sm.bins.getD i default).v))) := by
  obtain ⟨hlen, hok, -⟩ := mergeSamples_equal_bins first rest hb
  refine ⟨_, hok hd, rfl, ?_⟩
  exact merged_rows first (first :: rest) hlen
    (fun n name => [(List.range n).map (fun i => Cell.str ("GENE" ++ toString i ++ "X")),
      (List.range n).map (fun i => Cell.str ("IMAGE:" ++ toString i)), name, List.replicate n (Cell.int 1)]) _ fun i hi => by
    simp only [List.map_cons, List.map_nil, labelCol_getD first i hi]
    simp [List.getD_eq_getElem?_getD, hi]

/-- nexus-basic: one row per bin with its coordinates, gene, log2 and its range label
    `chromosome:start+1-end` (cnvkit's 1-based text coordinates) -/
theorem nexus_one_row_per_bin (bins : List Bin) :
    (nexusBasic bins).length = bins.length ∧
    ∀ i, i < bins.length →
      (nexusBasic bins)[i]? = some (let b := bins.getD i default
        [Cell.str b.chrom, Cell.int b.s, Cell.int b.e, Cell.str b.gene, Cell.num b.v,
         Cell.str (b.chrom ++ ":" ++ toString (b.s + 1) ++ "-" ++ toString b.e)]) := by
  constructor
  · simp [nexusBasic]
  · intro i hi
    simp [nexusBasic, toLabel, List.getD_eq_getElem?_getD, hi]

/-! ### the code without fix Z and without fix AA (DESIGN.md 9.3) -/

/-- before fix Z `export bed` took the reference copies from the chromosome name alone: a neutral
    PAR1-X segment (log2 0) against a male reference of a diploid-PAR genome got 1 copy where 2 are expected
    and where `export vcf` (`ncopiesOf`) counts 2, so `--show variant` listed it -/
theorem bed_prefix_counterexample :
    let cfg : Cfg := { ploidy := 2, hapX := true, female := false, par := some "grch38",
                       hasCn := false, hasProbes := true }
    let r : Seg := { chrom := "chrX", s := 10000, e := 2781479, gene := "-", v := 0, t := 1, probes := 9, cn := 0 }
    ncopiesBedPrefix cfg r = 1 ∧ expectedCopies cfg "chr1" r = 2 ∧ ncopiesOf cfg "chr1" r = 2 := by
  decide +kernel

/-- before fix AA a first sample called "gene" overwrote the gene column and lost its own: the
    JTV row had no sample cell -/
theorem merge_prefix_counterexample :
    let sm : BinSample := { id := "gene", bins := [{ chrom := "chr1", s := 100, e := 250, gene := "B", v := -1/4 }] }
    (mergeSamplesPrefix [sm]).map (fun f => (fmtJtvPrefix ["gene"] f).2) =
      .ok [[Cell.str "IMAGE:", Cell.str "chr1:100-250:B"]] ∧
    (mergeSamples [sm]).map (fun f => (fmtJtv ["gene"] f).2) =
      .ok [[Cell.str "IMAGE:", Cell.str "chr1:100-250:B", Cell.num (-1/4)]] := by
  decide +kernel

/-- a male sample, male reference, grch38 -/
def exCfg : Cfg := { ploidy := 2, hapX := true, female := false, par := some "grch38", hasCn := true, hasProbes := true }
/-- chr1 with 3 copies (gain), neutral PAR1-X, X with 2 copies (gain over the 1 expected), Y with 0 (loss),
    starting at 0 -/
def exRows : List Seg :=
  [{ chrom := "chr1", s := 0, e := 1000, gene := "A", v := 0, t := 1, probes := 5, cn := 3 },
   { chrom := "chr1", s := 1000, e := 5000, gene := "B", v := 0, t := 1, probes := 7, cn := 2 },
   { chrom := "chrX", s := 10000, e := 2781479, gene := "C", v := 0, t := 1, probes := 9, cn := 2 },
   { chrom := "chrX", s := 3000000, e := 3000100, gene := "D", v := 0, t := 1, probes := 2, cn := 2 },
   { chrom := "chrY", s := 2781480, e := 2800000, gene := "E", v := 0, t := 1, probes := 4, cn := 0 }]

example : ProbesOk exCfg exRows := by
  refine ⟨rfl, ?_⟩
  decide +kernel

example : (exportBed exCfg none .variant exRows).map (fun b => (b.chrom, b.s, b.ncopies)) =
    [("chr1", 0, 3), ("chrX", 3000000, 2), ("chrY", 2781480, 0)] := by decide +kernel

example : (segments2vcf exCfg exRows).map (fun v => (v.chrom, v.pos, v.alt, v.svlen, v.sample)) =
    [("chr1", 1, "<DUP>", 1000, ["0/1", "0", "3", "5"]),
     ("chrX", 3000000, "<DUP>", 100, ["0/1", "0", "2", "2"]),
     ("chrY", 2781480, "<DEL>", -18520, ["1/1", "4"])] := by decide +kernel

example : BinOk { chrom := "chr1", s := 0, e := 10, gene := "A:B", v := 0 } := by
  refine ⟨?_, by decide⟩
  decide +kernel

end CnvVerif.C20
