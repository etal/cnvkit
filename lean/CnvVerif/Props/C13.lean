/-
  C13 — access lists exactly the non-N runs of the genome, joined and excluded as asked.
  Property theorems only; the lemmas are in Lemmas/Access*.lean (scanner, runs, file loop, join, pipeline) and
  Lemmas/ContigName.lean.

  Vocabulary.  A sequence is a `List Char`; `lines : List (List Char)` is ANY splitting of it into
  lines (any widths, ragged, blank lines included), so `lines.flatten` is the sequence.
  `IsMaxRun f n s e`: `[s, e)` is a maximal run of positions satisfying `f` inside `[0, n)`.
  `nonN w i`: position `i` of `w` holds a character other than 'N' (lowercase 'n' is not a mask
  character, in the code as in the property's wording).
  `Accessible w excl p`: base `p` is not 'N' and lies in no region of any exclude file.
  `InSmallGap acc g p`: `p` lies in a stretch of inaccessible bases shorter than `g` that has an
  accessible base on either side — a gap that was deliberately bridged.
  `bridgedL g l p`: `p` lies in a gap between two consecutive rows of `l` that is shorter than `g`.
  One exclude file = its rows on this chromosome sorted by start (what `tabio.read` returns),
  positive length; rows may overlap, nest, repeat, touch.
-/
import CnvVerif.Model.Access
import CnvVerif.Lemmas.Access
import CnvVerif.Lemmas.AccessFile
import CnvVerif.Lemmas.ContigName
namespace CnvVerif.C13
open CnvVerif

/-- for ANY splitting of a sequence into lines the scanner state machine of `get_regions`
    (blank line, all-N shortcut, mixed line via `n_indices`, N-free line) emits exactly the
    position-level maximal non-'N' runs of the concatenation -/
theorem scan_eq_maximal_runs (lines : List (List Char)) : scanSeq lines = maxRuns lines.flatten :=
  scanSeq_eq_maxRuns lines

/-- "exactly the maximal runs of characters other than 'N' (0-based half-open)" -/
theorem scan_reports_exactly_maximal_runs (lines : List (List Char)) (s e : Nat) :
    (s, e) ∈ scanSeq lines ↔ IsMaxRun (nonN lines.flatten) lines.flatten.length s e := by
  rw [scanSeq_eq_maxRuns]; exact mem_maxRuns_iff _ s e

/-- the runs of a sequence come out non-empty, sorted and separated by at least one 'N' -/
theorem scan_sorted_separated (lines : List (List Char)) :
    (∀ r ∈ scanSeq lines, r.1 < r.2) ∧ (scanSeq lines).Pairwise (fun a b => a.2 < b.1) := by
  rw [scanSeq_eq_maxRuns]; exact accRuns_canon _ _

/-- the file loop: header lines switch sequences, and each sequence is reported by its own scan -/
theorem file_scan_per_sequence (recs : List (String × List (List Char))) :
    getRegions (renderRecords recs) =
      .ok (recs.flatMap (fun r => (maxRuns r.2.flatten).map (fun x => (r.1, x.1, x.2)))) :=
  getRegions_records recs

/-- one exclude file removes exactly its bases and leaves the regions non-empty, sorted, separated -/
theorem exclude_removes_exactly (t b : List Row) (hc : Canon t) (hs : StartSorted b)
    (hp : ∀ r ∈ b, r.s < r.e) :
    Canon (subtractChrom t b) ∧ ∀ p, cov (subtractChrom t b) p ↔ cov t p ∧ ¬ cov b p :=
  subtractChrom_spec t b hc hs hp

/-- `join_regions`: neighbours whose gap is `< minGap` are joined, the others kept; the result is
    non-empty, sorted, and every remaining gap is at least `max 1 minGap` wide -/
theorem join_spec (minGap : Int) (l : List Row) (hc : Canon l) :
    (∀ r ∈ joinChrom minGap l, r.s < r.e) ∧
    (joinChrom minGap l).Pairwise (fun a b => a.e + max 1 minGap ≤ b.s) ∧
    ∀ p, cov (joinChrom minGap l) p ↔ cov l p ∨ bridgedL minGap l p :=
  ⟨(joinChrom_canon minGap l hc).1, (joinChrom_canon minGap l hc).2, joinChrom_cov minGap l hc⟩

/-- the `assert gap > 0` inside `join_regions` cannot fire on such a table -/
theorem join_assert_never_fires (l : List Row) (hc : Canon l) : gapsPositive l = true :=
  gapsPositive_of_canon l hc

/-- every reported region is non-empty -/
theorem access_regions_nonempty (name : String) (lines : List (List Char)) (excl : List (List Row))
    (minGap : Int) (hex : ∀ b ∈ excl, StartSorted b ∧ ∀ r ∈ b, r.s < r.e) :
    ∀ r ∈ accessChrom name lines excl minGap, r.s < r.e :=
  (accessChrom_spec name lines excl minGap hex).1

/-- regions of a sequence are sorted and separated by at least one base (in fact by at least
    `minGap` bases) -/
theorem access_sorted_separated (name : String) (lines : List (List Char)) (excl : List (List Row))
    (minGap : Int) (hex : ∀ b ∈ excl, StartSorted b ∧ ∀ r ∈ b, r.s < r.e) :
    (accessChrom name lines excl minGap).Pairwise (fun a b => a.e + max 1 minGap ≤ b.s) :=
  (accessChrom_spec name lines excl minGap hex).2.1

/-- exactly: a base is reported iff it is accessible or lies in a bridged gap -/
theorem access_exact (name : String) (lines : List (List Char)) (excl : List (List Row))
    (minGap : Int) (hex : ∀ b ∈ excl, StartSorted b ∧ ∀ r ∈ b, r.s < r.e) (p : Int) :
    cov (accessChrom name lines excl minGap) p ↔
      Accessible lines.flatten excl p ∨ InSmallGap (Accessible lines.flatten excl) minGap p :=
  (accessChrom_spec name lines excl minGap hex).2.2 p

/-- no reported base is an N or excluded unless it lies in a gap that was deliberately bridged -/
theorem no_N_or_excluded_unless_bridged (name : String) (lines : List (List Char))
    (excl : List (List Row)) (minGap : Int)
    (hex : ∀ b ∈ excl, StartSorted b ∧ ∀ r ∈ b, r.s < r.e) (p : Int)
    (hrep : cov (accessChrom name lines excl minGap) p)
    (hbad : ¬ NonNAt lines.flatten p ∨ ∃ b ∈ excl, cov b p) :
    InSmallGap (Accessible lines.flatten excl) minGap p := by
  rcases (access_exact name lines excl minGap hex p).mp hrep with h | h
  · rcases hbad with hb | ⟨b, hb, hc⟩
    · exact absurd h.1 hb
    · exact absurd hc (h.2 b hb)
  · exact h

/-- larger gaps are left alone: a stretch of at least `minGap` inaccessible bases is never reported -/
theorem large_gaps_kept (name : String) (lines : List (List Char)) (excl : List (List Row))
    (minGap : Int) (hex : ∀ b ∈ excl, StartSorted b ∧ ∀ r ∈ b, r.s < r.e) (g1 g2 p : Int)
    (hgap : ∀ q, g1 ≤ q → q < g2 → ¬ Accessible lines.flatten excl q) (hsize : minGap ≤ g2 - g1)
    (h1 : g1 ≤ p) (h2 : p < g2) : ¬ cov (accessChrom name lines excl minGap) p := by
  rw [access_exact name lines excl minGap hex p]
  exact not_reported_in_large_gap _ minGap g1 g2 p hgap hsize h1 h2

/-- sequences the rule deems non-canonical are dropped exactly when the option is on -/
theorem noncanonical_dropped_iff (skip : Bool) (regs : List Region) (r : Region) :
    r ∈ keepRegions skip regs ↔ r ∈ regs ∧ (skip = true → isCanonicalName r.1 = true) := by
  unfold keepRegions
  cases skip <;> simp [List.mem_filter]

/-- the rule as read from `cnvlib/antitarget.py` (Generated.NONCANONICAL_RULE), in words: EBV,
    NC_ accessions, `_random`, `Un_`, `HLA-`, `_alt`, `hap<digit>`, and mitochondrial `chrM` / `MT` -/
theorem noncanonical_rule (name : String) :
    isCanonicalName name = false ↔
      name.toList = "chrEBV".toList ∨ "NC".toList <+: name.toList ∨ "_random".toList <:+ name.toList ∨
      "Un_".toList <:+: name.toList ∨ "HLA-".toList <+: name.toList ∨ "_alt".toList <:+ name.toList ∨
      (∃ d, d.isDigit = true ∧ ("hap".toList ++ [d]) <:+ name.toList) ∨
      "chrM".toList <:+: name.toList ∨ "MT".toList <:+: name.toList := by
  unfold isCanonicalName
  rw [← noncanonical_iff name.toList]
  simp

/-! ### non-vacuity: concrete inputs, evaluated by the kernel -/

example : scanSeq ["ACN".toList, "NG".toList, [], "TNA".toList] = [(0, 2), (4, 6), (7, 8)] := by decide +kernel
example : maxRuns "ACNNGTNA".toList = [(0, 2), (4, 6), (7, 8)] := by decide +kernel
example : IsMaxRun (nonN "ACNNGTNA".toList) 8 4 6 := by
  refine ⟨by decide, by decide, ?_, Or.inr (by decide), Or.inr (by decide)⟩
  intro i h1 h2
  have : i = 4 ∨ i = 5 := by omega
  rcases this with rfl | rfl <;> decide
/-- exclude rows that overlap and nest satisfy the hypotheses; the pipeline output is as expected -/
example : StartSorted [(⟨"chr1", 1, 2, ""⟩ : Row), ⟨"chr1", 1, 3, ""⟩] ∧
    ∀ r ∈ [(⟨"chr1", 1, 2, ""⟩ : Row), ⟨"chr1", 1, 3, ""⟩], r.s < r.e := by
  decide +kernel
example : (accessChrom "chr1" ["AAAANN".toList, "AAANA".toList]
      [[⟨"chr1", 1, 2, ""⟩, ⟨"chr1", 1, 3, ""⟩]] 2).map (fun r => (r.s, r.e)) = [(0, 1), (3, 4), (6, 11)] := by
  decide +kernel
example : isCanonicalName "chr1" = true ∧ isCanonicalName "chrX" = true ∧ isCanonicalName "22" = true ∧
    isCanonicalName "chr1_KI270706v1_random" = false ∧ isCanonicalName "chrUn_GL000195v1" = false ∧
    isCanonicalName "chr6_GL000250v2_alt" = false ∧ isCanonicalName "HLA-A*01:01:01:01" = false ∧
    isCanonicalName "chrEBV" = false ∧ isCanonicalName "chrM" = false ∧ isCanonicalName "MT" = false :=
  have ⟨c1, c22, cX, cM, cMT, alt, rnd, un, _, _, ebv, hla⟩ := isCanonicalName_examples
  ⟨c1, cX, c22, rnd, un, alt, hla, ebv, cM, cMT⟩

end CnvVerif.C13
