/-
  C08 — every table format is read to 0-based half-open coordinates, sorted; write-then-read is
  lossless and the second write is a fixed point.
  The lemmas the proofs rest on are in Lemmas/Formats*.lean.  The model (Model/Formats.lean) works
  on FIELDS: a file is its lines split at tabs; integers are printed/parsed with Lean's own decimal
  functions (`Int.toInt?_repr` is a core theorem), floats are exact rationals and `%.6g` is `sixg`.
  All ±1 shifts are `CnvVerif.Generated.*` constants extracted from /repo, so editing a shift in the
  source breaks the obligations below.
-/
import CnvVerif.Lemmas.FormatsSniff
import CnvVerif.Lemmas.FormatsOneBased
import CnvVerif.Lemmas.FormatsKey
import CnvVerif.Lemmas.FormatsNum
namespace CnvVerif.C08
open CnvVerif CnvVerif.Fmt CnvVerif.Generated

/-! ### the conventions, as found in the source -/

/-- BED and CNVkit tab files are read as written; interval lists, chr:start-end text, GFF, SEG, VCF and
    Picard per-target tables are shifted from 1-based; no reader or writer touches `end` -/
theorem shift_table :
    READ_SHIFT_bed = 0 ∧ READ_SHIFT_tab = 0 ∧ READ_SHIFT_interval = -1 ∧
    READ_SHIFT_from_label + READ_SHIFT_text_reader = -1 ∧ TEXT_READER_USES_from_label = true ∧
    READ_SHIFT_gff = -1 ∧ READ_SHIFT_seg = -1 ∧ READ_SHIFT_vcf_sites = -1 ∧ READ_SHIFT_vcf_simple = -1 ∧
    READ_SHIFT_picardhs = -1 ∧ END_SHIFT_total = 0 := by decide

/-- every writer undoes its reader's shift (the text writer is `write_text` followed by `to_label`) -/
theorem writers_invert_readers :
    WRITE_SHIFT_tab + READ_SHIFT_tab = 0 ∧ WRITE_SHIFT_bed3 + READ_SHIFT_bed = 0 ∧
    WRITE_SHIFT_bed4 + READ_SHIFT_bed = 0 ∧ WRITE_SHIFT_interval + READ_SHIFT_interval = 0 ∧
    WRITE_SHIFT_seg + READ_SHIFT_seg = 0 ∧ WRITE_SHIFT_picardhs + READ_SHIFT_picardhs = 0 ∧
    TEXT_WRITER_USES_to_label = true ∧
    WRITE_SHIFT_text_writer + WRITE_SHIFT_to_label + READ_SHIFT_from_label + READ_SHIFT_text_reader = 0 :=
  shift_cancel

/-- sort keys, rank constants of `sorter_chrom`, and the 6-significant-digit float format of both writers -/
theorem format_constants :
    SORT_KEYS = ["_sort_key_", "start", "end"] ∧ SORTER_RANKS = [1000, 2000, 3000] ∧
    SIG_DIGITS = 6 ∧ FLOAT_FORMAT = "%.6g" ∧ FLOAT_FORMAT_dataframe = "%.6g" := ⟨rfl, rfl, rfl, rfl, rfl⟩

/-- the sniffing cascade and the regular expressions the model re-expresses on fields -/
theorem sniff_constants :
    SNIFF_ORDER = ["gff", "text", "tab", "interval", "refflat", "bed"] ∧
    SNIFF_PATTERNS =
      [("text", "\\w+:\\d*-\\d*.*"), ("tab", "chromosome\tstart\tend"),
       ("interval", "\\w+\t\\d+\t\\d+\t[.+-]\t\\S+$"),
       ("refflat", "\\S+\t\\S+\t\\w+\t[+-]\t\\d+\t\\d+\t\\d+\t\\d+\t\\d+\t(\\d+,)+\t(\\d+,)+$"),
       ("gff", "\\w+\t\\S+\t\\w+\t\\d+\t\\d+\t\\S+\t[.?+-]\t[012.]\t.*"), ("bed", "\\S+\t\\d+\t\\d+")] ∧
    RE_LABEL = "(\\w[\\w.]*)?:(\\d+)?-(\\d+)?\\s*(\\S+)?" := ⟨rfl, rfl, rfl⟩

/-! ### rows sorted by natural chromosome order, then start, then end -/

/-- whatever the format and the file, the table `tabio.read` returns is sorted -/
theorem read_is_sorted (fmt : String) (cna : Bool) (sel : SampleSel) (lines : List Line) (t : FTab)
    (h : readFmt fmt cna sel lines = .ok t) : SortedRows t.rows := by
  unfold readFmt at h
  obtain ⟨u, _, hu⟩ := bind_ok h
  exact finish_sorted _ _ _ hu

/-- the sort order is a total preorder -/
theorem sort_order_total_preorder :
    (∀ a b : FRow, (rowLe a b || rowLe b a) = true) ∧
    (∀ a b c : FRow, rowLe a b = true → rowLe b c = true → rowLe a c = true) := ⟨rowLe_total, rowLe_trans⟩

/-- sorting loses and invents no row -/
theorem sort_permutes (t : List FRow) : (sortF t).Perm t := sortF_perm t
theorem sort_idempotent (t : List FRow) : sortF (sortF t) = sortF t := sortF_idem t
/-- the sort is stable: rows already in order keep their file order, duplicates included -/
theorem sort_stable (t c : List FRow) (hc : SortedRows c) (hsub : c.Sublist t) : c.Sublist (sortF t) :=
  List.sublist_mergeSort rowLe_trans rowLe_total hc hsub

/-- within one chromosome name the rows are ordered by start, then end; chromosome keys never decrease -/
theorem sorted_by_start_then_end (t : List FRow) (h : SortedRows t) :
    t.Pairwise (fun a b => a.chrom = b.chrom → a.s < b.s ∨ (a.s = b.s ∧ a.e ≤ b.e)) ∧
    t.Pairwise (fun a b => chromKeyLt (sorterChrom b.chrom) (sorterChrom a.chrom) = false) :=
  ⟨sorted_same_chrom t h, sorted_keys_monotone t h⟩

/-- natural order 1 < 2 < 10 < … < X < Y < M < MT, numbers by value, with or without the chr prefix -/
theorem natural_chromosome_order (n m : Nat) (hnm : n < m) (hm : m < 1000) (p : String) (hp : p = "" ∨ p = "chr") :
    chromKeyLt (sorterChrom (p ++ toString n)) (sorterChrom (p ++ toString m)) = true ∧
    chromKeyLt (sorterChrom (p ++ toString m)) (sorterChrom (p ++ "X")) = true ∧
    chromKeyLt (sorterChrom (p ++ "X")) (sorterChrom (p ++ "Y")) = true ∧
    chromKeyLt (sorterChrom (p ++ "Y")) (sorterChrom (p ++ "M")) = true ∧
    chromKeyLt (sorterChrom (p ++ "M")) (sorterChrom (p ++ "MT")) = true := natural_order n m hnm hm p hp

/-- the key ignores a chr/Chr/CHR prefix -/
theorem chromosome_key_prefix_insensitive (s : String) (a b c : Char)
    (ha : a.toLower = 'c') (hb : b.toLower = 'h') (hc : c.toLower = 'r') (hs : chrPrefixed s.toList = false) :
    sorterChrom (String.ofList [a, b, c] ++ s) = sorterChrom s :=
  sorterChrom_prefix_insensitive s a b c ha hb hc hs

/-! ### write, then read: identical coordinates, names and integer columns -/

/-- BED3: the coordinates come back, sorted; there are no other columns -/
theorem bed3_write_read (t : FTab) (hn : ∀ r ∈ t.rows, NoTrackName r.chrom) (sel : SampleSel) :
    readFmt "bed3" false sel (renderLines (writeBed3 t)) =
      .ok { names := [], rows := sortF (t.rows.map coordsOnly) } := by
  rw [readFmt_bed3, readBed_writeBed3 3 t hn]
  exact finish_ga_id ⟨[], t.rows.map coordsOnly⟩ List.nodup_nil rfl (List.forall_mem_map.mpr fun _ _ => rfl)

/-- BED4: the coordinates and the gene labels come back (labels without trailing white space, `WFGene`) -/
theorem bed4_write_read (t : FTab) (hn : ∀ r ∈ t.rows, NoTrackName r.chrom) (hg : WFGene t) (sel : SampleSel) :
    readFmt "bed4" false sel (renderLines (writeBed4 t)) =
      .ok { names := ["gene"], rows := sortF (t.rows.map fun r => ⟨r.chrom, r.s, r.e, [.str (geneStr t r)]⟩) } := by
  rw [readFmt_bed4, readBed_writeBed4 4 t hn hg]
  exact finish_ga_id ⟨["gene"], _⟩ (List.nodup_singleton _) rfl (List.forall_mem_map.mpr fun _ _ => rfl)

/-- interval list: coordinates, gene and strand come back, the two columns in the name order `sort_columns` leaves -/
theorem interval_write_read (t : FTab) (h : WFInterval t) (sel : SampleSel) :
    readFmt "interval" false sel (renderLines (writeInterval t)) =
      .ok { names := ["gene", "strand"],
            rows := sortF (t.rows.map fun r => ⟨r.chrom, r.s, r.e, [.str (geneStr t r), .str (strandStr t r)]⟩) } := by
  simp only [readFmt, readInterval_writeInterval t h, bind, Except.bind]
  rw [finish_strand_gene]
  simp only [List.map_map, Function.comp_def, List.getD_cons_zero, List.getD_cons_succ]

/-- `chrom:start-end` text: the coordinates come back; the gene column the reader adds holds `-` -/
theorem text_write_read (t : FTab) (hn : ∀ r ∈ t.rows, LabelName r.chrom)
    (hpos : ∀ r ∈ t.rows, 0 ≤ r.s ∧ 0 ≤ r.e) (sel : SampleSel) :
    readFmt "text" false sel (renderLines (writeText t)) =
      .ok { names := ["gene"], rows := sortF (t.rows.map fun r => ⟨r.chrom, r.s, r.e, [.str "-"]⟩) } := by
  simp only [readFmt, readText_writeText t hn hpos, bind, Except.bind]
  exact finish_ga_id ⟨["gene"], _⟩ (List.nodup_singleton _) rfl (List.forall_mem_map.mpr fun _ _ => rfl)

/-- .cnn/.cnr/.cns-style tab files with any number of string and integer columns come back with the same names and the rows in sorted order -/
theorem tab_write_read (t : FTab) (h : WFTab t) (sel : SampleSel) :
    readFmt "tab" false sel (renderLines (writeTab t)) = .ok { names := t.names, rows := sortF t.rows } := by
  rw [readFmt_tab, readTab_writeTab t h]
  exact finish_ga_id t h.1 h.2.1 fun r hr => (h.2.2.2.1 r hr).2

/-- writing the table that was read back and reading it again changes nothing: the third file equals
    the second one -/
theorem tab_second_write_is_fixpoint (t : FTab) (h : WFTab t) (sel : SampleSel) :
    ∃ t1, readFmt "tab" false sel (renderLines (writeTab t)) = .ok t1 ∧
      readFmt "tab" false sel (renderLines (writeTab t1)) = .ok t1 := by
  refine ⟨{ names := t.names, rows := sortF t.rows }, tab_write_read t h sel, ?_⟩
  have hperm := sortF_perm t.rows
  have h1 : WFTab { names := t.names, rows := sortF t.rows } := by
    obtain ⟨a, b, c, d, e⟩ := h
    refine ⟨a, b, c, perm_forall hperm d, ?_⟩
    intro j hj
    rcases e j hj with ⟨e0, e1⟩ | e1
    · exact Or.inl ⟨e0, perm_forall hperm e1⟩
    · exact Or.inr (perm_forall hperm e1)
  have := tab_write_read _ h1 sel
  simpa [sortF_idem] using this

/-- a table that was already sorted is rewritten to the very same lines -/
theorem tab_sorted_rewrites_identically (t : FTab) (h : WFTab t) (hs : SortedRows t.rows) (sel : SampleSel) :
    ∃ t1, readFmt "tab" false sel (renderLines (writeTab t)) = .ok t1 ∧
      renderLines (writeTab t1) = renderLines (writeTab t) := by
  refine ⟨{ names := t.names, rows := sortF t.rows }, tab_write_read t h sel, ?_⟩
  rw [sortF_of_sorted _ hs]

/-- BED3: the file written from the table that was read back is read to that same table -/
theorem bed3_second_write_is_fixpoint (t : FTab) (hn : ∀ r ∈ t.rows, NoTrackName r.chrom) (sel : SampleSel) :
    ∃ t1, readFmt "bed3" false sel (renderLines (writeBed3 t)) = .ok t1 ∧
      readFmt "bed3" false sel (renderLines (writeBed3 t1)) = .ok t1 := by
  refine ⟨⟨[], sortF (t.rows.map coordsOnly)⟩, bed3_write_read t hn sel, ?_⟩
  have hn1 : ∀ r ∈ sortF (t.rows.map coordsOnly), NoTrackName r.chrom := by
    intro r hr
    obtain ⟨x, hx, rfl⟩ := List.mem_map.mp ((sortF_perm (t.rows.map coordsOnly)).mem_iff.mp hr)
    exact hn x hx
  -- the rows read back have no payload columns and are sorted: dropping columns and sorting again do nothing
  rw [bed3_write_read ⟨[], sortF (t.rows.map coordsOnly)⟩ hn1 sel]
  show Except.ok (⟨[], sortF ((sortF (t.rows.map coordsOnly)).map coordsOnly)⟩ : FTab) = _
  rw [sortF_map_coords, List.map_map, show coordsOnly ∘ coordsOnly = coordsOnly from rfl, sortF_idem]

/-- one table written as BED3, BED4, interval list and text reads back to the same coordinates -/
theorem cross_format_same_table (t : FTab) (sel : SampleSel)
    (hn : ∀ r ∈ t.rows, NoTrackName r.chrom) (hg : WFGene t) (hi : WFInterval t)
    (hl : ∀ r ∈ t.rows, LabelName r.chrom) (hpos : ∀ r ∈ t.rows, 0 ≤ r.s ∧ 0 ≤ r.e) :
    coordsT (readFmt "bed3" false sel (renderLines (writeBed3 t))) = .ok (sortF (t.rows.map coordsOnly)) ∧
    coordsT (readFmt "bed4" false sel (renderLines (writeBed4 t))) = .ok (sortF (t.rows.map coordsOnly)) ∧
    coordsT (readFmt "interval" false sel (renderLines (writeInterval t))) = .ok (sortF (t.rows.map coordsOnly)) ∧
    coordsT (readFmt "text" false sel (renderLines (writeText t))) = .ok (sortF (t.rows.map coordsOnly)) := by
  refine ⟨?_, ?_, ?_, ?_⟩
  · rw [bed3_write_read t hn sel, coordsT_ok, List.map_map]; rfl
  · rw [bed4_write_read t hn hg sel, coordsT_ok, List.map_map]; rfl
  · rw [interval_write_read t hi sel, coordsT_ok, List.map_map]; rfl
  · rw [text_write_read t hl hpos sel, coordsT_ok, List.map_map]; rfl

/-! ### third-party formats are read to 0-based half-open regions, sorted -/

/-- GFF: columns 4-5 one-based inclusive, under `#` comment lines -/
theorem gff_read_zero_based (items : List (Region × (String × String × String × String × String × String)))
    (hdr : List Line) (hh : ∀ l ∈ hdr, sw "#" (l.headD "") = true)
    (hc : ∀ p ∈ items, ∀ f ∈ gffLine p.1 p.2, noChar '#' f) (sel : SampleSel) :
    ReadsAs "gff" sel (hdr ++ items.map (fun p => gffLine p.1 p.2)) (items.map (·.1)) := by
  obtain ⟨rows, hr, hp⟩ := readGff_lines items hdr hh hc
  exact ReadsAs.of_reader _ _ rfl hr hp

/-- SEG of one sample: lines without a tab before the header are skipped, `loc.start` is one-based -/
theorem seg_read_zero_based (sid : String) (hs : PlainLabel sid) (items : List (Region × String))
    (hne : items ≠ []) (junk : List Line) (hj : ∀ l ∈ junk, l.length ≤ 1) (hdr : Line) (hh : hdr.length = 5)
    (hc : ∀ p ∈ items, ChromName p.1.1) :
    ReadsAs "seg" .first (junk ++ hdr :: items.map (fun p => segLine sid p.1 p.2)) (items.map (·.1)) := by
  obtain ⟨rows, hr, hp⟩ := parseSeg_lines sid hs items hne junk hj hdr hh hc
  refine ReadsAs.of_reader (readSeg _ .first) ⟨["log2", "gene"], rows⟩ rfl ?_ (List.Perm.of_eq hp)
  simp only [readSeg, hr, bind, Except.bind, pure, Except.pure]

/-- VCF sites: POS is one-based, the end is INFO/END (the value -1, which `set_ends` treats as missing, is excluded) -/
theorem vcf_read_zero_based (items : List (Region × (String × String × String × String × String)))
    (hdr : List Line) (hh : ∀ l ∈ hdr, sw "#" (l.headD "") = true)
    (hc : ∀ p ∈ items, ∀ f ∈ vcfLine p.1 p.2, noChar '#' f)
    (he : ∀ p ∈ items, p.1.2.2 ≠ -1) (sel : SampleSel) :
    ReadsAs "vcf-sites" sel (hdr ++ items.map (fun p => vcfLine p.1 p.2)) (items.map (·.1)) := by
  obtain ⟨rows, hr, hp⟩ := readVcf_lines items hdr hh hc he
  exact ReadsAs.of_reader _ _ rfl hr (List.Perm.of_eq hp)

/-- Picard per-target coverage: a header row, one-based start, three float columns that must parse -/
theorem picard_read_zero_based (items : List (Region × (Int × String × String × String × String)))
    (hdr : Line) (hh : hdr.length = 8) (hb : hdr ≠ [""])
    (hnum : ∀ p ∈ items, (parseDec p.2.2.2.1.toList).isSome ∧ (parseDec p.2.2.2.2.1.toList).isSome ∧
                          (parseDec p.2.2.2.2.2.toList).isSome) (sel : SampleSel) :
    ReadsAs "picardhs" sel (hdr :: items.map (fun p => picardLine p.1 p.2)) (items.map (·.1)) := by
  obtain ⟨rows, hr, hp⟩ := readPicard_lines items hdr hh hnum
  exact ReadsAs.of_reader _ _ rfl hr (List.Perm.of_eq hp)

/-! ### auto-detection selects a parser that yields the same table -/

/-- a written BED3 file is detected as `bed` (the five-column reader), an empty one falls to `bed3`; either way the
    coordinates are those the `bed3` reader gives -/
theorem sniff_selects_equivalent_reader_bed3 (t : FTab) (ext : String) (hx : NoHint ext)
    (hw : ∀ r ∈ t.rows, WordName r.chrom) (hp : NonNegRows t) (sel : SampleSel) :
    ∃ fmt, autoFormat ext (renderLines (writeBed3 t)) = .ok fmt ∧
      coordsT (readFmt fmt false sel (renderLines (writeBed3 t))) =
        coordsT (readFmt "bed3" false sel (renderLines (writeBed3 t))) := by
  by_cases hne : t.rows = []
  · rw [renderLines_writeBed3, hne]
    exact ⟨"bed3", sniff_empty ext, rfl⟩
  · refine ⟨"bed", sniff_written_bed3 t ext hx hne hw hp, ?_⟩
    rw [readFmt_bed, readFmt_bed3, coordsT_readBed, coordsT_readBed]

/-- the same for a written BED4 file and the `bed4` reader -/
theorem sniff_selects_equivalent_reader_bed4 (t : FTab) (ext : String) (hx : NoHint ext)
    (hw : ∀ r ∈ t.rows, WordName r.chrom) (hp : NonNegRows t) (hg : WFGene t) (sel : SampleSel) :
    ∃ fmt, autoFormat ext (renderLines (writeBed4 t)) = .ok fmt ∧
      coordsT (readFmt fmt false sel (renderLines (writeBed4 t))) =
        coordsT (readFmt "bed4" false sel (renderLines (writeBed4 t))) := by
  by_cases hne : t.rows = []
  · refine ⟨"bed3", ?_, by rw [readFmt_bed3, readFmt_bed4, coordsT_readBed, coordsT_readBed]⟩
    rw [renderLines_writeBed4 t hg, hne]
    exact sniff_empty ext
  · exact ⟨"bed", sniff_written_bed4 t ext hx hne hw hp hg,
      by rw [readFmt_bed, readFmt_bed4, coordsT_readBed, coordsT_readBed]⟩

/-- interval lists, text and tab files are detected as themselves -/
theorem sniff_selects_own_reader (t : FTab) (ext : String) (hx : NoHint ext) :
    (t.rows ≠ [] → (∀ r ∈ t.rows, WordName r.chrom) → NonNegRows t → WFIntervalSniff t →
      autoFormat ext (renderLines (writeInterval t)) = .ok "interval") ∧
    (t.rows ≠ [] → (∀ r ∈ t.rows, WordName r.chrom) → NonNegRows t →
      autoFormat ext (renderLines (writeText t)) = .ok "text") ∧
    ((∀ n ∈ t.names, isDigits n = false) → autoFormat ext (renderLines (writeTab t)) = .ok "tab") :=
  ⟨fun hne hw hp hi => sniff_written_interval t ext hx hne hw hp hi,
   fun hne hw hp => sniff_written_text t ext hx hne hw hp,
   fun hn => sniff_written_tab t ext hx hn⟩

/-! ### numbers: 6 significant digits, and the rounded value is a fixed point -/

theorem sixg_idempotent (q : Rat) : sixg (sixg q) = sixg q := sigRound_idempotent _ (by decide) q

/-- the value written is within half a unit of the sixth significant digit -/
theorem sixg_close (q : Rat) (hq : q ≠ 0) : |sixg q - q| ≤ (1 / 2) * pow10 (dexp |q| - 5) := by
  have := sigRound_close SIG_DIGITS q hq
  simpa [sixg, SIG_DIGITS] using this

/-- a decimal with at most 6 significant digits — what the first write printed — is reproduced exactly
    by the second write -/
theorem sixg_fixes_six_digit_decimals (m : Nat) (k : Int) (hlo : 100000 ≤ m) (hhi : m < 1000000) :
    sixg ((m : Rat) * pow10 k) = (m : Rat) * pow10 k ∧ sixg (-((m : Rat) * pow10 k)) = -((m : Rat) * pow10 k) :=
  sigRound_fixes_short_decimals SIG_DIGITS (by decide) m k (by simpa [SIG_DIGITS] using hlo)
    (by simpa [SIG_DIGITS] using hhi)

/-! ### the defect repaired in /repo 9b034a9 -/

/-- with the extra `+ 1` that `write_text` applied before `to_label` up to /repo 9b034a9, the region [10, 20) of chr1
    was printed with start 12 instead of 11 -/
theorem text_writer_prefix_counterexample :
    (10 : Int) + 1 + WRITE_SHIFT_to_label = 12 ∧ (10 : Int) + WRITE_SHIFT_text_writer + WRITE_SHIFT_to_label = 11 := by
  decide

/-! ### non-vacuity -/

example : LabelName "chr1_gl000191_random" := by
  unfold LabelName
  -- the characters are computed once
  rw [show "chr1_gl000191_random".toList = ['c', 'h', 'r', '1', '_', 'g', 'l', '0', '0', '0', '1', '9', '1', '_',
    'r', 'a', 'n', 'd', 'o', 'm'] by decide +kernel]
  exact ⟨⟨_, _, rfl, by decide⟩, by decide +kernel⟩
example : LabelName "GL000207.1" := by
  refine ⟨⟨'G', "L000207.1".toList, by decide +kernel, by decide +kernel⟩, by decide +kernel⟩
example : PlainLabel "BRCA1,BRCA2" ∧ PlainLabel "A-B.1" ∧ PlainLabel "-" ∧ PlainLabel "+" := by
  unfold PlainLabel; decide +kernel
example : NoTrackName "chrUn_gl000211" := by unfold NoTrackName; decide +kernel
example : WordName "chr17_ctg5_hap1" := by unfold WordName NoTrackName; decide +kernel
example : NoHint "bed" ∧ NoHint "cnr" ∧ NoHint "interval_list" := by unfold NoHint; decide +kernel
example : ChromName "chrX" ∧ ChromName "22" :=
  ⟨Or.inr (by unfold PlainLabel; decide +kernel), Or.inl ⟨22, by decide +kernel⟩⟩
/-- a table with free-text gene labels ("NA", "0012") and an integer column meets the hypotheses of `tab_write_read` -/
example : WFTab { names := ["gene", "probes"],
                  rows := [⟨"chr2", 100, 200, [.str "NA", .int 7]⟩, ⟨"chr1", 10, 20, [.str "0012", .int 0]⟩] } := by
  refine ⟨by decide +kernel, by decide +kernel, by decide +kernel, by decide +kernel, ?_⟩
  intro j hj
  obtain rfl | rfl : j = 0 ∨ j = 1 := by have : j < 2 := hj; omega
  · right
    simp only [List.forall_mem_cons, List.not_mem_nil, false_imp_iff, implies_true, and_true]
    exact ⟨⟨_, rfl, Or.inr rfl⟩, ⟨_, rfl, Or.inr rfl⟩⟩
  · left
    simp only [List.forall_mem_cons, List.not_mem_nil, false_imp_iff, implies_true, and_true]
    exact ⟨by decide, ⟨_, rfl⟩, ⟨_, rfl⟩⟩

end CnvVerif.C08
