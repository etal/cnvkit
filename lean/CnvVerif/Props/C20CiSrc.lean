/-
  C20: tie to the source TEXT of the confidence-limit branch of `segments2vcf`.
  `Generated.src_ci_pos_left` ... `src_ci_end_right`, `src_ci_info_fields` are re-read from /repo on every run
  (COLUMN-wise reader harness/colread_c20ci.py, extractor harness/extractors/exprs_export_ci.py).  The theorems state
  that the ROW-wise model (Model/ExportCiExt5.lean) yields exactly these columns and this INFO text.  Proved by
  simp over list lemmas, so that equivalent spellings (`-1 * x`, `np.concatenate`, renamed locals, reordered
  statements) keep them green.
-/
import CnvVerif.Props.C20Ci
import CnvVerif.Generated.ExprsExportCi
namespace CnvVerif.C20Ci
open CnvVerif CnvVerif.Export CnvVerif.Export.C20Ci

theorem zipWith_map_map {α : Type} (f : Int → Int → Int) (g h : α → Int) (l : List α) :
    List.zipWith f (l.map g) (l.map h) = l.map (fun x => f (g x) (h x)) := by
  rw [List.zipWith_map, List.zipWith_self]

theorem leftMargin_fn : leftMargin = fun a => a.ciLeft - a.s := rfl
theorem rightMargin_fn : rightMargin = fun a => a.e - a.ciRight := rfl

/-- `ci_pos_right` of every row is what the source's column expression gives -/
theorem ci_pos_right_is_the_source (rows : List CiRow) :
    (ciCols rows).map (·.posR) =
      Generated.src_ci_pos_right (rows.map (·.ciLeft)) (rows.map (·.s)) (rows.map (·.e)) (rows.map (·.ciRight)) := by
  rw [ci_pos_right_is_the_column]
  simp [posRCol, Generated.src_ci_pos_right, zipWith_map_map, leftMargin_fn]

/-- `ci_end_left` -/
theorem ci_end_left_is_the_source (rows : List CiRow) :
    (ciCols rows).map (·.endL) =
      Generated.src_ci_end_left (rows.map (·.ciLeft)) (rows.map (·.s)) (rows.map (·.e)) (rows.map (·.ciRight)) := by
  rw [ci_end_left_is_the_column]
  simp [endLCol, Generated.src_ci_end_left, zipWith_map_map, rightMargin_fn]

/-- `ci_pos_left`: 0 for the first row of the table, else minus the right margin of the row above -/
theorem ci_pos_left_is_the_source (rows : List CiRow) (h : rows ≠ []) :
    (ciCols rows).map (·.posL) =
      Generated.src_ci_pos_left (rows.map (·.ciLeft)) (rows.map (·.s)) (rows.map (·.e)) (rows.map (·.ciRight)) := by
  rw [ci_pos_left_is_the_shifted_column]
  unfold posLCol shiftDown
  rw [List.dropLast_cons_of_ne_nil (by simpa using h)]
  simp [Generated.src_ci_pos_left, zipWith_map_map, rightMargin_fn, List.map_dropLast, Function.comp_def,
    Int.neg_mul, Int.mul_neg]

/-- `ci_end_right`: the left margin of the row below, 0 for the last row of the table -/
theorem ci_end_right_is_the_source (rows : List CiRow) (h : rows ≠ []) :
    (ciCols rows).map (·.endR) =
      Generated.src_ci_end_right (rows.map (·.ciLeft)) (rows.map (·.s)) (rows.map (·.e)) (rows.map (·.ciRight)) := by
  rw [ci_end_right_is_the_shifted_column rows h]
  simp [endRCol, shiftUp, Generated.src_ci_end_right, zipWith_map_map, leftMargin_fn]

/-- the two INFO fields the model prints are the source's f-strings -/
theorem ci_info_text_is_the_source (v : CiVals) :
    ciText v = Generated.src_ci_info_fields v.posL v.posR v.endL v.endR := by
  simp [ciText, Generated.src_ci_info_fields]

end CnvVerif.C20Ci
