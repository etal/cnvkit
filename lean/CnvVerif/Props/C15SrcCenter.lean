/-
  C15: tie of `center_all` to the source TEXT (Generated/ExprsCenter.lean, regenerated from /repo's
  cnvlib/cnary.py on every run by harness/extractors/exprs_center.py).  A module of its own: an edit to
  center_all breaks exactly these obligations.
-/
import CnvVerif.Lemmas.SrcCenter
namespace CnvVerif.C15
open CnvVerif CnvVerif.Src

/-- `center_all`: the table the estimate is taken from (autosomes of the table, after dropping low-coverage bins
    when asked), the values handed to the estimator (per chromosome first when `by_chrom`, the `if len(subarr)`
    filter keeping every chromosome; all log2 values otherwise), the sign of the shift and the guard for an empty
    selection are the source's -/
theorem center_shift_is_the_source (est : List Rat → Rat) (byChrom skipLow : Bool) (par : Option String)
    (t : List CBin) :
    centerShift est byChrom skipLow par t =
      (let first := (t.head?.map (·.chrom)).getD ""
       let sel := Generated.src_center_selection (autosomesOf first par) dropLow skipLow t
       Generated.src_center_shift est byChrom (!sel.isEmpty) (chromGroups sel) (sel.map (·.log2))) := by
  unfold centerShift Generated.src_center_selection Generated.src_center_shift
  simp only []
  generalize autosomesOf ((t.head?.map (·.chrom)).getD "") par (if skipLow = true then dropLow t else t) = sel
  cases hE : sel.isEmpty
  · cases byChrom
    · rfl
    · rw [centerValues_byChrom, List.filter_eq_self.mpr (chromGroups_nonempty sel)]
      rfl
  · rfl

/-- … and `center_all` adds exactly that to every bin -/
theorem center_all_is_the_source (est : List Rat → Rat) (byChrom skipLow : Bool) (par : Option String)
    (t : List CBin) :
    centerAll est byChrom skipLow par t = t.map (fun b => { b with log2 := b.log2 +
      (let first := (t.head?.map (·.chrom)).getD ""
       let sel := Generated.src_center_selection (autosomesOf first par) dropLow skipLow t
       Generated.src_center_shift est byChrom (!sel.isEmpty) (chromGroups sel) (sel.map (·.log2))) }) := by
  rw [← center_shift_is_the_source]; rfl

/-- the estimators that can be named are the property's four, bound to pandas' mean / median and to
    descriptives' modal and biweight location -/
theorem center_estimator_table :
    Generated.src_center_estimators =
      [("mean", "pd.Series.mean"), ("median", "pd.Series.median"), ("mode", "descriptives.modal_location"),
       ("biweight", "descriptives.biweight_location")] := rfl

end CnvVerif.C15
