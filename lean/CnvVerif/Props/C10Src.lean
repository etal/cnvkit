/-
  C10 — `cnvlib.core.ensure_path` tied to its source text: the statements of its body are re-read on every run
  (harness/extractors/effects_path.py → Generated.ENSURE_PATH_PROG, a term of the command language of
  Model/PathProg.lean); running them on ANY file system with directories gives exactly the hand-written model the
  history theorems of Props/C10.lean are about.  `cnt = 0`, `cnt += 2`, `while` → `if`, a swapped `os.rename`, a lost
  `not` in front of `isdir`, a dropped `makedirs` each change the generated term and break
  `ensure_path_is_the_source`; a renamed local or another spelling of `f"{fname}.{cnt}"` does not.
  Plus the directory clause of the guard: the target directory is created, so k guarded writes to a path in a
  directory that does not exist yet leave k files there and never fail.
-/
import CnvVerif.Model.PathProg
import CnvVerif.Lemmas.PathProg
import CnvVerif.Generated.EffectsPath
namespace CnvVerif.C10
open CnvVerif CnvVerif.Effects

/-- the body of `core.ensure_path` as read from the source, run statement by statement on any directory tree
    and any path (the unbounded `while` given as many rounds as there are files), IS the model `ensurePathD` -/
theorem ensure_path_is_the_source (fs : FSD) (p : PathArg) :
    runEnsurePath Generated.ENSURE_PATH_PROG fs p = ensurePathD fs p := by
  -- the program is the directory block followed by the file block
  rw [Generated.ENSURE_PATH_PROG, runEnsurePath, run, run_dir_block, run_file_block, ensurePathD, ensurePath]
  simp only [ensureDir_files]

/-- … and on the files it is the flat model of Props/C10.lean (`ensure_path_history`, `backup_suffix_is_least_free`, …
    therefore speak about the source's own loop) -/
theorem ensure_path_source_on_files (fs : FSD) (p : PathArg) :
    (runEnsurePath Generated.ENSURE_PATH_PROG fs p).files = ensurePath fs.files p.name := by
  rw [ensure_path_is_the_source, ensurePathD_files]

/-- the counting loop of the source never needs more rounds than there are files: with any larger bound the
    result is the same least free suffix -/
theorem ensure_path_loop_terminates (fs : FS) (p : String) (hp : isFile fs p = true) (extra : Nat) :
    firstFree fs p (fs.length + extra) 1 = firstFree fs p fs.length 1 :=
  firstFree_more_fuel fs p fs.length extra 1 (firstFree_free hp)

/-- the directory clause: after `ensure_path` the directory of the path exists together with all its ancestors,
    no directory is removed, only ancestors of the target are created, and no file is touched by that block -/
theorem ensure_path_creates_the_directory (fs : FSD) (p : PathArg) (hcwd : p.slash = false → isDir fs p.dir = true) :
    isDir (ensurePathD fs p) p.dir = true ∧
    (∀ a, isDir fs a = true → isDir (ensurePathD fs p) a = true) ∧
    (∀ a, isDir (ensurePathD fs p) a = true → isDir fs a = true ∨ a ∈ ancestors p.dir) ∧
    (ensurePathD fs p).files = ensurePath fs.files p.name :=
  ⟨ensurePathD_isDir fs p hcwd, fun _ ha => ensurePathD_keeps ha p, fun _ ha => ensurePathD_inv ha,
    ensurePathD_files fs p⟩

/-- when the directory has to be made, every ancestor is made with it (`os.makedirs`) -/
theorem makedirs_creates_every_ancestor (fs : FSD) (d : Dir) (k : Nat) : isDir (makedirs fs d) (d.take k) = true :=
  (isDir_makedirs_iff fs d _).mpr (.inr (take_mem_ancestors d k))

/-- k guarded writes to one path — in a directory that may not exist yet — never fail for a missing directory, and
    leave exactly the files the flat history theorem describes: k more files, every earlier content kept -/
theorem guarded_writes_with_directories (fs : FSD) (hw : WF fs.files) (p : PathArg) (ws : List String)
    (hcwd : p.slash = false → isDir fs p.dir = true) :
    ∃ fs', guardedWritesD fs p ws = .ok fs' ∧
      fs'.files.length = fs.files.length + ws.length ∧
      (contents fs'.files).Perm (ws.reverse ++ contents fs.files) ∧
      (ws ≠ [] → isDir fs' p.dir = true) ∧ (∀ a, isDir fs a = true → isDir fs' a = true) := by
  obtain ⟨fs', h, g, hd⟩ := guardedWritesD_grown fs hw p ws hcwd
  exact ⟨fs', h, g.files.length.trans (by rw [List.length_reverse]), g.files.perm, hd, g.dirs⟩

/-- contrast: the same write without the guard fails when the directory is not there -/
theorem unguarded_write_fails_without_directory (fs : FSD) (p : PathArg) (c : String) (h : isDir fs p.dir = false) :
    writeFileD fs p c = .error "FileNotFoundError" := by simp [writeFileD, h]

/-- two writes to `new/deep/out.cnn` below an empty root: both directories appear, two files remain -/
example : (guardedWritesD ⟨[[]], []⟩ ⟨"new/deep/out.cnn", true, ["new", "deep"]⟩ ["A", "B"]).toOption.map
      (fun fs => (fs.dirs, fs.files)) =
    some ([[], ["new"], ["new", "deep"]], [("new/deep/out.cnn", "B"), ("new/deep/out.cnn.1", "A")]) := by decide +kernel

/-- the generated program on a directory where the path and its first backup exist -/
example : (runEnsurePath Generated.ENSURE_PATH_PROG ⟨[[]], [("out.cnn", "A"), ("out.cnn.1", "B")]⟩ ⟨"out.cnn", false, []⟩).files =
    [("out.cnn.2", "A"), ("out.cnn.1", "B")] := by
  rw [ensure_path_source_on_files]; decide +kernel

/-- a program with `cnt = 0` is a different program: it would rename onto `out.cnn.0` -/
example : (ensurePath [("out.cnn", "A")] "out.cnn") ≠ [("out.cnn.0", "A")] := by decide +kernel

example : isDir (⟨[[]], []⟩ : FSD) ["new", "deep"] = false := by decide +kernel

end CnvVerif.C10
