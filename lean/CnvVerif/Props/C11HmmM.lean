/-
  C11: the state tables of EVERY method branch of `hmm_get_model` (`hmm-germline`, `hmm-tumor`, `hmm`).  The constants
  are re-read from the source text on every run; op `hmm_states` compares them with what the real function hands to
  pomegranate for each method (so the `hmm-tumor` and `hmm` branches are executed by the correspondence run as well).
  The obligations pin the shape: states ordered from loss to gain around a neutral state at 0, which is the likeliest
  start; `hmm-tumor` may move every state but the neutral one; `hmm` is `hmm-germline` with all three states free.
  Only `hmm-germline` is inside the quantifier of C11; the other two are recorded so that an edit to their tables is
  seen.
-/
import CnvVerif.Model.HaarExt5Hmm
import CnvVerif.Props.C11Hmm
import CnvVerif.Model.HaarExt
import Mathlib.Tactic.Linarith
namespace CnvVerif.C11
open CnvVerif CnvVerif.Haar CnvVerif.HaarHmmM

/-- in ANY state table whose means increase strictly and whose state `mid` sits at 0, the states before `mid` are
losses (negative mean) and the states after it gains (positive mean): `mid` is the only neutral state -/
theorem hmmz_states_around_neutral (m : List Rat) (h : m.Pairwise (· < ·)) (mid : Nat) (hmid : mid < m.length)
    (h0 : m[mid] = 0) (i : Nat) (hi : i < m.length) :
    (i < mid → m[i] < 0) ∧ (mid < i → 0 < m[i]) ∧ (m[i] = 0 → i = mid) := by
  have hp := List.pairwise_iff_getElem.mp h
  have lo : i < mid → m[i] < 0 := fun hlt => h0 ▸ hp i mid hi hmid hlt
  have hi' : mid < i → 0 < m[i] := fun hlt => h0 ▸ hp mid i hmid hi hlt
  refine ⟨lo, hi', fun hz => ?_⟩
  rcases Nat.lt_trichotomy i mid with hlt | heq | hgt
  · exact absurd hz (ne_of_lt (lo hlt))
  · exact heq
  · exact absurd hz (ne_of_gt (hi' hgt))

/-- every method branch yields a well-formed table (`hmmzTableOk`), whatever string `method` is -/
theorem hmmz_every_method_table_ok (method : String) : hmmzTableOk (hmmTableOf method) = true := by
  unfold hmmTableOf
  split
  · decide +kernel
  · split
    · decide +kernel
    · decide +kernel

/-- the initial model of every method branch prefers the neutral state and is equally, >= 100:1, sticky -/
theorem hmmz_every_method_initial_model (method : String) :
    startPrefersNeutral (hmmTableOf method).start = true ∧ stickyMatrix 100 (hmmTableOf method).trans = true := by
  have g := And.intro germline_start_prefers_neutral.1 germline_transitions_sticky.1
  unfold hmmTableOf
  split
  · exact g
  · split
    · exact tumor_initial_model_same_shape
    · exact g

/-- `hmm-tumor`: five states del / loss / neutral / gain / amp at -2, -0.5, 0, 0.3, 1 (the doubles differ from the
decimals by less than 2^-53); only the neutral state is frozen -/
theorem hmmz_tumor_table :
    Generated.HMM_TUMOR_STATES = ["del", "loss", "neutral", "gain", "amp"] ∧
    Generated.HMM_TUMOR_MEANS_dec = [-2, -1 / 2, 0, 3 / 10, 1] ∧
    Generated.HMM_TUMOR_FROZEN = [false, false, true, false, false] ∧
    (Generated.HMM_TUMOR_MEANS.zip Generated.HMM_TUMOR_MEANS_dec).all
      (fun p => decide (absQ (p.1 - p.2) ≤ 1 / 2 ^ 53)) = true := by
  refine ⟨by decide, by decide +kernel, by decide, by decide +kernel⟩

/-- `hmm` (the `else` branch): the states and means of `hmm-germline`, none frozen -/
theorem hmmz_flex_table_is_germline_unfrozen :
    Generated.HMM_FLEX_STATES = Generated.HMM_GERMLINE_STATES ∧
    Generated.HMM_FLEX_MEANS = Generated.HMM_GERMLINE_MEANS ∧
    Generated.HMM_FLEX_FROZEN = [false, false, false] := by
  refine ⟨by decide, by decide +kernel, by decide⟩

/-! ### non-vacuity: the predicate rejects a table with swapped means, a shifted neutral state, a missing flag -/

example : hmmzTableOk ⟨["loss", "neutral", "gain"], [-1, 0, 585 / 1000], [true, true, true], [1/4, 1/2, 1/4], [[], [], []]⟩ = true := by
  decide +kernel
example : hmmzTableOk ⟨["loss", "neutral", "gain"], [0, -1, 585 / 1000], [true, true, true], [1/4, 1/2, 1/4], [[], [], []]⟩ = false := by
  decide +kernel
example : hmmzTableOk ⟨["loss", "neutral", "gain"], [-1, 1 / 10, 585 / 1000], [true, true, true], [1/4, 1/2, 1/4], [[], [], []]⟩ = false := by
  decide +kernel
example : hmmzTableOk ⟨["del", "loss", "neutral", "gain", "amp"], [-2, -1 / 2, 0, 3 / 10, 1], [false, false, true, false], [], []⟩ = false := by
  decide +kernel

end CnvVerif.C11
