/-
  C17 — segment statistics and bin tests match their definitions on the right bins.  "fix M": DESIGN.md 9.3.
  Besides the model (Model/Stats.lean, with the property's wording `overlapping`, `bhTerm`, `bhClosedAt` at its end) the
  statements use `BinsWF`, `SegsWF`, `testedRows` (Lemmas/Stats.lean) and `BootWF` (Lemmas/StatsPct.lean).
-/
import CnvVerif.Model.Stats
import CnvVerif.Lemmas.Stats
import CnvVerif.Lemmas.StatsBH
import CnvVerif.Lemmas.StatsPct
namespace CnvVerif.C17
open CnvVerif CnvVerif.Stats

/-! ### constants read from the source (an edit in /repo breaks exactly these) -/

/-- `do_segmetrics` asks `iter_ranges_of` for the *overlapping* bins -/
theorem segmetrics_uses_outer : segmetricsMode = Mode.outer := by decide

/-- IQR = 75th − 25th percentile; MAD is scaled by 1.4826; the z-test tail is two-sided (factor 2);
    low coverage means log2 < −15; the bootstrap re-seeds the generator exactly once per call -/
theorem constants :
    Generated.IQR_PERCENTILES = [75, 25] ∧
    Generated.MAD_SCALE_dec = 7413 / 5000 ∧ Generated.BIVAR_MAD_SCALE = Generated.MAD_SCALE ∧
    Generated.ZPROB_TAIL_FACTORS = [2] ∧
    Generated.NULL_LOG2_COVERAGE - Generated.MIN_REF_COVERAGE = -15 ∧
    Generated.BOOTSTRAP_SEEDS.length = 1 := by decide +kernel

/-! ### each statistic is computed over exactly the bins overlapping its own segment

    `BinsWF`: every chromosome's bins are sorted by start, `0 ≤ start < end` (bins may overlap, nest
    or abut).  `SegsWF`: each chromosome's segments are adjacent rows, starts `≥ 0` (segments may
    overlap, leave gaps, or lie on chromosomes without bins).  `overlapping bins sg` = the bins on
    `sg`'s chromosome with `end > sg.start ∧ start < sg.end`. -/

/-- row `i` of the result is computed from segment `i` and exactly the bins overlapping it, after
    `drop_low_coverage` when `skip_low` is set -/
theorem stats_on_overlapping_bins (cfg : Cfg) (bins : List Bin) (segs : List Seg)
    (boots : List (List BootRow))
    (hb : BinsWF (if cfg.skipLow then dropLow bins else bins)) (hs : SegsWF segs) :
    doSegmetrics cfg bins segs boots =
      (segs.zip (boots ++ List.replicate segs.length [])).map
        (fun x => segRow cfg x.1 (overlapping (if cfg.skipLow then dropLow bins else bins) x.1) x.2) := by
  unfold doSegmetrics
  simp only
  rw [segBins_exact _ _ hb hs, show (segmetricsMode == Mode.inner) = false by decide,
    zip3_map segs _ _ (fun sg bs boot => segRow cfg sg bs boot)]
  apply List.map_congr_left
  intro x _
  rw [selBins_outer]

/-- location statistics (mean, median, t-test) are functions of the bins' log2 … -/
theorem location_of_bin_log2 (cfg : Cfg) (sg : Seg) (bs : List Bin) (boot : List BootRow)
    (nm : String) (f : List Rat → StatOut) (hf : locationStat nm = some f) (hn : nm ∈ cfg.loc) :
    (nm, f (bs.map (·.log2))) ∈ (segRow cfg sg bs boot).stats :=
  List.mem_append_left _ (List.mem_filterMap.mpr ⟨nm, hn, by rw [hf]; rfl⟩)

/-- … spread statistics are functions of the deviations `bin log2 − segment log2` -/
theorem spread_of_deviations_from_segment_log2 (cfg : Cfg) (sg : Seg) (bs : List Bin)
    (boot : List BootRow) (nm : String) (f : List Rat → StatOut)
    (hf : spreadStat nm = some f) (hn : nm ∈ cfg.spread) :
    (nm, f ((bs.map (·.log2)).map (· - sg.log2))) ∈ (segRow cfg sg bs boot).stats :=
  List.mem_append_right _ (List.mem_filterMap.mpr ⟨nm, hn, by rw [hf]; rfl⟩)

/-- the input segments' own columns come back unchanged, row for row -/
theorem segment_columns_unchanged (cfg : Cfg) (bins : List Bin) (segs : List Seg)
    (boots : List (List BootRow)) : (doSegmetrics cfg bins segs boots).map (·.seg) = segs := by
  unfold doSegmetrics
  rw [List.map_map]
  exact List.map_fst_zip (by
    rw [List.length_zip, segBins_length, List.length_append, List.length_replicate]; omega)

/-! ### the statistics are the ones the property names (for two or more bins) -/

theorem location_definitions (a b : Rat) (l : List Rat) :
    let d := a :: b :: l
    (statMean d).val = .num (d.sum / d.length) ∧
    (statMedian d).val = .num (medianSorted (sortR d)) ∧
    (var1 d ≠ 0 → (statTtest d).val = .tTail (d.length - 1) (meanR d * meanR d * d.length / var1 d)) := by
  refine ⟨rfl, rfl, ?_⟩
  intro hv
  have hlen : ¬ (l.length + 1 + 1 < 2) := by omega
  simp [statTtest, hv, hlen]

theorem spread_definitions (a b : Rat) (l : List Rat) :
    let d := a :: b :: l
    (statStdev d).val = .sqrtOf ((d.map (fun x => (x - meanR d) * (x - meanR d))).sum / d.length) ∧
    (statMad d).val = .num (median (d.map (fun x => rabs (x - median d))) * Generated.MAD_SCALE) ∧
    (statMse d).val = .num ((d.map (fun x => x * x)).sum / d.length) ∧
    (statIqr d).val = .num (percentile d 75 - percentile d 25) ∧
    (statSem d).val = .sqrtOf ((d.map (fun x => (x - meanR d) * (x - meanR d))).sum / (d.length - 1) / d.length) := by
  refine ⟨rfl, rfl, ?_, rfl, ?_⟩
  · simp [statMse, onArray, mseBody, meanSq, meanR]
  · have hlen : ¬ (l.length + 1 + 1 < 2) := by omega
    simp [statSem, var1, sumSqDev, hlen]

/-- mse is the mean squared deviation from the segment log2 (from zero), not the variance … -/
theorem mse_is_mean_square (d : List Rat) (h : 2 ≤ d.length) : (statMse d).val = .num (meanSq d) := by
  match d, h with
  | _ :: _ :: _, _ => rfl

/-- … which is what the code computed before fix M: deviations 1 and 3 gave 1 instead of 5 -/
theorem mse_prefix_counterexample :
    (statMsePrefix [1, 3]).val = .num 1 ∧ (statMse [1, 3]).val = .num 5 := by decide +kernel

/-- `pi_lo ≤ median ≤ pi_hi` for every non-empty set of bins and every `alpha` in (0,1) -/
theorem pi_brackets_median (l : List Rat) (hne : l ≠ []) (alpha : Rat) (h0 : 0 < alpha) (h1 : alpha < 1) :
    (piFunc l alpha).1 ≤ median l ∧ median l ≤ (piFunc l alpha).2 := by
  obtain ⟨a0, a1, a2, a3⟩ := interval_levels alpha h0 h1
  unfold piFunc
  rw [median_eq_percentile, mul_div_assoc]
  exact ⟨percentile_mono l _ _ a0 a1 (by decide), percentile_mono l _ _ (by decide) a2 a3⟩

/-- the prediction interval is the pair of `alpha/2` and `1 − alpha/2` percentiles -/
theorem pi_is_percentile_pair (l : List Rat) (alpha : Rat) :
    piFunc l alpha = (percentile l (100 * alpha / 2), percentile l (100 * (1 - alpha / 2))) := rfl

/-- `ci_lo ≤ ci_hi` whatever the bootstrap draws (smoothed or not) -/
theorem ci_ordered (vals wts : List Rat) (alpha : Rat) (h0 : 0 < alpha) (h1 : alpha < 1)
    (boot : List BootRow) : (ciBoot vals wts alpha boot).1 ≤ (ciBoot vals wts alpha boot).2 := by
  obtain ⟨a0, a1, a2, a3⟩ := interval_levels alpha h0 h1
  by_cases h : vals.length < 2
  · rw [ciBoot_of_lt h]
  · rw [ciBoot_of_not_lt h]
    exact percentile_mono _ _ _ a0 (le_trans a1 a2) a3

/-- the plain (unsmoothed) bootstrap interval lies inside the range of the bins' log2 when all
    weights are positive, whatever positions were drawn -/
theorem ci_within_bin_range (vals wts : List Rat) (hlen : vals.length = wts.length) (hne : vals ≠ [])
    (hw : ∀ x ∈ wts, 0 < x) (alpha : Rat) (h0 : 0 < alpha) (h1 : alpha < 1)
    (boot : List BootRow) (hb : BootWF vals.length boot) (lo hi : Rat) (hr : ∀ x ∈ vals, lo ≤ x ∧ x ≤ hi) :
    lo ≤ (ciBoot vals wts alpha boot).1 ∧ (ciBoot vals wts alpha boot).2 ≤ hi := by
  obtain ⟨a0, a1, a2, a3⟩ := interval_levels alpha h0 h1
  by_cases h : vals.length < 2
  · rw [ciBoot_of_lt h]
    exact hr _ (Desc.nth_mem vals 0 (List.length_pos_iff.mpr hne))
  · -- every replicate mean lies in `[lo, hi]`, hence so do the percentiles of the replicate means
    have hdist : ∀ x ∈ boot.map (replicateMean vals wts), lo ≤ x ∧ x ≤ hi := by
      intro x hx
      obtain ⟨r, hrm, rfl⟩ := List.mem_map.mp hx
      exact hb.replicateMean_bounds wts hlen hw r hrm lo hi hr
    have hdne : boot.map (replicateMean vals wts) ≠ [] := fun h0 => hb.1 (List.map_eq_nil_iff.mp h0)
    rw [ciBoot_of_not_lt h]
    exact ⟨(percentile_bounds _ hdne _ a0 (le_trans a1 (le_trans a2 a3)) lo hi hdist).1,
      (percentile_bounds _ hdne _ (le_trans a0 (le_trans a1 a2)) a3 lo hi hdist).2⟩

/-- the interval is a function of the values, weights, alpha and the draws only: equal draws give
    equal intervals (in the code the fixed seed makes the draws equal) -/
theorem ci_reproducible (vals wts : List Rat) (alpha : Rat) (boot boot' : List BootRow) (h : boot = boot') :
    ciBoot vals wts alpha boot = ciBoot vals wts alpha boot' := by rw [h]

/-- `p_adjust_bh` (descending argsort, steps `n/(n−i)`, running minimum, cap at 1, unsort) computes
    `q_i = min(1, min_{j : p_j ≥ p_i} n·p_j / #{k | p_k ≤ p_j})` -/
theorem bh_characterisation (p : List Rat) (h0 : ∀ x ∈ p, 0 ≤ x) :
    padjustBH p = p.map (fun v => ((p.filter (fun x => v ≤ x)).map
      (fun x => (p.length : Rat) * x / ((p.countP (fun y => y ≤ x) : Nat) : Rat))).foldl min 1) :=
  padjustBH_eq_closed p h0

/-- … where that fold is the least of 1 and the admissible terms -/
theorem bh_closed_form_is_least (p : List Rat) (v : Rat) :
    (bhClosedAt p v = 1 ∨ ∃ x ∈ p, v ≤ x ∧ bhClosedAt p v = bhTerm p x) ∧
    bhClosedAt p v ≤ 1 ∧ (∀ x ∈ p, v ≤ x → bhClosedAt p v ≤ bhTerm p x) :=
  ⟨(bhClosedAt_spec p v).1, bhClosedAt_le_one p v, (bhClosedAt_spec p v).2⟩

theorem bh_length (p : List Rat) : (padjustBH p).length = p.length := padjustBH_length p

/-- `p_i ≤ q_i ≤ 1` -/
theorem bh_bounds (p : List Rat) (h01 : ∀ x ∈ p, 0 ≤ x ∧ x ≤ 1) :
    ∀ e ∈ p.zip (padjustBH p), e.1 ≤ e.2 ∧ e.2 ≤ 1 := by
  intro e he
  have h0 : ∀ x ∈ p, 0 ≤ x := fun x hx => (h01 x hx).1
  obtain ⟨hx, h2⟩ := mem_zip_padjustBH p h0 e he
  rw [h2]
  exact ⟨le_bhClosedAt p h0 e.1 (h01 e.1 hx).2, bhClosedAt_le_one p e.1⟩

/-- monotone: a smaller p-value never gets a larger adjusted value -/
theorem bh_monotone (p : List Rat) (h0 : ∀ x ∈ p, 0 ≤ x) :
    ∀ e ∈ p.zip (padjustBH p), ∀ f ∈ p.zip (padjustBH p), e.1 ≤ f.1 → e.2 ≤ f.2 := by
  intro e he f hf hle
  rw [(mem_zip_padjustBH p h0 e he).2, (mem_zip_padjustBH p h0 f hf).2]
  exact bhClosedAt_mono p e.1 f.1 hle

/-- ties get equal values -/
theorem bh_ties_equal (p : List Rat) (h0 : ∀ x ∈ p, 0 ≤ x) :
    ∀ e ∈ p.zip (padjustBH p), ∀ f ∈ p.zip (padjustBH p), e.1 = f.1 → e.2 = f.2 := by
  intro e he f hf heq
  rw [(mem_zip_padjustBH p h0 e he).2, (mem_zip_padjustBH p h0 f hf).2, heq]

/-- the raw p-value of a bin is the two-sided normal tail of `(log2 − segment mean)/√(1 − weight)`:
    `tail` maps `z²` to `2Φ(−|z|)` -/
theorem bintest_p_is_normal_tail (tail : Rat → Rat) (resid w : Rat) (hr : resid ≠ 0) (hw : w ≠ 1) :
    pRaw tail resid w = tail (resid * resid / (1 - w)) := by
  simp [pRaw, hr, hw]

/-- every tested bin lies inside a segment and its residual is `log2 − that segment's log2` -/
theorem bintest_residual_against_containing_segment (bins : List Bin) (segs : List Seg)
    (hb : BinsWF bins) (hs : SegsWF segs) (t : Bool) (b : Bin) (r : Rat)
    (h : (b, r) ∈ testedRows bins segs t) :
    b ∈ bins ∧ ∃ sg ∈ segs, b.row.chrom = sg.row.chrom ∧ sg.row.s ≤ b.row.s ∧ b.row.e ≤ sg.row.e ∧
      r = b.log2 - sg.log2 :=
  mem_residuals bins segs hb hs b r (bintestRows_subset bins segs _ (mem_onTarget h).1)

/-- the adjusted p-values are Benjamini–Hochberg of the raw tails over the tested bins -/
theorem bintest_adjusted_by_bh (tail : Rat → Rat) (bins : List Bin) (segs : List Seg) (t : Bool) :
    (bintestAll tail bins segs t).map (·.q) =
      padjustBH ((testedRows bins segs t).map (fun r => pRaw tail r.2 r.1.weight)) :=
  adjusted_q tail _

/-- it returns exactly the tested bins whose adjusted p is below alpha -/
theorem bintest_selects_below_alpha (tail : Rat → Rat) (bins : List Bin) (segs : List Seg)
    (alpha : Rat) (t : Bool) (h : Hit) :
    h ∈ doBintest tail bins segs alpha t ↔ h ∈ bintestAll tail bins segs t ∧ h.q < alpha := by
  unfold doBintest
  rw [List.mem_filter, decide_eq_true_iff]

/-- with `target_only` set, no hit is an Antitarget bin -/
theorem target_only_drops_antitargets (tail : Rat → Rat) (bins : List Bin) (segs : List Seg)
    (alpha : Rat) (h : Hit) (hh : h ∈ doBintest tail bins segs alpha true) :
    h.bin.gene ∉ Generated.ANTITARGET_ALIASES :=
  (mem_onTarget (mem_adjusted ((bintest_selects_below_alpha tail bins segs alpha true h).mp hh).1)).2 rfl

/-! ### non-vacuity -/

def exBins : List Bin :=
  [⟨⟨"chr1", 0, 100, "0"⟩, "G1", 1, 1/2, none⟩, ⟨⟨"chr1", 100, 200, "1"⟩, "G1", 3, 1/2, none⟩,
   ⟨⟨"chr1", 150, 260, "2"⟩, "Antitarget", 0, 1, none⟩, ⟨⟨"chr2", 10, 60, "3"⟩, "G2", -1, 1/4, none⟩]
def exSegs : List Seg := [⟨⟨"chr1", 0, 180, "-"⟩, 0⟩, ⟨⟨"chr1", 180, 300, "-"⟩, 1⟩, ⟨⟨"chr2", 0, 100, "-"⟩, -1⟩]

example : BinsWF exBins := by
  apply binsWF_of_pairwise
  · decide
  · decide
example : SegsWF exSegs := ⟨by decide, by decide⟩
example : (overlapping exBins ⟨⟨"chr1", 0, 180, "-"⟩, 0⟩).map (·.log2) = [1, 3, 0] := by decide +kernel
example : (statMse [1, 3, 0]).val = .num (10 / 3) := by decide +kernel
example : padjustBH [1/100, 1/25, 1/25, 1/2] = [1/25, 4/75, 4/75, 1/2] := by
  rw [padjustBH_eq_closed _ (by decide +kernel)]
  decide +kernel
example : BootWF 3 [⟨[0, 2, 2], []⟩, ⟨[1, 1, 0], []⟩] := by
  refine ⟨by decide, ?_⟩
  intro r hr
  simp at hr
  rcases hr with rfl | rfl <;> decide

end CnvVerif.C17
