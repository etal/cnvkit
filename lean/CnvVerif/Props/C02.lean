/-
  C02 — threshold calls are a monotone step function of log2; cn1 + cn2 = cn.
  Lemmas in Lemmas/Call.lean (ℚ model); the two facts about `2^v` over ℝ are proved here.
  Finding letters: DESIGN.md 9.3.
-/
import CnvVerif.Model.Call
import CnvVerif.Lemmas.Call
import CnvVerif.Lemmas.CallReal
namespace CnvVerif.C02
open CnvVerif

/-- below (or at) the last threshold, cn is the number of thresholds strictly below log2 —
    multiplied by (reference copies / ploidy) and truncated on chromosomes the reference carries
    in fewer copies -/
theorem threshold_counts (thr : List Rat) (hs : thr.Pairwise (· < ·)) (ploidy r : Nat) (v t : Rat)
    (hle : ∃ th ∈ thr, v ≤ th) :
    thresholdCall thr ploidy r (some v) t =
      (if r ≠ ploidy then ((thr.countP (fun th => decide (th < v)) * r / ploidy : Nat) : Int)
       else (thr.countP (fun th => decide (th < v)) : Int)) := by
  rw [thresholdCall_some, CnvVerif.threshold_counts thr hs v hle]; rfl

/-- above the last threshold it is ceil(r·2^log2) -/
theorem above_last_is_ceil (thr : List Rat) (ploidy r : Nat) (v t : Rat) (h : ∀ th ∈ thr, th < v) :
    thresholdCall thr ploidy r (some v) t = ((r : Rat) * t).ceil := by
  rw [thresholdCall_some, findIdx?_le_eq_none.mpr h]

/-- a missing log2 yields the neutral reference copy number -/
theorem nan_gives_reference (thr : List Rat) (ploidy r : Nat) (t : Rat) :
    thresholdCall thr ploidy r none t = (r : Int) := rfl

/-- the number of rows never changes -/
theorem rowcount_preserved (cfg : CallCfg) (m : Method) (thr : List Rat) (hasBaf : Bool)
    (rows : List SegRow) : (callTable cfg m thr hasBaf rows).length = rows.length := by
  simp [callTable]

/-- the default thresholds read from the source are the decimals the documentation states … -/
theorem default_thresholds_are : Generated.DEFAULT_THRESHOLDS_dec = [-11/10, -1/4, 1/5, 7/10] := by
  decide +kernel

/-- … strictly increasing … -/
theorem default_thresholds_sorted : Generated.DEFAULT_THRESHOLDS.Pairwise (· < ·) := by
  unfold Generated.DEFAULT_THRESHOLDS
  decide +kernel

/-- … and give cn = 2 at log2 0 on a diploid autosome -/
theorem default_cn2_at_zero :
    thresholdCall Generated.DEFAULT_THRESHOLDS 2 (refCopiesPure "chr1" 2 false) (some 0) 1 = 2 :=
  CnvVerif.default_cn2_at_zero

/-- with the default thresholds cn never decreases as log2 increases, on any chromosome class
    (`r = ploidy` or `r = ploidy / 2`), for ploidy ≥ 2.  The ratio `t = 2^v` enters only through
    the two facts `two_rpow_monotone` and `ratio_above_last_threshold` proved below over ℝ. -/
theorem monotone_default_partial (ploidy r : Nat) (h2 : 2 ≤ ploidy) (hr : r = ploidy ∨ r = ploidy / 2)
    (v₁ v₂ t₁ t₂ : Rat) (hv : v₁ ≤ v₂) (ht : t₁ ≤ t₂) (ht0 : 0 ≤ t₁)
    (h32 : (∀ th ∈ Generated.DEFAULT_THRESHOLDS, th < v₂) → 3/2 < t₂) :
    thresholdCall Generated.DEFAULT_THRESHOLDS ploidy r (some v₁) t₁
      ≤ thresholdCall Generated.DEFAULT_THRESHOLDS ploidy r (some v₂) t₂ :=
  monotone_default ploidy r h2 hr v₁ v₂ t₁ t₂ hv ht ht0 h32

/-- the full statement (ploidy 1 included) is FALSE of the code: open finding B -/
theorem monotone_ploidy1_counterexample :
    thresholdCall Generated.DEFAULT_THRESHOLDS 1 1 (some (7/10 - 1/1000)) (1624/1000) = 3 ∧
    thresholdCall Generated.DEFAULT_THRESHOLDS 1 1 (some (71/100)) (1636/1000) = 2 :=
  CnvVerif.monotone_ploidy1_counterexample

theorem two_rpow_monotone (v₁ v₂ : ℝ) (h : v₁ ≤ v₂) : (2 : ℝ) ^ v₁ ≤ (2 : ℝ) ^ v₂ :=
  Real.rpow_le_rpow_of_exponent_le (by norm_num) h

/-- 69/100 lies below the last default threshold (the double nearest 0.7), so every log2 above that threshold meets the
    hypothesis: this is where the premise `h32` of `monotone_default_partial` comes from -/
theorem ratio_above_last_threshold (v : ℝ) (hv : (69 / 100 : ℝ) ≤ v) : (3 / 2 : ℝ) < (2 : ℝ) ^ v := by
  have h1 : (2 : ℝ) ^ (69 / 100 : ℝ) ≤ (2 : ℝ) ^ v :=
    Real.rpow_le_rpow_of_exponent_le (by norm_num) hv
  refine lt_of_lt_of_le ?_ h1
  have hpos : (0 : ℝ) ≤ (2 : ℝ) ^ (69 / 100 : ℝ) := Real.rpow_nonneg (by norm_num) _
  -- compare 100th powers: there the claim is `(3/2)^100 < 2^69`, between rationals
  have hpow : ((2 : ℝ) ^ (69 / 100 : ℝ)) ^ (100 : ℕ) = (2 : ℝ) ^ (69 : ℕ) := by
    rw [← Real.rpow_natCast, ← Real.rpow_mul (by norm_num), ← Real.rpow_natCast]
    norm_num
  by_contra hlt
  have hle : (2 : ℝ) ^ (69 / 100 : ℝ) ≤ 3 / 2 := not_lt.mp hlt
  have h2 : ((2 : ℝ) ^ (69 / 100 : ℝ)) ^ (100 : ℕ) ≤ (3 / 2 : ℝ) ^ (100 : ℕ) :=
    pow_le_pow_left₀ hpos hle 100
  rw [hpow] at h2
  norm_num at h2

/-- cn1 + cn2 = cn with 0 ≤ cn1, cn2 ≤ cn -/
theorem allelic_sum (cn : Int) (hcn : 0 ≤ cn) (a : Rat) (baf : Option Rat) (c1 c2 : Int)
    (h : allelic cn a baf = (some c1, some c2)) :
    c1 + c2 = cn ∧ 0 ≤ c1 ∧ c1 ≤ cn ∧ 0 ≤ c2 ∧ c2 ≤ cn := CnvVerif.allelic_sum cn hcn a baf c1 c2 h

/-- both missing exactly where a segment has no BAF and cn > 0 -/
theorem allelic_missing_iff (cn : Int) (a : Rat) (baf : Option Rat) :
    ((allelic cn a baf).1 = none ∧ (allelic cn a baf).2 = none) ↔ (baf = none ∧ 0 < cn) :=
  CnvVerif.allelic_missing_iff cn a baf

/-- … also when the b-allele frequencies come from `variants` and are rescaled for purity, which can push
    them outside [0, 1] (observed 0.9 at purity 0.6 becomes 1.17): the split still lies within [0, cn] -/
theorem allelic_sum_after_purity_rescale (cfg : CallCfg) (m : Method) (thr : List Rat) (fromVariants : Bool)
    (rows : List SegRow) (hpos : ∀ r ∈ rows, 0 ≤ r.t) :
    ∀ o ∈ callTableV cfg m thr fromVariants rows, ∀ cn c1 c2, o.cn = some cn → o.cn1 = some c1 → o.cn2 = some c2 →
      0 ≤ cn ∧ c1 + c2 = cn ∧ 0 ≤ c1 ∧ c1 ≤ cn ∧ 0 ≤ c2 ∧ c2 ≤ cn := by
  intro o ho cn c1 c2 hcn h1 h2
  obtain ⟨first, r, hr, rfl⟩ := mem_callTable ho
  obtain ⟨row, hrow, rfl⟩ := List.mem_map.mp hr
  have h0 := callRow_cn_nonneg cfg m thr _ true _ (bafForCall_t cfg fromVariants row ▸ hpos row hrow) cn hcn
  exact ⟨h0, callRow_allelic cfg m thr _ true _ cn c1 c2 hcn h0 h1 h2⟩

/-- the rescaled frequency really leaves [0, 1] for inputs inside it (so the clip is not redundant) -/
theorem rescaled_baf_can_exceed_one : callRescaleBaf (3/5) (9/10) = 7/6 := by decide +kernel

/-- on the purity path (`--purity p`, 0 < p < 1) the threshold scan reads the log2 the rescaling just wrote: in
    ratio space, the rescaled ratio ρ against the thresholds' antilogs -- so `threshold_counts` and
    `above_last_is_ceil` apply to it verbatim with `v = t = ρ` -/
theorem threshold_scan_reads_rescaled_ratio (cfg : CallCfg) (p : Rat) (hp : purityActive cfg.purity = some p)
    (thr : List Rat) (first : String) (hasBaf : Bool) (row : SegRow) :
    let cls := classOf first cfg.par row.chrom row.s row.e
    let ρ := rescaledRatio cfg.ploidy cfg.hapX cls
      (absoluteOf (refExpect cfg.ploidy cfg.hapX cfg.female cls).1 (refExpect cfg.ploidy cfg.hapX cfg.female cls).2
        cfg.purity row.t) Generated.MIN_ABS_VAL
    (callRow cfg .threshold thr first hasBaf row).cn =
      some (thresholdCall cfg.thrPow2 cfg.ploidy (refCopiesPure row.chrom cfg.ploidy cfg.hapX) (some ρ) ρ) ∧
    (callRow cfg .threshold thr first hasBaf row).ratio = some ρ := by
  simp only [callRow, hp]
  exact ⟨trivial, trivial⟩

example : thresholdCall Generated.DEFAULT_THRESHOLDS 2 1 (some (1/10)) 1 = 1 := by decide +kernel
example : allelic 3 3 (some (3/4)) = (some 2, some 1) := by decide +kernel

end CnvVerif.C02
