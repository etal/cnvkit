/-
  C15: theorems about the glue of the sex inference (Model/SexExt5.lean) — the early returns and chrY
  fall-backs of `compare_sex_chromosomes`, `skip_low`, `guess_xx`, the row `do_sex` / `cnvkit.py sex` prints, and
  what `male_reference` (`is_haploid_x_reference`) means for the decision.  `cta` (the helper `compare_to_auto`)
  is universally quantified (in `male_reference_is_an_offset_of_x`, the Mood statistics function `G`): the statements
  hold whatever Mood's test / the medians return.
-/
import CnvVerif.Model.SexExt5
import CnvVerif.Lemmas.SexGlue
import Mathlib.Tactic.Linarith
import Mathlib.Tactic.Ring
namespace CnvVerif.C15x
open CnvVerif

theorem combinedScore_none (x : Option Rat) : combinedScore x none = x :=
  combinedScore_none_right x

/-- EARLY RETURNS: `compare_sex_chromosomes` returns `(None, {})` exactly for an empty table and for a table
    without a chrX bin (outside the PAR, when a PAR genome is given) — whatever `skip_low` is: the test is made
    BEFORE low-coverage bins are dropped -/
theorem compareSex_none_iff (cta : Cta) (hapX : Bool) (par : Option String) (skipLow : Bool) (t : List CBin) :
    compareSex cta hapX par skipLow t = none ↔ t = [] ∨ chrXBins par t = [] := by
  unfold compareSex
  by_cases h1 : t = []
  · simp [h1]
  · by_cases h2 : chrXBins par t = []
    · simp [h1, h2]
    · simp [h1, h2, List.isEmpty_iff]

/-- … and otherwise it returns a decision -/
theorem compareSex_some_of_x (cta : Cta) (hapX : Bool) (par : Option String) (skipLow : Bool) (t : List CBin)
    (hx : chrXBins par t ≠ []) : (compareSex cta hapX par skipLow t).isSome = true := by
  rw [compareSex_of_x cta hapX par skipLow t hx]
  rfl

/-- NO chrY: with no chrY bin the decision is made by chrX alone (`chrx_male_lr > 1`), the chrY ratio and the
    chrY log-ratio are NaN, and the combined score IS the chrX ratio -/
theorem compareSex_without_y_decides_by_x (cta : Cta) (hapX : Bool) (par : Option String) (skipLow : Bool)
    (t : List CBin) (hx : chrXBins par t ≠ []) (hy : chrYBins par t = []) (r : Bool × SexStats)
    (h : compareSex cta hapX par skipLow t = some r) :
    r.2.chryLr = none ∧ r.2.chryRatio = none ∧ r.2.combined = r.2.chrxLr ∧
    r.1 = (match r.2.chrxLr with | some x => decide (x > 1) | none => false) :=
  compareSex_no_y cta hapX par skipLow t hx (by rw [hy]; cases skipLow <;> rfl) r h

/-- chrY ALL BELOW THE CUT-OFF under `skip_low` (a female sample's chrY often is): the chrY ratio is NaN, the
    `np.isfinite` guard keeps it out of the score, and the decision is again made by chrX alone -/
theorem compareSex_y_all_low_decides_by_x (cta : Cta) (hapX : Bool) (par : Option String)
    (t : List CBin) (hx : chrXBins par t ≠ []) (hy : dropLow (chrYBins par t) = []) (r : Bool × SexStats)
    (h : compareSex cta hapX par true t = some r) :
    r.2.chryLr = none ∧ r.2.combined = r.2.chrxLr ∧
    r.1 = (match r.2.chrxLr with | some x => decide (x > 1) | none => false) := by
  have := compareSex_no_y cta hapX par true t hx hy r h
  exact ⟨this.1, this.2.2⟩

/-- `skip_low` IS A NO-OP on a table without a low-coverage bin -/
theorem compareSex_skipLow_noop (cta : Cta) (hapX : Bool) (par : Option String) (t : List CBin)
    (h : dropLow t = t) : compareSex cta hapX par true t = compareSex cta hapX par false t := by
  have keep : ∀ s : List CBin, (∀ b ∈ s, b ∈ t) → lowIf true s = s := fun s hs =>
    List.filter_eq_self.mpr fun b hb => List.filter_eq_self.mp h b (hs b hb)
  unfold compareSex
  simp only [segMean_lowIf true, keep _ (mem_of_mem_autoBins par t),
    keep (chrXBins par t) fun b hb => (List.mem_filter.mp hb).1,
    keep (chrYBins par t) fun b hb => (List.mem_filter.mp hb).1]
  rfl

/-- `guess_xx` passes `None` through exactly when `compare_sex_chromosomes` has no decision … -/
theorem guessXX_none_iff (cta : Cta) (hapX : Bool) (par : Option String) (t : List CBin) :
    guessXX cta hapX par t = none ↔ t = [] ∨ chrXBins par t = [] := by
  unfold guessXX
  rw [Option.map_eq_none_iff]
  exact compareSex_none_iff cta hapX par false t

/-- … and is otherwise the negation of "male" -/
theorem guessXX_is_not_male (cta : Cta) (hapX : Bool) (par : Option String) (t : List CBin) (r : Bool × SexStats)
    (h : compareSex cta hapX par false t = some r) : guessXX cta hapX par t = some (!r.1) := by
  simp [guessXX, h]

/-- THE REPORT ROW agrees with `guess_xx`: "Female" iff `guess_xx` is True, "Male" iff it is False; the two ratio
    columns are numbers then -/
theorem sexRow_agrees_with_guessXX (cta : Cta) (hapX : Bool) (par : Option String) (t : List CBin) (xx : Bool)
    (h : guessXX cta hapX par t = some xx) :
    (sexRow cta hapX par t).1 = (if xx then "Female" else "Male") ∧
    (sexRow cta hapX par t).2.1 ≠ .na ∧ (sexRow cta hapX par t).2.2 ≠ .na := by
  unfold guessXX at h
  unfold sexRow
  cases hc : compareSex cta hapX par false t with
  | none => simp [hc] at h
  | some r =>
    obtain ⟨isXY, st⟩ := r
    simp only [hc, Option.map_some, Option.some.injEq] at h
    subst h
    cases isXY <;> simp [strsign]

/-- … and for a table on which `guess_xx` is `None` (empty, or no chrX) the row reads Female NA NA — the code as it
    is: `"Male" if is_xy else "Female"` with `is_xy = None` -/
theorem sexRow_without_x (cta : Cta) (hapX : Bool) (par : Option String) (t : List CBin)
    (h : t = [] ∨ chrXBins par t = []) : sexRow cta hapX par t = ("Female", .na, .na) := by
  have := (compareSex_none_iff cta hapX par false t).mpr h
  simp [sexRow, this]

/-- conversely "Male" is printed only on a positive decision -/
theorem sexRow_male_iff (cta : Cta) (hapX : Bool) (par : Option String) (t : List CBin) :
    (sexRow cta hapX par t).1 = "Male" ↔ guessXX cta hapX par t = some false := by
  unfold sexRow guessXX
  cases hc : compareSex cta hapX par false t with
  | none => simp
  | some r => obtain ⟨isXY, st⟩ := r; cases isXY <;> simp

/-- `strsign`: the "+" is printed iff the number is strictly positive; never for NaN, never for 0 -/
theorem strsign_plus_iff (v : Option Rat) :
    strsign v = .num true v ↔ ∃ q, v = some q ∧ 0 < q := by
  unfold strsign
  cases v with
  | none => simp
  | some q => simp

/-- the X column is the difference of the two segment means, so its sign says on which side of the autosomes chrX
    lies: "+" iff the (weighted) mean of chrX is above that of the autosomes -/
theorem sexRow_x_sign (cta : Cta) (hapX : Bool) (par : Option String) (t : List CBin) (r : Bool × SexStats)
    (h : compareSex cta hapX par false t = some r) (mx ma : Rat)
    (hmx : segMean false (chrXBins par t) = some mx) (hma : segMean false (autoBins par t) = some ma) :
    (sexRow cta hapX par t).2.1 = .num (decide (ma < mx)) (some (mx - ma)) := by
  have hx : chrXBins par t ≠ [] := fun hx => by
    rw [(compareSex_none_iff cta hapX par false t).mpr (.inr hx)] at h; cases h
  have e := h
  rw [compareSex_of_x cta hapX par false t hx] at e
  obtain rfl := Option.some.inj e
  unfold sexRow
  rw [h]
  show strsign (subNan (segMean false (chrXBins par t)) (segMean false (autoBins par t))) = _
  rw [hmx, hma]
  show Cell.num (decide (mx - ma > 0)) (some (mx - ma)) = _
  congr 1
  exact decide_eq_decide.mpr sub_pos

/-- MALE REFERENCE is an offset: deciding with `is_haploid_x_reference=True` is deciding with `False` after
    lowering every chrX value by 1 (same Mood statistics function, same autosomes and chrY) -/
theorem male_reference_is_an_offset_of_x (G : MoodTable → Rat) (auto xs ys : List Rat) :
    sexIsMale G true auto xs ys = sexIsMale G false auto (shiftVals xs (-1)) ys := by
  unfold sexIsMale compareChromOf xShifts
  simp only [if_true, Bool.false_eq_true, if_false, shiftVals_shiftVals]
  norm_num

/-- non-vacuity: a table with X and Y bins has a decision; a table without X gets the NA row -/
example : (compareSex (ctaOfG fun _ _ => 1) false none false
    [{ chrom := "chr1", s := 0, e := 10, log2 := 0 }, { chrom := "chrX", s := 0, e := 10, log2 := -1 },
     { chrom := "chrY", s := 0, e := 10, log2 := 0 }]).isSome = true := by decide +kernel
example : sexRow (ctaOfG fun _ _ => 1) false none [{ chrom := "chr1", s := 0, e := 10, log2 := 0 }]
    = ("Female", .na, .na) := by decide +kernel

end CnvVerif.C15x
