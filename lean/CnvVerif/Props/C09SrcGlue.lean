/-
  C09: the glue `do_coverage` / `interval_coverages` of cnvlib/coverage.py.
  (i)   source tie: the model's two step plans ARE the plans harness/stepplan.py re-reads from the source on every run
        (Generated/ExprsCovGlue.lean), for every outcome of the tests; the statement texts of the vocabulary carry the
        argument plumbing (`min_mapq`, `processes` into the chosen algorithm);
  (ii)  the options only SELECT: `by_count` the algorithm, `processes` the worker count, `min_mapq` reaches the algorithm as
        given; with algorithms whose answer does not depend on the worker count (C09Sched: any schedule of any pool) the
        returned value does not depend on `processes` at all;
  (iii) `processes`: None / 0 / negative = one worker per CPU, n >= 1 = n, never a non-positive pool size;
  (iv)  order and guards: the sortedness check comes first and an unsorted BAM is refused before the index is touched and
        before anything is counted; the index is ensured before counting; a regions file without a record counts nothing.
  Kept in a module of its own so that an edit to the glue breaks exactly these obligations.
-/
import CnvVerif.Model.CoverageExt5Glue
namespace CnvVerif.C09
open CnvVerif CnvVerif.C09Glue CnvVerif.Generated

/-! ### (i) tie to the source text -/

/-- the hand-written order of `do_coverage`'s effects is the one read from the source, for every outcome of its tests -/
theorem c09g_plan_do_is_the_source (pg pb sorted : Bool) :
    c09gPlanDo pg pb sorted = src_do_coverage_plan pg pb sorted := by
  cases pg <;> cases pb <;> cases sorted <;> rfl

/-- ... and `interval_coverages`'s; the test on the number of mapped reads (it guards log lines) selects nothing -/
theorem c09g_plan_iv_is_the_source (blank byCount known : Bool) :
    c09gPlanIv blank byCount = src_interval_coverages_plan blank byCount known := by
  cases blank <;> cases byCount <;> cases known <;> rfl

/-- parameter order and defaults the model's argument record stands for -/
theorem c09g_signature_is_the_source :
    src_do_coverage_params = ["bed_fname", "bam_fname", "by_count", "min_mapq", "processes", "fasta"] ∧
    src_do_coverage_default_by_count = false ∧ src_do_coverage_default_min_mapq = 0 ∧
    src_do_coverage_default_processes = 1 := ⟨rfl, rfl, rfl, rfl⟩

/-- the statements of one call contain the algorithm's statement that the result names, and not the other one -/
theorem c09g_steps_run_the_selected_algorithm (blank : Bool) (a : C09gArgs) :
    (CovGlueStep.runCount ∈ c09gSteps true blank a ↔ (blank = false ∧ a.byCount = true)) ∧
    (CovGlueStep.runPileup ∈ c09gSteps true blank a ↔ (blank = false ∧ a.byCount = false)) := by
  -- the statements depend on the arguments through four Booleans only: a finite table
  unfold c09gSteps
  generalize c09gProcsGiven a.processes = pg, c09gProcsBelowOne a.processes = pb, a.byCount = bc
  revert blank bc pg pb; decide

/-! ### (ii) the options only select -/

/-- `by_count` selects the algorithm and nothing else; `processes` the worker count and nothing else; `min_mapq` arrives
    as given -/
theorem c09g_options_only_select (blank : Bool) (a : C09gArgs) :
    c09gResult true false a = .table (if a.byCount then .count else .pileup) a.minMapq (c09gWorkers a.processes) := by
  simp [c09gResult, c09gAlgo]

/-- the call handed to the algorithm is the result's: same algorithm, same cut-off, same worker count -/
theorem c09g_trace_runs_what_is_returned (sorted blank : Bool) (a : C09gArgs) (al : C09gAlgo) (q : Int) (w : Option Int) :
    C09gCall.run al q w ∈ c09gTrace sorted blank a ↔ c09gResult sorted blank a = .table al q w := by
  cases sorted <;> cases blank <;> simp [c09gTrace, c09gResult, eq_comm]

/-- two calls that differ in `processes` only run the same algorithm with the same cut-off -/
theorem c09g_processes_selects_workers_only (sorted blank : Bool) (bc : Bool) (q : Int) (p p' : Option Int) :
    (c09gTrace sorted blank ⟨bc, q, p⟩).map (fun c => match c with | .run al m _ => C09gCall.run al m none | c => c) =
    (c09gTrace sorted blank ⟨bc, q, p'⟩).map (fun c => match c with | .run al m _ => C09gCall.run al m none | c => c) := by
  cases sorted <;> cases blank <;> rfl

/-- with algorithms whose table does not depend on the worker count (C09Sched: every schedule of every pool size gathers
    the serial table) the value `do_coverage` returns does not depend on `processes` -/
theorem c09g_value_independent_of_processes {β} (cnt pil : Int → Option Int → β) (empty : β)
    (hc : ∀ q w w', cnt q w = cnt q w') (hp : ∀ q w w', pil q w = pil q w')
    (sorted blank bc : Bool) (q : Int) (p p' : Option Int) :
    c09gValue cnt pil empty sorted blank ⟨bc, q, p⟩ = c09gValue cnt pil empty sorted blank ⟨bc, q, p'⟩ := by
  -- only a sorted BAM with a regions file that has a record runs an algorithm, and that one ignores the worker count
  cases sorted
  · rfl
  cases blank
  · cases bc
    · exact congrArg Except.ok (hp q _ _)
    · exact congrArg Except.ok (hc q _ _)
  · rfl

/-- `by_count` never reaches the chosen algorithm: the value is `cnt` or `pil` of (cut-off, workers) -/
theorem c09g_value_is_the_selected_algorithm {β} (cnt pil : Int → Option Int → β) (empty : β) (a : C09gArgs) :
    c09gValue cnt pil empty true false a =
      .ok (if a.byCount then cnt a.minMapq (c09gWorkers a.processes) else pil a.minMapq (c09gWorkers a.processes)) := by
  obtain ⟨bc, q, p⟩ := a
  cases bc <;> simp [c09gValue, c09gResult, c09gAlgo]

/-! ### (iii) `processes` -/

/-- one worker per CPU exactly for None and for every integer below one (`-p` without a number is 0) -/
theorem c09g_workers_all_cpus_iff (p : Option Int) : c09gWorkers p = none ↔ (p = none ∨ ∃ n, p = some n ∧ n < 1) := by
  cases p with
  | none => simp [c09gWorkers]
  | some n => by_cases h : n < 1 <;> simp [c09gWorkers, h]

theorem c09g_workers_positive_kept (n : Int) (h : 1 ≤ n) : c09gWorkers (some n) = some n := by
  have : ¬ n < 1 := by omega
  simp [c09gWorkers, this]

/-- the pool is never asked for a non-positive number of workers -/
theorem c09g_workers_never_nonpositive (p : Option Int) (n : Int) (h : c09gWorkers p = some n) : 1 ≤ n := by
  cases p with
  | none => simp [c09gWorkers] at h
  | some m =>
    by_cases hm : m < 1
    · simp [c09gWorkers, hm] at h
    · simp [c09gWorkers, hm] at h; omega

theorem c09g_workers_idempotent (p : Option Int) : c09gWorkers (c09gWorkers p) = c09gWorkers p := by
  cases p with
  | none => rfl
  | some m => by_cases hm : m < 1 <;> simp [c09gWorkers, hm]

/-- the statement `processes = None` runs exactly when the model's worker count differs from the argument -/
theorem c09g_normalisation_step_iff (sorted : Bool) (p : Option Int) :
    CovGlueStep.procsToAllCpus ∈ c09gPlanDo (c09gProcsGiven p) (c09gProcsBelowOne p) sorted ↔ c09gWorkers p ≠ p := by
  cases p with
  | none => cases sorted <;> simp [c09gPlanDo, c09gProcsGiven, c09gProcsBelowOne, c09gWorkers]
  | some m => by_cases hm : m < 1 <;> cases sorted <;> simp [c09gPlanDo, c09gProcsGiven, c09gProcsBelowOne, c09gWorkers, hm]

/-! ### (iv) order and guards -/

/-- refused exactly when the BAM is not sorted, whatever the options -/
theorem c09g_refused_iff (sorted blank : Bool) (a : C09gArgs) : c09gResult sorted blank a = .runtimeError ↔ sorted = false := by
  cases sorted <;> cases blank <;> simp [c09gResult]

/-- an unsorted BAM: the sortedness check is the only call -- no index is written, nothing is counted -/
theorem c09g_unsorted_touches_nothing (blank : Bool) (a : C09gArgs) : c09gTrace false blank a = [.ensureSorted] := by
  simp [c09gTrace]

/-- the plan of the refusal: (perhaps the normalisation, then) the raise, and nothing after it -/
theorem c09g_unsorted_plan_ends_in_raise (pg pb : Bool) :
    (c09gPlanDo pg pb false).getLast? = some .raiseRuntimeError ∧ CovGlueStep.ensureIndex ∉ c09gPlanDo pg pb false := by
  cases pg <;> cases pb <;> simp [c09gPlanDo]

/-- a sorted BAM: sortedness check, then the index, then the regions file, then (unless it has no record) ONE run of ONE
    algorithm -/
theorem c09g_sorted_trace (blank : Bool) (a : C09gArgs) :
    c09gTrace true blank a = [.ensureSorted, .ensureIndex, .openBed] ++
      (if blank then [] else [.run (c09gAlgo a.byCount) a.minMapq (c09gWorkers a.processes)]) := by
  cases blank <;> simp [c09gTrace]

/-- a regions file without a record: an empty table, and neither algorithm runs, whatever the options -/
theorem c09g_blank_bed_counts_nothing (a : C09gArgs) :
    c09gResult true true a = .emptyTable ∧ ∀ al q w, C09gCall.run al q w ∉ c09gTrace true true a := by
  simp [c09gResult, c09gTrace]

/-- the result never depends on `processes` beyond the worker count and never on anything but the three options -/
theorem c09g_result_determined (sorted blank : Bool) (a b : C09gArgs) (h1 : a.byCount = b.byCount) (h2 : a.minMapq = b.minMapq)
    (h3 : c09gWorkers a.processes = c09gWorkers b.processes) : c09gResult sorted blank a = c09gResult sorted blank b := by
  simp [c09gResult, h1, h2, h3]

/-! ### non-vacuity -/
example : c09gResult true false ⟨true, 30, some 0⟩ = .table .count 30 none := by decide
example : c09gResult true false ⟨false, 0, some 4⟩ = .table .pileup 0 (some 4) := by decide
example : c09gTrace true false ⟨false, 7, none⟩ = [.ensureSorted, .ensureIndex, .openBed, .run .pileup 7 none] := by decide
example : c09gSteps true false ⟨true, 0, some (-2)⟩ =
    [.procsToAllCpus, .ensureIndex, .setMeta, .runCount, .unzipResults, .tableFromRows, .returnTable, .returnTable] := by decide
example : c09gWorkers (some 0) ≠ some 0 := by decide

end CnvVerif.C09
