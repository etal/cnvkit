/-
  C20: `export vcf` with confidence limits (`ci_left` / `ci_right` columns in the segment table, a branch of its
  own in `segments2vcf`).  Model: Model/ExportCiExt5.lean.
-/
import CnvVerif.Model.ExportCiExt5
namespace CnvVerif.C20Ci
open CnvVerif CnvVerif.Export CnvVerif.Export.C20Ci

theorem ci_cols_aux_length (prev : Option CiRow) (rows : List CiRow) :
    (ciColsAux prev rows).length = rows.length := by
  induction rows generalizing prev with
  | nil => rfl
  | cons r rest ih => simp [ciColsAux, ih]

/-- one quadruple per row of the table -/
theorem ci_one_quadruple_per_row (rows : List CiRow) : (ciCols rows).length = rows.length :=
  ci_cols_aux_length none rows

/-- the confidence columns change neither WHICH segments are reported nor any other field of their records:
    dropping the four numbers gives exactly `segments2vcf` of the plain table (so every C20 theorem about the
    records holds with confidence limits too) -/
theorem ci_records_are_the_plain_records (cfg : Cfg) (rows : List Seg) (ci : List (Int × Int))
    (h : ci.length = rows.length) :
    (segments2vcfCi cfg rows ci).map Prod.fst = segments2vcf cfg rows := by
  unfold segments2vcfCi segments2vcf
  -- dropping the second components of a filtered zip: filter the first list (the two lists are equally long)
  rw [List.map_filterMap]
  simp only [Option.map_map, Function.comp_def, Option.map_id']
  exact (List.filterMap_map (f := Prod.fst) (g := vcfEmit cfg)).symm.trans
    (by rw [List.map_fst_zip (Nat.le_of_eq (by simp [ci_one_quadruple_per_row, ciRowsOf, h]))])

theorem posR_col_aux (prev : Option CiRow) (rows : List CiRow) :
    (ciColsAux prev rows).map (·.posR) = rows.map leftMargin := by
  induction rows generalizing prev with
  | nil => rfl
  | cons r rest ih => simp [ciColsAux, ih]

theorem endL_col_aux (prev : Option CiRow) (rows : List CiRow) :
    (ciColsAux prev rows).map (·.endL) = rows.map rightMargin := by
  induction rows generalizing prev with
  | nil => rfl
  | cons r rest ih => simp [ciColsAux, ih]

theorem posL_col_aux (prev : Option CiRow) (rows : List CiRow) :
    (ciColsAux prev rows).map (·.posL) =
      ((match prev with | none => (0 : Int) | some p => -(rightMargin p)) ::
        rows.map (fun r => -(rightMargin r))).dropLast := by
  induction rows generalizing prev with
  | nil => simp [ciColsAux]
  | cons r rest ih =>
    simp only [ciColsAux, List.map_cons, ih (some r), List.dropLast_cons_cons]
    rfl

theorem endR_col_aux (prev : Option CiRow) (rows : List CiRow) (h : rows ≠ []) :
    (ciColsAux prev rows).map (·.endR) = (rows.map leftMargin).drop 1 ++ [0] := by
  induction rows generalizing prev with
  | nil => exact absurd rfl h
  | cons r rest ih =>
    cases rest with
    | nil => simp [ciColsAux]
    | cons n rest' =>
      have := ih (some r) (by simp)
      simp only [ciColsAux, List.map_cons, List.head?_cons] at this ⊢
      simp [this]

/-- ROW-wise model = the source's COLUMN program: `ci_pos_right = left_margin` -/
theorem ci_pos_right_is_the_column (rows : List CiRow) : (ciCols rows).map (·.posR) = posRCol rows :=
  posR_col_aux none rows

/-- `ci_end_left = right_margin` -/
theorem ci_end_left_is_the_column (rows : List CiRow) : (ciCols rows).map (·.endL) = endLCol rows :=
  endL_col_aux none rows

/-- `ci_pos_left = np.r_[0, -right_margin[:-1]]` -/
theorem ci_pos_left_is_the_shifted_column (rows : List CiRow) : (ciCols rows).map (·.posL) = posLCol rows := by
  unfold ciCols posLCol shiftDown
  exact posL_col_aux none rows

/-- `ci_end_right = np.r_[left_margin[1:], 0]` (a table with at least one row: on an empty one numpy's vector has one
    element more than the table and pandas refuses the assignment) -/
theorem ci_end_right_is_the_shifted_column (rows : List CiRow) (h : rows ≠ []) :
    (ciCols rows).map (·.endR) = endRCol rows := by
  unfold ciCols endRCol shiftUp
  exact endR_col_aux none rows h

theorem bracket_aux (prev : Option CiRow) (rows : List CiRow) :
    ∀ p ∈ List.zip rows (ciColsAux prev rows), p.1.s + p.2.posR = p.1.ciLeft ∧ p.1.e - p.2.endL = p.1.ciRight := by
  induction rows generalizing prev with
  | nil => intro p hp; simp [ciColsAux] at hp
  | cons r rest ih =>
    intro p hp
    simp only [ciColsAux, List.zip_cons_cons, List.mem_cons] at hp
    rcases hp with rfl | hp
    · simp only [leftMargin, rightMargin]
      constructor <;> omega
    · exact ih (some r) p hp

/-- what the numbers MEAN, row by row (each row paired with its quadruple): start + CIPOS.right is the stated
    `ci_left`, end - CIEND.left is the stated `ci_right` (the code prints the distance `end - ci_right` without a
    minus sign, and measures from the table's `start`, which is POS except where start = 0 became POS = 1) -/
theorem ci_brackets_the_stated_limits (rows : List CiRow) :
    ∀ p ∈ List.zip rows (ciCols rows), p.1.s + p.2.posR = p.1.ciLeft ∧ p.1.e - p.2.endL = p.1.ciRight :=
  bracket_aux none rows

theorem adjacent_aux (prev : Option CiRow) (rows : List CiRow) : adjacentOk (ciColsAux prev rows) = true := by
  induction rows generalizing prev with
  | nil => rfl
  | cons r rest ih =>
    cases rest with
    | nil => rfl
    | cons n rest' =>
      have := ih (some r)
      simp only [ciColsAux, List.head?_cons] at this ⊢
      simp [adjacentOk, this]

/-- the breakpoint shared by two consecutive rows gets the same limits in both records -/
theorem ci_adjacent_rows_agree (rows : List CiRow) : adjacentOk (ciCols rows) = true :=
  adjacent_aux none rows

/-- the outer ends of the table are stated as certain: first CIPOS.left = 0, last CIEND.right = 0 -/
theorem ci_table_ends_are_zero (rows : List CiRow) :
    ((ciCols rows).head?.map (·.posL)).getD 0 = 0 ∧ ((ciCols rows).getLast?.map (·.endR)).getD 0 = 0 := by
  constructor
  · cases rows <;> simp [ciCols, ciColsAux]
  · by_cases h : rows = []
    · subst h; simp [ciCols, ciColsAux]
    · have e := ci_end_right_is_the_shifted_column rows h
      have : ((ciCols rows).map (·.endR)).getLast? = some 0 := by rw [e]; simp [endRCol, shiftUp]
      rw [List.getLast?_map] at this
      cases hl : (ciCols rows).getLast? with
      | none => simp
      | some v => rw [hl] at this; simpa using this

/-- non-vacuity: three rows, margins 3/2, 4/1, 0/5 -/
example : ciCols [⟨0, 100, 3, 98⟩, ⟨100, 200, 104, 199⟩, ⟨300, 400, 300, 395⟩] =
    [⟨0, 3, 2, 4⟩, ⟨-2, 4, 1, 0⟩, ⟨-1, 0, 5, 0⟩] := by decide

end CnvVerif.C20Ci
