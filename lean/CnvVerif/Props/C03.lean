/-
  C03 — segments tile each chromosome and account for every surviving bin.
  Lemmas in Lemmas/Tile.lean, Lemmas/TileFields.lean; the tiling clauses are the one-chromosome instances (`WFUnit`,
  Lemmas/TileGenome.lean) of the whole-table ones of Props/C03Hmm.lean.

  The segmenters (haar, HMM, none) are black boxes: whatever partition `runs` of an arm's surviving
  bins into consecutive runs they return, the code around them (`_do_segmentation` filters,
  `transfer_fields` after fixes C and R of DESIGN.md 9.3 — model `assembleUnit`) reports segments with the
  properties below.  The tie to the real segmenters is relational: the same clauses, as the
  decidable checker `tileSpec`, are evaluated on every real `do_segmentation` output.
-/
import CnvVerif.Model.Tile
import CnvVerif.Lemmas.Tile
import CnvVerif.Lemmas.TileFields
import CnvVerif.Lemmas.TileGenome
import CnvVerif.Props.C03Hmm
namespace CnvVerif.C03
open CnvVerif

/-- segments are sorted, have positive length and do not overlap -/
theorem tile_sorted_positive_disjoint (u : List Bin) (hw : WFUnit u) (runs : List Nat) :
    (∀ g ∈ assembleUnit u runs, g.s < g.e) ∧ (assembleUnit u runs).Pairwise (fun a b => a.e ≤ b.s) := by
  obtain ⟨hpos, hpw⟩ := hmm_tile_sorted_positive_disjoint u hw.toGenome runs (hw.runsOnOneChrom runs)
  refine ⟨hpos, hpw.imp_of_mem fun {a b} ha hb h => h ?_⟩
  obtain ⟨⟨x, hx, hxa, _⟩, _⟩ := hmm_tile_within_span u hw.toGenome runs (hw.runsOnOneChrom runs) a ha
  obtain ⟨⟨y, hy, hyb, _⟩, _⟩ := hmm_tile_within_span u hw.toGenome runs (hw.runsOnOneChrom runs) b hb
  rw [← hxa, ← hyb]; exact hw.chrom_all hx hy

/-- … stay on the arm's chromosome within the span of its input bins -/
theorem tile_within_span (u : List Bin) (hw : WFUnit u) (runs : List Nat) (first last : Bin)
    (hf : u.head? = some first) (hl : u.getLast? = some last) :
    ∀ g ∈ assembleUnit u runs, g.chrom = first.chrom ∧ first.s ≤ g.s ∧ g.e ≤ last.e := by
  intro g hg
  obtain ⟨⟨a, ha, hac, has⟩, ⟨b, hb, _, hbe⟩⟩ :=
    hmm_tile_within_span u hw.toGenome runs (hw.runsOnOneChrom runs) g hg
  have h1 := hw.chrom_eq hf a ha
  exact ⟨by rw [← hac, h1.1], has ▸ h1.2, hbe ▸ hw.le_last hl b hb⟩

/-- every bin that survived filtering lies in exactly one segment … -/
theorem tile_each_survivor_once (u : List Bin) (hw : WFUnit u) (runs : List Nat) :
    ∀ b ∈ u, b.keep = true → ((assembleUnit u runs).filter (containedIn b)).length = 1 :=
  hmm_each_survivor_once u hw.toGenome runs (hw.runsOnOneChrom runs)

/-- … whose `probes` equals the number of surviving bins it contains … -/
theorem probes_counts_survivors (u : List Bin) (hw : WFUnit u) (runs : List Nat) :
    ∀ g ∈ assembleUnit u runs,
      g.probes = ((u.filter (fun b => b.keep && containedIn b g)).length : Int) :=
  hmm_probes_counts_survivors u hw.toGenome runs (hw.runsOnOneChrom runs)

/-- … so probes sum to the number of surviving bins … -/
theorem probes_sum (u : List Bin) (runs : List Nat) :
    sumI ((assembleUnit u runs).map (·.probes)) = ((u.filter (·.keep)).length : Int) :=
  assembleUnit_probes_sum u runs

/-- … and every arm with a surviving bin has a segment -/
theorem unit_with_survivor_has_segment (u : List Bin) (runs : List Nat) :
    assembleUnit u runs ≠ [] ↔ ∃ b ∈ u, b.keep = true := by
  rw [Ne, assembleUnit_eq_nil_iff]
  simp [List.filter_eq_nil_iff]

/-- the first segment of each arm starts at the arm's first input bin and the last ends at its last
    input bin even when edge bins were filtered out -/
theorem arm_endpoints_stretched (u : List Bin) (hw : WFUnit u) (runs : List Nat)
    (hs : ∃ b ∈ u, b.keep = true) :
    ((assembleUnit u runs).head?.map (·.s)) = u.head?.map (·.s) ∧
    ((assembleUnit u runs).getLast?.map (·.e)) = u.getLast?.map (·.e) := by
  cases u with
  | nil => simp at hs
  | cons first t =>
    obtain ⟨last, hl⟩ := exists_getLast_cons first t
    have hlc : last.chrom = first.chrom := hw.chrom_all (List.mem_of_getLast? hl) (List.mem_cons_self ..)
    -- every raw segment is on the arm's chromosome, so both stretches take place
    have hch : ∀ g ∈ C03Baf.rawSegs (first :: t) runs, g.chrom = first.chrom := fun g hg => by
      obtain ⟨⟨a, ha, hac, _⟩, _⟩ := (rawSegs_tiles _ hw.toGenome runs (hw.runsOnOneChrom runs)).2.2 g hg
      rw [← hac]; exact hw.chrom_all ha (List.mem_cons_self ..)
    have hne : C03Baf.rawSegs (first :: t) runs ≠ [] := fun h =>
      (unit_with_survivor_has_segment _ runs).mpr hs (by rw [assembleUnit_eq, h]; rfl)
    rw [assembleUnit_eq, stretchEnds_cons first t hl, hl]
    generalize C03Baf.rawSegs (first :: t) runs = raw at hch hne
    constructor
    · rw [List.head?_map, Option.map_map,
        show (fun g : SegO => g.s) ∘ aggregate (first :: t) = (fun g : SegO => g.s) from rfl,
        setLast_head?_inv _ (fun g : SegO => g.s) (stretchE_blind (·.s) (fun _ _ => rfl) last), setFirst_head?]
      obtain ⟨g0, rest, rfl⟩ := List.exists_cons_of_ne_nil hne
      show some (stretchS first g0).s = _
      rw [stretchS_same (hch g0 (List.mem_cons_self ..))]; rfl
    · -- the last segment after the first stretch keeps the chromosome of a raw segment, so the second stretch applies
      rw [List.getLast?_map, setLast_getLast?, Option.map_map, Option.map_map]
      cases hx : (setFirst (stretchS first) raw).getLast? with
      | none => exact absurd ((setFirst_eq_nil _ _).mp (List.getLast?_eq_none_iff.mp hx)) hne
      | some x =>
        have hxc : x.chrom ∈ raw.map (fun g : SegO => g.chrom) := by
          rw [← setFirst_map_inv _ (fun g : SegO => g.chrom) (stretchS_blind (·.chrom) (fun _ _ => rfl) first)]
          exact List.mem_map_of_mem (List.mem_of_getLast? hx)
        obtain ⟨g, hg, hgc⟩ := List.mem_map.mp hxc
        show some (aggregate (first :: t) (stretchE last x)).e = _
        rw [stretchE_same ((hgc.symm.trans (hch g hg)).trans hlc.symm)]; rfl

/-- each segment's weight is the sum, and its depth the weight-averaged depth, of ALL input bins
    it spans -/
theorem weight_is_sum_depth_is_weighted_mean (unit : List Bin) (g : SegO) :
    let sel := unit.filter (fun b => b.chrom == g.chrom && decide (b.e > g.s) && decide (b.s < g.e))
    (aggregate unit g).weight = sumQ (sel.map (·.weight)) ∧
    (0 < sumQ (sel.map (·.weight)) →
      (aggregate unit g).depth * sumQ (sel.map (·.weight)) = sumQ (sel.map (fun b => b.depth * b.weight))) ∧
    (aggregate unit g).s = g.s ∧ (aggregate unit g).e = g.e ∧ (aggregate unit g).probes = g.probes ∧
    (aggregate unit g).log2 = g.log2 := by
  intro sel
  refine ⟨rfl, ?_, rfl, rfl, rfl, rfl⟩
  intro hpos
  show (if sumQ (sel.map (·.weight)) > 0 then sumQ (sel.map (fun b => b.depth * b.weight)) / sumQ (sel.map (·.weight)) else 0) * _ = _
  rw [if_pos hpos]
  exact Rat.div_mul_cancel (Rat.ne_of_gt hpos)

theorem reported_segments_are_aggregated (u : List Bin) (runs : List Nat) :
    ∀ g ∈ assembleUnit u runs, aggregate u g = g := by
  rw [assembleUnit_eq]
  exact List.forall_mem_map.mpr fun _ _ => rfl

/-- every reported segment is one run of the segmenter's partition of the survivors: `probes` counts that run and
    (methods none / HMM, where the model's mean is the reported one) log2 is the run's weighted mean; the stretch
    of the end points and the aggregation of gene / weight / depth leave both alone -/
theorem segment_log2_is_weighted_mean_of_its_survivors (u : List Bin) (runs : List Nat) :
    ∀ g ∈ assembleUnit u runs, ∃ run ∈ splitLens (u.filter (·.keep)) runs,
      run ≠ [] ∧ g.probes = (run.length : Int) ∧ g.log2 = wmeanLog2 run :=
  assembleUnit_log2_probes u runs

/-- … where the weighted mean is Σ wᵢ·log2ᵢ / Σ wᵢ whenever the run carries weight -/
theorem weighted_mean_definition (run : List Bin) (hw : 0 < sumQ (run.map (·.weight))) :
    wmeanLog2 run * sumQ (run.map (·.weight)) = sumQ (run.map (fun b => b.log2 * b.weight)) := by
  show (if sumQ (run.map (·.weight)) > 0 then
      sumQ (run.map (fun b => b.log2 * b.weight)) / sumQ (run.map (·.weight))
    else sumQ (run.map (·.log2)) / (run.length : Rat)) * _ = _
  rw [if_pos hw]
  exact Rat.div_mul_cancel (Rat.ne_of_gt hw)

/-- the gene field lists the distinct meaningful names of ALL input bins the segment spans, in order of first
    appearance ("-" when none is left): each such name once, nothing else -/
theorem gene_field_lists_distinct_meaningful_names (unit : List Bin) (g : SegO) :
    let sel := unit.filter (fun b => b.chrom == g.chrom && decide (b.e > g.s) && decide (b.s < g.e))
    let names := ((sel.map (·.gene)).eraseDups).filter meaningful
    (aggregate unit g).gene = (if names.isEmpty then "-" else ",".intercalate names) ∧
    names.Nodup ∧ ∀ n, n ∈ names ↔ (meaningful n = true ∧ ∃ b ∈ sel, b.gene = n) := by
  intro sel names
  refine ⟨rfl, (nodup_eraseDups _).filter _, fun n => ?_⟩
  rw [List.mem_filter, List.mem_eraseDups, List.mem_map]
  exact and_comm

/-- `by_arm` only cuts a chromosome's rows, at most once, keeping their order -/
theorem byArm_partition {α} (rows : List α) (s e : α → Int) (minGap : Int) (minArmBins : Nat) :
    (armsOfChrom rows s e minGap minArmBins).flatten = rows ∧
    (armsOfChrom rows s e minGap minArmBins).length ≤ 2 := by
  unfold armsOfChrom
  simp only
  split <;> simp

/-- which bins survive the deterministic filters (null coverage = log2 < −15 or depth 0) -/
theorem survive_iff (skipLow : Bool) (minWeight : Rat) (outlier : Bool) (log2 depth w : Rat) :
    surviveMask skipLow minWeight outlier log2 depth w = true ↔
      (skipLow = true → ¬ (log2 < Generated.NULL_LOG2_COVERAGE - Generated.MIN_REF_COVERAGE ∨ depth = 0)) ∧
      outlier = false ∧
      (if minWeight ≠ 0 then ¬ (w < minWeight) else w ≠ 0) := by
  unfold surviveMask isLowCoverage weightTooLow
  by_cases hm : minWeight = 0 <;> cases skipLow <;> cases outlier <;> simp [hm]

theorem null_coverage_cutoff : Generated.NULL_LOG2_COVERAGE - Generated.MIN_REF_COVERAGE = -15 := by
  decide +kernel

/-! non-vacuity: an arm of four bins whose first bin was filtered out, partitioned 2 + 1 -/
example :
    let u : List Bin := [ ⟨"chr1", 0, 10, "A", 0, 1, 5, false⟩, ⟨"chr1", 10, 20, "A", 1, 1, 5, true⟩,
                          ⟨"chr1", 25, 30, "B", 1, 3, 5, true⟩, ⟨"chr1", 30, 40, "-", 0, 1, 5, true⟩ ]
    (assembleUnit u [2, 1]).map (fun g => (g.s, g.e, g.probes, g.weight, g.gene, g.log2)) =
      [(0, 30, 2, 5, "A,B", 1), (30, 40, 1, 1, "-", 0)] := by decide +kernel
example : WFUnit [ ⟨"chr1", 0, 10, "A", 0, 1, 5, false⟩, ⟨"chr1", 10, 20, "A", 1, 1, 5, true⟩ ] := by
  refine ⟨?_, by decide⟩
  intro b hb; simp at hb; rcases hb with rfl | rfl <;> decide

end CnvVerif.C03
