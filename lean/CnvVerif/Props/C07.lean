/-
  C07 — range queries return exactly the overlapping / contained / clipped rows.
  Property theorems only; the lemmas are in Lemmas/RangesQuery.lean (one query) and Lemmas/Ranges.lean (whole tables).
-/
import CnvVerif.Model.Ranges
import CnvVerif.Model.IntervalSpec
import CnvVerif.Lemmas.Ranges
namespace CnvVerif.C07
open CnvVerif

/-! A table of one chromosome is well formed (`WFTable`) when it is sorted by start, has
    non-negative coordinates and positive-length rows — what every table read by `tabio` is.
    Rows may nest, repeat or abut.  `selFilter qs qe inner` is the property's wording:
    outer = `end > qs ∧ start < qe`, inner = `start ≥ qs ∧ end ≤ qe`, `none` = unbounded side. -/

/-- whichever slicing path `idx_ranges` takes (binary search or masks), the rows selected for a
    query are exactly those the property names, in table order -/
theorem select_exact (t : Table) (h : WFTable t) (qs qe : Option Int)
    (hq : ∀ s, qs = some s → 0 ≤ s) (inner : Bool) :
    idxSelect t qs qe inner = t.filter (selFilter qs qe inner) := idxSelect_eq_filter t h qs qe inner

/-- the binary-search path alone is exact when the `end` column is monotone … -/
theorem simple_path_exact (t : Table) (h : WFTable t) (hm : isMonotone (t.map (·.e)) = true)
    (qs qe : Option Int) (inner : Bool) :
    irangeSimple t qs qe inner = t.filter (selFilter qs qe inner) := irangeSimple_exact t h hm qs qe inner

/-- … the mask path is exact for every start-sorted table, nested rows included … -/
theorem nested_path_exact (t : Table) (h : WFTable t) (qs qe : Option Int)
    (hq : ∀ s, qs = some s → 0 ≤ s) (inner : Bool) :
    irangeNested t qs qe inner = t.filter (selFilter qs qe inner) := irangeNested_eq_filter t h qs qe inner

/-- … so the path switch is unobservable -/
theorem simple_eq_nested_when_monotone (t : Table) (h : WFTable t)
    (hm : isMonotone (t.map (·.e)) = true) (qs qe : Option Int)
    (hq : ∀ s, qs = some s → 0 ≤ s) (inner : Bool) :
    irangeSimple t qs qe inner = irangeNested t qs qe inner := by
  rw [irangeSimple_exact t h hm, irangeNested_eq_filter t h]

theorem outer_exact (t : Table) (h : WFTable t) (qs qe : Int) (hq : 0 ≤ qs) :
    selectRange t (some qs) (some qe) .outer = t.filter (fun r => r.e > qs && r.s < qe) :=
  selectRange_outer t h qs qe

theorem inner_exact (t : Table) (h : WFTable t) (qs qe : Int) (hq : 0 ≤ qs) :
    selectRange t (some qs) (some qe) .inner = t.filter (fun r => r.s ≥ qs && r.e ≤ qe) :=
  selectRange_exact t h _ _ .inner

/-- trim = the overlapping rows, each clipped to the query -/
theorem trim_is_outer_clipped (t : Table) (h : WFTable t) (qs qe : Int) (hq : 0 ≤ qs) :
    selectRange t (some qs) (some qe) .trim =
      (t.filter (fun r => r.e > qs && r.s < qe)).map
        (fun r => { r with s := max r.s qs, e := min r.e qe }) := selectRange_trim t h qs qe

theorem trim_rows_inside_query (t : Table) (h : WFTable t) (qs qe : Int) (hq : 0 ≤ qs) (hlt : qs < qe) :
    ∀ r ∈ selectRange t (some qs) (some qe) .trim, qs ≤ r.s ∧ r.e ≤ qe ∧ r.s < r.e := by
  intro r hr
  rw [selectRange_trim t h qs qe, List.mem_map] at hr
  obtain ⟨r', hr', rfl⟩ := hr
  obtain ⟨hrt, hsel⟩ := List.mem_filter.mp hr'
  simp only [Bool.and_eq_true, decide_eq_true_eq] at hsel
  exact ⟨Int.le_max_right _ _, Int.min_le_right _ _,
    Int.max_lt.mpr ⟨Int.lt_min.mpr ⟨(h.2 r' hrt).2, hsel.2⟩, Int.lt_min.mpr ⟨hsel.1, hlt⟩⟩⟩

/-- `by_ranges` on one chromosome: one selection per query row, in query order -/
theorem by_ranges_per_query (c : String) (table other : Table)
    (ht : ∀ r ∈ table, r.chrom = c) (ho : ∀ r ∈ other, r.chrom = c)
    (hne : table ≠ []) (hno : other ≠ []) (mode : Mode) (ke : Bool) :
    byRangesDf table other mode ke =
      other.map (fun b => (b, selectRange table (some b.s) (some b.e) mode)) := by
  unfold byRangesDf bySharedChroms
  simp [chromsInOrder_const table c ht hne, chromsInOrder_const other c ho hno]

/-- `by_ranges` over ANY two tables, chromosome by chromosome: the query rows are visited grouped by chromosome in
    order of first appearance, each paired with the selection from the queried table's rows of THAT chromosome; a
    chromosome missing from the queried table contributes nothing (keep_empty off) or empty selections (on).  The
    single-chromosome fast path is not observable. -/
theorem by_ranges_per_chromosome (table other : Table) (mode : Mode) (ke : Bool) :
    byRangesDf table other mode ke =
      (chromsInOrder other).flatMap (fun c =>
        let src := table.filter (fun r => r.chrom == c)
        let qs := other.filter (fun r => r.chrom == c)
        if !src.isEmpty then qs.map (fun b => (b, selectRange src (some b.s) (some b.e) mode))
        else if ke then qs.map (fun b => (b, []))
        else []) :=
  byRangesDf_per_chromosome table other mode ke

/-- … so every reported pair is a query row with exactly the selection from the rows of its own chromosome -/
theorem by_ranges_never_crosses_chromosomes (table other : Table) (mode : Mode) (ke : Bool) :
    ∀ p ∈ byRanges table other mode ke, p.1 ∈ other ∧
      p.2 = (if (table.filter (fun r => r.chrom == p.1.chrom)).isEmpty then []
             else selectRange (table.filter (fun r => r.chrom == p.1.chrom)) (some p.1.s) (some p.1.e) mode) := by
  intro p hp
  rw [byRanges_per_query] at hp
  obtain ⟨b, hb, rfl⟩ := List.mem_map.mp (List.mem_filter.mp hp).1
  refine ⟨(mem_queriesInOrder other b).mp hb, ?_⟩
  split
  · rename_i he
    rw [List.isEmpty_iff.mp he, selectRange_nil]
  · rfl

/-- `into_ranges` returns exactly one value per query range, for any tables (missing
    chromosomes, empty tables included) -/
theorem into_ranges_one_per_query (source dest : Table) (d : String) :
    (intoRangesStr source dest d).length = dest.length := intoRanges_length source dest d

/-! non-vacuity -/
example : WFTable [⟨"chr1", 0, 100, "a"⟩, ⟨"chr1", 10, 20, "b"⟩, ⟨"chr1", 30, 40, "c"⟩] :=
  ⟨by decide +kernel, by decide +kernel⟩
example : inRange [⟨"chr1", 0, 100, "a"⟩, ⟨"chr1", 10, 20, "b"⟩, ⟨"chr1", 30, 40, "c"⟩] (some "chr1") (some 25) none .outer
    = [⟨"chr1", 0, 100, "a"⟩, ⟨"chr1", 30, 40, "c"⟩] := by decide +kernel

end CnvVerif.C07
