/-
  C05 — the pooled reference is the robust per-bin consensus in the chosen reference sex.
  Lemmas in Lemmas/Reference.lean and Lemmas/ReferenceGc.lean.

  `doReference` is, by definition, what the property's first sentence says: each bin's log2 and
  spread are Tukey's biweight location (`Desc.biweightLocationCore`, C19's exact model) and
  midvariance over the neutral pseudo-sample plus each sample's log2 after median-centring
  (`centerShift medianR`, C15) and the sex shift `sexAdjust`.  The theorems below are the
  consequences the property lists.
-/
import CnvVerif.Model.Reference
import CnvVerif.Lemmas.Reference
namespace CnvVerif.C05
open CnvVerif CnvVerif.Ref

/-- a reference built from coverage files has exactly their bins (those of the first file in
    name order), in order, per block … -/
theorem reference_has_exactly_the_bins (hapX : Bool) (par : Option String) (skipLow : Bool)
    (sexes : List (String × Bool)) (samples : List Sample) (out : List RefOut) (first : Sample)
    (rest : List Sample) (hs : sortSamples samples = first :: rest)
    (h : refBlock hapX par skipLow sexes samples = .ok out) :
    out.map (fun o => (o.chrom, o.s, o.e, o.gene)) = first.rows.map binKey :=
  blockBy_rows_bins _ hapX par sexes samples out first rest hs h

/-- … and the whole reference is the genomic sort of targets followed by antitargets -/
theorem reference_is_sorted_union (hapX : Bool) (par : Option String) (sexes : List (String × Bool))
    (targets : List Sample) (anti : List Sample) (t a out : List RefOut)
    (hl : anti.length = targets.length) (hne : anti ≠ [])
    (ht : refBlock hapX par true sexes targets = .ok t)
    (ha : refBlock hapX par false sexes anti = .ok a)
    (h : doReference hapX par sexes targets (some anti) = .ok out) : out.Perm (t ++ a) := by
  unfold doReference at h
  have he : anti.isEmpty = false := by simpa using hne
  simp only [hl, ht, ha, he] at h
  simp [bind, Except.bind, pure, Except.pure] at h
  subst h
  exact List.mergeSort_perm _ _

/-- files whose bins differ are rejected -/
theorem reject_differing_bins (hapX : Bool) (par : Option String) (skipLow : Bool)
    (sexes : List (String × Bool)) (samples : List Sample) (first : Sample) (rest : List Sample)
    (bad : Sample) (hs : sortSamples samples = first :: rest) (hne : first.rows ≠ [])
    (hb : bad ∈ rest) (hd : bad.rows.map binKey ≠ first.rows.map binKey) :
    ∃ e, refBlock hapX par skipLow sexes samples = .error e := by
  rw [refBlock_eq]
  exact blockBy_error _ _ samples first rest bad hs hne hb hd

/-- normals that differ only in sequencing depth contribute the same values (the depth scale is
    removed by the median-centring) where no null-coverage bins are skipped: the antitarget block,
    `skipLow = false`; under the targets' filter a constant can move a bin across the cut … -/
theorem depth_scale_collapses (hapX : Bool) (par : Option String) (isXX : Option Bool)
    (flat : List Rat) (rows : List CovRow) (c : Rat) (hne : rows ≠ []) :
    sampleLogr hapX par false isXX flat (rows.map (fun r => { r with log2 := r.log2 + c }))
      = sampleLogr hapX par false isXX flat rows :=
  sampleLogr_depth_scale hapX par false isXX flat rows c (autosomesOf_ne_nil _ par _ (by simpa using hne)) nofun

/-- … and k ≥ 2 agreeing samples reproduce their common value with spread 0: the neutral
    pseudo-sample is rejected as an outlier (or coincides with them) -/
theorem identical_samples_reproduce (k : Nat) (hk : 2 ≤ k) (f v : Rat)
    (hfv : f = v ∨ (Generated.BILOC_EPS ≤ Desc.absR (f - v) ∧ Generated.BIVAR_EPS ≤ Desc.absR (f - v))) :
    locOf (f :: List.replicate k v) = v ∧ spreadOf (f :: List.replicate k v) v = .direct 0 :=
  Ref.identical_samples_reproduce k hk f v hfv

/-- with ONE sample the consensus is the midpoint of the sample and the pseudo-sample: the
    consequence clause fails for 1-sample cohorts (open finding E; by design of the pseudo-sample) -/
theorem single_sample_halves (f v : Rat) : locOf [f, v] = (f + v) / 2 := Ref.single_sample_halves f v

/-- for any mix of male and female normals chrX lies 1.0 below the baseline for a male reference and
    on it for a female one … -/
theorem sex_levels_x (hapX isXX : Bool) :
    sexAdjust isXX .x (flatX hapX) (rawX isXX) = (if hapX then -1 else 0) := by
  cases hapX <;> cases isXX <;> simp [sexAdjust, flatX, rawX]

/-- … with chrY at the single-copy level −1 in both -/
theorem sex_levels_y (isXX : Bool) (v : Rat) (hv : isXX = false → v = -1) :
    sexAdjust isXX .y (-1) v = -1 := by
  cases isXX with
  | true => simp [sexAdjust]
  | false => rw [hv rfl]; simp [sexAdjust]

/-- … and the shift leaves autosomal and PAR-X bins (flat level 0) at their centred value -/
theorem autosomes_untouched (isXX : Bool) (v : Rat) :
    sexAdjust isXX .auto 0 v = v ∧ sexAdjust isXX .parx 0 v = v := by
  cases isXX <;> simp [sexAdjust]

/-- a flat reference is 0 on autosomes, −1 on Y, and −1 on X only for a male reference
    (`C15.expect_flat_table` characterises `expectFlat`) -/
theorem flat_reference_table (hapX : Bool) (par : Option String) (bins : List CovRow) :
    (flatReference hapX par bins).map (·.2) =
      expectFlat hapX par ((flatReference hapX par bins).map (fun p => toC p.1)) := by
  unfold flatReference
  simp only []
  generalize (bins.mergeSort _) = sorted
  have hlen : (expectFlat hapX par (sorted.map toC)).length = sorted.length := by
    simp [expectFlat]
  rw [show (fun p : CovRow × Rat => toC p.1) = toC ∘ Prod.fst from rfl, ← List.map_map,
    List.map_fst_zip (Nat.le_of_eq hlen.symm), List.map_snd_zip (Nat.le_of_eq hlen)]

/-- gc and rmask lie in [0, 1] -/
theorem gc_rmask_are_fractions (seq : List Char) :
    0 ≤ (gcRmask seq).1 ∧ (gcRmask seq).1 ≤ 1 ∧ 0 ≤ (gcRmask seq).2 ∧ (gcRmask seq).2 ≤ 1 := by
  rw [gcRmask_counts]
  exact ⟨(frac_mem_unit _ _ (by omega)).1, (frac_mem_unit _ _ (by omega)).2, (frac_mem_unit _ _ (by omega)).1,
    (frac_mem_unit _ _ (by omega)).2⟩

/-- gc is the G+C fraction of the unambiguous bases (A, C, G, T in either case) and rmask their lowercase fraction -/
theorem gc_rmask_def (seq : List Char)
    (h : 0 < seq.countP (fun c => c == 'G' || c == 'C' || c == 'g' || c == 'c') +
             seq.countP (fun c => c == 'A' || c == 'T' || c == 'a' || c == 't')) :
    (gcRmask seq).1 = (seq.countP (fun c => c == 'G' || c == 'C' || c == 'g' || c == 'c') : Rat) /
      ((seq.countP (fun c => c == 'G' || c == 'C' || c == 'g' || c == 'c') +
        seq.countP (fun c => c == 'A' || c == 'T' || c == 'a' || c == 't') : Nat) : Rat) ∧
    (gcRmask seq).2 = (seq.countP (fun c => c == 'a' || c == 'c' || c == 'g' || c == 't') : Rat) /
      ((seq.countP (fun c => c == 'G' || c == 'C' || c == 'g' || c == 'c') +
        seq.countP (fun c => c == 'A' || c == 'T' || c == 'a' || c == 't') : Nat) : Rat) := by
  unfold gcRmask
  simp only [if_neg (Nat.pos_iff_ne_zero.mp h), and_self]

/-- the first sentence of the property: when a block of coverage files is accepted, the reference has one row per
    bin of the sample that comes first in file-name order, every other file has the same bins, and for the i-th bin
    log2 and spread are Tukey's biweight location and midvariance of the i-th COLUMN of the matrix whose first row is
    the neutral pseudo-sample (`expectFlat`) and whose other rows are each sample's log2 after median-centring and the
    shift of its sex chromosomes to the requested reference sex (`sampleLogr`); depth is the location of the depths -/
theorem reference_values_are_biweight_of_columns (hapX : Bool) (par : Option String) (skipLow : Bool)
    (sexes : List (String × Bool)) (samples : List Ref.Sample) (outs : List Ref.RefOut) (first : Ref.Sample)
    (rest : List Ref.Sample) (hs : Ref.sortSamples samples = first :: rest) (hne : first.rows.isEmpty = false)
    (h : Ref.refBlock hapX par skipLow sexes samples = .ok outs) :
    let flat := expectFlat hapX par (first.rows.map Ref.toC)
    let logr := (first :: rest).map fun s =>
      Ref.sampleLogr hapX par skipLow ((sexes.find? (·.1 == s.name)).map (·.2)) flat s.rows
    let n := first.rows.length
    let lcols := Ref.columns n (flat :: logr)
    let dcols := Ref.columns n ((first :: rest).map (fun s => s.rows.map (·.depth)))
    (∀ s ∈ rest, s.rows.map Ref.binKey = first.rows.map Ref.binKey) ∧
    outs = ((first.rows.zip lcols).zip dcols).map (fun p =>
      { chrom := p.1.1.chrom, s := p.1.1.s, e := p.1.1.e, gene := p.1.1.gene, log2 := Ref.locOf p.1.2,
        depth := Ref.locOf p.2, spread := Ref.spreadOf p.1.2 (Ref.locOf p.1.2) }) := by
  rw [refBlock_eq] at h
  rcases blockBy_ok _ _ samples first rest outs hs h with ⟨he, -⟩ | ⟨-, hall, rfl⟩
  · rw [he] at hne; cases hne
  · exact ⟨hall, rfl⟩

/-! non-vacuity -/
example : sexAdjust true .x (flatX true) (rawX true) = -1 ∧ sexAdjust false .x (flatX false) (rawX false) = 0 := by
  decide +kernel
example : gcRmask ['A', 'c', 'G', 'N', 't'] = (1/2, 1/2) := by decide +kernel

end CnvVerif.C05
