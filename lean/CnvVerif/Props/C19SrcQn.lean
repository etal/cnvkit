/-
  C19, tie to the source text: `q_n` after its double loop (`vals` = the pairwise distances, modelled by `pairDiffs`): the percentile taken and the chain of finite-sample factors.  `Generated.src_q_n` is the expression
  harness/vectrans.py reads from cnvlib/descriptives.py (see Lemmas/SrcDescVocab.lean).
-/
import CnvVerif.Generated.ExprsDesc
import CnvVerif.Lemmas.SrcDescVocab
namespace CnvVerif.C19
open CnvVerif CnvVerif.Desc CnvVerif.Generated CnvVerif.Src


/-- `q_n` after its double loop, the list `vals` being the pairwise distances the loop collects -/
theorem qn_is_the_source (a : List Rat) : src_q_n a (pairDiffs a) = qnCore a := by
  unfold src_q_n qnCore qnScale QN_Q QN_N_SMALL QN_N_MID_LO QN_N_LARGE QN_SCALE_SMALL QN_SCALE_MID_BASE QN_SCALE_LARGE QN_NUM
  simp only []
  have hq : ((25 : Rat) / 100) = (((25 : Nat) : Rat) / 100) := by norm_num
  rw [hq]
  split_ifs <;> rfl

end CnvVerif.C19
