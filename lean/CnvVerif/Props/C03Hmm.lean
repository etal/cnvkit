/-
  C03 on the HMM path (hmm, hmm-tumor, hmm-germline).  `do_segmentation` hands these methods the WHOLE table, not
  one arm at a time, so the unit `transfer_fields` works on holds every chromosome (and any of them may have lost
  all its bins to the filters — defect R of DESIGN.md 9.3).  The theorems of Props/C03.lean assume a one-chromosome unit; here the
  same clauses are proved for a table of any number of chromosomes and for every partition whose runs stay on one
  chromosome — in particular (`hmm_path_tiles_every_chromosome`) for the partition `squash_by_groups(…, by_arm=True)`
  builds from ANY state sequence.  The clauses are read off the invariant `assembleGenome_tiles` of Lemmas/TileGenome.lean;
  the partition is dealt with in Lemmas/TileRuns.lean.
-/
import CnvVerif.Model.Tile
import CnvVerif.Model.TileExt
import CnvVerif.Lemmas.Tile
import CnvVerif.Lemmas.TileFields
import CnvVerif.Lemmas.TileGenome
import CnvVerif.Lemmas.TileRuns
namespace CnvVerif.C03
open CnvVerif

/-- on each chromosome the segments have positive length, are sorted and do not overlap -/
theorem hmm_tile_sorted_positive_disjoint (u : List Bin) (hw : WFGenome u) (runs : List Nat)
    (h1c : RunsOnOneChrom (splitLens (u.filter (·.keep)) runs)) :
    (∀ g ∈ assembleUnit u runs, g.s < g.e) ∧
    (assembleUnit u runs).Pairwise (fun a b => a.chrom = b.chrom → a.e ≤ b.s) :=
  have h := assembleGenome_tiles u hw runs h1c
  ⟨h.1.pos (survivors_pos hw runs), h.2.1⟩

/-- … stay within the span of that chromosome's input bins: a segment starts where an input bin of ITS chromosome
    starts and ends where one ends -/
theorem hmm_tile_within_span (u : List Bin) (hw : WFGenome u) (runs : List Nat)
    (h1c : RunsOnOneChrom (splitLens (u.filter (·.keep)) runs)) :
    ∀ g ∈ assembleUnit u runs,
      (∃ b ∈ u, b.chrom = g.chrom ∧ b.s = g.s) ∧ (∃ b ∈ u, b.chrom = g.chrom ∧ b.e = g.e) :=
  (assembleGenome_tiles u hw runs h1c).2.2

/-- every bin that survived filtering lies in exactly one segment … -/
theorem hmm_each_survivor_once (u : List Bin) (hw : WFGenome u) (runs : List Nat)
    (h1c : RunsOnOneChrom (splitLens (u.filter (·.keep)) runs)) :
    ∀ b ∈ u, b.keep = true → ((assembleUnit u runs).filter (containedIn b)).length = 1 := by
  obtain ⟨hc, hok, _⟩ := assembleGenome_tiles u hw runs h1c
  intro b hb hk
  refine hc.once hok (survivors_pos hw runs) ?_
  rw [splitLens_flatten]
  exact List.mem_filter.mpr ⟨hb, hk⟩

/-- … whose `probes` equals the number of surviving bins it contains -/
theorem hmm_probes_counts_survivors (u : List Bin) (hw : WFGenome u) (runs : List Nat)
    (h1c : RunsOnOneChrom (splitLens (u.filter (·.keep)) runs)) :
    ∀ g ∈ assembleUnit u runs,
      g.probes = ((u.filter (fun b => b.keep && containedIn b g)).length : Int) := by
  obtain ⟨hc, hok, _⟩ := assembleGenome_tiles u hw runs h1c
  intro g hg
  rw [hc.count hok (survivors_pos hw runs) hg, splitLens_flatten, List.filter_filter,
    show (fun a : Bin => containedIn a g && a.keep) = (fun b : Bin => b.keep && containedIn b g) from
      funext fun a => Bool.and_comm _ _]

/-- every chromosome with a surviving bin has a segment -/
theorem hmm_chromosome_with_survivor_has_segment (u : List Bin) (hw : WFGenome u) (runs : List Nat)
    (h1c : RunsOnOneChrom (splitLens (u.filter (·.keep)) runs)) :
    ∀ b ∈ u, b.keep = true → ∃ g ∈ assembleUnit u runs, g.chrom = b.chrom := by
  intro b hb hk
  have h := hmm_each_survivor_once u hw runs h1c b hb hk
  cases hf : (assembleUnit u runs).filter (containedIn b) with
  | nil => rw [hf] at h; simp at h
  | cons g rest =>
    have hg : g ∈ (assembleUnit u runs).filter (containedIn b) := by rw [hf]; exact List.mem_cons_self ..
    obtain ⟨hgm, hcon⟩ := List.mem_filter.mp hg
    exact ⟨g, hgm, ((containedIn_iff b g).mp hcon).1.symm⟩

/-- whatever states the HMM predicts and however the arms are numbered, no run of
    `squash_by_groups(survivors, states, by_arm=True)` crosses a chromosome boundary, and the runs are a partition
    of the survivors in order -/
theorem hmm_state_runs_stay_on_one_chromosome (survivors : List Bin) (tags : List Int) :
    RunsOnOneChrom (splitLens survivors (hmmRuns survivors tags)) ∧
    (splitLens survivors (hmmRuns survivors tags)).flatten = survivors :=
  ⟨hmmRuns_onOneChrom survivors tags, splitLens_flatten survivors _⟩

/-- headline for the HMM methods: for EVERY state sequence, the segments reported for a whole table tile each
    chromosome and account for every surviving bin; probes sum to the survivors and each log2 is the weighted
    mean of the run's survivors -/
theorem hmm_path_tiles_every_chromosome (u : List Bin) (hw : WFGenome u) (tags : List Int) :
    let segs := assembleUnit u (hmmRuns (u.filter (·.keep)) tags)
    (∀ g ∈ segs, g.s < g.e) ∧
    segs.Pairwise (fun a b => a.chrom = b.chrom → a.e ≤ b.s) ∧
    (∀ g ∈ segs, (∃ b ∈ u, b.chrom = g.chrom ∧ b.s = g.s) ∧ (∃ b ∈ u, b.chrom = g.chrom ∧ b.e = g.e)) ∧
    (∀ b ∈ u, b.keep = true → (segs.filter (containedIn b)).length = 1) ∧
    (∀ g ∈ segs, g.probes = ((u.filter (fun b => b.keep && containedIn b g)).length : Int)) ∧
    sumI (segs.map (·.probes)) = ((u.filter (·.keep)).length : Int) ∧
    (∀ g ∈ segs, ∃ run ∈ splitLens (u.filter (·.keep)) (hmmRuns (u.filter (·.keep)) tags),
      run ≠ [] ∧ g.probes = (run.length : Int) ∧ g.log2 = wmeanLog2 run) := by
  have h1c := hmmRuns_onOneChrom (u.filter (·.keep)) tags
  exact ⟨(hmm_tile_sorted_positive_disjoint u hw _ h1c).1, (hmm_tile_sorted_positive_disjoint u hw _ h1c).2,
    hmm_tile_within_span u hw _ h1c, hmm_each_survivor_once u hw _ h1c,
    hmm_probes_counts_survivors u hw _ h1c, assembleUnit_probes_sum u _, assembleUnit_log2_probes u _⟩

/-- the one-arm setting of Props/C03.lean is a special case of the whole-table setting -/
theorem arm_unit_is_a_whole_table_unit (u : List Bin) (hw : WFUnit u) (runs : List Nat) :
    WFGenome u ∧ RunsOnOneChrom (splitLens (u.filter (·.keep)) runs) :=
  ⟨hw.toGenome, hw.runsOnOneChrom runs⟩

/-! non-vacuity: a table of two chromosomes, every bin of the first one filtered out (the shape of defect R), a
    filtered edge bin on the second; states 0,0,1 -/
example :
    let u : List Bin := [ ⟨"chr1", 0, 10, "A", 0, 1, 5, false⟩, ⟨"chr1", 10, 20, "A", 0, 1, 5, false⟩,
                          ⟨"chr2", 5, 10, "B", 1, 1, 5, true⟩, ⟨"chr2", 10, 20, "B", 1, 3, 5, true⟩,
                          ⟨"chr2", 30, 40, "C", 0, 1, 5, true⟩, ⟨"chr2", 40, 50, "C", 0, 1, 5, false⟩ ]
    hmmRuns (u.filter (·.keep)) [0, 0, 1] = [2, 1] ∧
    (assembleUnit u (hmmRuns (u.filter (·.keep)) [0, 0, 1])).map (fun g => (g.chrom, g.s, g.e, g.probes, g.gene)) =
      [("chr2", 5, 20, 2, "B"), ("chr2", 30, 50, 1, "C")] := by decide +kernel
example : WFGenome [ ⟨"chr1", 0, 10, "A", 0, 1, 5, false⟩, ⟨"chr2", 0, 10, "B", 1, 1, 5, true⟩,
                     ⟨"chr2", 10, 20, "B", 1, 3, 5, true⟩ ] := by
  unfold WFGenome; decide +kernel
/-- a state run that continues across a chromosome boundary is cut there -/
example : hmmRuns [ ⟨"chr1", 0, 10, "A", 0, 1, 5, true⟩, ⟨"chr2", 0, 10, "B", 1, 1, 5, true⟩ ] [7, 7] = [1, 1] := by
  decide +kernel

end CnvVerif.C03
