/-
  C15: the row of `do_sex` is the source text (see Props/C15SrcGlue.lean).
-/
import CnvVerif.Model.SexExt5Py
import CnvVerif.Generated.ExprsSexGlue
namespace CnvVerif.C15x
open CnvVerif

/-- the row of `do_sex` IS the source: same call, "Male" on a true decision and "Female" otherwise (also without a
    decision), `strsign` of `chrx_ratio` / `chry_ratio` when there are statistics and "NA" when the dict is empty -/
theorem sex_row_is_the_source (cta : Cta) (hapX : Bool) (par : Option String) (t : List CBin) :
    (let row := sexRow cta hapX par t; (row.1, some row.2.1, some row.2.2)) =
      Generated.src_sex_row (fun h p s => c15PyPair (compareSex cta h p s t)) c15StatsGet
        (fun v => some (strsign v)) c15CellLit hapX par := by
  unfold sexRow Generated.src_sex_row
  cases h : compareSex cta hapX par false t with
  | none => simp [c15PyPair, c15CellLit, h]
  | some r =>
    obtain ⟨b, st⟩ := r
    cases b <;> simp [c15PyPair, c15StatsGet, h]

/-- non-vacuity: the generated row on a concrete result with / without statistics -/
example : Generated.src_sex_row (σ := SexStats) (fun _ _ _ => (some true, some ⟨some 1, none, none, none, none⟩))
    c15StatsGet (fun v => some (strsign v)) c15CellLit false none
    = ("Male", some (.num true (some 1)), some (.num false none)) := by decide
example : Generated.src_sex_row (σ := SexStats) (fun _ _ _ => (none, none))
    c15StatsGet (fun v => some (strsign v)) c15CellLit true (some "grch38") = ("Female", some .na, some .na) := by decide

end CnvVerif.C15x
