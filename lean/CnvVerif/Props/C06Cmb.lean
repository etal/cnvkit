/-
  C06: merge(bp, stranded, combine) on tables with any columns (Model/IntervalExt5.lean): the combiners of
  skgenome/combiners.py, `_squash_tuples`, `_nonoverlapping_groups` and the (chromosome, strand) grouping.
-/
import CnvVerif.Props.C06
import CnvVerif.Model.IntervalExt5
namespace CnvVerif.C06X
open CnvVerif

/-- `first_of` returns the first value -/
theorem cmb_first_of (v : Val) (vs : List Val) : applyCmb .firstOf (v :: vs) = v := rfl

/-- `last_of` returns the last value -/
theorem cmb_last_of (vs : List Val) (v : Val) : applyCmb .lastOf (vs ++ [v]) = v := by
  simp [applyCmb]

/-- `make_const(val)` returns `val` whatever the group is -/
theorem cmb_const (v : Val) (vs : List Val) : applyCmb (.const v) vs = v := rfl

/-- `join_strings`: the distinct labels in order of first appearance, comma-joined -/
theorem cmb_join_strings (vs : List Val) :
    applyCmb .joinStrings vs = .str (",".intercalate (vs.map Val.text).eraseDups) := rfl

/-- `merge_strands` on a group whose strands are all `v` returns `v` -/
theorem cmb_merge_strands_same (v : Val) (vs : List Val) (h : ∀ x ∈ vs, x = v) :
    applyCmb .mergeStrands (v :: vs) = v := by
  have hf : vs.filter (fun b => !(b == v)) = [] := by
    rw [List.filter_eq_nil_iff]
    intro x hx
    simp [h x hx]
  simp [applyCmb, List.eraseDups_cons, hf]

/-- `merge_strands` on a group with two different strands returns "." -/
theorem cmb_merge_strands_mixed (v w : Val) (vs : List Val) (hw : w ∈ vs) (hne : w ≠ v) :
    applyCmb .mergeStrands (v :: vs) = .str "." := by
  have hmem : w ∈ vs.filter (fun b => !(b == v)) := by
    rw [List.mem_filter]
    exact ⟨hw, by simp [hne]⟩
  cases hf : vs.filter (fun b => !(b == v)) with
  | nil => rw [hf] at hmem; cases hmem
  | cons y ys => simp [applyCmb, List.eraseDups_cons, hf]

/-- `sum` / the numeric combiners read the integer cells -/
theorem cmb_sum (vs : List Val) : applyCmb .sumOf vs = .num (vs.map Val.int).sum := rfl

theorem foldl_max_ge (l : List Int) (a : Int) : a ≤ l.foldl max a ∧ ∀ x ∈ l, x ≤ l.foldl max a :=
  _root_.CnvVerif.foldl_max_ge l a

/-- `max` (the combiner of `end`): the result is at least every value of the group -/
theorem cmb_max_ge (vs : List Val) (v : Val) (hv : v ∈ vs) :
    ∃ m, applyCmb .maxOf vs = .num m ∧ v.int ≤ m := by
  refine ⟨_, rfl, ?_⟩
  exact (foldl_max_ge (vs.map Val.int) _).2 v.int (List.mem_map_of_mem hv)

/-! ### get_combiners -/

theorem lookup_filter_key (q : String → Bool) (l : List (String × Cmb)) (k : String) :
    (l.filter (fun p => q p.1)).lookup k = if q k then l.lookup k else none := by
  induction l with
  | nil => simp
  | cons a tl ih =>
    obtain ⟨a1, a2⟩ := a
    by_cases hk : k = a1
    · subst hk
      by_cases hq : q k = true <;> simp [hq, ih]
    · have : (k == a1) = false := by simp [hk]
      by_cases hq : q a1 = true <;> simp [hq, List.lookup_cons, this, ih]

/-- `get_combiners` never names a column the table does not have -/
theorem getCombiners_only_table_columns (cols : List String) (stranded : Bool) (custom : List (String × Cmb))
    (k : String) (h : k ∉ cols) : (getCombiners cols stranded custom).lookup k = none := by
  unfold getCombiners
  simp only []
  rw [lookup_filter_key (fun k => cols.contains k)]
  simp [h]

/-- default combiners of a stranded merge: chromosome and strand are taken from the first row, the end is the maximum -/
theorem getCombiners_stranded (cols : List String) (hc : "chromosome" ∈ cols)
    (hs : "strand" ∈ cols) (he : "end" ∈ cols) :
    (getCombiners cols true []).lookup "chromosome" = some .firstOf ∧
    (getCombiners cols true []).lookup "strand" = some .firstOf ∧
    (getCombiners cols true []).lookup "end" = some .maxOf := by
  unfold getCombiners
  simp only []
  -- the column is present, so the entry is the one of the default table, which is evaluated
  refine ⟨?_, ?_, ?_⟩ <;> rw [lookup_filter_key (fun k => cols.contains k)]
  · rw [if_pos (List.contains_iff_mem.mpr hc)]; decide +kernel
  · rw [if_pos (List.contains_iff_mem.mpr hs)]; decide +kernel
  · rw [if_pos (List.contains_iff_mem.mpr he)]; decide +kernel

/-- ... of an unstranded merge: the strand column is summarised by `merge_strands` -/
theorem getCombiners_unstranded (cols : List String) (hs : "strand" ∈ cols) :
    (getCombiners cols false []).lookup "strand" = some .mergeStrands := by
  unfold getCombiners
  simp only []
  rw [lookup_filter_key (fun k => cols.contains k), if_pos (List.contains_iff_mem.mpr hs)]
  decide +kernel

/-! ### `_nonoverlapping_groups`: a partition of the rows into non-empty runs, in order -/

theorem groupsGo_flatten (bp mx : Int) (cur xs : List XRow) :
    (groupsGo bp mx cur xs).flatten = cur.reverse ++ xs := by
  induction xs generalizing mx cur with
  | nil => simp [groupsGo]
  | cons x xs ih =>
    unfold groupsGo
    split <;> simp [ih]

/-- every row lands in exactly one group, the order is kept -/
theorem groups_flatten (bp : Int) (t : XTable) : (groups bp t).flatten = t := by
  cases t with
  | nil => rfl
  | cons x xs => simp [groups, groupsGo_flatten]

theorem groupsGo_ne (bp mx : Int) (cur xs : List XRow) (h : cur ≠ []) :
    ∀ g ∈ groupsGo bp mx cur xs, g ≠ [] := by
  induction xs generalizing mx cur with
  | nil => intro g hg; simp [groupsGo] at hg; subst hg; simpa using h
  | cons x xs ih =>
    intro g hg
    unfold groupsGo at hg
    split at hg
    · rcases List.mem_cons.mp hg with h1 | h1
      · subst h1; simpa using h
      · exact ih _ [x] (by simp) g h1
    · exact ih _ (x :: cur) (by simp) g hg

/-- no group is empty -/
theorem groups_ne (bp : Int) (t : XTable) : ∀ g ∈ groups bp t, g ≠ [] := by
  cases t with
  | nil => intro g hg; simp [groups] at hg
  | cons x xs => exact groupsGo_ne bp _ [x] xs (by simp)

/-! ### `_squash_tuples` -/

/-- a group of one row is returned as it is (no combiner is called) -/
theorem squash_single (cmb : List (String × Cmb)) (r : XRow) : squash cmb [r] = r := rfl

/-- the squashed row has the columns of the first row, in order -/
theorem squash_columns (cmb : List (String × Cmb)) (r : XRow) (rs : List XRow) :
    (squash cmb (r :: rs)).map (·.1) = r.map (·.1) := by
  cases rs with
  | nil => rfl
  | cons r2 rs =>
    simp only [squash, List.map_map]
    apply List.map_congr_left
    intro p _
    simp only [Function.comp]
    split <;> rfl

theorem lookup_map_cells (f : String → Val → Val) (r : XRow) (k : String) :
    (r.map (fun p => (p.1, f p.1 p.2))).lookup k = (r.lookup k).map (f k) := by
  induction r with
  | nil => simp
  | cons a tl ih =>
    obtain ⟨a1, a2⟩ := a
    by_cases hk : k = a1
    · subst hk; simp
    · have : (k == a1) = false := by simp [hk]
      simp [List.lookup_cons, this, ih]

/-- the cell `_squash_tuples` writes into column `k` of a group of ≥ 2 rows -/
def sqF (cmb : List (String × Cmb)) (rows : List XRow) (k : String) (v : Val) : Val :=
  match cmb.lookup k with
  | some c => applyCmb c (rows.map (fun x => cell x k))
  | none => v

theorem squash_eq (cmb : List (String × Cmb)) (r r2 : XRow) (rs : List XRow) :
    squash cmb (r :: r2 :: rs) = r.map (fun p => (p.1, sqF cmb (r :: r2 :: rs) p.1 p.2)) := by
  simp only [squash]
  apply List.map_congr_left
  intro p _
  unfold sqF
  cases cmb.lookup p.1 <;> rfl

/-- a column with a combiner: the squashed row of ≥ 2 rows carries `combiner(values of the group, in order)` -/
theorem squash_cell (cmb : List (String × Cmb)) (r r2 : XRow) (rs : List XRow) (k : String) (c : Cmb)
    (hc : cmb.lookup k = some c) (hk : r.lookup k ≠ none) :
    cell (squash cmb (r :: r2 :: rs)) k = applyCmb c ((r :: r2 :: rs).map (fun x => cell x k)) := by
  rw [squash_eq]
  unfold cell
  rw [lookup_map_cells (sqF cmb (r :: r2 :: rs)) r k]
  cases hl : r.lookup k with
  | none => exact absurd hl hk
  | some v => simp [sqF, hc, cell]

/-- a column without a combiner keeps the first row's value -/
theorem squash_cell_plain (cmb : List (String × Cmb)) (r r2 : XRow) (rs : List XRow) (k : String)
    (hc : cmb.lookup k = none) : cell (squash cmb (r :: r2 :: rs)) k = cell r k := by
  rw [squash_eq]
  unfold cell
  rw [lookup_map_cells (sqF cmb (r :: r2 :: rs)) r k]
  cases hl : r.lookup k <;> simp [sqF, hc]

/-! ### stranded tables: one merge per (chromosome, strand) -/

/-- every row of a `groupby` group has the group's key, and every row of the table is in the group of its key -/
theorem byKey_rows (stranded : Bool) (t : XTable) :
    (∀ g ∈ byKey stranded t, ∀ r ∈ g.2, keyOf stranded r = g.1) ∧
    (∀ r ∈ t, ∃ g ∈ byKey stranded t, g.1 = keyOf stranded r ∧ r ∈ g.2) := by
  constructor
  · intro g hg r hr
    simp only [byKey, List.mem_map] at hg
    obtain ⟨k, _, rfl⟩ := hg
    simp only [List.mem_filter] at hr
    exact eq_of_beq hr.2
  · intro r hr
    refine ⟨(keyOf stranded r, t.filter (fun x => keyOf stranded x == keyOf stranded r)), ?_, rfl, ?_⟩
    · simp only [byKey, List.mem_map]
      exact ⟨keyOf stranded r, by simp [List.mem_eraseDups]; exact ⟨r, hr, rfl⟩, rfl⟩
    · simp [List.mem_filter, hr]

/-- stranded merge with the default combiners: a squashed row shows the chromosome and the strand of its group, so rows of
    different strands are never combined and the output row belongs to the same (chromosome, strand) key -/
theorem squash_keeps_key (cmb : List (String × Cmb)) (r r2 : XRow) (rs : List XRow)
    (hchr : cmb.lookup "chromosome" = some .firstOf) (hstr : cmb.lookup "strand" = some .firstOf)
    (h1 : r.lookup "chromosome" ≠ none) (h2 : r.lookup "strand" ≠ none) :
    keyOf true (squash cmb (r :: r2 :: rs)) = keyOf true r := by
  simp only [keyOf, chromOf, strandOf, if_true]
  rw [squash_cell cmb r r2 rs "chromosome" .firstOf hchr h1, squash_cell cmb r r2 rs "strand" .firstOf hstr h2]
  rfl

/-- non-vacuity (one chromosome, rows sorted by (strand, start, end)): the two '+' rows are merged, the '-' row is not -/
example :
    let row (s e : Int) (st : String) (p : Int) : XRow :=
      [("chromosome", .str "chr1"), ("start", .num s), ("end", .num e), ("strand", .str st), ("probes", .num p)]
    let cols := ["chromosome", "start", "end", "strand", "probes"]
    let t := [row 0 10 "+" 1, row 5 15 "+" 4, row 2 12 "-" 2]
    (byKey true t).flatMap (fun g => mergeOverlapping 0 (getCombiners cols true []) g.2)
      = [row 0 15 "+" 5, row 2 12 "-" 2] := by decide +kernel

end CnvVerif.C06X
