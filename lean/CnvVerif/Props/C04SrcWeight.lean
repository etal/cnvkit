/-
  C04: tie to the source TEXT of the weight formulas in `fix.apply_weights`.  `Generated.src_weight_*` are re-translated from
  /repo's Python on every run (harness/extractors/exprs_fixweight.py: formula slices, reading rules at the top of
  harness/exprtrans.py).  A module of its own: an edit to a weight formula breaks exactly these obligations.
  The proofs carry fallbacks for algebraically equivalent rewrites of the source; those the present text does not need
  are what the linters switched off below would report.
-/
import CnvVerif.Props.C04
import CnvVerif.Generated.ExprsFixWeight
import Mathlib.Tactic.Ring
import Mathlib.Tactic.Linarith
import Mathlib.Tactic.NormNum
set_option linter.unusedTactic false
set_option linter.unreachableTactic false
set_option linter.unusedSimpArgs false
namespace CnvVerif.C04
open CnvVerif

/-- the per-bin weight formula about which `weight_in_range`, `weight_mono_size`, `weight_antitone_spread` are stated
    IS the composition of the formulas in `apply_weights`: size/variance term, reference-spread term, their 0.9 / 0.1
    average with a pooled reference, the clip to [epsilon, 1] -/
theorem weight_formula_is_the_source (pooled : Bool) (spread sq m v : Rat) :
    weightOf pooled spread sq m v =
      Generated.src_weight_clip Generated.WEIGHT_EPSILON
        (if pooled then Generated.src_weight_pooled spread (Generated.src_weight_simple_target v sq m)
         else Generated.src_weight_flat (Generated.src_weight_simple_target v sq m)) :=
  by
  cases pooled
  · show clipQ _ _ _ = _
    unfold clipQ Generated.src_weight_clip Generated.src_weight_flat Generated.src_weight_simple_target
    simp only [Generated.WEIGHT_MAX, Bool.false_eq_true, if_false]
  · show clipQ _ _ _ = _
    unfold clipQ Generated.src_weight_clip Generated.src_weight_pooled Generated.src_weight_simple_target
      Generated.src_weight_fancy
    simp only [Generated.WEIGHT_MAX, Generated.WEIGHT_REF_EMPHASIS, if_true]
    first
    | done
    | (congr 2; ring)

/-- on- and off-target bins are weighted by the same size/variance formula -/
theorem weight_formula_same_for_both_classes (v sq m : Rat) :
    Generated.src_weight_simple_antitarget v sq m = Generated.src_weight_simple_target v sq m :=
  by
  unfold Generated.src_weight_simple_antitarget Generated.src_weight_simple_target
  first | rfl | ring

/-- … in which the class enters through the MEAN of sqrt(size) over its bins (`classMean` in `weight_column_is_the_formula`) -/
theorem weight_formula_uses_class_mean :
    Generated.src_weight_simple_target_reductions = ["mean"] ∧ Generated.src_weight_simple_antitarget_reductions = ["mean"] :=
  by
  -- the reduction is a parameter of the generated formulas; this pins which one the source uses
  constructor <;> decide

end CnvVerif.C04
