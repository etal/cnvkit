/-
  C18: tie to the source TEXT of the record-level decisions.  `Generated.src_extract_genotype_*` and `Generated.src_safesum`
  are re-read from /repo's `skgenome/tabio/vcfio.py` on every run (harness/dectrans.py, extractor vcf_decisions): the order in
  which `_extract_genotype` / `_get_alt_count` try their sources and the way they combine their conditions.  These theorems
  state that the model's `depthOf`, `zygosityOf`, `altCountOf`, `safesum` ARE those decision structures, each atom read on
  the model's data as `Src.hasAD`, `Src.adIsTuple`, `Src.adGiven`, `Src.adHasSecond`, `Src.severalAlleles`,
  `Src.onlyAlleleIsRef` say.  Kept in a module of their own so that an edit there breaks exactly these obligations.
-/
import CnvVerif.Props.C18
import CnvVerif.Lemmas.SrcGeno
namespace CnvVerif.C18
open CnvVerif CnvVerif.Vcf

/-- depth: FORMAT DP first, else the sum of a tuple AD, else INFO DP, else missing -- in the order the source asks -/
theorem depth_chain_is_the_source (s : Smp) (r : Rec) :
    depthOf s r = Src.depthFrom s r
      (Generated.src_extract_genotype_depth s.hasDP (Src.hasAD s) (Src.adIsTuple s) r.infoDP.isSome) := by
  obtain ⟨gt, hasDP, dp, ad⟩ := s
  obtain ⟨_, _, _, _, _, infoDP, _, _⟩ := r
  cases hasDP
  · cases ad <;> cases infoDP <;> rfl
  · rfl

/-- zygosity: 0.5 when the genotype names several distinct alleles, else 0 when its one allele is the reference, else 1 --
    the source's own decision on `set(sample["GT"])` -/
theorem zygosity_rule_is_the_source (gt : List (Option Int)) :
    zygosityOf gt = Generated.src_extract_genotype_zygosity (Src.severalAlleles gt) (Src.onlyAlleleIsRef gt) := by
  unfold zygosityOf Generated.src_extract_genotype_zygosity Src.severalAlleles Src.onlyAlleleIsRef
  by_cases h1 : gt.eraseDups.length > 1 <;> by_cases h2 : (gt.head? == some (some 0)) = true <;> simp [h1, h2]

/-- alt count: a given AD first (second entry of a tuple, 0 for a one-entry tuple, a scalar itself), else missing -- the
    source's chain with its CLCAD2 / AO arms switched off (files with GT, AD, DP only, as the property's quantifier says) -/
theorem alt_count_chain_is_the_source (s : Smp) :
    altCountOf s = Src.altFrom s (Generated.src_extract_genotype_alt_count (Src.adGiven s) (Src.adIsTuple s)
      (Src.adHasSecond s) false false false false) := by
  obtain ⟨gt, hasDP, dp, ad⟩ := s
  cases ad with
  | absent => rfl
  | scalar v => cases v <;> rfl
  | tuple l =>
    match l with
    | [] => rfl
    | [none] => rfl
    | [some a] => rfl
    | a :: b :: t => cases a <;> rfl

/-- `_safesum` is `sum(filter(None, tup))`, and the model's depth-from-AD is that sum: missing and zero entries
    contribute nothing -/
theorem safesum_is_the_source (l : List (Option Int)) :
    safesum l = Src.sumFrom l Generated.src_safesum ∧
    Src.sumFrom l Generated.src_safesum = ((l.filterMap id).filter (fun x => x != 0)).sum :=
  ⟨Src.safesum_eq_sumOfTruthy l, rfl⟩

/-- non-vacuity: every source of each chain is reached by some sample column -/
example : (Generated.src_extract_genotype_depth true true true true = .sampleDP) ∧
    (Generated.src_extract_genotype_depth false true true true = .sumAD) ∧
    (Generated.src_extract_genotype_depth false true false true = .infoDP) ∧
    (Generated.src_extract_genotype_depth false false false false = .missing) := by decide
example : altCountOf { gt := [some 0, some 1], hasDP := true, dp := some 30, ad := .tuple [some 18, some 12] } = some 12 ∧
    altCountOf { gt := [some 0, some 0], hasDP := true, dp := some 30, ad := .tuple [some 30] } = some 0 ∧
    altCountOf { gt := [some 0, some 1], hasDP := true, dp := some 30, ad := .scalar (some 7) } = some 7 ∧
    altCountOf { gt := [some 0, some 1], hasDP := true, dp := some 30, ad := .tuple [none] } = none := by decide
example : safesum [some 3, none, some 0, some 4] = 7 := by decide

end CnvVerif.C18
