/-
  C05: tie to the source's STRUCTURE.  The constants of Generated/RefConsts.lean (the `center_by_window` calls of
  `bias_correct_logr` in order, its skip test, the flag arguments of the two `load_sample_block` calls in
  `combine_probes`) are re-read from /repo's cnvlib/reference.py on every run; these theorems state that the model's
  correction pipeline and block decision table are what those constants describe.
-/
import CnvVerif.Props.C05
import CnvVerif.Generated.RefConsts
import CnvVerif.Model.ReferenceExt
import Mathlib.Tactic.NormNum
namespace CnvVerif.C05
open CnvVerif CnvVerif.Ref

/-- the model's correction pipeline IS the sequence of `center_by_window` calls the translator reads in
    `bias_correct_logr` (GC, RepeatMasker, edge -- in the source's order), skipped under the source's test -/
theorem correction_pipeline_is_the_source (cfg : CorrCfg) (rows : List CovRow) (logr : List Rat) :
    correctLogr cfg rows logr =
      correctLogrBy (Generated.REF_CORRECTION_STEPS.map (·.1)) Generated.REF_LOWCOV_THRESHOLD
        Generated.REF_LOWCOV_TEST.2.2 cfg rows logr := by
  have hthr : Generated.NULL_LOG2_COVERAGE - Generated.MIN_REF_COVERAGE = Generated.REF_LOWCOV_THRESHOLD := by
    unfold Generated.NULL_LOG2_COVERAGE Generated.MIN_REF_COVERAGE Generated.REF_LOWCOV_THRESHOLD; norm_num
  have hsteps : Generated.REF_CORRECTION_STEPS.map (·.1) = ["gc", "rmask", "edge"] := by decide
  have hdiv : Generated.REF_LOWCOV_TEST.2.2 = 2 := by decide
  unfold correctLogr correctLogrBy
  rw [hthr, hsteps, hdiv]
  rfl

/-- each correction runs under its own flag with the window fraction 0.1, and the skip test counts the bins with
    log2 > threshold and compares the count with `<=` -/
theorem correction_guards_are_the_source :
    Generated.REF_CORRECTION_STEPS.map (·.2.1) = ["fix_gc", "fix_rmask", "fix_edge"] ∧
    Generated.REF_CORRECTION_STEPS.all (fun s => s.2.2 == 1 / 10) = true ∧
    Generated.REF_LOWCOV_TEST.1 = "Gt" ∧ Generated.REF_LOWCOV_TEST.2.1 = "LtE" := by
  refine ⟨by decide, by decide +kernel, by decide, by decide⟩

/-- which corrections the target and the antitarget block get IS what `combine_probes` writes in its two
    `load_sample_block` calls -/
theorem block_flags_are_the_source (doGc doEdge doRmask : Bool) (k : BlockKeys) :
    blockCfg true doGc doEdge doRmask k = blockCfgBy Generated.REF_TARGET_FLAGS doGc doEdge doRmask k ∧
    blockCfg false doGc doEdge doRmask k = blockCfgBy Generated.REF_ANTITARGET_FLAGS doGc doEdge doRmask k :=
  -- looking the four flag names up in the generated lists leaves `blockCfg`'s own expression
  ⟨rfl, rfl⟩


/-! non-vacuity: the generated structure itself -/
example : Generated.REF_CORRECTION_STEPS.length = 3 ∧ Generated.REF_TARGET_FLAGS.length = 4 := by decide

end CnvVerif.C05
