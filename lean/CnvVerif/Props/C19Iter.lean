/-
  C19, `smoothing.convolve_weighted` with any number of passes (`C19Denominator` describes ONE pass): what the loop
  returns pass by pass; a constant signal is reproduced for EVERY `n_iter` as long as no window sum of any pass
  vanishes, also by the weighted Savitzky-Golay smoother built on the loop, whatever number of passes its geometry
  picks; a vanishing window sum in a pass leaves a non-finite value in that pass, so the hypothesis is needed.
-/
import CnvVerif.Props.C19Denominator
import CnvVerif.Lemmas.SmoothIterExt5b
namespace CnvVerif.C19
open CnvVerif CnvVerif.Desc CnvVerif.Smooth CnvVerif.Generated CnvVerif.C19Iter

/-- `n_iter = 0`: the inputs come back -/
theorem convolve_weighted_zero_passes (window y w : List Rat) (h : w.length = y.length) :
    convolveWeighted window y w 0 = .ok (y.map some, w) :=
  convolveWeighted_of_length h 0

/-- pass `k+1` is the one-pass map of `C19.weighted_pass_values` (Props/C19Denominator.lean) applied to the result of `k` passes -/
theorem convolve_weighted_pass_succ (window y w : List Rat) (k : Nat) (st : List (Option Rat) × List Rat)
    (h : convolveWeighted window y w k = .ok st) :
    convolveWeighted window y w (k + 1) = .ok (cwStep (normalise window) st) := by
  obtain ⟨hl, rfl⟩ := convolveWeighted_ok h
  rw [convolveWeighted_of_length hl, iterate_succ_last]

/-- the weights returned are the `n_iter`-fold convolution of the weights with the window, whatever the signal -/
theorem convolve_weighted_weights (window y w : List Rat) (k : Nat) (st : List (Option Rat) × List Rat)
    (h : convolveWeighted window y w k = .ok st) : st.2 = iterate (convSame (normalise window)) k w := by
  obtain ⟨_, rfl⟩ := convolveWeighted_ok h
  exact iterate_cwStep_weights _ k _

/-- **constants, every `n_iter`**: if no window sum of any pass vanishes, a constant signal comes back unchanged -/
theorem convolve_weighted_constant_every_n_iter (window w : List Rat) (c : Rat) (k : Nat)
    (hden : densNonzero window w k = true) :
    convolveWeighted window (List.replicate w.length c) w k =
      .ok (List.replicate w.length (some c), iterate (convSame (normalise window)) k w) := by
  rw [convolveWeighted_of_length List.length_replicate.symm, List.map_replicate,
    iterate_cwStep_const (normalise window) c k w (densNonzero_spec hden)]

/-- a window sum that vanishes in pass `k+1` leaves a non-finite value there (the hypothesis above is needed) -/
theorem convolve_weighted_zero_sum_not_finite (window y w : List Rat) (k : Nat)
    (st st' : List (Option Rat) × List Rat) (i : Nat)
    (h : convolveWeighted window y w k = .ok st) (h' : convolveWeighted window y w (k + 1) = .ok st')
    (hN : (iterate (convSame (normalise window)) (k + 1) w)[i]? = some 0) (hi : i < st'.1.length) :
    st'.1[i] = none := by
  rw [convolve_weighted_pass_succ window y w k st h] at h'
  obtain rfl := Except.ok.inj h'
  rw [iterate_succ_last, ← convolve_weighted_weights window y w k st h] at hN
  exact cwStep_zero_none (normalise window) st.1 st.2 i hi hN

/-- **weighted Savitzky-Golay, every `n_iter`**: whatever number of passes `it` the geometry picks, if no window
    sum of any pass over the rolled-off padded weights vanishes, a constant signal is reproduced exactly -/
theorem weighted_savgol_constant_every_n_iter (n : Nat) (c : Rat) (w : List Rat) (tw : Option Rat) (ww ord nIter : Nat)
    (coeffs : List Rat) (y : List (Option Rat)) (hw : w.length = n) (hx : 2 ≤ n)
    (wing ww' ord' it : Nat) (hg : savgolGeometry n tw ww ord nIter = .ok (wing, ww', ord', it))
    (hden : densNonzero coeffs (rollOff (padArray w wing) wing) it = true)
    (h : savgolWeighted (List.replicate n c) w tw ww ord nIter coeffs = .ok y) : y = List.replicate n (some c) := by
  obtain ⟨h1, h2⟩ : 1 ≤ wing ∧ wing + 1 ≤ n := savgolGeometry_wing hg
  have hn : (List.replicate n c).length = n := List.length_replicate
  have hwl : (rollOff (padArray w wing) wing).length = n + 2 * wing := length_weights_of_geometry hg hw
  rw [savgolWeighted_of_geometry (hn.symm ▸ hg) h, padArray_replicate n wing c (by omega),
    List.map_replicate, ← hwl, iterate_cwStep_const (normalise coeffs) c it _ (densNonzero_spec hden), hwl,
    unpad_replicate, Nat.add_sub_cancel]

/-! non-vacuity: 16 points, default cubic window, `n_iter = 2` gives two passes; uniform weights keep both passes'
    window sums away from 0 -/
example : savgolGeometry 16 none 7 3 2 = .ok (7, 7, 3, 2) := by decide +kernel
example : densNonzero [-2/21, 3/21, 6/21, 7/21, 6/21, 3/21, -2/21]
    (rollOff (padArray (List.replicate 16 1) 7) 7) 2 = true := by decide +kernel
/-- and the hypothesis is not always true: the sharp weights of `cubic_window_ratio` cancel the first pass -/
example : densNonzero [-2/21, 3/21, 6/21, 7/21, 6/21, 3/21, -2/21] [25, 4, 4, 4, 4, 4, 25] 1 = false := by decide +kernel

end CnvVerif.C19
