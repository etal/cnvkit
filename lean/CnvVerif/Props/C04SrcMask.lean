/-
  C04: tie to the source TEXT of `fix.mask_bad_bins`.
  `Generated.src_mask_bad_bins` is re-translated from /repo's Python on every run
  (harness/extractors/exprs_fixmask.py, reading rules at the top of harness/exprtrans.py); these theorems state that the
  hand-written model function is that expression.  A module of its own: an edit to the mask breaks exactly these obligations.
  The proofs carry fallbacks for algebraically equivalent rewrites of the source; those the present text does not need
  are what the linters switched off below would report.
-/
import CnvVerif.Props.C04
import CnvVerif.Generated.ExprsFixMask
import Mathlib.Tactic.Ring
import Mathlib.Tactic.Tauto
set_option linter.unusedTactic false
set_option linter.unreachableTactic false
set_option linter.unusedSimpArgs false
namespace CnvVerif.C04
open CnvVerif

/-- the model's reference filter IS the mask expression of `mask_bad_bins`, read for one row of a reference that has a
    depth column (with or without a gc column) -/
theorem bad_bin_mask_is_the_source (r : RRow) :
    badBin r = Generated.src_mask_bad_bins true r.gc.isSome r.depth (r.gc.getD 0) r.log2 r.spread :=
  by
  -- through `↔`, so that a reordering of the `|` operands, a flipped comparison with swapped operands or a renamed local in
  -- the source keeps the theorem, while a changed operator, constant or operand breaks it
  rw [Bool.eq_iff_iff]
  unfold badBin Generated.src_mask_bad_bins
  cases hg : r.gc with
  | none =>
    simp only [Option.isSome_none, Option.getD_none, Bool.or_eq_true, decide_eq_true_eq, Bool.false_eq_true, if_false,
      if_true, or_false]
    simp only [Generated.MIN_REF_COVERAGE, Generated.MAX_REF_SPREAD, neg_neg, gt_iff_lt] <;> tauto
  | some g =>
    simp only [Option.isSome_some, Option.getD_some, Bool.or_eq_true, decide_eq_true_eq, if_true]
    simp only [Generated.MIN_REF_COVERAGE, Generated.MAX_REF_SPREAD, Generated.GC_MIN_FRACTION, Generated.GC_MAX_FRACTION,
      neg_neg, gt_iff_lt] <;> tauto

/-- `mask_bad_bins` on a reference without a depth column = the same mask with every depth 1 (how the correspondence
    run presents such a reference to the model) -/
theorem mask_without_depth_column (hasGc : Bool) (depth gc log2 spread : Rat) :
    Generated.src_mask_bad_bins false hasGc depth gc log2 spread = Generated.src_mask_bad_bins true hasGc 1 gc log2 spread :=
  by
  rw [Bool.eq_iff_iff]
  unfold Generated.src_mask_bad_bins
  cases hasGc <;>
    simp only [Bool.false_eq_true, if_false, if_true, decide_eq_true_eq, one_ne_zero, or_false]

end CnvVerif.C04
