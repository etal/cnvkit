/-
  C07: tie to the source TEXT of skgenome/intersect.py -- the path switch.  `Generated.src_*` (Generated/ExprsRanges.lean) is
  re-translated from /repo's Python on every run (harness/exprtrans_c07.py: one table, one query); the
  theorem states that the hand-written model IS that term, for all tables and queries.  A module of its own, so that an
  edit to this code path breaks exactly this obligation.
-/
import CnvVerif.Model.Ranges
import CnvVerif.Generated.ExprsRanges
namespace CnvVerif.C07
open CnvVerif

/-- the switch between whole table / mask path / binary search is the condition `idx_ranges` evaluates -/
theorem path_switch_is_the_source (t : Table) (qs qe : Option Int) (inner : Bool) :
    idxSelect t qs qe inner =
      (match Generated.src_idx_ranges_path t qs qe with
       | 0 => t
       | 1 => irangeNested t qs qe inner
       | _ => irangeSimple t qs qe inner) := by
  unfold idxSelect Generated.src_idx_ranges_path
  cases t with
  | nil => rfl
  | cons r rest => cases qs <;> cases qe <;> cases isMonotone ((r :: rest).map (·.e)) <;> rfl

end CnvVerif.C07
