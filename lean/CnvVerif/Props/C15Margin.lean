/-
  C15, statistical clause made deterministic where the code allows it: a ROBUSTNESS MARGIN for the sex
  inference.  `compare_sex_chromosomes` decides by Mood's median test when scipy yields a statistic, and by the
  ratio of median differences otherwise.  For the second path the decision provably cannot flip under ANY noise
  (no distribution assumed) that keeps every bin within 1/4 of its level; which inputs take that path is
  decided by the exact contingency table (`moodTable`).  On the Mood path the decision is "the statistic under
  the female hypothesis exceeds the one under the male hypothesis" — a rank statistic, for which no positive
  radius exists (see DESIGN §9.11 C15): that part remains an oracle run.
  Proofs in Lemmas/SexExt.lean.
-/
import CnvVerif.Model.SexExt
import CnvVerif.Lemmas.SexExt
namespace CnvVerif.C15
open CnvVerif

/-- what the decidable hypothesis `withinMargin` of the margin theorem says, clause by clause -/
theorem within_margin_means (hapX female : Bool) (a d : Rat) (auto xs ys : List Rat) :
    withinMargin hapX female a d auto xs ys = true ↔
      0 ≤ d ∧ 4 * d < 1 ∧ auto ≠ [] ∧ xs ≠ [] ∧ (∀ v ∈ auto, |v - a| ≤ d) ∧
      (∀ v ∈ xs, |v - (a + expectedX hapX female)| ≤ d) ∧
      (if female then ∀ v ∈ ys, v ≤ a - 2 else ∀ v ∈ ys, |v - a| ≤ d) := by
  unfold withinMargin withinOf expectedX
  cases female <;>
    simp only [Bool.and_eq_true, decide_eq_true_eq, List.all_eq_true, Bool.not_eq_true', List.isEmpty_eq_false_iff,
      absR_eq_abs, Bool.false_eq_true, if_false, if_true, and_assoc]

/-- ROBUSTNESS MARGIN (median-difference path).  Autosomal bins within `d` of a level `a`, chrX bins within `d`
    of the level expected for the sample's sex relative to the stated reference sex, chrY bins (if any) within
    `d` of `a` for a male sample / at least 2 below `a` for a female one, `0 ≤ d < 1/4`, any number of bins, any
    arrangement of the noise: the sex is inferred right. -/
theorem sex_inferred_within_margin (hapX female : Bool) (a d : Rat) (auto xs ys : List Rat)
    (h : withinMargin hapX female a d auto xs ys = true) :
    sexIsMaleFallback hapX auto xs ys = !female := by
  obtain ⟨-, hd, ha, hx, hA, hX, hY⟩ := (within_margin_means hapX female a d auto xs ys).mp h
  rw [sexIsMaleFallback_eq_estimates]
  exact sexIsMaleOfEstimates_of_estimator id hapX female a d auto xs ys _ (medianR xs) _ _ (medianR ys) _ _ hd
    (by rw [List.map_id]; exact medianR_inHull ha) (by rw [List.map_id]; exact medianR_inHull hx)
    (fun hy => by rw [List.map_id]; exact medianR_inHull hy)
    (medianR_shiftVals xs hx _) (medianR_shiftVals xs hx _)
    (fun hy => medianR_shiftVals ys hy _) (fun hy => medianR_shiftVals ys hy _) hA hX hY

/-- … and the WHOLE decision of `compare_sex_chromosomes` (whatever scipy's statistic `G` is) is that one
    whenever all Mood tables are degenerate (a zero row or column: `median_test` raises, `stat = None`) -/
theorem sex_inferred_within_margin_degenerate_tables (G : MoodTable → Rat) (hapX female : Bool) (a d : Rat)
    (auto xs ys : List Rat) (h : withinMargin hapX female a d auto xs ys = true)
    (hdeg : allDegenerate hapX auto xs ys = true) :
    sexIsMale G hapX auto xs ys = !female := by
  rw [sexIsMale_of_allDegenerate G hapX auto xs ys hdeg]
  exact sex_inferred_within_margin hapX female a d auto xs ys h

/-- which holds in particular for a profile whose autosomal bins all carry one value (noise-free or fully
    smoothed autosomes) and outnumber the bins of each sex chromosome: the grand median is that value, the
    autosomal bins tie with it and are ignored -/
theorem flat_autosomes_have_degenerate_tables (hapX : Bool) (a : Rat) (auto xs ys : List Rat)
    (hA : ∀ v ∈ auto, v = a) (hx : xs.length < auto.length) (hy : ys.length < auto.length) :
    allDegenerate hapX auto xs ys = true := by
  unfold allDegenerate
  have l1 : ∀ (l : List Rat) (s : Rat), l.length < auto.length → (moodTable auto (shiftVals l s)).degenerate = true :=
    fun l s hl => moodTable_flat_degenerate a auto _ hA (by unfold shiftVals; rw [List.length_map]; exact hl)
  simp [l1 xs _ hx, l1 ys _ hy]

/-- so: flat autosomes, noisy sex chromosomes within the margin ⇒ the real decision function is right -/
theorem sex_inferred_flat_autosomes (G : MoodTable → Rat) (hapX female : Bool) (a d : Rat)
    (auto xs ys : List Rat) (h : withinMargin hapX female a d auto xs ys = true)
    (hA : ∀ v ∈ auto, v = a) (hx : xs.length < auto.length) (hy : ys.length < auto.length) :
    sexIsMale G hapX auto xs ys = !female :=
  sex_inferred_within_margin_degenerate_tables G hapX female a d auto xs ys h
    (flat_autosomes_have_degenerate_tables hapX a auto xs ys hA hx hy)

/-- the median of bins that all lie in `[lo, hi]` lies in `[lo, hi]` (what bounds the medians of the autosomal, chrX and chrY values in the margin theorem) -/
theorem median_within_bounds (l : List Rat) (hl : l ≠ []) (lo hi : Rat) (h : ∀ x ∈ l, lo ≤ x ∧ x ≤ hi) :
    lo ≤ medianR l ∧ medianR l ≤ hi := (medianR_inHull hl).range h

/-- decision expression on the Mood path (no chrY): male ⇔ the statistic under the female hypothesis exceeds
    the one under the male hypothesis, the latter floored at 0.01 -/
theorem sex_decision_by_statistics (xF xM : AutoCmp) (fs ms : Rat) (hf : xF.stat = some fs)
    (hm : xM.stat = some ms) : isMale xF xM none = decide (max ms (1/100) < fs) := by
  have hpos : (0 : Rat) < max ms (1/100) := lt_of_lt_of_le (by norm_num) (le_max_right _ _)
  rw [isMale_none, compareChrom_of_some xF xM fs ms hf hm]
  exact decide_eq_decide.mpr (one_lt_div hpos)

/-! non-vacuity: a male sample against a female reference with adversarial noise of radius 0.24 — every chrX bin
    pushed towards the female level, autosomes flat — meets the hypotheses -/
example : withinMargin false false 0 (24/100) [0, 0, 0, 0, 0] [-76/100, -76/100, -1] [24/100, -24/100] = true := by
  decide +kernel
example : allDegenerate false [0, 0, 0, 0, 0] [-76/100, -76/100, -1] [24/100, -24/100] = true :=
  flat_autosomes_have_degenerate_tables false 0 _ _ _ (by simp) (by simp) (by simp)
example : withinMargin true true (1/2) (1/5) [1/2, 7/10, 3/10] [3/2, 13/10] [-4, -3/2] = true := by
  decide +kernel

end CnvVerif.C15
