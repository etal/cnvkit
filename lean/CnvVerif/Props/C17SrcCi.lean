/-
  C17: tie to the source TEXT, cnvlib/segmetrics.py (confidence_interval_bootstrap): the percentile levels and the replicate count of the model (`ciBoot`, `bootCount`, Model/Stats.lean) are
  the expression(s) `Generated.src_*` of Generated/ExprsStats.lean, re-translated from /repo's Python on every run
  (harness/exprtrans.py, `emit_values`).  In a module of its own so that an edit to the formula breaks exactly these obligations.
-/
import CnvVerif.Props.C17
import CnvVerif.Lemmas.SrcStatsCi
import Mathlib.Tactic.NormNum
namespace CnvVerif.C17
open CnvVerif CnvVerif.Stats CnvVerif.Generated

/-- the bootstrap interval's percentile levels ARE the ones `confidence_interval_bootstrap` computes from
    `alphas = [alpha/2, 1 − alpha/2]` (the BCa correction is commented out in the source and absent here) -/
theorem ci_levels_are_the_source (vals wts : List Rat) (alpha : Rat) (boot : List BootRow) :
    ciBoot vals wts alpha boot =
      if vals.length < 2 then (vals.getD 0 0, vals.getD 0 0)
      else (percentile (boot.map (replicateMean vals wts)) (src_ci_pct_lo alpha),
            percentile (boot.map (replicateMean vals wts)) (src_ci_pct_hi alpha)) := by
  rw [← Src.ci_lo_level, ← Src.ci_hi_level]
  rfl

/-- the number of replicates IS `bootstraps`, raised to `ceil(2/alpha)` exactly when the source does so -/
theorem bootstrap_count_is_the_source (b : Nat) (alpha : Rat) (h0 : 0 < alpha) :
    ((bootCount b (2 / alpha) : Nat) : Rat) = src_ci_bootstraps alpha (b : Rat) := by
  unfold bootCount src_ci_bootstraps
  simp only [Src.pyInt_intCast]
  by_cases h : (b : Rat) ≤ 2 / alpha
  · rw [if_pos h, if_pos h]
    exact Src.ceil_toNat_cast _ (div_pos (by norm_num) h0)
  · rw [if_neg h, if_neg h]

end CnvVerif.C17
