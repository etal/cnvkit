/-
  C07: tie to the source TEXT of skgenome/intersect.py -- the trim clipping.  `Generated.src_*` (Generated/ExprsRanges.lean) is
  re-translated from /repo's Python on every run (harness/exprtrans_c07.py: one table, one query); the
  theorem states that the hand-written model IS that term, for all tables and queries.  A module of its own, so that an
  edit to this code path breaks exactly this obligation.
-/
import CnvVerif.Lemmas.RangesQuery
import CnvVerif.Generated.ExprsRanges
-- some facts given to `simp` below serve only the `is not None` spelling of the source
set_option linter.unusedSimpArgs false
namespace CnvVerif.C07
open CnvVerif

/-- trim: each selected row gets the start / end `iter_ranges` computes (`clip(lower=…)`, `clip(upper=…)` under the
    `if start_val:` / `if end_val:` truthiness), and nothing is clipped outside trim mode.  On well-formed tables
    (coordinates ≥ 0, start < end), like `nested_mask_is_the_source`: there the harmless spelling `is not None` of
    the truthiness tests reads the same and keeps both theorems green. -/
theorem trim_clip_is_the_source (t : Table) (h : WFTable t) (qs qe : Option Int)
    (hq : ∀ s, qs = some s → 0 ≤ s) (mode : Mode) :
    selectRange t qs qe mode =
      (idxSelect t qs qe (mode == .inner)).map (fun r =>
        { r with s := (Generated.src_iter_ranges_clip (mode == .trim) qs qe r.s r.e).1,
                 e := (Generated.src_iter_ranges_clip (mode == .trim) qs qe r.s r.e).2 }) := by
  unfold selectRange
  by_cases hm : mode = .trim
  · subst hm
    simp only [beq_self_eq_true, if_true]
    rw [idxSelect_eq_filter t h]
    refine List.map_congr_left fun r hr => ?_
    obtain ⟨hrt, hsel⟩ := List.mem_filter.mp hr
    have h0 : max r.s 0 = r.s := Int.max_eq_left (h.2 r hrt).1
    have he : ∀ e, qe = some e → e ≠ 0 := by
      rintro e rfl
      have : r.s < e := of_decide_eq_true (Bool.and_eq_true _ _ ▸ hsel).2
      exact Int.ne_of_gt (Int.lt_of_le_of_lt (h.2 r hrt).1 this)
    rcases qs with _ | s <;> rcases qe with _ | e
    · simp [Generated.src_iter_ranges_clip]
    · simp [Generated.src_iter_ranges_clip, he e rfl]
    · by_cases hs : s = 0 <;> simp [Generated.src_iter_ranges_clip, hs, h0]
    · by_cases hs : s = 0 <;> simp [Generated.src_iter_ranges_clip, hs, h0, he e rfl]
  · have hne := Mode.beq_trim_eq_false hm
    simp only [hne, Bool.false_eq_true, if_false, Generated.src_iter_ranges_clip]
    exact (List.map_id' _).symm

end CnvVerif.C07
