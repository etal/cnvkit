/-
  C01: tie to the source TEXT.  The definitions `Generated.src_*` are re-translated from /repo's Python on every
  run (harness/exprtrans.py); these theorems state that the hand-written model formulas are those expressions.
  Kept in a module of their own so that an edit to a formula breaks exactly these obligations.
-/
import CnvVerif.Props.C01
import CnvVerif.Generated.ExprsAbs
namespace CnvVerif.C01
open CnvVerif

/-- the model's purity inversion (clipped at 0, fix A) IS the expression `_log2_ratio_to_absolute` computes -/
theorem absolute_formula_is_the_source (r x : Nat) (p t : Rat) :
    absoluteOf r x (some p) t = Generated.src_log2_ratio_to_absolute (r : Rat) (x : Rat) p t := by
  by_cases h : p ≠ 0 ∧ p < 1
  · have e1 : purityActive (some p) = some p := by simp [purityActive, h]
    have e2 : Generated.src_log2_ratio_to_absolute (r : Rat) (x : Rat) p t =
        (if ((r : Rat) * t - (x : Rat) * (1 - p)) / p < 0 then 0 else ((r : Rat) * t - (x : Rat) * (1 - p)) / p) := by
      unfold Generated.src_log2_ratio_to_absolute
      rw [if_pos h]
    rw [e2]
    unfold absoluteOf
    rw [e1]
    simp only
    split
    · rename_i hneg; exact max_eq_left (le_of_lt hneg)
    · rename_i hneg; exact max_eq_right (not_lt.mp hneg)
  · have e1 : purityActive (some p) = none := by simp [purityActive, h]
    unfold absoluteOf Generated.src_log2_ratio_to_absolute
    rw [e1, if_neg h]

/-- … and the pure conversion `n = r·2^v` is `_log2_ratio_to_absolute_pure` -/
theorem pure_formula_is_the_source (r : Nat) (t : Rat) :
    absoluteOf r 0 none t = Generated.src_log2_ratio_to_absolute_pure (r : Rat) t := by
  simp [absoluteOf, purityActive, Generated.src_log2_ratio_to_absolute_pure]

end CnvVerif.C01
