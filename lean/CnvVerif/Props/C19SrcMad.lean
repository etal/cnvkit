/-
  C19, tie to the source text: `median_absolute_deviation(a, scale_to_sd)` behind its decorator.  `Generated.src_median_absolute_deviation` is the expression
  harness/vectrans.py reads from cnvlib/descriptives.py (see Lemmas/SrcDescVocab.lean).
-/
import CnvVerif.Generated.ExprsDesc
import CnvVerif.Lemmas.SrcDescVocab
namespace CnvVerif.C19
open CnvVerif CnvVerif.Desc CnvVerif.Generated CnvVerif.Src


/-- `median_absolute_deviation`: the model is the source expression (both values of `scale_to_sd`) -/
theorem mad_is_the_source (a : List Rat) (b : Bool) : src_median_absolute_deviation a b = madCore a b := by
  unfold src_median_absolute_deviation madCore MAD_SCALE
  simp only [List.map_map]
  cases b <;> rfl


end CnvVerif.C19
