/-
  C10 — the writer clause AT THE CALL SITES of the command layer.

  Generated.WRITER_TABLE (harness/extractors/effects_writers.py) lists, for every function of cnvlib/commands.py,
  batch.py and cmdutil.py that writes an output, its file actions in source order.  A list that passes the check
  `pairsGuarded` never overwrites, for all paths and trees; the writers of the table that promise not to overwrite pass
  `promisedOK` (guarded pairs from their first guard on; `coverage` and `reference` are one guarded pair); a bare file
  name is backed up like any other path.
-/
import CnvVerif.Model.WritersExt5
import CnvVerif.Lemmas.EffectsWriters
import CnvVerif.Generated.EffectsWriters
import CnvVerif.Props.C10Src
namespace CnvVerif.C10
open CnvVerif CnvVerif.Effects CnvVerif.C10W

theorem writer_runActs_pair (env : String → PathArg) (tok hlp e : String) (rest : List WAct) (fs : FSD) :
    runActs env tok (.ensure e :: .write hlp e :: rest) fs =
      (match guardedWriteD fs (env e) tok with
       | .ok fs' => runActs env tok rest fs'
       | .error m => .error m) := rfl

/-- a function whose file actions are `ensure_path(e); write(…, e)` pairs, run on ANY directory tree with ANY values
    of its path expressions: it does not fail for a missing directory, leaves one more file per write, every content
    that was there is still there (as a multiset: the old contents plus one copy of the output per write), file names
    stay unique and no directory disappears -/
theorem writer_guarded_list_keeps_every_file (env : String → PathArg) (tok : String) :
    ∀ (acts : List WAct) (fs : FSD), pairsGuarded acts = true → WF fs.files →
      (∀ e, (env e).slash = false → isDir fs (env e).dir = true) →
      ∃ fs', runActs env tok acts fs = .ok fs' ∧ WF fs'.files ∧
        fs'.files.length = fs.files.length + nWrites acts ∧
        (contents fs'.files).Perm (List.replicate (nWrites acts) tok ++ contents fs.files) ∧
        (∀ a, isDir fs a = true → isDir fs' a = true) := by
  intro acts fs h hw hcwd
  obtain ⟨fs', h1, g⟩ := runActs_grown env tok acts h fs hw hcwd
  exact ⟨fs', h1, g.files.wf, g.files.length.trans (by rw [List.length_replicate]), g.files.perm, g.dirs⟩

/-- k runs of such a function on the same arguments (run j writes the output `ts[j]`): k · (number of writes) more
    files, every content that was there before the first run is still there after the last -/
theorem writer_guarded_command_repeated (env : String → PathArg) (acts : List WAct) (h : pairsGuarded acts = true) :
    ∀ (ts : List String) (fs : FSD), WF fs.files → (∀ e, (env e).slash = false → isDir fs (env e).dir = true) →
      ∃ fs', runRepeated env acts ts fs = .ok fs' ∧ WF fs'.files ∧
        fs'.files.length = fs.files.length + ts.length * nWrites acts ∧
        (∀ c, c ∈ contents fs.files → c ∈ contents fs'.files) ∧
        (nWrites acts ≠ 0 → ∀ t, t ∈ ts → t ∈ contents fs'.files) ∧
        (∀ a, isDir fs a = true → isDir fs' a = true) := by
  intro ts fs hw hcwd
  obtain ⟨fs', h1, g⟩ := runRepeated_grown env acts h ts fs hw hcwd
  refine ⟨fs', h1, g.files.wf, ?_, fun c hc => g.files.mem.mpr (.inr hc), fun hn t ht => g.files.mem.mpr (.inl ?_), g.dirs⟩
  · rw [g.files.length, List.length_flatMap]; simp
  · exact List.mem_flatMap.mpr ⟨t, List.mem_reverse.mpr ht, List.mem_replicate.mpr ⟨hn, rfl⟩⟩

/-- contrast: the same write WITHOUT the guard (what every other command does through `tabio.safe_write`) onto an
    existing file: the number of files stays, the path holds the new output — the old content is gone -/
theorem writer_unguarded_site_overwrites (env : String → PathArg) (tok hlp e : String) (fs : FSD) (hw : WF fs.files)
    (hf : isFile fs.files (env e).name = true) (hd : isDir fs (env e).dir = true) :
    ∃ fs', runActs env tok [.write hlp e] fs = .ok fs' ∧ fs'.files.length = fs.files.length ∧
      readFile fs'.files (env e).name = some tok := by
  refine ⟨{ fs with files := writeFile fs.files (env e).name tok }, ?_, ?_, ?_⟩
  · simp [runActs, writeFileD, hd]
  · exact (writeFile_existing hw hf tok).2.2
  · simp [writeFile, readFile_cons_eq]

/-- a list that passes `promisedOK` splits at its first guard: before it nothing writes to the guarded expression,
    from it on the list is guarded pairs (so `writer_guarded_list_keeps_every_file` applies to that part) -/
theorem writer_promisedOK_split (acts : List WAct) (h : promisedOK acts = true) :
    acts = beforeFirstEnsure acts ++ fromFirstEnsure acts ∧ pairsGuarded (fromFirstEnsure acts) = true ∧
    ∃ e, firstEnsure acts = some e ∧ ∀ a ∈ beforeFirstEnsure acts, a.writesTo e = false := by
  unfold promisedOK at h
  split at h
  · cases h
  · rename_i e he
    rw [Bool.and_eq_true, List.all_eq_true] at h
    exact ⟨(before_append_fromFirstEnsure acts).symm, h.2, e, he, fun a ha => by simpa using h.1 a ha⟩

/-- from its guard on, a writer that passes `promisedOK` loses nothing, on any tree and for any path values -/
theorem writer_promised_keeps_every_file (acts : List WAct) (h : promisedOK acts = true) (env : String → PathArg)
    (tok : String) (fs : FSD) (hw : WF fs.files) (hcwd : ∀ e, (env e).slash = false → isDir fs (env e).dir = true) :
    ∃ fs', runActs env tok (fromFirstEnsure acts) fs = .ok fs' ∧
      fs'.files.length = fs.files.length + nWrites (fromFirstEnsure acts) ∧
      (∀ c, c ∈ contents fs.files → c ∈ contents fs'.files) := by
  obtain ⟨fs', h1, _, hl, hp, _⟩ :=
    writer_guarded_list_keeps_every_file env tok _ fs (writer_promisedOK_split acts h).2.1 hw hcwd
  exact ⟨fs', h1, hl, fun c hc => hp.symm.subset (List.mem_append_right _ hc)⟩

/-! ### obligations on the source (Generated.WRITER_TABLE) -/

/-- the writers that promise not to overwrite — `coverage`, `reference`, the reference built by `batch` — each have
    a row in the table read from the source, and the row passes `promisedOK` -/
theorem writer_promises_kept : promisesKept Generated.WRITER_TABLE = true :=
  List.all_eq_true.mpr fun fn hfn => by
    obtain ⟨r, hrow, hok⟩ := promised_rows.1 fn hfn
    rw [hrow]; exact hok

/-- `tabio.safe_write` is what the model says an unguarded write is: it opens with mode "w" and has no guard of its own -/
theorem writer_safe_write_is_plain : Generated.SAFE_WRITE_GUARDS = false ∧ Generated.SAFE_WRITE_TRUNCATES = true := by
  decide

/-- `cnvkit.py coverage` and `cnvkit.py reference`, as read from their source: the whole function is ONE guarded
    write, hence k runs into one output path — whatever the tree, whatever the spelling of the path — leave k more
    files and keep every earlier content -/
theorem writer_coverage_reference_k_runs (fn : String)
    (hfn : fn = "cnvlib.commands._cmd_coverage" ∨ fn = "cnvlib.commands._cmd_reference") :
    ∃ r, findRow Generated.WRITER_TABLE fn = some r ∧ nWrites r.acts = 1 ∧
      ∀ (env : String → PathArg) (ts : List String) (fs : FSD), WF fs.files →
        (∀ e, (env e).slash = false → isDir fs (env e).dir = true) →
        ∃ fs', runRepeated env r.acts ts fs = .ok fs' ∧ fs'.files.length = fs.files.length + ts.length ∧
          (∀ c, c ∈ contents fs.files → c ∈ contents fs'.files) ∧ (∀ t, t ∈ ts → t ∈ contents fs'.files) := by
  -- the row of either function passes `pairsGuarded` and holds one write; the rest is `writer_guarded_command_repeated`
  obtain ⟨r, hrow, hg, hn⟩ := promised_rows.2 fn (by simpa using hfn)
  refine ⟨r, hrow, hn, fun env ts fs hw hcwd => ?_⟩
  obtain ⟨fs', h1, _, hl, hc, ht, _⟩ := writer_guarded_command_repeated env r.acts hg ts fs hw hcwd
  exact ⟨fs', h1, by rw [hl, hn, Nat.mul_one], hc, ht (by rw [hn]; exact Nat.one_ne_zero)⟩

/-- a path WITHOUT a directory part (`"/" not in normpath(fname)`: the directory block of `ensure_path` is skipped):
    no directory is made, and an existing file is still moved to the least free numbered suffix, content intact -/
theorem writer_bare_name_still_renamed (fs : FSD) (p : PathArg) (hs : p.slash = false)
    (hf : isFile fs.files p.name = true) :
    (ensurePathD fs p).dirs = fs.dirs ∧ isFile (ensurePathD fs p).files p.name = false ∧
    ∃ c, readFile fs.files p.name = some c ∧
      readFile (ensurePathD fs p).files (bakName p.name (firstFree fs.files p.name fs.files.length 1)) = some c := by
  obtain ⟨c, hc⟩ := readFile_some_of_isFile hf
  have hd : ensureDir fs p = fs := by simp [ensureDir, hs]
  refine ⟨by rw [ensurePathD, hd], ?_, c, hc, ?_⟩
  · rw [ensurePathD_files]; exact isFile_ensurePath_self _ _
  · rw [ensurePathD_files, ensurePath_existing hc]; exact readFile_cons_eq _ _ _

/-- the statements of the source (`ENSURE_PATH_PROG`) run on a bare name that is an existing file: afterwards the name
    is free and the number of files is unchanged (the weaker, file-level half of `writer_bare_name_still_renamed`) -/
theorem writer_bare_name_source (fs : FSD) (hw : WF fs.files) (p : PathArg) (hs : p.slash = false)
    (hf : isFile fs.files p.name = true) :
    isFile (runEnsurePath Generated.ENSURE_PATH_PROG fs p).files p.name = false ∧
    (runEnsurePath Generated.ENSURE_PATH_PROG fs p).files.length = fs.files.length := by
  rw [ensure_path_source_on_files]
  exact ⟨isFile_ensurePath_self _ _, (ensurePath_grown hw p.name).length⟩

/-- what `ensure_path` does to the files depends on the file the path names, not on how the path is spelled
    (absolute, `dir/name`, `./name`, bare `name`: same `name` in the model, other `slash` / `dir`) -/
theorem writer_spelling_independent (fs : FSD) (p q : PathArg) (h : p.name = q.name) :
    (ensurePathD fs p).files = (ensurePathD fs q).files := by
  rw [ensurePathD_files, ensurePathD_files, h]

example : pairsGuarded [.ensure "args.output", .write "tabio.write" "args.output"] = true := by decide
example : pairsGuarded [.write "tabio.write" "args.output", .ensure "args.output"] = false := by decide
example : pairsGuarded [.ensure "args.output", .write "tabio.write" "ref_fname"] = false := by decide
example : promisedOK [.write "tabio.write" "target_bed", .ensure "o", .write "tabio.write" "o"] = true := by decide
example : promisedOK [.write "tabio.write" "o", .ensure "o", .write "tabio.write" "o"] = false := by decide
/-- `coverage` twice into the bare name `out.cnn` of a directory that already holds it -/
example : ((runRepeated (fun _ => ⟨"out.cnn", false, []⟩) [.ensure "args.output", .write "tabio.write" "args.output"]
      ["A", "B"] ⟨[[]], [("out.cnn", "old")]⟩).toOption.map (·.files)) =
    some [("out.cnn", "B"), ("out.cnn.2", "A"), ("out.cnn.1", "old")] := by decide +kernel
/-- `target` twice: one file -/
example : ((runRepeated (fun _ => ⟨"out.bed", false, []⟩) [.write "tabio.write" "args.output"]
      ["A", "B"] ⟨[[]], []⟩).toOption.map (·.files)) = some [("out.bed", "B")] := by decide +kernel

end CnvVerif.C10
