/-
  C15: tie to the source TEXT.  The definitions `Generated.src_*` (Generated/ExprsSex.lean) are re-translated from
  /repo's cnvlib/cnary.py on every run (harness/exprtrans.py: FnOpt, BoolFn; harness/extractors/exprs_sex.py); these
  theorems state that the hand-written models ARE those expressions, for all arguments.  Kept in a module of their
  own so that an edit to the code breaks exactly these obligations.
-/
import CnvVerif.Props.C15
import CnvVerif.Lemmas.SrcSex
namespace CnvVerif.C15
open CnvVerif CnvVerif.Src

/-- `shift_xx` changes the log2 of a bin by what the source's if/elif chain says (−1 / +1 on chrX, else 0) -/
theorem shift_xx_is_the_source (hapX isXX : Bool) (t : List CBin) :
    shiftXX hapX isXX t = t.map (fun b =>
      { b with log2 := b.log2 +
          Generated.src_shift_xx_delta hapX isXX (b.chrom == xLabel ((t.head?.map (·.chrom)).getD "")) }) := by
  rw [shift_xx_table]
  apply List.map_congr_left
  intro b _
  unfold Generated.src_shift_xx_delta
  cases hX : (b.chrom == xLabel ((t.head?.map (·.chrom)).getD "")) <;> cases hapX <;> cases isXX <;> simp

/-- the model's "class X / class Y" are `chr_x_filter` / `chr_y_filter` as written (X or Y by label, minus the PAR
    bins when a genome is named) -/
theorem sex_chromosome_filters_are_the_source (first : String) (par : Option String) (b : CBin) :
    (classOf first par b.chrom b.s b.e == .x) = xFilterSrc first par b ∧
    (classOf first par b.chrom b.s b.e == .y) = yFilterSrc first par b :=
  ⟨classX_is_source first par b, classY_is_source first par b⟩

/-- `expect_flat_log2`: each bin's value is the source's mask expression -/
theorem expect_flat_is_the_source (hapX : Bool) (par : Option String) (t : List CBin) :
    expectFlat hapX par t = t.map (fun b =>
      let first := (t.head?.map (·.chrom)).getD ""
      Generated.src_expect_flat hapX (xFilterSrc first par b) (yFilterSrc first par b) (yFilterSrc first none b)) := by
  unfold expectFlat
  apply List.map_congr_left
  intro b _
  simp only [classX_is_source, classY_is_source]
  rfl

/-- `compare_chrom`: statistic ratio when both Mood statistics exist, ratio of median differences otherwise, the
    denominator floored at 0.01; female hypothesis in the numerator -/
theorem compare_chrom_is_the_source {α : Type} (cta : α → AutoCmp) (shift : α → Rat → α) (vals : α)
    (fs ms : Rat) :
    compareChromOf cta shift vals fs ms =
      Generated.src_compare_chrom (fun v => ((cta v).stat, (cta v).diff)) shift vals fs ms := by
  unfold compareChromOf Generated.src_compare_chrom compareChrom
  simp only []
  cases (cta (shift vals fs)).stat <;> cases (cta (shift vals ms)).stat <;> rfl

/-- the shifts under the female / male hypothesis: chrX (−1, 0) for a male reference, (0, +1) otherwise; chrY (+3, 0) -/
theorem sex_shifts_are_the_source (hapX : Bool) :
    xShifts hapX = Generated.src_x_shifts hapX ∧ yShifts = Generated.src_y_shifts :=
  ⟨xShifts_is_source hapX, yShifts_is_source⟩

/-- the whole decision of `compare_sex_chromosomes` (no weight column): the model says "male" exactly when the
    source's expression does, with every piece — shifts, compare_chrom, score, threshold — read from the source -/
theorem sex_decision_is_the_source (G : MoodTable → Rat) (hapX : Bool) (auto xs ys : List Rat) :
    sexIsMale G hapX auto xs ys = true ↔
      Generated.src_is_male (Generated.src_combined_score
        (Generated.src_compare_chrom (fun v => ((compareToAuto G auto v).stat, (compareToAuto G auto v).diff))
          shiftVals xs (Generated.src_x_shifts hapX).1 (Generated.src_x_shifts hapX).2)
        (if ys.isEmpty then none else some
          (Generated.src_compare_chrom (fun v => ((compareToAuto G auto v).stat, (compareToAuto G auto v).diff))
            shiftVals ys Generated.src_y_shifts.1 Generated.src_y_shifts.2))) := by
  unfold sexIsMale
  simp only [compare_chrom_is_the_source, xShifts_is_source, yShifts_is_source, sexScore_is_source]
  exact isMale_decision_is_source _

/-- the record-level decision `isMale` of Model/Center.lean is the same score and threshold -/
theorem is_male_is_score_above_one (xF xM : AutoCmp) (y : Option (AutoCmp × AutoCmp)) :
    isMale xF xM y = true ↔
      Generated.src_is_male (Generated.src_combined_score (compareChrom xF xM)
        (y.map fun p => compareChrom p.1 p.2)) := by
  rw [← isMale_decision_is_source, ← sexScore_is_source]
  unfold isMale sexScore
  cases y <;> simp

end CnvVerif.C15
