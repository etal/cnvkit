/-
  C03: the outlier filter of `segment` inside the model (Model/TileOutlierExt5.lean) -- what the property
  needs of it.  The smoothed trend and the rolling quantile are parameters; the decision rule, the short-array rule,
  the per-chromosome application and the removal of the flagged rows are the model's.  Lemmas in
  Lemmas/TileOutlierExt5.lean.
-/
import CnvVerif.Lemmas.TileOutlierExt5
import CnvVerif.Props.C03
namespace CnvVerif.C03
open CnvVerif CnvVerif.C03Outl

/-- the rule is two-sided and strict: a bin is an outlier iff its log2 lies MORE than `quants · m` above or below the
    trend -/
theorem outlier_rule_two_sided_strict (m x trend quants : Rat) :
    isOutlier m x trend quants = true ↔ (x - trend > quants * m ∨ trend - x > quants * m) :=
  isOutlier_iff m x trend quants

/-- a bin on the trend line is never an outlier (in particular: a flat stretch, where residual and quantile are both 0,
    loses no bin) -/
theorem bin_on_trend_is_never_an_outlier (m t quants : Rat) (h : 0 ≤ quants * m) : isOutlier m t t quants = false := by
  rw [Bool.eq_false_iff]
  intro hc
  rw [isOutlier_iff] at hc
  rcases hc with hc | hc <;> linarith

/-- a larger factor never flags more bins -/
theorem larger_factor_flags_fewer (m m' x trend quants : Rat) (hq : 0 ≤ quants) (hm : m ≤ m')
    (h : isOutlier m' x trend quants = true) : isOutlier m x trend quants = true := by
  rw [isOutlier_iff] at h ⊢
  have : quants * m ≤ quants * m' := mul_le_mul_of_nonneg_left hm hq
  rcases h with h | h
  · left; linarith
  · right; linarith

/-- a chromosome (arm) of at most `width` bins loses no bin to the outlier filter -/
theorem short_chromosome_loses_no_bin (width : Nat) (m : Rat) (pts : List Pt) (rows : List Bin)
    (h : pts.length ≤ width) (hl : rows.length = pts.length) :
    dropOutliers (outlierMask width m pts) rows = rows := by
  rw [outlierMask_short width m pts h, ← hl]; exact dropOutliers_all_false rows

/-- on a longer one the mask is the rule applied to every bin -/
theorem long_chromosome_mask_is_the_rule (width : Nat) (m : Rat) (pts : List Pt) (h : width < pts.length) :
    outlierMask width m pts = pts.map fun p => isOutlier m p.x p.trend p.quants := by
  unfold outlierMask; rw [if_neg (by omega)]

/-- `drop_outliers` works chromosome by chromosome: the groups are non-empty, single-chromosome, concatenate to the
    table, and the concatenated mask has one element per row (so that `cnarr[~mask]` is well defined) -/
theorem drop_outliers_mask_covers_the_table (width : Nat) (factor : Rat) (rows : List (String × Pt)) :
    (dropMask width factor rows).length = rows.length ∧ (chromRuns rows).flatten = rows ∧
      (∀ g ∈ chromRuns rows, g ≠ []) ∧ ∀ g ∈ chromRuns rows, ∀ a ∈ g, ∀ b ∈ g, a.1 = b.1 :=
  ⟨dropMask_length width factor rows, chromRuns_spec rows⟩

/-- the filter only removes rows: what is left is a sub-list of the table, in order -/
theorem drop_outliers_only_removes {α} (mask : List Bool) (rows : List α) :
    (dropOutliers mask rows).Sublist rows :=
  dropOutliers_sublist mask rows

/-- a bin flagged by the rule never survives when the filter is on, and with `skip_outliers = 0` the rule plays no part -/
theorem outlier_bin_does_not_survive (skipLow : Bool) (minWeight skipOutliers : Rat) (o : Option Bool) (b : Bin) :
    (skipOutliers ≠ 0 → filterKeep skipLow minWeight skipOutliers (some true) b = false) ∧
    filterKeep skipLow minWeight 0 o b = surviveMask skipLow minWeight false b.log2 b.depth b.weight :=
  ⟨filterKeep_outlier skipLow minWeight skipOutliers b, filterKeep_off skipLow minWeight o b⟩

/-- a dropped bin is still accounted for: in every reported segment, `probes` plus the number of filtered-out input
    bins lying inside the segment is the number of ALL input bins lying inside it -/
theorem dropped_bins_are_accounted_for (u : List Bin) (hw : WFUnit u) (runs : List Nat) :
    ∀ g ∈ assembleUnit u runs,
      g.probes + ((u.filter (fun b => !b.keep && containedIn b g)).length : Int) =
        ((u.filter (fun b => containedIn b g)).length : Int) := by
  intro g hg
  rw [probes_counts_survivors u hw runs g hg]
  have := countP_split (fun b : Bin => b.keep) (fun b => containedIn b g) u
  exact_mod_cast this

/-- an outlier at the very edge of an arm is still spanned: with the first and the last bin of the unit filtered out
    (by the outlier rule, say) the segments still start at the first and end at the last INPUT bin -/
theorem edge_outliers_are_spanned (u : List Bin) (hw : WFUnit u) (runs : List Nat) (first last : Bin)
    (hf : u.head? = some first) (hl : u.getLast? = some last) (_hfo : first.keep = false) (_hlo : last.keep = false)
    (hs : ∃ b ∈ u, b.keep = true) :
    ((assembleUnit u runs).head?.map (·.s)) = some first.s ∧ ((assembleUnit u runs).getLast?.map (·.e)) = some last.e := by
  have h := arm_endpoints_stretched u hw runs hs
  rw [hf, hl] at h
  exact h

example : isOutlier 10 5 0 (1/4) = true ∧ isOutlier 10 (5/2) 0 (1/4) = false ∧ isOutlier 10 0 0 0 = false := by
  decide +kernel
example : outlierMask 2 10 [⟨5, 0, 1/4⟩, ⟨0, 0, 1/4⟩, ⟨-5, 0, 1/4⟩] = [true, false, true] ∧
    outlierMask 3 10 [⟨5, 0, 1/4⟩, ⟨0, 0, 1/4⟩, ⟨-5, 0, 1/4⟩] = [false, false, false] := by decide +kernel
example : dropOutliers [true, false, true] ["a", "b", "c"] = ["b"] := by decide

end CnvVerif.C03
