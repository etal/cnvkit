/-
  C16: `do_genemetrics` GIVEN SEGMENTS, end to end (sex adjustment, threshold on the segment, the final
  `min_probes` filter).  Props/C16.lean has the end-to-end statement only without segments (`genemetrics_selection`)
  and, with segments, the rows before the final filter (`by_segment_parts`).
-/
import CnvVerif.Props.C16
namespace CnvVerif.C16
open CnvVerif CnvVerif.Genes

/-- a segment table has a `probes` column or it has none -/
def UniformProbes (segs : List SegRow) : Prop :=
  (∀ sg ∈ segs, ∃ p, sg.probes = some p) ∨ (∀ sg ∈ segs, sg.probes = none)

theorem shiftSegs_probes (segs : List SegRow) (hapX : Bool) (isXX : Option Bool) (sg : SegRow)
    (h : sg ∈ shiftSegs segs hapX isXX) : ∃ sg0 ∈ segs, sg.probes = sg0.probes := by
  simp only [shiftSegs, List.mem_map] at h
  obtain ⟨sg0, h0, rfl⟩ := h
  refine ⟨sg0, h0, ?_⟩
  split <;> rfl

/-- **given (a non-empty table of) segments**: a row is reported iff it is the part of a gene inside a segment of the
    sex-adjusted table that reaches the threshold (`by_segment_parts` says which rows those are), and -- unless
    `min_probes` is 0 -- the SEGMENT has at least `min_probes` probes; when the segment table has no `probes` column,
    the gene's part must have that many bins -/
theorem genemetrics_selection_by_segment (t : List Bin) (segs : List SegRow) (thr : Rat) (minProbes : Nat)
    (skip hapX : Bool) (isXX : Option Bool) (out : List GRow) (hne : segs ≠ []) (hu : UniformProbes segs)
    (h : doGenemetrics t (some segs) thr minProbes skip hapX isXX = .ok out) (r : GRow) :
    r ∈ out ↔
      r ∈ metricsBySegment (shiftBins t hapX isXX) (shiftSegs segs hapX isXX) thr skip ∧
      (minProbes = 0 ∨ match r.segProbes with
        | some p => (minProbes : Int) ≤ p
        | none => minProbes ≤ r.probes) := by
  have hbs : (!segs.isEmpty) = true := by
    cases segs with
    | nil => exact absurd rfl hne
    | cons _ _ => rfl
  simp only [doGenemetrics, hbs, ↓reduceIte, Option.getD_some] at h
  split at h
  · cases h
  · cases h
    -- every row carries the `probes` entry of a segment
    have hrows : ∀ x ∈ metricsBySegment (shiftBins t hapX isXX) (shiftSegs segs hapX isXX) thr skip,
        ∃ sg0 ∈ segs, x.segProbes = sg0.probes := by
      intro x hx
      obtain ⟨sg, hsg, _, g, grp, r0, _, _, _, _, rfl⟩ := (by_segment_parts _ _ _ _ _).mp hx
      exact shiftSegs_probes segs hapX isXX sg hsg
    -- so the rows have `segment_probes`, or have not, as the segment table has `probes` or has not
    refine mem_minProbesFilter (hu.imp (fun hall x hx => ?_) (fun hnone x hx => ?_))
    · obtain ⟨sg0, h0, he⟩ := hrows x hx
      obtain ⟨p, hp⟩ := hall sg0 h0
      rw [he, hp]
      rfl
    · obtain ⟨sg0, h0, he⟩ := hrows x hx
      rw [he, hnone sg0 h0]

/-- an EMPTY segment table is as good as none: the genes are reported from the bins -/
theorem genemetrics_empty_segments (t : List Bin) (thr : Rat) (minProbes : Nat) (skip hapX : Bool)
    (isXX : Option Bool) :
    doGenemetrics t (some []) thr minProbes skip hapX isXX = doGenemetrics t none thr minProbes skip hapX isXX := rfl

/-- non-vacuity: the demo table cut at 10 on chr2; only the second segment reaches 1/5 and has ≥ 2 probes -/
example : (doGenemetrics demo (some [⟨"chr2", 0, 10, "-", 0, some 1, none⟩, ⟨"chr2", 10, 40, "-", 1, some 3, none⟩])
      (1/5) 2 false false (some true)).toOption.map (fun rows => rows.map (fun r => (r.gene, r.s, r.e, r.probes, r.segProbes.getD 0))) =
    some [("B", 20, 30, 1, 3)] := by decide +kernel

example : UniformProbes [⟨"chr2", 0, 10, "-", 0, some 1, none⟩, ⟨"chr2", 10, 40, "-", 1, some 3, none⟩] :=
  Or.inl (by intro sg h; simp at h; rcases h with rfl | rfl <;> exact ⟨_, rfl⟩)

end CnvVerif.C16
