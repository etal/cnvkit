/-
  C13, the `access` sub-command: what `cnvkit.py access FASTA -s N -x BED ...` hands to `do_access`
  (`Generated/AccessCliConsts.lean` is re-read from `cnvlib/commands.py` on every run), and hence that the command
  line inherits the table-level theorem of Props/C13Table.lean: every `-x` file is removed, `-s` (or the command
  line's own default) is the minimum gap, non-canonical names are always dropped.
-/
import CnvVerif.Props.C13Table
import CnvVerif.Model.AccessCli
namespace CnvVerif.C13
open CnvVerif

/-- the glue passes the FASTA, ALL `-x` files (appended in order, none by default) and the `-s` value into the
    parameters of those names, and writes plain 3-column BED -/
theorem cli_passes_its_arguments :
    Generated.ACCESS_CLI_CALL =
      [("fa_fname", "fa_fname"), ("exclude_fnames", "exclude"), ("min_gap_size", "min_gap_size")] ∧
    Generated.ACCESS_CLI_EXCLUDE_ACTION = "append" ∧ Generated.ACCESS_CLI_EXCLUDE_DEFAULT_EMPTY = true ∧
    Generated.ACCESS_CLI_WRITE_FORMAT = "bed3" := by decide

/-- the command is `do_access` with the `-x` tables, the `-s` value when given, and the name filter on -/
theorem cli_is_do_access (lines : List FLine) (excl : List Table) (g : Int) :
    cmdAccess lines ⟨excl, some g⟩ = doAccess lines excl (some g) true := rfl

/-- so the command line satisfies the property on every chromosome: never raises, rows non-empty, sorted, at
    least `max 1 gap` apart, covering exactly the accessible bases of the canonical sequences plus the bridged
    gaps -- for the `-s` value given or, when `-s` is left out, for the command line's own default -/
theorem cli_access_exact (recs : List (String × List (List Char))) (a : AccessArgs)
    (hn : (recs.map (·.1)).Nodup)
    (hex : ∀ ex ∈ a.exclude, ∀ r ∈ ex, 0 ≤ r.s ∧ r.s < r.e) :
    ∃ out, cmdAccess (renderRecords recs) a = .ok out ∧
      ∀ c, (∀ r ∈ rowsOf out c, r.s < r.e) ∧
        (rowsOf out c).Pairwise (fun x y => x.e + max 1 a.gap ≤ y.s) ∧
        (isCanonicalName c = false → rowsOf out c = []) ∧
        ∀ p, cov (rowsOf out c) p ↔
          AccessibleT recs a.exclude true c p ∨ InSmallGap (AccessibleT recs a.exclude true c) a.gap p := by
  obtain ⟨out, hout, hspec⟩ := access_table_exact recs a.exclude (some a.gap) true hn hex
  refine ⟨out, hout, fun c => ?_⟩
  obtain ⟨h1, h2, h3⟩ := hspec c
  -- a non-canonical name has no accessible base, hence no bridged one, hence no row
  refine ⟨h1, h2, fun hc => eq_nil_of_not_cov h1 fun p hp => ?_, h3⟩
  refine not_reported_of_not_acc (fun q hq => ?_) ((h3 p).mp hp)
  obtain ⟨⟨_, _, _, hk, _⟩, _⟩ := hq
  rw [hk rfl] at hc
  cases hc

/-- `-s` left out: the command line's own default, whatever the source says it is; `-s 7`: 7 -/
example : (⟨[], none⟩ : AccessArgs).gap = Generated.ACCESS_CLI_DEFAULT_MIN_GAP ∧ (⟨[], some 7⟩ : AccessArgs).gap = 7 :=
  ⟨rfl, rfl⟩

end CnvVerif.C13
