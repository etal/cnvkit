/-
  C01: the public wrappers `absolute_reference`, `absolute_expect`, `log2_ratios` return the columns of the
  proved tables -- whatever value the flag has that the wrapper pins.
-/
import CnvVerif.Props.C01
import CnvVerif.Model.CallExt5Wrap
namespace CnvVerif.C01
open CnvVerif

/-- the reference copies of a class do not depend on the sample's sex, the expected copies not on the reference's -/
theorem c01w_reference_ignores_sample_sex (ploidy : Nat) (hapX f₁ f₂ : Bool) (cls : CClass) :
    (refExpect ploidy hapX f₁ cls).1 = (refExpect ploidy hapX f₂ cls).1 := by
  cases cls <;> rfl

theorem c01w_expect_ignores_reference_sex (ploidy : Nat) (h₁ h₂ female : Bool) (cls : CClass) :
    (refExpect ploidy h₁ female cls).2 = (refExpect ploidy h₂ female cls).2 := by
  cases cls <;> rfl

/-- `absolute_reference` is the `reference` column of the table `do_call` works with, for EITHER sample sex -/
theorem c01w_absolute_reference_is_the_table_column (ploidy : Nat) (par : Option String) (hapX female : Bool)
    (rows : List SegRow) :
    c01wAbsoluteReference ploidy par hapX rows
      = rows.map (fun r => (refExpect ploidy hapX female (classOf (c01wFirst rows) par r.chrom r.s r.e)).1) := by
  unfold c01wAbsoluteReference
  exact List.map_congr_left (fun r _ => c01w_reference_ignores_sample_sex ploidy hapX true female _)

/-- `absolute_expect` is its `expect` column, for EITHER reference sex -/
theorem c01w_absolute_expect_is_the_table_column (ploidy : Nat) (par : Option String) (hapX female : Bool)
    (rows : List SegRow) :
    c01wAbsoluteExpect ploidy par female rows
      = rows.map (fun r => (refExpect ploidy hapX female (classOf (c01wFirst rows) par r.chrom r.s r.e)).2) := by
  unfold c01wAbsoluteExpect
  exact List.map_congr_left (fun r _ => c01w_expect_ignores_reference_sex ploidy true hapX female _)

/-- `log2_ratios` applied to the absolutes of the purity path is the ratio column `do_call` writes (any method) -/
theorem c01w_log2_ratios_is_the_call_column (cfg : CallCfg) (m : Method) (thr : List Rat) (hasBaf : Bool)
    (rows : List SegRow) (hp : (purityActive cfg.purity).isSome = true) :
    (callTable cfg m thr hasBaf rows).map (·.ratio)
      = (c01wLog2Ratios cfg.ploidy cfg.hapX cfg.par rows
          (rows.map (fun r =>
            let re := refExpect cfg.ploidy cfg.hapX cfg.female (classOf (c01wFirst rows) cfg.par r.chrom r.s r.e)
            absoluteOf re.1 re.2 cfg.purity r.t))).map some := by
  obtain ⟨p, hp'⟩ := Option.isSome_iff_exists.mp hp
  unfold c01wLog2Ratios callTable
  rw [List.zip_map_right, List.zip, List.zipWith_self]
  simp only [List.map_map]
  apply List.map_congr_left
  intro r _
  simp only [Function.comp_apply, callRow_ratio, hp', Option.map_some]
  rfl

end CnvVerif.C01
