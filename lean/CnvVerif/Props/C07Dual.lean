/-
  C07 — duality of `intersection(mode="trim")` (C07/C06) and `subtract` (C06): for any two tables with rows of
  positive length, on every chromosome where the rows of `a` are sorted by start, the bases of `a` are partitioned
  into those of `a.intersection(b, mode="trim")` and those of `a.subtract(b)`:  a = (a ∧ b) ⊎ (a − b).  Composes the proved `C06.intersect_trim_cov` and `C06.subtract_cov_table`.
-/
import CnvVerif.Props.C06
import CnvVerif.Lemmas.IntervalTotal
namespace CnvVerif.C07Dual
open CnvVerif

/-- every base of `a` on chromosome `c` lies in exactly one of `a.intersection(b, "trim")` and `a.subtract(b)`, and
    neither of the two contains a base outside `a` — whatever overlaps, nests or repeats in either table, and also when
    the chromosome is missing from `b` -/
theorem trim_and_subtract_partition_bases (a b : Table)
    (ha : ∀ r ∈ a, 0 ≤ r.s ∧ r.s < r.e) (hb : ∀ r ∈ b, 0 ≤ r.s ∧ r.s < r.e)
    (c : String) (hs : StartSorted (rowsOf a c)) (p : Int) :
    (cov (rowsOf a c) p ↔
      (cov (intersection (rowsOf a c) (rowsOf b c) .trim) p ∨ cov (rowsOf (subtractTable a b) c) p)) ∧
    ¬ (cov (intersection (rowsOf a c) (rowsOf b c) .trim) p ∧ cov (rowsOf (subtractTable a b) c) p) := by
  have hI := C06.intersect_trim_cov c (rowsOf a c) (rowsOf b c)
    (fun r hr => (mem_rowsOf.mp hr).2) (fun r hr => (mem_rowsOf.mp hr).2)
    ⟨hs, fun r hr => ha r (mem_rowsOf.mp hr).1⟩
    (fun r hr => (hb r (mem_rowsOf.mp hr).1).1) p
  have hS := C06.subtract_cov_table a b hb (fun r hr => ⟨(ha r hr).1, Int.le_of_lt (ha r hr).2⟩) c p
  rw [hI, hS]
  by_cases h1 : cov (rowsOf a c) p <;> by_cases h2 : cov (rowsOf b c) p <;> simp [h1, h2]

/-- the same in numbers of bases: |a| = |a ∧ b| + |a − b| on every chromosome -/
theorem trim_and_subtract_partition_count (a b : Table)
    (ha : ∀ r ∈ a, 0 ≤ r.s ∧ r.s < r.e) (hb : ∀ r ∈ b, 0 ≤ r.s ∧ r.s < r.e)
    (c : String) (hs : StartSorted (rowsOf a c)) :
    (coveredBases (rowsOf a c)).card =
      (coveredBases (intersection (rowsOf a c) (rowsOf b c) .trim)).card +
      (coveredBases (rowsOf (subtractTable a b) c)).card := by
  rw [← Finset.card_union_of_disjoint]
  · apply congrArg
    ext p
    rw [Finset.mem_union, mem_coveredBases, mem_coveredBases, mem_coveredBases]
    exact (trim_and_subtract_partition_bases a b ha hb c hs p).1
  · rw [Finset.disjoint_left]
    intro p h1 h2
    rw [mem_coveredBases] at h1 h2
    exact (trim_and_subtract_partition_bases a b ha hb c hs p).2 ⟨h1, h2⟩

/-! non-vacuity: nested / overlapping rows on both sides, a chromosome missing from `b` -/
example :
    let a : Table := [⟨"chr1", 0, 100, "a"⟩, ⟨"chr1", 10, 20, "b"⟩, ⟨"chr2", 5, 9, "c"⟩]
    let b : Table := [⟨"chr1", 15, 50, "x"⟩, ⟨"chr1", 40, 120, "y"⟩]
    (∀ r ∈ a, 0 ≤ r.s ∧ r.s < r.e) ∧ (∀ r ∈ b, 0 ≤ r.s ∧ r.s < r.e) ∧
    (rowsOf a "chr1").map (fun r => (r.s, r.e)) = [(0, 100), (10, 20)] ∧
    (intersection (rowsOf a "chr1") (rowsOf b "chr1") .trim).map (fun r => (r.s, r.e)) = [(15, 50), (15, 20), (40, 100)] ∧
    (subtractRow ⟨"chr1", 0, 100, "a"⟩ (mergeChrom 0 (rowsOf b "chr1"))).map (fun r => (r.s, r.e)) = [(0, 15)] := by
  decide +kernel

end CnvVerif.C07Dual
