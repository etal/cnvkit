/-
  C15: `strsign` of `do_sex` is the source text (see Props/C15SrcGlue.lean).
-/
import CnvVerif.Model.SexExt5Py
import CnvVerif.Generated.ExprsSexGlue
namespace CnvVerif.C15x
open CnvVerif

/-- `strsign` puts the "+" exactly where the source's test says (and never in front of NaN) -/
theorem strsign_is_the_source (v : Option Rat) :
    strsign v = .num (match v with | some q => Generated.src_strsign_plus q | none => false) v := by
  cases v <;> simp [strsign, Generated.src_strsign_plus]

end CnvVerif.C15x
