/-
  C12: tie of `guess_chromosome_regions` to the source TEXT.  `Generated.src_guess_chromosome_regions`
  (Generated/ExprsGuess.lean) is re-read from cnvlib/antitarget.py on every run by harness/extractors/exprs_guess.py:
  the list of end points (one per `by_chromosome()` group, its LAST row's end) and the column of de-duplicated names,
  combined positionally by `GA.from_columns`.  The hand model `guessRegions` (Model/Bins.lean) IS that term at the
  telomere allowance `get_antitargets` passes, for every target table; and since both columns run over the chromosomes
  in order of first appearance, each name is paired with the end of its OWN last bait.
-/
import CnvVerif.Props.C12
import CnvVerif.Lemmas.BinsGuess
import CnvVerif.Generated.ExprsGuess
namespace CnvVerif.C12.SrcGuess
open CnvVerif CnvVerif.Generated

/-- the names `by_chromosome()` yields are the de-duplicated chromosome column, in that order -/
theorem groups_names (tg : Table) : (groupByChrom tg).map (·.1) = (tg.map (·.chrom)).eraseDups :=
  groupByChrom_keys tg

/-- the source's two columns have one entry per chromosome: nothing is cut off by the positional combination -/
theorem columns_same_length (tg : Table) :
    ((groupByChrom tg).map (fun g => (((g.2.map (·.e)).getLast?).getD 0))).length
      = ((tg.map (·.chrom)).eraseDups).length := by
  rw [← groups_names, List.length_map, List.length_map]

/-- SOURCE TIE: the model's guessed extents are what the source text computes, for every target table and every
    telomere allowance … -/
theorem guess_is_the_source_at (tg : Table) (tel : Int) :
    src_guess_chromosome_regions tg tel
      = (chromsInOrder tg).map (fun c => (⟨c, tel, lastEndOf tg c, ""⟩ : Row)) := by
  unfold src_guess_chromosome_regions
  dsimp only
  rw [← groups_names, List.zipWith_map, List.zipWith_self]
  unfold groupByChrom lastEndOf
  rw [List.map_map]
  apply List.map_congr_left
  intro c _
  simp [Function.comp, List.getLast?_map]

/-- … in particular at the allowance `get_antitargets` hands over (`TELOMERE_SIZE`, read by extractors/bins.py) -/
theorem guessRegions_is_the_source (tg : Table) :
    guessRegions tg = src_guess_chromosome_regions tg TELOMERE_SIZE := by
  rw [guess_is_the_source_at, guessRegions_eq]

/-- the access-less path of `get_antitargets` works on the source's guessed regions -/
theorem effectiveAccess_none_is_the_source (tg : Table) :
    effectiveAccess tg none = .ok (src_guess_chromosome_regions tg TELOMERE_SIZE) := by
  rw [← guessRegions_is_the_source]
  exact effectiveAccess_none tg

theorem effectiveAccess_empty_is_the_source (tg : Table) :
    effectiveAccess tg (some []) = .ok (src_guess_chromosome_regions tg TELOMERE_SIZE) := by
  rw [← guessRegions_is_the_source]
  exact effectiveAccess_empty tg

/-- EACH CHROMOSOME'S GUESSED REGION IS ITS OWN: a row of the source's result starts at the allowance and ends where
    the LAST bait of the row's own chromosome ends (a bait of the table, on that chromosome, last in table order) -/
theorem guessed_region_is_its_own (tg : Table) (tel : Int) (r : Row)
    (hr : r ∈ src_guess_chromosome_regions tg tel) :
    r.s = tel ∧ r.gene = "" ∧
      ∃ b ∈ tg, b.chrom = r.chrom ∧ b.e = r.e ∧ (tg.filter (fun x => x.chrom == r.chrom)).getLast? = some b := by
  rw [guess_is_the_source_at, List.mem_map] at hr
  obtain ⟨c, hc, rfl⟩ := hr
  refine ⟨rfl, rfl, ?_⟩
  obtain ⟨b0, hb0, hb0c⟩ := (mem_chromsInOrder tg c).mp hc
  -- the chromosome has a bait, so its group has a last row
  have hmem0 : b0 ∈ tg.filter (fun x => x.chrom == c) := List.mem_filter.mpr ⟨hb0, by simp [hb0c]⟩
  obtain ⟨b, hb⟩ := Option.isSome_iff_exists.mp (List.getLast?_isSome.mpr (List.ne_nil_of_mem hmem0))
  have hmem : b ∈ tg.filter (fun x => x.chrom == c) := List.mem_of_getLast? hb
  obtain ⟨hbt, hbc⟩ := List.mem_filter.mp hmem
  refine ⟨b, hbt, by simpa using hbc, ?_, hb⟩
  simp [lastEndOf, hb]

/-- one region per chromosome: the names of the result are pairwise different, so "the region of chromosome c" is
    unique and (by the theorem above) carries c's own last end -/
theorem guessed_names_nodup (tg : Table) (tel : Int) :
    ((src_guess_chromosome_regions tg tel).map (·.chrom)).Nodup := by
  rw [guess_is_the_source_at, List.map_map]
  have : ((fun r : Row => r.chrom) ∘ fun c => (⟨c, tel, lastEndOf tg c, ""⟩ : Row)) = id := rfl
  rw [this, List.map_id]
  exact nodup_eraseDups _

/-- non-vacuity, on interleaved chromosomes: chr2 first, its last row (table order) ends at 700, chr1's at 900 -/
example : src_guess_chromosome_regions
    [⟨"chr2", 100, 200, "a"⟩, ⟨"chr1", 50, 60, "b"⟩, ⟨"chr2", 600, 700, "c"⟩, ⟨"chr1", 800, 900, "d"⟩] 150000
    = [⟨"chr2", 150000, 700, ""⟩, ⟨"chr1", 150000, 900, ""⟩] := by decide

end CnvVerif.C12.SrcGuess
