/-
  C17: tie to the source TEXT, cnvlib/descriptives.py (mean_squared_error): the model's `mseBody` (Model/Stats.lean) is
  the expression(s) `Generated.src_*` of Generated/ExprsStats.lean, re-translated from /repo's Python on every run
  (harness/exprtrans.py, `emit_values`).  In a module of its own so that an edit to the formula breaks exactly this obligation.
-/
import CnvVerif.Props.C17
import CnvVerif.Generated.ExprsStats
namespace CnvVerif.C17
open CnvVerif CnvVerif.Stats CnvVerif.Generated

/-- the model's mean squared error IS what `descriptives.mean_squared_error` returns without `initial` -/
theorem mse_is_the_source (a : List Rat) : mseBody a = src_mean_squared_error a := by
  have : src_mean_squared_error_elem = fun x : Rat => x * x := by
    funext x; unfold src_mean_squared_error_elem; ring
  unfold mseBody meanSq meanR src_mean_squared_error
  rw [this, List.length_map]

end CnvVerif.C17
