/-
  C07 — `iter_ranges_of` with a column name that may be missing (`GenomicArray.iter_ranges_of` in skgenome/gary.py).
-/
import CnvVerif.Model.RangesColExt5c
namespace CnvVerif.C07Col
open CnvVerif

/-- a name that is not a column raises ValueError whatever the tables, the mode and `keep_empty` are (also when there
    is no range to iterate over) -/
theorem iter_ranges_of_missing_column_raises (cols : List String) (column : String) (self other : Table)
    (mode : Mode) (ke : Bool) (h : column ∉ cols) :
    c07IterRangesOf cols column self other mode ke = .error .valueError := by
  unfold c07IterRangesOf
  rw [if_neg]
  simpa using h

/-- … and it is the only way to raise -/
theorem iter_ranges_of_raises_iff_missing (cols : List String) (column : String) (self other : Table)
    (mode : Mode) (ke : Bool) :
    (∃ e, c07IterRangesOf cols column self other mode ke = .error e) ↔ column ∉ cols := by
  unfold c07IterRangesOf
  by_cases h : column ∈ cols
  · simp [h]
  · simp [h]

/-- for the `gene` column the modelled function is what the driver's op `iter_ranges_of` runs: the genes of each
    slice of `iter_slices` -/
theorem iter_ranges_of_gene (cols : List String) (self other : Table) (mode : Mode) (ke : Bool)
    (h : "gene" ∈ cols) :
    c07IterRangesOf cols "gene" self other mode ke =
      .ok ((iterSlices self other mode ke).map (fun sel => sel.map (·.gene))) := by
  unfold c07IterRangesOf
  rw [if_pos (by simpa using h)]
  rfl

/-! non-vacuity of the hypotheses, and one evaluated instance of the error branch -/
example : "Gene" ∉ ["chromosome", "start", "end", "gene"] ∧ "gene" ∈ ["chromosome", "start", "end", "gene"] := by decide +kernel
example : c07IterRangesOf ["chromosome", "start", "end", "gene"] "Gene" [⟨"chr1", 0, 5, "a"⟩] [] .outer true
    = .error .valueError := iter_ranges_of_missing_column_raises _ _ _ _ _ _ (by decide +kernel)

end CnvVerif.C07Col
