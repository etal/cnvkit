/-
  C08 — the sniff patterns of `tabio.sniff_region_format` inside the proof.

  `Generated/RegexSniff.lean: src_sniff_text / src_sniff_bed` are `format_patterns['text']` / `['bed']` as regex ASTs,
  re-read from the source text on every run (harness/extractors/regex_sniff.py, through Python's own pattern parser),
  with the backtracking semantics of `Model/FormatsExt5Label.lean` (`Re.run`; atom `any` for the dot).
  Theorems: every line the text writer emits (`to_label`: word-character name, `:`, digits, `-`, digits, anything
  after) is matched by the source `text` pattern, and every line of the shape a BED writer emits (non-space name, TAB, digits, TAB,
  digits, anything after) is matched by the source `bed` pattern — for all names / numbers / tails, so write-then-sniff
  cannot miss the writer's own pattern.
-/
import CnvVerif.Lemmas.FormatsChars
import CnvVerif.Lemmas.FormatsExt5Label
import CnvVerif.Generated.RegexSniff
namespace CnvVerif.C08
open CnvVerif CnvVerif.Fmt CnvVerif.Generated CnvVerif.Fmt.C08L


/-- greedy star: if SOME split `a ++ b` with `a` inside the class lets the continuation succeed, the star succeeds
    (backtracking finds it or an earlier-preferred success) -/
theorem sniff5c_starGo_isSome (p : Char → Bool) (k : List Char → Option Caps) (a b : List Char)
    (ha : ∀ c ∈ a, p c = true) (hk : (k b).isSome = true) : (starGo p (a ++ b) k).isSome = true := by
  induction a with
  | nil =>
    cases b with
    | nil => simpa [starGo] using hk
    | cons c t =>
      simp only [List.nil_append, starGo]
      split
      · cases h : starGo p t k <;> simp [hk]
      · exact hk
  | cons c t ih =>
    have hc : p c = true := ha c (by simp)
    have ht := ih (fun x hx => ha x (by simp [hx]))
    simp only [List.cons_append, starGo, hc, if_true]
    cases h : starGo p (t ++ b) k with
    | none => simp [h] at ht
    | some r => simp

theorem sniff5c_plus_isSome (cl : Cls) (k : List Char → Option Caps) (a b : List Char) (hne : a ≠ [])
    (ha : ∀ c ∈ a, clsTest cl c = true) (hk : (k b).isSome = true) : ((Re.plus cl).run (a ++ b) k).isSome = true := by
  cases a with
  | nil => exact absurd rfl hne
  | cons c t =>
    have hc : clsTest cl c = true := ha c (by simp)
    simp only [List.cons_append, Re.run, hc, if_true]
    exact sniff5c_starGo_isSome _ k t b (fun x hx => ha x (by simp [hx])) hk

theorem sniff5c_star_isSome (cl : Cls) (k : List Char → Option Caps) (a b : List Char)
    (ha : ∀ c ∈ a, clsTest cl c = true) (hk : (k b).isSome = true) : ((Re.star cl).run (a ++ b) k).isSome = true := by
  simp only [Re.run]; exact sniff5c_starGo_isSome _ k a b ha hk

theorem sniff5c_one_isSome (ch : Char) (k : List Char → Option Caps) (b : List Char) (hk : (k b).isSome = true) :
    ((Re.one [.ch ch]).run (ch :: b) k).isSome = true := by
  simp [Re.run, clsTest, Atom.test, hk]

theorem sniff5c_seq_run (a b : Re) (l : List Char) (k : List Char → Option Caps) :
    (Re.seq a b).run l k = a.run l (fun l' => b.run l' k) := by simp [Re.run]


/-- `format_patterns['text'].match(line)` succeeds on every line of the shape `to_label` writes:
    a non-empty word-character name, `:`, digits, `-`, digits, then anything (newline, gene, …). -/
theorem sniff_text_matches_written (chrom sd ed rest : List Char) (hne : chrom ≠ [])
    (hw : ∀ c ∈ chrom, isWordCh c = true) (hs : ∀ c ∈ sd, c.isDigit = true) (he : ∀ c ∈ ed, c.isDigit = true) :
    (reMatch src_sniff_text (chrom ++ (':' :: (sd ++ ('-' :: (ed ++ rest)))))).isSome = true := by
  unfold reMatch src_sniff_text
  simp only [sniff5c_seq_run]
  apply sniff5c_plus_isSome _ _ _ _ hne (by simpa [clsTest, Atom.test] using hw)
  apply sniff5c_one_isSome
  apply sniff5c_star_isSome _ _ _ _ (by simpa [clsTest, Atom.test] using hs)
  apply sniff5c_one_isSome
  apply sniff5c_star_isSome _ _ _ _ (by simpa [clsTest, Atom.test] using he)
  have := sniff5c_star_isSome [.any] (fun _ => some []) [] rest (by simp) rfl
  simpa using this

/-- `format_patterns['bed'].match(line)` succeeds on every line of the shape a BED writer emits:
    a non-empty name without white space, TAB, digits, TAB, digits, then anything (further columns, newline). -/
theorem sniff_bed_matches_written (chrom sd ed rest : List Char) (hne : chrom ≠ [])
    (hw : ∀ c ∈ chrom, isSpaceCh c = false) (hsn : sd ≠ []) (hs : ∀ c ∈ sd, c.isDigit = true)
    (hen : ed ≠ []) (he : ∀ c ∈ ed, c.isDigit = true) :
    (reMatch src_sniff_bed (chrom ++ ('\t' :: (sd ++ ('\t' :: (ed ++ rest)))))).isSome = true := by
  unfold reMatch src_sniff_bed
  simp only [sniff5c_seq_run]
  apply sniff5c_plus_isSome _ _ _ _ hne (by simpa [clsTest, Atom.test] using hw)
  apply sniff5c_one_isSome
  apply sniff5c_plus_isSome _ _ _ _ hsn (by simpa [clsTest, Atom.test] using hs)
  apply sniff5c_one_isSome
  apply sniff5c_plus_isSome _ _ _ _ hen (by simpa [clsTest, Atom.test] using he)
  rfl

/-- the model's text writer: `to_label` of a row with a word-character name and non-negative coordinates is matched
    by the source `text` pattern -/
theorem sniff_text_matches_toLabel (chrom : String) (s e : Int) (hne : chrom.toList ≠ [])
    (hw : ∀ c ∈ chrom.toList, isWordCh c = true) (hs : 0 ≤ s + WRITE_SHIFT_to_label) (he : 0 ≤ e) (rest : List Char) :
    (reMatch src_sniff_text ((toLabel chrom s e).toList ++ rest)).isSome = true := by
  have h1 := toString_digits (s + WRITE_SHIFT_to_label) hs
  have h2 := toString_digits e he
  have := sniff_text_matches_written chrom.toList (toString (s + WRITE_SHIFT_to_label)).toList (toString e).toList rest hne hw
    (fun c hc => (h1).2 c hc) (fun c hc => (h2).2 c hc)
  simpa [toLabel, String.toList_append, List.append_assoc] using this

/-- non-vacuity: a concrete written line, and lines the patterns refuse -/
example : (reMatch src_sniff_text "chr1:11-20\n".toList).isSome = true := by decide +kernel
example : (reMatch src_sniff_text "chr1\t10\t20\n".toList).isSome = false := by decide +kernel
example : (reMatch src_sniff_bed "chr1\t10\t20\tg\n".toList).isSome = true := by decide +kernel
example : (reMatch src_sniff_bed "chr1:11-20\n".toList).isSome = false := by decide +kernel
example : (reMatch src_sniff_bed "chr 1\t10\t20".toList).isSome = false := by decide +kernel

theorem sniff_methods : src_sniff_text_method = "match" ∧ src_sniff_bed_method = "match" := ⟨rfl, rfl⟩

end CnvVerif.C08
