/-
  C14: tie to the source TEXT of cnvlib/segfilters.py.  `Generated.src_level_*` / `src_ampdel_keep` are re-translated
  from /repo on every run (harness/extractors/exprs_segfilters.py, reading rules in harness/exprtrans.py); these
  theorems state that the model's level functions ARE those expressions, for every row whose columns are present.
  Kept in a module of their own so that an edit to a level definition breaks exactly these obligations.
-/
import CnvVerif.Generated.ExprsSegFilters
import CnvVerif.Generated.SegFilterConsts
import CnvVerif.Lemmas.SegFilter
import Mathlib.Tactic.Linarith
import Mathlib.Tactic.SplitIfs
import Mathlib.Algebra.Order.Field.Rat
-- `first | rfl | script`: `rfl` covers the text as it is read today, the script an equivalent respelling of the comparisons
set_option linter.unusedTactic false
set_option linter.unreachableTactic false
namespace CnvVerif.C14
open CnvVerif

/-- `ampdel`: 1 for cn ≥ 5, −1 for cn = 0, else 0 -- as the two masked assignments of the source, in their order -/
theorem ampdel_level_is_the_source (r : Seg) (c : Rat) (hc : r.cn = some c) :
    levelAmpdel r = some (Generated.src_level_ampdel c) := by
  rw [levelAmpdel_form r c hc]
  unfold Generated.src_level_ampdel
  first
    | rfl
    | (refine congrArg some ?_
       split_ifs <;> first | rfl | (exfalso; linarith) | simp_all)

/-- `ci`: −1 for ci_hi < 0, else 1 for ci_lo > 0, else 0 -/
theorem ci_level_is_the_source (r : Seg) (lo hi : Rat) (hlo : r.ciLo = some lo) (hhi : r.ciHi = some hi) :
    levelCi r = some (Generated.src_level_ci hi lo) := by
  unfold levelCi Generated.src_level_ci
  simp only [hlo, hhi, Option.getD_some]
  all_goals first
    | rfl
    | (refine congrArg some ?_
       split_ifs <;> first | rfl | (exfalso; linarith) | simp_all)

/-- `sem`: the sign of log2 ± zscore·sem, zscore being the default the source names -/
theorem sem_level_is_the_source (r : Seg) (s : Rat) (hs : r.sem = some s) :
    levelSem r = some (Generated.src_level_sem r.log2 s Generated.SEM_ZSCORE) := by
  unfold levelSem Generated.src_level_sem
  simp only [hs]
  all_goals first
    | rfl
    | (refine congrArg some ?_
       split_ifs <;> first | rfl | (exfalso; linarith) | simp_all)

/-- `cn`: the level is the cn column itself -/
theorem cn_level_is_the_source (r : Seg) (c : Rat) (hc : r.cn = some c) :
    levelCn r = some (Generated.src_level_cn c) := hc

/-- `ampdel`'s final selection keeps a squashed row iff its cn is 0 or at least 5 -/
theorem ampdel_selection_is_the_source (c : Rat) :
    Generated.src_ampdel_keep c = 1 ↔ (c = 0 ∨ c ≥ 5) := by
  unfold Generated.src_ampdel_keep
  split_ifs with h
  · exact iff_of_true rfl (by first | exact h | exact h.symm)
  · exact iff_of_false (by decide) (by first | exact h | exact fun h' => h h'.symm)

/-- the source's `enumerate_changes` is the chain the model mirrors: a running COUNT (`ne(0).cumsum()`) of changes -/
theorem enumerate_changes_counts_changes :
    Generated.ENUM_CHANGES_CHAIN = ["levels", "diff()", "fillna(0)", "ne(0)", "cumsum()"] := by decide +kernel

end CnvVerif.C14
