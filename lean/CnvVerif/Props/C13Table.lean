/-
  C13 at the level of the whole table: `doAccess` (scan of every record → name filter → one `subtract` per
  exclude file through `merge`, `by_ranges`, `by_shared_chroms`, the pandas group-by → `join_regions` per
  chromosome group with its `assert gap > 0`) satisfies the property on EVERY chromosome of a multi-sequence
  genome, for arbitrary exclude tables (any row order, overlapping / nested / duplicated rows, chromosomes
  missing from either side).  (The run-time clause `per_chrom_agrees` compares the table-level plumbing with the
  one-chromosome pipeline `accessChrom` on generated inputs; `access_table_is_per_chromosome` proves that agreement.)

  Hypotheses: sequence names are distinct (a duplicated name makes the real `join_regions` assert; malformed
  stream), exclude rows have `0 ≤ start < end`.
-/
import CnvVerif.Props.C13
import CnvVerif.Lemmas.AccessTable
namespace CnvVerif.C13
open CnvVerif

/-- the exclude loop: after every file, each chromosome holds exactly the bases not excluded so far, as
    non-empty sorted separated rows (the invariant `join_regions` relies on) -/
theorem exclude_loop_table (excl : List Table) (a : Table) (ha : TInv a)
    (hex : ∀ ex ∈ excl, ∀ r ∈ ex, 0 ≤ r.s ∧ r.s < r.e) :
    TInv (excl.foldl (fun acc ex => subtractTable acc (sortTable ex)) a) ∧
      ∀ c p, cov (rowsOf (excl.foldl (fun acc ex => subtractTable acc (sortTable ex)) a) c) p ↔
        cov (rowsOf a c) p ∧ ∀ ex ∈ excl, ¬ cov (rowsOf ex c) p := by
  -- chromosome by chromosome the loop is the one-chromosome loop on that chromosome's rows
  have key := fun c => foldl_subtractChrom_spec (excl.map fun ex => rowsOf (sortTable ex) c) (rowsOf a c) (ha.2 c)
    (by
      intro b hb
      obtain ⟨ex, hx, rfl⟩ := List.mem_map.mp hb
      exact ⟨rowsOf_sortTable_sorted ex c,
        fun r hr => (hex ex hx r ((mem_sortTable ex r).mp (mem_rowsOf.mp hr).1)).2⟩)
  simp only [← rowsOf_foldl_subtractTable excl a hex] at key
  refine ⟨⟨fun r hr => ?_, fun c => (key c).1⟩, fun c p => ?_⟩
  · -- the start of a row that is left is a base of `a`
    have hr' := mem_rowsOf_self hr
    obtain ⟨⟨k, hk, h1, _⟩, _⟩ := ((key r.chrom).2 r.s).mp ⟨r, hr', Int.le_refl _, (key r.chrom).1.1 r hr'⟩
    exact Int.le_trans (ha.1 k (mem_rowsOf.mp hk).1) h1
  · rw [(key c).2 p]
    simp only [List.forall_mem_map, cov_rowsOf_sortTable]

/-- `do_access` never raises on such input, and on every chromosome its rows are non-empty, sorted, at least
    `max 1 minGap` apart, and cover exactly the accessible bases (reported by the scan of a kept sequence of
    that name, in no region of any exclude file) plus the bridged gaps shorter than `minGap` -/
theorem access_table_exact (recs : List (String × List (List Char))) (excl : List Table)
    (minGap : Option Int) (skip : Bool)
    (hn : (recs.map (·.1)).Nodup)
    (hex : ∀ ex ∈ excl, ∀ r ∈ ex, 0 ≤ r.s ∧ r.s < r.e) :
    ∃ out, doAccess (renderRecords recs) excl minGap skip = .ok out ∧
      ∀ c, (∀ r ∈ rowsOf out c, r.s < r.e) ∧
        (rowsOf out c).Pairwise (fun a b => a.e + max 1 (minGap.getD 0) ≤ b.s) ∧
        ∀ p, cov (rowsOf out c) p ↔
          AccessibleT recs excl skip c p ∨ InSmallGap (AccessibleT recs excl skip c) (minGap.getD 0) p := by
  obtain ⟨hinv, hcov⟩ := exclude_loop_table excl _ (startTable_tinv skip recs hn) hex
  obtain ⟨out, hout, hrows⟩ := joinRegions_table minGap _ hinv.2
  refine ⟨out, by rw [doAccess_eq]; exact hout, ?_⟩
  intro c
  have hc := hinv.2 c
  have hagree : ∀ q, AccessibleT recs excl skip c q ↔
      cov (rowsOf (excl.foldl (fun acc ex => subtractTable acc (sortTable ex))
        (recs.flatMap (startRows skip))) c) q := by
    intro q
    rw [hcov c q, startTable_cov]
    rfl
  rw [hrows c]
  exact joinChrom_spec _ _ _ hc hagree

/-- a name that is not the name of a kept sequence has no row (non-canonical names dropped exactly when the
    option is on; exclude files naming unknown chromosomes add nothing), and on the chromosome of a kept
    sequence the intervals are exactly those of the one-chromosome pipeline `accessChrom` (Model/Access.lean) run on that
    record and on that chromosome's rows of every exclude file as `tabio.read` sorts them -/
theorem access_table_is_per_chromosome (recs : List (String × List (List Char))) (excl : List Table)
    (minGap : Option Int) (skip : Bool)
    (hn : (recs.map (·.1)).Nodup)
    (hex : ∀ ex ∈ excl, ∀ r ∈ ex, 0 ≤ r.s ∧ r.s < r.e) :
    ∃ out, doAccess (renderRecords recs) excl minGap skip = .ok out ∧
      (∀ c, (¬ ∃ r ∈ recs, r.1 = c ∧ (skip = true → isCanonicalName c = true)) → rowsOf out c = []) ∧
      ∀ c lines, (c, lines) ∈ recs → (skip = true → isCanonicalName c = true) →
        (rowsOf out c).map ivOf =
          (accessChrom c lines (excl.map (fun ex => rowsOf (sortTable ex) c)) (minGap.getD 0)).map ivOf := by
  obtain ⟨out, hout, hrows⟩ := joinRegions_table minGap _ (exclude_loop_table excl _ (startTable_tinv skip recs hn) hex).1.2
  -- on every chromosome the table-level loop is the one-chromosome loop, and `join_regions` runs per chromosome
  simp only [rowsOf_foldl_subtractTable excl _ hex] at hrows
  refine ⟨out, by rw [doAccess_eq]; exact hout, fun c hno => ?_, fun c lines hmem hk => ?_⟩
  · rw [hrows c, rowsOf_startTable_nil skip recs c hno, foldl_subtractChrom_nil]
    rfl
  · rw [hrows c, rowsOf_startTable skip recs hn (c, lines) hmem, startRows, if_pos ((keepB_iff skip c).mpr hk),
      accessChrom_eq, scanSeq_eq_maxRuns]

/-! ### non-vacuity -/

/-- two sequences (one non-canonical), two exclude files in arbitrary order with an unknown chromosome -/
example : (["chr1", "chrM"].map id).Nodup ∧
    ∀ ex ∈ ([[⟨"chrM", 1, 2, ""⟩, ⟨"chr1", 3, 9, ""⟩, ⟨"chr1", 0, 1, ""⟩], [⟨"chrZ", 0, 5, ""⟩]] : List Table),
      ∀ r ∈ ex, 0 ≤ r.s ∧ r.s < r.e := by
  decide +kernel

end CnvVerif.C13
