/-
  C09, the clause "the table is the same for any number of worker processes": a SMALL-STEP model of the process
  pool (Model/CoverageSched.lean: workers take waiting tasks and finish them in any interleaving, results go to the
  slot of their submission index, `Executor.map` reads the slots in order) and theorems by induction over ANY
  schedule (= any list of worker events).  Which gather discipline the source uses is re-read from
  cnvlib/coverage.py on every run (`Generated.COVERAGE_GATHER_MODES`); the theorems are about the model
  instantiated with that generated value, so a rewrite to completion order (`as_completed`) breaks them.
  Lemmas in Lemmas/CoverageSched.lean.
-/
import CnvVerif.Props.C09
import CnvVerif.Lemmas.CoverageSched
namespace CnvVerif.C09
open CnvVerif CnvVerif.Cov CnvVerif.Cov.Sched

/-- both parallel sections take results back by submission index, and both have a pool-free `procs == 1` path -/
theorem gather_discipline_source :
    Generated.COVERAGE_GATHER_MODES = ["ordered", "ordered"] ∧ Generated.COVERAGE_SERIAL_PATH = [true, true] :=
  ⟨rfl, rfl⟩

/-- safety along every schedule: after ANY list of worker events (enabled or not, any number of workers, any pick
    from the queue) every filled result slot holds the result of the task submitted under that index -/
theorem slots_never_wrong {α β} (f : α → β) (xs : List α) (nw : Nat) (evs : List Ev) (i : Nat) (y : β)
    (h : (run f (init nw xs) evs).slots[i]? = some (some y)) : (xs[i]?).map f = some y :=
  (inv_run f xs _ evs (inv_init f xs nw)).slot_ok i y h

/-- what the consumer's `for … in pool.map(…)` loop has been handed so far is, at every moment of every schedule, a
    prefix of the serial result list — never a wrong table, never one out of order -/
theorem map_yields_serial_prefix {α β} (f : α → β) (xs : List α) (nw : Nat) (evs : List Ev) :
    yieldedSoFar (run f (init nw xs) evs) <+: xs.map f :=
  yielded_prefix f xs _ (inv_run f xs _ evs (inv_init f xs nw))

/-- when the pool has come to rest (nothing waiting, nobody working) the ordered gather IS the serial map,
    whatever the schedule was -/
theorem map_result_any_schedule {α β} (f : α → β) (xs : List α) (nw : Nat) (evs : List Ev) (ys : List β)
    (h : schedMap "ordered" f xs nw evs = some ys) : ys = xs.map f := by
  rw [schedMap_ordered_eq] at h
  split at h
  · exact (Option.some.inj h).symm
  · cases h

/-- no deadlock: with at least one worker EVERY prefix of events can be continued to a finished pool -/
theorem every_schedule_completable {α β} (f : α → β) (xs : List α) (nw : Nat) (hnw : 0 < nw) (evs : List Ev) :
    ∃ more, schedMap "ordered" f xs nw (evs ++ more) = some (xs.map f) := by
  obtain ⟨more, h⟩ := quiescent_completable f xs nw hnw evs
  exact ⟨more, schedMap_of_quiescent f xs nw _ h⟩

/-- a pool not at rest with at least one worker has an event that brings it strictly closer to rest (2·waiting + running
    decreases) -/
theorem enabled_event_progress {α β} (f : α → β) (st : St α β) (hq : quiescent st = false)
    (hw : 0 < st.running.length) : ∃ ev, Sched.measure (step f st ev) < Sched.measure st :=
  progress f st hq hw

/-- gathering in completion order would NOT be schedule-independent: two tasks, two workers, the second finishes
    first -/
theorem as_completed_would_lose_order :
    schedMap "as_completed" (fun (n : Nat) => n * 10) [1, 2] 2 [.take 0 0, .take 1 0, .finish 1, .finish 0]
      = some [20, 10] ∧
    schedMap "ordered" (fun (n : Nat) => n * 10) [1, 2] 2 [.take 0 0, .take 1 0, .finish 1, .finish 0]
      = some [10, 20] := by
  decide +kernel

/-- the command under ANY worker schedule, any number of workers `nw`, any `processes`, any chunk size ≥ 1, either
    algorithm: if the schedule lets the pool finish, the table is the serial table -/
theorem table_any_worker_schedule (contigs : List (String × Nat)) (reads : List Read) (q : Nat)
    (lines : List BedLine) (algo : Algo) (procs size nw : Nat) (evs : List Ev) (hs : 0 < size)
    (t : List OutRow) (h : coverageSched contigs reads q lines algo procs size nw evs = .ok (some t)) :
    coverage contigs reads q lines algo 1 1 [] = .ok t := by
  obtain ⟨done, -, hd⟩ := coverageSched_eq contigs reads q lines algo procs size nw
  rw [hd] at h
  cases hc : coverage contigs reads q lines algo 1 1 [] with
  | error e => rw [hc] at h; cases h
  | ok a =>
    rw [hc] at h
    have := Except.ok.inj h
    split at this
    · rw [Option.some.inj this]
    · cases this

/-- a refused regions file is refused under every schedule, with the same message -/
theorem refusal_any_worker_schedule (contigs : List (String × Nat)) (reads : List Read) (q : Nat)
    (lines : List BedLine) (algo : Algo) (procs size nw : Nat) (evs : List Ev) (e : String) :
    coverageSched contigs reads q lines algo procs size nw evs = .error e ↔
      coverage contigs reads q lines algo 1 1 [] = .error e := by
  obtain ⟨done, -, hd⟩ := coverageSched_eq contigs reads q lines algo procs size nw
  rw [hd]
  cases coverage contigs reads q lines algo 1 1 [] <;> simp [Except.map]

/-- every partial schedule of a pool with ≥ 1 worker can be continued so that the command returns its table -/
theorem command_always_completable (contigs : List (String × Nat)) (reads : List Read) (q : Nat)
    (lines : List BedLine) (algo : Algo) (procs size nw : Nat) (hnw : 0 < nw) (evs : List Ev)
    (hv : validate contigs lines = none) :
    ∃ more t, coverageSched contigs reads q lines algo procs size nw (evs ++ more) = .ok (some t) := by
  obtain ⟨done, hdone, hd⟩ := coverageSched_eq contigs reads q lines algo procs size nw
  obtain ⟨more, hm⟩ := hdone hnw evs
  refine ⟨more, ?_⟩
  rw [hd, hm, coverage_eq, hv]
  exact ⟨_, rfl⟩

/-! ### non-vacuity -/

/-- three one-line chunks on two workers; worker 1 prefetches the LAST chunk, finishes first; same table as serial -/
example : (coverageSched [("c", 100)] exReads 10 exBed .pileup 2 1 2
    [.take 0 0, .take 1 1, .finish 1, .take 1 0, .finish 1, .finish 0]).toOption = some (some exRows) := by
  decide +kernel

/-- a schedule that stops early leaves the pool unfinished: no table yet (`none`) -/
example : (coverageSched [("c", 100)] exReads 10 exBed .pileup 2 1 2 [.take 0 0, .take 1 1, .finish 1]).toOption
    = some none := by
  decide +kernel

/-- events that are not enabled (worker 7 does not exist, worker 0 is busy, nothing is waiting at place 9) do nothing -/
example : run (fun (n : Nat) => n + 1) (init 1 [5, 6]) [.take 7 0, .take 0 0, .take 0 0, .take 0 9, .finish 3]
    = run (fun (n : Nat) => n + 1) (init 1 [5, 6]) [.take 0 0] := by
  decide +kernel

end CnvVerif.C09
