/-
  C12 — statements that need no side condition between the sizes, the contig rule in both of
  its branches, and `antitarget` without an access table.

  Finding K as a theorem boundary: every bin has at least `min m ⌊3/4·avg⌋` bases, attained at every average 4k, so a
  minimum above 3/4·avg is not respected there; the classifier of K (`4·min > 3·avg`) is the negation of the hypothesis
  of `anti_size_lower` (Props/C12.lean).  Finding AB: the only way a row the property wants (targeted or canonically
  named contig) is lost is the situation AB's classifier describes.
-/
import CnvVerif.Props.C12
import CnvVerif.Lemmas.BinsGuess
namespace CnvVerif.C12
open CnvVerif

/-! ### size bounds for every average / minimum size (finding K) -/

/-- each bin has at least `min m ⌊3/4·avg⌋` bases: no hypothesis on the minimum size -/
theorem anti_size_lower_any_min (avg : Rat) (havg : 0 < avg) (m : Int) (acc tg : List Row) :
    ∀ b ∈ antiChrom Generated.ANTI_PAD avg m acc tg, min m (3 / 4 * avg).floor ≤ b.e - b.s :=
  antiChrom_of_splitRow (P := fun s e => min m (3 / 4 * avg).floor ≤ e - s) fun M hM =>
    splitRow_size_lower_any avg havg m M (Int.le_of_lt hM)

/-- … which is the minimum itself exactly when the minimum is at most 3/4 of the average -/
theorem three_quarters_floor_ge_iff (avg : Rat) (m : Int) :
    min m (3 / 4 * avg).floor = m ↔ (m : Rat) ≤ 3 / 4 * avg := by
  rw [← Rat.le_floor_iff]
  constructor
  · intro h; omega
  · intro h; omega

/-- the 3/4 bound is attained: average 4k, one accessible region leaving 6k bases after the margins, no
    target — two bins of exactly 3k bases, whatever minimum `m ≤ 6k` was asked for.  For `3k < m` the bins are
    shorter than the minimum (finding K; `anti_size_lower_needs_bound` is the case k = 250, m = 900). -/
theorem anti_three_quarters_bound_is_sharp (k : Int) (hk : 1 ≤ k) (m : Int) (hm : m ≤ 6 * k) (c g : String) :
    (antiChrom Generated.ANTI_PAD ((4 * k : Int) : Rat) m [⟨c, 0, 6 * k + 1000, g⟩] []).map ivOf =
      [(500, 500 + 3 * k), (500 + 3 * k, 500 + 6 * k)] := by
  rw [pad_eq, antiChrom_no_targets_single 500 _ m ⟨c, 0, 6 * k + 1000, g⟩ (by dsimp only; omega)]
  have e1 : max 0 ((0 : Int) + 500) = 500 := by decide
  have e2 : max 0 (6 * k + 1000 - 500) = 500 + 6 * k := by omega
  dsimp only
  rw [e1, e2, splitRow_three_quarters_sharp k hk m hm c g 500]
  rfl

/-- each bin has at most `max (3/2·avg) (5/4·avg + 1)` bases: no hypothesis on the average size -/
theorem anti_size_upper_any_avg (avg : Rat) (havg : 0 < avg) (m : Int) (acc tg : List Row) :
    ∀ b ∈ antiChrom Generated.ANTI_PAD avg m acc tg,
      ((b.e - b.s : Int) : Rat) ≤ max (3 / 2 * avg) (5 / 4 * avg + 1) :=
  antiChrom_of_splitRow (P := fun s e => ((e - s : Int) : Rat) ≤ max (3 / 2 * avg) (5 / 4 * avg + 1))
    fun M hM => splitRow_size_upper_any avg havg m M (Int.le_of_lt hM)

/-- for `avg ≥ 4` that maximum is 3/2·avg (`anti_size_upper`) -/
theorem upper_bound_max_eq (avg : Rat) (havg : 4 ≤ avg) :
    max (3 / 2 * avg) (5 / 4 * avg + 1) = 3 / 2 * avg := by
  apply max_eq_left
  linarith

/-- an integer average size `a ≥ 2` (`--avg-size` takes integers): at most 3/2·a -/
theorem anti_size_upper_integer_avg (a : Int) (ha : 2 ≤ a) (m : Int) (acc tg : List Row) :
    ∀ b ∈ antiChrom Generated.ANTI_PAD (a : Rat) m acc tg, 2 * (b.e - b.s) ≤ 3 * a :=
  antiChrom_of_splitRow (P := fun s e => 2 * (e - s) ≤ 3 * a) fun M hM =>
    splitRow_size_upper_int a ha m M (Int.le_of_lt hM)

/-- some hypothesis on the average is needed: at avg = 6/5 a region of 3 bases is cut into bins of 1 and
    2 bases, and 2 > 3/2 · 6/5 -/
theorem anti_size_upper_needs_some_bound :
    (splitRow (6 / 5) 0 ⟨"chr1", 0, 3, ""⟩).map ivOf = [(0, 1), (1, 3)] ∧ ((2 : Rat) > 3 / 2 * (6 / 5)) := by
  decide +kernel

/-! ### the contig rule, both branches (finding AB) -/

/-- an accessible row is kept iff its contig is targeted, or — when some targeted contig is canonically named —
    it is canonically named itself, or — when none is — its name is no longer than the longest targeted name -/
theorem contig_rule_exact (acc tg a : Table) (h : dropNoncanonical acc tg = .ok a) (r : Row) :
    r ∈ a ↔ r ∈ acc ∧ ((∃ t ∈ tg, t.chrom = r.chrom) ∨
      (if (∃ t ∈ tg, isCanonicalName t.chrom = true) then isCanonicalName r.chrom = true
       else r.chrom.length ≤ maxTargetNameLen tg)) :=
  dropNoncanonical_mem_iff acc tg a h r

/-- `maxTargetNameLen` is the length of the longest targeted contig name -/
theorem longest_target_name (tg : Table) :
    (∀ t ∈ tg, t.chrom.length ≤ maxTargetNameLen tg) ∧
    (tg ≠ [] → ∃ t ∈ tg, t.chrom.length = maxTargetNameLen tg) :=
  ⟨maxTargetNameLen_ge tg, maxTargetNameLen_attained tg⟩

/-- the kept rows stay in the order of the access table -/
theorem contig_order_kept (acc tg a : Table) (h : dropNoncanonical acc tg = .ok a) : a.Sublist acc := by
  rw [dropNoncanonical_ok h]
  exact List.filter_sublist

/-- finding AB in general: without a canonically named target contig, every untargeted contig whose name is
    longer than all targeted names is dropped — canonically named or not -/
theorem contig_dropped_by_length_rule (acc tg a : Table) (h : dropNoncanonical acc tg = .ok a)
    (hc : ¬ ∃ t ∈ tg, isCanonicalName t.chrom = true)
    (r : Row) (hu : ¬ ∃ t ∈ tg, t.chrom = r.chrom) (hl : maxTargetNameLen tg < r.chrom.length) : r ∉ a :=
  fun hr => (dropNoncanonical_not_mem h ((dropNoncanonical_mem_iff acc tg a h r).mp hr).1).mpr
    ⟨hu, by rwa [if_neg hc]⟩ hr

/-- … and that is the ONLY way a row on a targeted or canonically named contig is lost: AB's classifier
    (no canonically named target; the lost contig untargeted, with a longer name) is exactly the boundary of
    `contig_kept_when_targeted` / `contig_kept_when_canonical` -/
theorem contig_lost_only_by_length_rule (acc tg a : Table) (h : dropNoncanonical acc tg = .ok a)
    (r : Row) (hr : r ∈ acc) (hw : (∃ t ∈ tg, t.chrom = r.chrom) ∨ isCanonicalName r.chrom = true)
    (hlost : r ∉ a) :
    (¬ ∃ t ∈ tg, isCanonicalName t.chrom = true) ∧ (¬ ∃ t ∈ tg, t.chrom = r.chrom) ∧
      maxTargetNameLen tg < r.chrom.length := by
  obtain ⟨hu, hrule⟩ := (dropNoncanonical_not_mem h hr).mp hlost
  split at hrule
  · rw [hw.resolve_left hu] at hrule; cases hrule
  · exact ⟨‹_›, hu, hrule⟩

/-! ### no access table: guessed chromosome extents -/

/-- `access=None` and an empty access table both mean: guess -/
theorem no_access_means_guessed_extents (tg : Table) :
    effectiveAccess tg none = .ok (guessRegions tg) ∧ effectiveAccess tg (some []) = .ok (guessRegions tg) :=
  ⟨effectiveAccess_none tg, effectiveAccess_empty tg⟩

/-- one region per targeted contig, in order of first appearance, from the 150 000-base telomere allowance to
    the end of the contig's LAST target row (table order — not the largest end) -/
theorem guessed_extents (tg : Table) :
    guessRegions tg = (chromsInOrder tg).map (fun c => ⟨c, 150000, lastEndOf tg c, ""⟩) := by
  rw [guessRegions_eq, telomere_eq]

/-- targets on one contig, no access table: the bins are `antiChrom` of the single guessed region -/
theorem antitarget_without_access_is_chrom (c : String) (tg : Table) (last : Row) (avg : Rat) (m : Int)
    (hlast : tg.getLast? = some last) (hc : ∀ r ∈ tg, r.chrom = c) (hwf : WFTargets tg) :
    ∃ t, getAntitargets tg none avg m = .ok t ∧
      t.map ivOf = (antiChrom Generated.ANTI_PAD avg m [⟨c, 150000, last.e, ""⟩] tg).map ivOf := by
  refine ⟨_, get_antitargets_unfold tg none avg m (guessRegions tg) rfl, ?_⟩
  have hg := guessRegions_single c tg last hlast hc
  rw [telomere_eq] at hg
  rw [hg]
  exact antitarget_table_is_chrom c _ tg avg m (by
    intro r hr
    rw [List.mem_singleton] at hr
    rw [hr]) hc hwf

/-- those bins lie between telomere allowance + 500 and (end of the last target row) − 500 -/
theorem no_access_bins_inside_guessed_extent (c g : String) (e : Int) (avg : Rat) (havg : 1 ≤ avg) (m : Int)
    (tg : List Row) (hwf : WFTargets tg) :
    ∀ b ∈ antiChrom Generated.ANTI_PAD avg m [⟨c, 150000, e, g⟩] tg, 150500 ≤ b.s ∧ b.e ≤ e - 500 := by
  intro b hb
  have havg0 : (0 : Rat) < avg := lt_of_lt_of_le (by decide) havg
  have hne := anti_bins_nonempty avg havg m _ tg b hb
  have hin := anti_inside_shrunk_access avg havg0 m _ tg hwf b hb
  have h1 := (inShrunk_single 500 (by decide) ⟨c, 150000, e, g⟩ (show (0 : Int) ≤ 150000 by decide) b.s).mp
    (hin b.s (Int.le_refl _) hne)
  have h2 := (inShrunk_single 500 (by decide) ⟨c, 150000, e, g⟩ (show (0 : Int) ≤ 150000 by decide) (b.e - 1)).mp
    (hin (b.e - 1) (by omega) (by omega))
  dsimp only at h1 h2
  omega

/-! ### the minimum size `do_antitarget` hands on -/

/-- no `min_bin_size` and `min_bin_size = 0` both mean the default `2·⌊avg/32⌋` … -/
theorem default_min_for_none_and_zero (tg : Table) (acc : Option Table) (avg : Rat) :
    doAntitarget tg acc avg none = getAntitargets tg acc avg (defaultMinSize avg) ∧
    doAntitarget tg acc avg (some 0) = getAntitargets tg acc avg (defaultMinSize avg) :=
  ⟨doAntitarget_none tg acc avg, doAntitarget_zero tg acc avg⟩

/-- … any other value is used as it is -/
theorem explicit_min_is_used (tg : Table) (acc : Option Table) (avg : Rat) (m : Int) (hm : m ≠ 0) :
    doAntitarget tg acc avg (some m) = getAntitargets tg acc avg m := by
  unfold doAntitarget
  simp only [show (m == 0) = false from beq_false_of_ne hm]
  rfl

example : dropNoncanonical [⟨"chr1", 0, 5000, "x"⟩, ⟨"chr10", 0, 5000, "x"⟩, ⟨"chrM", 0, 5000, "x"⟩]
    [⟨"chrM", 100, 200, "m"⟩] = .ok [⟨"chr1", 0, 5000, "x"⟩, ⟨"chrM", 0, 5000, "x"⟩] := by decide +kernel
example : maxTargetNameLen [⟨"chrM", 100, 200, "m"⟩] = 4 := by decide +kernel
example : ¬ ∃ t ∈ ([⟨"chrM", 100, 200, "m"⟩] : Table), isCanonicalName t.chrom = true := by decide +kernel
example : guessRegions [⟨"chr1", 200000, 290000, "a"⟩, ⟨"chr1", 210000, 220000, "b"⟩, ⟨"chr2", 300000, 300100, "c"⟩]
    = [⟨"chr1", 150000, 220000, ""⟩, ⟨"chr2", 150000, 300100, ""⟩] := by decide +kernel
example : ([⟨"chr1", 200000, 290000, "a"⟩, ⟨"chr1", 210000, 220000, "b"⟩] : Table).getLast?
    = some ⟨"chr1", 210000, 220000, "b"⟩ := rfl
example : (3 / 4 * (1000 : Rat)).floor = 750 := by decide +kernel

end CnvVerif.C12
