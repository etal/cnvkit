/-
  C06, table-level clauses: `total_range_size` counts the distinct covered bases, `subdivide` and `resize_ranges` on
  whole tables (any number of chromosomes, any row order), and what a piece of `flatten` carries.
-/
import CnvVerif.Props.C06
import CnvVerif.Lemmas.IntervalTotal
import CnvVerif.Lemmas.IntervalSubdivide
import CnvVerif.Lemmas.FlattenPayload
namespace CnvVerif.C06
open CnvVerif

/-- `total_range_size()` is the number of DISTINCT covered bases: for any family of finite sets `S c` whose members
    are exactly the bases of chromosome `c` covered by some row, the result is the sum of their cardinalities over the
    chromosomes of the table (each counted once: `total_counts_each_chromosome_once`).  Rows may overlap, nest, repeat,
    abut, have zero width, and come in any order. -/
theorem total_range_size_counts_bases (t : Table) (hwf : ∀ r ∈ t, r.s ≤ r.e)
    (S : String → Finset Int) (hS : ∀ c p, p ∈ S c ↔ cov (rowsOf t c) p) :
    totalRangeSize t = ((chromsInOrder t).map (fun c => ((S c).card : Int))).sum := by
  rw [totalRangeSize_eq_card t hwf]
  apply congrArg
  apply List.map_congr_left
  intro c _
  rw [coveredBases_unique (rowsOf t c) (S c) (hS c)]

theorem total_counts_each_chromosome_once (t : Table) :
    (chromsInOrder t).Nodup ∧ ∀ c, c ∈ chromsInOrder t ↔ ∃ r ∈ t, r.chrom = c :=
  ⟨nodup_eraseDups _, mem_chromsInOrder t⟩

/-- such sets exist (non-vacuity of the hypothesis `hS`) -/
theorem total_covered_sets_exist (t : Table) :
    ∃ S : String → Finset Int, ∀ c p, p ∈ S c ↔ cov (rowsOf t c) p :=
  ⟨fun c => coveredBases (rowsOf t c), fun c p => mem_coveredBases (rowsOf t c) p⟩

/-- the mechanism: what `merge(bp=1)` leaves on a chromosome is pairwise disjoint (overlapping rows are combined,
    abutting ones stay apart), so the lengths add up without counting a base twice -/
theorem total_merge_one_groups_disjoint (t : Table) (hwf : ∀ r ∈ t, r.s ≤ r.e) (c : String) :
    (∀ r ∈ rowsOf (mergeTable 1 t) c, r.s ≤ r.e) ∧
    (rowsOf (mergeTable 1 t) c).Pairwise (fun a b => a.e ≤ b.s) := mergeTable_one_disjoint t hwf c

/-- the bins of every chromosome are the bins of that chromosome's merged regions (`merge_canonical_table`: the
    sorted minimal disjoint list), region after region; each region is handled by `splitRow`, for which
    `subdivide_count`, `subdivide_exact` and `subdivide_drops_small` hold -/
theorem subdivide_table_is_per_region (avg : Rat) (minSize : Int) (t : Table) (c : String) :
    rowsOf (subdivideTable avg minSize t) c = (rowsOf (mergeTable 0 t) c).flatMap (splitRow avg minSize) :=
  rowsOf_subdivideTable avg minSize t c

/-- the bins cover exactly the merged regions of at least the minimum size -- for every positive (also fractional)
    average size, also when a region gets more bins than it has bases -/
theorem subdivide_cov_table (avg : Rat) (havg : 0 < avg) (minSize : Int) (t : Table)
    (hp : ∀ r ∈ t, r.s < r.e) (c : String) (p : Int) :
    cov (rowsOf (subdivideTable avg minSize t) c) p ↔
      ∃ m ∈ rowsOf (mergeTable 0 t) c, minSize ≤ m.e - m.s ∧ m.s ≤ p ∧ p < m.e := by
  rw [rowsOf_subdivideTable]
  exact flatMap_splitRow_cov avg havg minSize _ (fun m hm => Int.le_of_lt ((mergeTable_canon t hp c).1 m hm)) p

/-- without a minimum size (the default) subdivide neither loses nor invents a base of the input -/
theorem subdivide_cov_table_no_min (avg : Rat) (havg : 0 < avg) (minSize : Int) (hmin : minSize ≤ 1) (t : Table)
    (hp : ∀ r ∈ t, r.s < r.e) (c : String) (p : Int) :
    cov (rowsOf (subdivideTable avg minSize t) c) p ↔ cov (rowsOf t c) p := by
  rw [subdivide_cov_table avg havg minSize t hp c p, ← mergeTable_cov 0 (Int.le_refl 0) t c p]
  have hcan := mergeTable_canon t hp c
  refine exists_congr fun m => and_congr_right fun hm => and_iff_right ?_
  have := hcan.1 m hm
  omega

/-- the bins of a chromosome come in order, pairwise disjoint, each inside one merged region of at least the minimum
    size whose other fields it carries -/
theorem subdivide_table_bins_disjoint_in_regions (avg : Rat) (havg : 0 < avg) (minSize : Int) (t : Table)
    (hp : ∀ r ∈ t, r.s < r.e) (c : String) :
    (rowsOf (subdivideTable avg minSize t) c).Pairwise (fun a b => a.e ≤ b.s) ∧
    ∀ b ∈ rowsOf (subdivideTable avg minSize t) c, ∃ m ∈ rowsOf (mergeTable 0 t) c,
      minSize ≤ m.e - m.s ∧ b.gene = m.gene ∧ m.s ≤ b.s ∧ b.s ≤ b.e ∧ b.e ≤ m.e := by
  rw [rowsOf_subdivideTable]
  have hcan := mergeTable_canon t hp c
  have hlen : ∀ m ∈ rowsOf (mergeTable 0 t) c, m.s ≤ m.e := fun m hm => Int.le_of_lt (hcan.1 m hm)
  refine ⟨flatMap_splitRow_pairwise avg havg minSize _ hcan, fun b hb => ?_⟩
  obtain ⟨m, hm, hbm⟩ := List.mem_flatMap.mp hb
  refine ⟨m, hm, ?_, (Row.other_fields_eq (splitRow_fields avg minSize m b hbm)).2,
    splitRow_within avg havg minSize m (hlen m hm) b hbm⟩
  by_contra hlt
  rw [splitRow_eq_splitInto, if_neg (by omega)] at hbm
  cases hbm

/-- the bin count `int(round(span / avg)) or 1` is never below one when the average size is positive: a region of at
    least the minimum size is either kept whole or cut into `round(span / avg) ≥ 2` bins -/
theorem subdivide_region_cases (avg : Rat) (havg : 0 < avg) (minSize : Int) (r : Row) (hlen : 0 ≤ r.e - r.s) :
    splitRow avg minSize r = [] ∧ r.e - r.s < minSize ∨
    minSize ≤ r.e - r.s ∧ (splitRow avg minSize r = [r] ∨
      ∃ n : Nat, 2 ≤ n ∧ (n : Int) = roundHalfEven (((r.e - r.s : Int) : Rat) / avg) ∧
        splitRow avg minSize r = splitInto r n) := by
  have hb := binCount_eq_max avg r (roundHalfEven_nonneg _ (span_div_nonneg avg havg r (by omega)))
  rw [splitRow_eq_splitInto]
  split
  · rename_i h
    refine .inr ⟨h, ?_⟩
    by_cases h1 : Src.binCount avg r = 1
    · exact .inl (by rw [h1, splitInto_one])
    · exact .inr ⟨_, by omega, by omega, rfl⟩
  · exact .inl ⟨rfl, by omega⟩

/-- every row that `resize_ranges` returns lies within `[0, size of its chromosome]` (and within `[0, ∞)` when no
    sizes are given), for every amount `bp`, positive or negative -/
theorem resize_rows_within_chromosome (bp : Int) (sizes : String → Option Int) (t : Table)
    (hs : ∀ c hi, sizes c = some hi → 0 ≤ hi) :
    ∀ q ∈ resizeTable bp sizes t, 0 ≤ q.s ∧ 0 ≤ q.e ∧
      ∀ hi, sizes q.chrom = some hi → q.s ≤ hi ∧ q.e ≤ hi := by
  intro q hq
  obtain ⟨r, _, rfl, _⟩ := (resize_spec bp sizes t q).mp hq
  refine ⟨le_clipInt 0 _ (hs r.chrom) _, le_clipInt 0 _ (hs r.chrom) _, fun hi h => ?_⟩
  have h' : sizes r.chrom = some hi := h
  show clipInt 0 (sizes r.chrom) _ ≤ hi ∧ clipInt 0 (sizes r.chrom) _ ≤ hi
  rw [h']
  exact ⟨(clip_bounds hi (hs _ _ h') _).2.1, (clip_bounds hi (hs _ _ h') _).2.1⟩

/-- rows keep their order and their other fields; with `bp ≥ 0` none is dropped -/
theorem resize_keeps_rows_in_order (bp : Int) (hbp : 0 ≤ bp) (sizes : String → Option Int) (t : Table) :
    resizeTable bp sizes t = t.map (fun r =>
      { r with s := clipInt 0 (sizes r.chrom) (r.s - bp), e := clipInt 0 (sizes r.chrom) (r.e + bp) }) := by
  rw [resizeTable_eq]
  exact List.filter_eq_self.mpr fun q _ => decide_eq_true fun h => by omega

/-- with the default combiner of the `gene` column (`join_strings`: the distinct labels, in order) the label of every
    piece is the combination of the labels of EXACTLY the input rows of the chromosome that span the piece, in sorted
    order -- `_flatten_tuples` only looks at the piece's own overlap group (its "rows in play"); no row of another group
    spans the piece -/
theorem flatten_piece_label_joins_the_spanning_rows (l : List Row) (hs : l.Pairwise (fun a b => a.s ≤ b.s))
    (hwf : ∀ r ∈ l, r.s < r.e) :
    ∀ z ∈ flattenChrom l, z.gene = joinStrings ((l.filter (fun r => decide (r.s ≤ z.s) && decide (r.e ≥ z.e))).map (·.gene)) := by
  intro z hz
  obtain ⟨im, _, ip⟩ := fc_groups_spec l hs
  obtain ⟨g, hg, hzg⟩ := List.mem_flatMap.mp hz
  have hgwf : ∀ r ∈ g, r.s < r.e := fun r hr => hwf r ((im r).mp ⟨g, hg, hr⟩)
  obtain ⟨hlo, hhi, hpos, _⟩ := fc_flattenGroup_mem g hgwf z hzg
  show z.gene = joinStrings ((l.filter (spansB z)).map (·.gene))
  rw [flattenGroup_payload g z hzg, ← filter_spans_groups (overlapGroups l) ip g hg z hpos hlo hhi,
    overlapGroups_flatten]

/-- the groups that flatten works on are consecutive stretches of the sorted rows: nothing is lost or reordered -/
theorem flatten_groups_partition_the_rows (l : List Row) : (overlapGroups l).flatten = l := overlapGroups_flatten l

/-! non-vacuity: concrete inputs meeting the hypotheses, evaluated by the kernel (one chromosome's sorted rows, which is
    what the table functions hand to `mergeChrom` / `splitRow`; `sort_values` itself does not reduce in the kernel) -/
example : (mergeChrom 1 [⟨"chr1", 0, 10, "a"⟩, ⟨"chr1", 5, 12, "b"⟩, ⟨"chr1", 6, 7, "e"⟩, ⟨"chr1", 12, 14, "c"⟩]).map
    (fun r => (r.s, r.e)) = [(0, 12), (12, 14)] := by decide +kernel
example : lenSum (mergeChrom 1 [⟨"chr1", 0, 10, "a"⟩, ⟨"chr1", 5, 12, "b"⟩, ⟨"chr1", 6, 7, "e"⟩, ⟨"chr1", 12, 14, "c"⟩])
    = 14 := by decide +kernel
example : ([⟨"chr1", 0, 10, "a,b"⟩, ⟨"chr1", 20, 21, "c"⟩].flatMap (splitRow 3 2)).map (fun r => (r.s, r.e)) =
    [(0, 3), (3, 6), (6, 10)] := by decide +kernel
example : (overlapGroups [⟨"chr1", 0, 10, "a"⟩, ⟨"chr1", 5, 15, "b"⟩, ⟨"chr1", 5, 8, "a"⟩, ⟨"chr1", 20, 30, "c"⟩]).map
    (fun g => g.map (·.gene)) = [["a", "b", "a"], ["c"]] := by decide +kernel
example : ([⟨"chr1", 0, 10, "a"⟩, ⟨"chr1", 5, 15, "b"⟩, ⟨"chr1", 5, 8, "a"⟩, ⟨"chr1", 20, 30, "c"⟩] : List Row).Pairwise
    (fun a b => a.s ≤ b.s) := by decide +kernel
example : resizeTable (-2) (fun _ => some 8) [⟨"chr1", 0, 10, "a"⟩, ⟨"chr1", 3, 7, "b"⟩, ⟨"chr1", 4, 5, "c"⟩] =
    [⟨"chr1", 2, 8, "a"⟩] := by decide +kernel

end CnvVerif.C06
