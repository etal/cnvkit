/-
  C12: tie to the source TEXT of `drop_noncanonical_contigs` and `compare_chrom_names`.  `Generated.src_chroms_to_skip`
  and `src_chrom_names_clash` (Generated/ExprsBins.lean) are re-translated from /repo's Python on every run by
  harness/settrans.py (rules over sets of names); the model's `skipOf` and `chromNamesClash` ARE those expressions, for
  all arguments.  Each proof tries `rfl` first and falls back to case analysis + `simp`, so that an equivalent spelling of
  the source (a flipped comparison, a negated test with swapped branches, renamed locals) still proves.
-/
import CnvVerif.Props.C12
import CnvVerif.Generated.ExprsBins
set_option linter.unusedTactic false
set_option linter.unreachableTactic false
set_option linter.unusedSimpArgs false
namespace CnvVerif.C12
open CnvVerif CnvVerif.Generated

/-- the contigs the model skips ARE the value of `chroms_to_skip` in `drop_noncanonical_contigs` (both branches:
    canonical-name rule and name-length rule), with `is_canonical_contig_name` = the generated regex rule -/
theorem chroms_to_skip_is_the_source (acc tg : Table) :
    skipOf acc tg = src_chroms_to_skip isCanonicalName (chromsInOrder acc) (chromsInOrder tg) := by
  unfold skipOf src_chroms_to_skip
  first
  | rfl
  | (simp only [List.filter_filter, gt_iff_lt, ge_iff_le, Bool.not_not, Bool.and_comm, Nat.lt_iff_add_one_le,
       Bool.not_eq_true', Bool.not_eq_false', decide_not, Nat.not_le, Nat.not_lt]
     cases h : (chromsInOrder tg).any isCanonicalName <;> simp [h, List.filter_filter, Bool.and_comm, Nat.lt_iff_add_one_le])

/-- the refusal of `compare_chrom_names` (annotation file vs baits, access vs targets) IS the source's condition -/
theorem chrom_names_clash_is_the_source (a b : Table) :
    chromNamesClash a b = src_chrom_names_clash (chromsInOrder a) (chromsInOrder b) := by
  unfold chromNamesClash src_chrom_names_clash
  first
  | rfl
  | (cases h : chromsInOrder a <;> simp [Bool.and_comm])

/-- what `drop_noncanonical_contigs` returns, in terms of the source's `chroms_to_skip` -/
theorem drop_noncanonical_is_the_source (acc tg : Table) :
    dropNoncanonical acc tg =
      if src_chrom_names_clash (chromsInOrder acc) (chromsInOrder tg) then .error "ValueError"
      else .ok (acc.filter (fun r =>
        !(src_chroms_to_skip isCanonicalName (chromsInOrder acc) (chromsInOrder tg)).contains r.chrom)) := by
  rw [dropNoncanonical_eq, chroms_to_skip_is_the_source, chrom_names_clash_is_the_source]

end CnvVerif.C12
