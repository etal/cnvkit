/-
  C08 — "numbers equal to 6 significant digits, and writing that result again produces identical
  bytes", at the level of the CHARACTERS in the file.
  `fmt6g` (Model/FormatsExt.lean) is the spelling of `float_format='%.6g'` (fixed / scientific notation,
  stripped zeros, two-digit exponent), compared byte for byte with the real writer on every run;
  `parseDec` is the number parser of the model's tab reader.  Lemmas: Lemmas/FormatsSpell.lean, FormatsTabF.lean.
-/
import CnvVerif.Lemmas.FormatsTabF
namespace CnvVerif.C08
open CnvVerif CnvVerif.Fmt CnvVerif.Generated

/-- the characters `%.6g` prints for ANY finite value are read back to exactly its 6-significant-digit rounding -/
theorem sixg_spelling_reads_back (q : Rat) : parseDec (fmt6g q).toList = some (sixg q) := parseDec_fmt6g q

/-- … for any number of significant digits `p ≥ 1` (the model is not tuned to 6) -/
theorem spelling_reads_back_any_precision (p : Nat) (hp : 1 ≤ p) (q : Rat) :
    parseDec (fmtG p q).toList = some (sigRound p q) := by
  unfold fmtG; rw [String.toList_ofList]; exact parseDec_fmtGL p hp q

/-- write → read → write: the value read back is printed with the very same characters -/
theorem float_cell_write_read_write (q : Rat) :
    ∃ v, parseDec (fmt6g q).toList = some v ∧ fmt6g v = fmt6g q :=
  ⟨sixg q, parseDec_fmt6g q, fmt6g_sixg q⟩

/-- which values survive exactly: those that are their own 6-digit rounding — in particular every decimal with
    at most 6 significant digits (`sixg_fixes_six_digit_decimals`) -/
theorem float_survives_iff (q : Rat) : parseDec (fmt6g q).toList = some q ↔ sixg q = q := by
  rw [parseDec_fmt6g]; exact ⟨fun h => Option.some.inj h, fun h => by rw [h]⟩

/-- a printed float is never mistaken for a missing value -/
theorem float_spelling_is_not_na (q : Rat) : isNA (fmt6g q) = false := fmt6g_not_na q

/-- when the characters form an integer literal (pandas then infers int64 for a column of them) they are the
    canonical decimal of an integer equal to the rounded value: same value, same bytes on the next write -/
theorem float_spelled_as_integer (q : Rat) (h : isIntLit (fmt6g q).toList = true) :
    ∃ i : Int, fmt6g q = toString i ∧ parseInt (fmt6g q) = some i ∧ (i : Rat) = sixg q := fmt6g_int q h

/-- write-then-read of a tab file: same names, same coordinates, every cell as `colBack` says (floats rounded to 6
    significant digits, other cells identical), rows sorted -/
theorem tab_with_floats_write_read (t : FTab) (h : WFTabF t) (sel : SampleSel) :
    readFmt "tab" false sel (renderLinesF (writeTab t)) =
      .ok { names := t.names, rows := sortF (t.rows.map (backRow t)) } := tabF_roundtrip t h sel

/-- what comes back, cell by cell: a float cell has the value `sixg q` (whether pandas typed the column int64 or
    float64); any other cell is identical -/
theorem tab_cell_read_back (rows : List FRow) (k : Nat) (r : FRow) (hr : r ∈ rows) :
    (∀ q, r.cols.getD k .na = Cell.flt q → cellVal (colBack rows k (Cell.flt q)) = some (sixg q)) ∧
    (∀ c, r.cols.getD k .na = c → (∀ q, c ≠ Cell.flt q) → colBack rows k c = c) := by
  constructor
  · intro q hq
    cases hai : colAllInt rows k with
    | false => rw [colBack_flt_of_float hai]; rfl
    | true =>
      obtain ⟨i, hb, _, hv⟩ := colBack_flt_of_int hai hr hq
      rw [hb, ← hv]; rfl
  · intro c _ hne
    cases c with
    | flt q => exact absurd rfl (hne q)
    | _ => rfl

/-- coordinates and row count are untouched by the trip -/
theorem tab_with_floats_coordinates (t : FTab) :
    (t.rows.map (backRow t)).map (fun r => (r.chrom, r.s, r.e)) = t.rows.map (fun r => (r.chrom, r.s, r.e)) := by
  rw [List.map_map]; rfl

/-- writing the result again: same header, the same body lines (stably re-ordered by chromosome, start, end), and
    byte-identical files when the table was already sorted -/
theorem tab_with_floats_second_write (t : FTab) (h : WFTabF t) (sel : SampleSel) :
    ∃ t1, readFmt "tab" false sel (renderLinesF (writeTab t)) = .ok t1 ∧
      (renderLinesF (writeTab t1)).head? = (renderLinesF (writeTab t)).head? ∧
      ((renderLinesF (writeTab t1)).tail).Perm ((renderLinesF (writeTab t)).tail) ∧
      (SortedRows t.rows → renderLinesF (writeTab t1) = renderLinesF (writeTab t)) := by
  refine ⟨_, tabF_roundtrip t h sel, ?_⟩
  rw [renderLinesF_second t fun r hr => (h.2.2.2.1 r hr).2, renderLinesF_writeTab]
  exact ⟨rfl, (sortF_perm _).map _, fun hs => by rw [sortF_of_sorted _ hs]⟩

example : fmt6g (1234567 / 10) = "123457" ∧ fmt6g (1 / 3) = "0.333333" ∧ fmt6g 1000000 = "1e+06" ∧
    fmt6g (-(1 / 80000)) = "-1.25e-05" ∧ fmt6g (9999995 / 10) = "1e+06" ∧ fmt6g (1 / 10000) = "0.0001" := by
  decide +kernel

/-- a .cnr-like table with a text, a float (with NaN), an all-integral float and an integer column meets `WFTabF` -/
example : WFTabF { names := ["depth", "gene", "log2", "probes", "weight"],
                   rows := [⟨"chr2", 100, 200, [.flt 3, .str "NA", .flt (1 / 3), .int 7, .na]⟩,
                            ⟨"chr1", 10, 20, [.flt 12, .str "A,B", .flt (-5 / 2), .int 0, .flt (1 / 7)]⟩] } := by
  refine ⟨by decide +kernel, by decide +kernel, by decide +kernel, by decide +kernel, ?_⟩
  -- a fact about both rows, from the fact about each
  have both : ∀ {P : FRow → Prop} {a b : FRow}, P a → P b → ∀ r ∈ [a, b], P r := by
    intro P a b ha hb r hr
    rcases List.mem_cons.mp hr with rfl | hr
    · exact ha
    · rcases List.mem_cons.mp hr with rfl | hr
      · exact hb
      · cases hr
  intro j hj
  have hj' : j = 0 ∨ j = 1 ∨ j = 2 ∨ j = 3 ∨ j = 4 := by simp at hj; omega
  rcases hj' with rfl | rfl | rfl | rfl | rfl
  · exact Or.inr (Or.inr ⟨by decide +kernel, both (Or.inl ⟨_, rfl⟩) (Or.inl ⟨_, rfl⟩)⟩)
  · exact Or.inr (Or.inl (both ⟨_, rfl, Or.inr rfl⟩ ⟨_, rfl, Or.inr rfl⟩))
  · exact Or.inr (Or.inr ⟨by decide +kernel, both (Or.inl ⟨_, rfl⟩) (Or.inl ⟨_, rfl⟩)⟩)
  · exact Or.inl ⟨by decide +kernel, both ⟨_, rfl⟩ ⟨_, rfl⟩⟩
  · exact Or.inr (Or.inr ⟨by decide +kernel, both (Or.inr ⟨rfl, by decide +kernel⟩) (Or.inl ⟨_, rfl⟩)⟩)

end CnvVerif.C08
