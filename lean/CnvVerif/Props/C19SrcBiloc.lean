/-
  C19, tie to the source text: the step function nested in `biweight_location`.  `Generated.src_biloc_iter` is the expression
  harness/vectrans.py reads from cnvlib/descriptives.py (see Lemmas/SrcDescVocab.lean).
-/
import CnvVerif.Generated.ExprsDesc
import CnvVerif.Lemmas.SrcDescVocab
namespace CnvVerif.C19
open CnvVerif CnvVerif.Desc CnvVerif.Generated CnvVerif.Src


/-- the nested step function of `biweight_location` is the model's `bilocIter`, for every cut-off `c` and floor `ε` -/
theorem biweight_step_is_the_source (a : List Rat) (init c eps : Rat) :
    src_biloc_iter a init c eps = bilocIter c eps a init := by
  unfold src_biloc_iter bilocIter
  simp only []
  generalize hd : a.map (fun v => v - init) = d
  generalize hs : max (c * median (d.map absR)) eps = s
  have hw : (((d.map (fun v => v / s)).map (fun v => v ^ 2)).map (fun v => (1 : Rat) - v)).map (fun v => v ^ 2) =
      d.map (fun x => Desc.sq (1 - Desc.sq (x / s))) := by
    rw [List.map_map, List.map_map, List.map_map]
    apply List.map_congr_left; intro x _; simp [Desc.sq, pow_two]
  rw [cutoff_mask, hw, sel_map_map, sel_self_map, zipWith_eq_zip_map]

end CnvVerif.C19
