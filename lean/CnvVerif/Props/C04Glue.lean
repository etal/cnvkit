/-
  C04 — the glue of `do_fix` / `load_adjust_coverages`: which class of bins gets which correction, and what a switched-on
  correction does when the reference lacks its covariate column ("all references … with/without gc and rmask columns",
  "every subset of {gc, edge, rmask} corrections").  Lemmas in Lemmas/FixPlanExt5.lean.
-/
import CnvVerif.Props.C04
import CnvVerif.Lemmas.FixPlanExt5
namespace CnvVerif.C04
open CnvVerif

/-- the model's `doFix` makes exactly the two `load_adjust_coverages` calls whose flags `class_flags_are_the_source`
    (Props/C04SrcFlags) reads off the source, then combines, subtracts, weights, centres (`fixCore`) -/
theorem fix_runs_each_class_with_its_flags (tgt anti : List SRow) (ref : List RRow) (cfg : FixCfg) (P : FixParams)
    (hns : (tgt.map sKey).any (fun k => (anti.map sKey).contains k) = false) :
    doFix tgt anti ref cfg P =
      match loadAdjust tgt ref true cfg.gc cfg.edge false cfg.par P.permT P.wingT P.edgeKeysT with
      | .error e => .error e
      | .ok (cnT, rfT, _) =>
        match loadAdjust anti ref false cfg.gc false cfg.rmask cfg.par P.permA P.wingA with
        | .error e => .error e
        | .ok (cnA, rfA, _) => .ok (fixCore cnT cnA rfT rfA cfg P) := by
  unfold doFix
  rw [hns, doFixCore_eq]
  rfl

/-- a reference WITHOUT a gc column: the GC correction is skipped, `fix` with GC correction on is `fix --no-gc` -/
theorem missing_gc_column_means_no_gc_correction (tgt anti : List SRow) (ref : List RRow) (cfg : FixCfg) (P : FixParams)
    (h : ∀ r ∈ ref, r.gc = none) :
    doFix tgt anti ref { cfg with gc := true } P = doFix tgt anti ref { cfg with gc := false } P :=
  doFix_congr tgt tgt anti anti ref ref _ _ P rfl rfl (C04x.loadAdjust_gc_skipped tgt ref true _ _ _ _ _ _ h)
    (C04x.loadAdjust_gc_skipped anti ref false _ _ _ _ _ none h)

/-- a reference WITHOUT an rmask column: `fix` with the RepeatMasker correction on is `fix --no-rmask` -/
theorem missing_rmask_column_means_no_rmask_correction (tgt anti : List SRow) (ref : List RRow) (cfg : FixCfg) (P : FixParams)
    (h : ∀ r ∈ ref, r.rmask = none) :
    doFix tgt anti ref { cfg with rmask := true } P = doFix tgt anti ref { cfg with rmask := false } P :=
  doFix_congr tgt tgt anti anti ref ref _ _ P rfl rfl rfl (C04x.loadAdjust_rmask_skipped anti ref false _ _ _ _ _ none h)

/-- the same for one class of bins, any other switches -/
theorem class_missing_column_skips_correction (samp : List SRow) (ref : List RRow) (skipLow a b : Bool)
    (par : Option String) (perm : List Nat) (wing : Nat) (ek : Option (List Rat)) :
    ((∀ r ∈ ref, r.gc = none) → loadAdjust samp ref skipLow true a b par perm wing ek =
        loadAdjust samp ref skipLow false a b par perm wing ek) ∧
    ((∀ r ∈ ref, r.rmask = none) → loadAdjust samp ref skipLow a b true par perm wing ek =
        loadAdjust samp ref skipLow a b false par perm wing ek) :=
  ⟨C04x.loadAdjust_gc_skipped samp ref skipLow a b par perm wing ek, C04x.loadAdjust_rmask_skipped samp ref skipLow a b par perm wing ek⟩

/-! non-vacuity -/
example : ∀ r ∈ [(⟨"chr1", 0, 100, "A", 0, 1, none, some (1/2), 0⟩ : RRow)], r.gc = none := by decide

end CnvVerif.C04
