/-
  C19 — robust estimators and smoothers obey their defining invariants.
  Property theorems only; helper lemmas live in Lemmas/OrderStat.lean and Quantile.lean (order statistics),
  Lemmas/Descriptives.lean (unweighted scale estimators), Lemmas/DescWeighted.lean and DescWeightedTies.lean (weighted median / MAD / standard deviation; `ValidOrder`),
  Lemmas/DescBiweight.lean (biweight location and midvariance) and Lemmas/Smoothing.lean.

  Vocabulary.  `ValidOrder o p`: `o` is a permutation of the row indices of `p` that sorts the values — all that is
  known of `ndarray.argsort`.  A weighted sample is a list of pairs (value, weight); `shiftP c` / `scaleP k` add a constant
  to / rescale the values; `wBelow m p`, `wAbove m p` are the total weights of the values `< m`, `> m`;
  `totalW p` the total weight.  `order` is the permutation `argsort` returned (numpy's default sort is not
  stable, so the theorems hold for *every* permutation that sorts the values).  Estimators ending in a square
  root are stated on the radicand.  `none` = NaN.  "defect N/O", "finding P": DESIGN.md 9.3.
-/
import CnvVerif.Lemmas.Descriptives
import CnvVerif.Lemmas.DescWeighted
import CnvVerif.Lemmas.DescWeightedTies
import CnvVerif.Lemmas.DescBiweight
import CnvVerif.Lemmas.Smoothing
namespace CnvVerif.C19
open CnvVerif CnvVerif.Desc CnvVerif.Smooth CnvVerif.Generated

/-! ## the constants of the source are the published ones -/

theorem constants_as_published :
    MAD_SCALE_dec = 7413 / 5000 ∧ MAD_SCALE_WEIGHTED_dec = 7413 / 5000 ∧ MAD_SCALE_BIVAR_dec = 7413 / 5000 ∧
    BILOC_C_dec = 6 ∧ BILOC_EPS_dec = 1 / 1000 ∧ BILOC_MAX_ITER = 5 ∧ BIVAR_C_dec = 9 ∧ BIVAR_EPS_dec = 1 / 1000 ∧
    IQR_Q_HI = 75 ∧ IQR_Q_LO = 25 ∧ QN_Q = 25 ∧ QN_N_SMALL = 10 ∧ QN_N_MID_LO = 10 ∧ QN_N_LARGE = 400 ∧
    QN_SCALE_SMALL_dec = 174 / 125 ∧ QN_SCALE_MID_BASE_dec = 1 ∧ QN_NUM = 4 ∧ QN_SCALE_LARGE_dec = 1 ∧
    MIN_WING = 3 ∧ SAVGOL_WINDOW_WIDTH = 7 ∧ SAVGOL_ORDER = 3 := by decide +kernel

/-- the doubles Python multiplies with are the decimals written in the source, to 1e-15 -/
theorem constants_doubles_close :
    |MAD_SCALE - MAD_SCALE_dec| < 1 / 10 ^ 15 ∧ |MAD_SCALE_WEIGHTED - MAD_SCALE_WEIGHTED_dec| < 1 / 10 ^ 15 ∧
    |MAD_SCALE_BIVAR - MAD_SCALE_BIVAR_dec| < 1 / 10 ^ 15 ∧ |BILOC_EPS - BILOC_EPS_dec| < 1 / 10 ^ 15 ∧
    |BIVAR_EPS - BIVAR_EPS_dec| < 1 / 10 ^ 15 ∧ |QN_SCALE_SMALL - QN_SCALE_SMALL_dec| < 1 / 10 ^ 15 := by decide +kernel

/-- biweight location lies within the data range -/
theorem biweight_location_in_range (a : List Rat) (ha : a ≠ []) (lo hi : Rat) (h : ∀ x ∈ a, lo ≤ x ∧ x ≤ hi) :
    lo ≤ biweightLocationCore false a none ∧ biweightLocationCore false a none ≤ hi :=
  biweightLocationCore_in_range_of a none lo hi (median_mem_range a ha lo hi h) h

/-- … and moves with the data when a constant is added -/
theorem biweight_location_translation (a : List Rat) (ha : a ≠ []) (t : Rat) :
    biweightLocationCore false (a.map (· + t)) none = biweightLocationCore false a none + t := by
  rw [biweightLocationCore_def, biweightLocationCore_def, Option.getD_none, Option.getD_none, median_map_add t a ha]
  exact bilocLoop_shift _ _ _ t (fun x => bilocIter_shift _ _ a x t) _ _

/-- every step of the iteration is the published one-step biweight location
    `M + Σ_{|u|<1}(x−M)(1−u²)² / Σ_{|u|<1}(1−u²)²`, `u = (x−M)/max(c·MAD, ε)` -/
theorem biweight_step_published (a : List Rat) (M : Rat) :
    bilocIter BILOC_C BILOC_EPS a M = publishedBiweightStep BILOC_C BILOC_EPS a M :=
  bilocIter_published BILOC_C BILOC_EPS a M

/-- the points inside the cut-off always carry positive total weight: the formula is always applied -/
theorem biweight_weights_positive (a : List Rat) (M : Rat) (ha : a ≠ []) :
    0 < (((a.map (· - M)).filter (fun x => decide (absR (x / max (BILOC_C * median ((a.map (· - M)).map absR)) BILOC_EPS) < 1))).map
      (biw (max (BILOC_C * median ((a.map (· - M)).map absR)) BILOC_EPS))).sum :=
  have ⟨hs, _, hx, hxs⟩ := exists_below_scale BILOC_C BILOC_EPS (a.map (· - M)) (mt List.map_eq_nil_iff.mp ha)
    (by unfold BILOC_C; norm_num) (by unfold BILOC_EPS; norm_num)
  biwSum_pos hs hx hxs

/-- before the repair (defect O) a step was not the published one: the point at 8 lies 4/3 cut-offs from 0 and kept
    weight 49/81, the three exact zeros were dropped -/
theorem biweight_prefix_counterexample :
    bilocIterPrefix 6 (1 / 1000) [0, 0, 0, 1, 1, -2, 8] 0 = 3337 / 2129 ∧
    publishedBiweightStep 6 (1 / 1000) [0, 0, 0, 1, 1, -2, 8] 0 = 67 / 1227 := by
  have cx_data : List.map absR (List.map (fun x => x - 0) [0, 0, 0, 1, 1, -2, 8]) = [0, 0, 0, 1, 1, 2, 8] := by decide +kernel
  have cx_med : median [0, 0, 0, 1, 1, 2, 8] = (1 : Rat) := by
    rw [median_def, sortR_of_sorted (by decide +kernel)]; decide +kernel
  constructor
  · unfold bilocIterPrefix; simp only [cx_data, cx_med]; decide +kernel
  · rw [← bilocIter_published]; unfold bilocIter; simp only [cx_data, cx_med]; decide +kernel

/-- the mode is one of the data values, for any density estimate -/
theorem mode_is_data_value (sarr dens : List Rat) (hne : dens ≠ []) (hlen : dens.length = sarr.length) :
    modalCore sarr dens ∈ sarr :=
  nth_mem _ _ (hlen ▸ (argmax_spec dens hne).1)

/-- … and moves with the data when the density estimate does -/
theorem mode_translation (sarr dens : List Rat) (c : Rat) (hne : dens ≠ []) (hlen : dens.length = sarr.length) :
    modalCore (sarr.map (· + c)) dens = modalCore sarr dens + c :=
  nth_map _ _ _ (hlen ▸ (argmax_spec dens hne).1)

/-- **half weights**: weight(values < m) ≤ half and weight(values > m) ≤ half of the total weight, up to the
    rounding allowance `midpoint·n·ε` the code grants its cumulative sum -/
theorem wmedian_half_weights (order : List Nat) (p : List (Rat × Rat))
    (hperm : order.Perm (List.range p.length)) (hsorted : SortedByValue (permute order p))
    (hw : ∀ q ∈ p, 0 ≤ q.2) (hpos : 0 < totalW p) :
    wBelow (weightedMedianCore false order p) p ≤ totalW p / 2 + wmedTol p ∧
    wAbove (weightedMedianCore false order p) p ≤ totalW p / 2 + wmedTol p := by
  have hp := permute_perm order p hperm
  have hw' : ∀ q ∈ permute order p, 0 ≤ q.2 := fun q hq => hw q (hp.mem_iff.mp hq)
  have := wmedSorted_half_weights (wmedTol (permute order p)) (permute order p) hsorted hw'
    (by rw [totalW_perm hp]; exact hpos) (wmedTol_nonneg _ hw')
  rw [wBelow_perm hp, wAbove_perm hp, totalW_perm hp, wmedTol_perm hp] at this
  rw [weightedMedianCore_def, wmedTol_perm hp]
  exact this

/-- with an exact comparison (allowance 0) the bound is exactly half -/
theorem wmedian_half_weights_exact (p : List (Rat × Rat)) (hs : SortedByValue p)
    (hw : ∀ q ∈ p, 0 ≤ q.2) (hpos : 0 < totalW p) :
    wBelow (wmedSorted 0 p) p ≤ totalW p / 2 ∧ wAbove (wmedSorted 0 p) p ≤ totalW p / 2 := by
  have := wmedSorted_half_weights 0 p hs hw hpos (le_refl 0)
  rwa [add_zero] at this

/-- equal positive weights: the ordinary median -/
theorem wmedian_eq_median_equal_weights (order : List Nat) (p : List (Rat × Rat)) (c : Rat)
    (hperm : order.Perm (List.range p.length)) (hsorted : SortedByValue (permute order p))
    (hn : 2 ≤ p.length) (hn' : p.length < 2 ^ 26) (hc : 0 < c) (hw : ∀ q ∈ p, q.2 = c) :
    weightedMedianCore false order p = median (p.map (·.1)) := by
  have hp := permute_perm order p hperm
  have hw' : ∀ q ∈ permute order p, q.2 = c := fun q hq => hw q (hp.mem_iff.mp hq)
  rw [weightedMedianCore_def, wmedSorted_equal_weights _ c _ hsorted (by rw [hp.length_eq]; exact hn) hw'
    (wmedTol_nonneg _ (fun q hq => by rw [hw' q hq]; exact le_of_lt hc))
    (wmedTol_small c _ hc hw' (by rw [hp.length_eq]; exact hn'))]
  exact median_eq_of_perm (hp.map _)

theorem wmedian_in_range (order : List Nat) (p : List (Rat × Rat)) (hne : order ≠ [])
    (hidx : ∀ i ∈ order, i < p.length) (hw : ∀ q ∈ p, 0 ≤ q.2) (lo hi : Rat) (h : ∀ q ∈ p, lo ≤ q.1 ∧ q.1 ≤ hi) :
    lo ≤ weightedMedianCore false order p ∧ weightedMedianCore false order p ≤ hi :=
  (weightedMedianCore_inHull order p hne hidx hw).range (List.forall_mem_map.mpr h)

/-- moves with the data when a constant is added — whatever sorting permutations `argsort` returns before and after -/
theorem wmedian_translation (o o' : List Nat) (p : List (Rat × Rat)) (c : Rat) (hp : p ≠ [])
    (hw : ∀ q ∈ p, 0 ≤ q.2) (h : ValidOrder o p) (h' : ValidOrder o' (shiftP c p)) :
    weightedMedianCore false o' (shiftP c p) = weightedMedianCore false o p + c :=
  weightedMedianCore_mapV_any_order (· + c) 1 c (add_affine c) zero_le_one o o' p (Or.inl hp) hw h h'

/-- the order numpy's unstable sort gives to tied values is unobservable -/
theorem wmedian_tie_order_unobservable (o o' : List Nat) (p : List (Rat × Rat)) (hw : ∀ q ∈ p, 0 ≤ q.2)
    (h : ValidOrder o p) (h' : ValidOrder o' p) : weightedMedianCore false o p = weightedMedianCore false o' p :=
  weightedMedianCore_order_independent o o' p hw h h'

/-- before the repair (defect N): three equally weighted values 1, 2, 3 gave 3/2, with two thirds of the
    weight above it -/
theorem wmedian_prefix_counterexample :
    wmedSortedPrefix [(1, 1), (2, 1), (3, 1)] = 3 / 2 ∧
    ¬ (wAbove (3 / 2) [(1, 1), (2, 1), (3, 1)] ≤ totalW [(1, 1), (2, 1), (3, 1)] / 2) := by decide +kernel

/-! ## scale estimators: non-negative, zero for constant data, shift-invariant, proportional under rescaling -/

theorem mad_nonneg (a : List Rat) : 0 ≤ madCore a := madCore_nonneg a true
theorem mad_zero_on_constant (a : List Rat) (c : Rat) (h : ∀ x ∈ a, x = c) : madCore a = 0 := madCore_const a c h true
theorem mad_shift_invariant (a : List Rat) (c : Rat) : madCore (a.map (· + c)) = madCore a := madCore_shift a c true
theorem mad_proportional (a : List Rat) (k : Rat) (hk : 0 ≤ k) : madCore (a.map (k * ·)) = k * madCore a :=
  madCore_scale a k hk true

theorem iqr_nonneg (a : List Rat) (ha : a ≠ []) : 0 ≤ iqrCore a :=
  sub_nonneg.mpr (quantile_mono a ha _ _ iqr_levels.1 iqr_levels.2.1 iqr_levels.2.2)
theorem iqr_zero_on_constant (a : List Rat) (ha : a ≠ []) (c : Rat) (h : ∀ x ∈ a, x = c) : iqrCore a = 0 := by
  obtain ⟨h0, h12, h1⟩ := iqr_levels
  unfold iqrCore
  rw [(quantile_inHull ha (le_trans h0 h12) h1).eq_const h, (quantile_inHull ha h0 (le_trans h12 h1)).eq_const h, sub_self]
theorem iqr_shift_invariant (a : List Rat) (ha : a ≠ []) (c : Rat) : iqrCore (a.map (· + c)) = iqrCore a :=
  iqrCore_shift a ha c
theorem iqr_proportional (a : List Rat) (ha : a ≠ []) (k : Rat) (hk : 0 ≤ k) : iqrCore (a.map (k * ·)) = k * iqrCore a := by
  obtain ⟨h0, h12, h1⟩ := iqr_levels
  unfold iqrCore
  rw [quantile_map_mul k hk a _ ha (le_trans h0 h12) h1, quantile_map_mul k hk a _ ha h0 (le_trans h12 h1), mul_sub]

theorem gapper_nonneg (a : List Rat) : 0 ≤ gapperCore a := by
  rw [gapperCore_def]
  refine div_nonneg (List.sum_nonneg (fun t ht => ?_)) (Nat.cast_nonneg _)
  obtain ⟨d, hd, m, rfl⟩ := mem_gapTerms ht
  obtain ⟨x, y, hxy, rfl⟩ := mem_diffs (sortR_sorted a) hd
  exact mul_nonneg (sub_nonneg.mpr hxy) (Nat.cast_nonneg m)
theorem gapper_zero_on_constant (a : List Rat) (c : Rat) (h : ∀ x ∈ a, x = c) : gapperCore a = 0 := by
  rw [gapperCore_def, List.sum_eq_zero (fun t ht => ?_), zero_div]
  obtain ⟨d, hd, m, rfl⟩ := mem_gapTerms ht
  rw [diffs_of_const (fun x hx => h x (mem_sortR.mp hx)) d hd, zero_mul]
theorem gapper_shift_invariant (a : List Rat) (c : Rat) : gapperCore (a.map (· + c)) = gapperCore a := by
  rw [gapperCore_def, gapperCore_def, sortR_map_mono _ (affine_mono (add_affine c) zero_le_one), diffs_map _ id (fun x y => add_sub_add_right_eq_sub y x c),
    List.map_id, List.length_map]
theorem gapper_proportional (a : List Rat) (k : Rat) (hk : 0 ≤ k) : gapperCore (a.map (k * ·)) = k * gapperCore a := by
  rw [gapperCore_def, gapperCore_def, sortR_map_mono _ (affine_mono (mul_affine k) hk), diffs_map _ (k * ·) (fun x y => (mul_sub k y x).symm),
    List.length_map, gapTerms_map_mul, sum_map_mul, mul_div_assoc]

theorem qn_nonneg (a : List Rat) (h : 2 ≤ a.length) : 0 ≤ qnCore a :=
  div_nonneg ((quantile_inHull (pairDiffs_ne_nil a h) qn_level.1 qn_level.2).ge (fun d hd => by
    obtain ⟨x, _, y, _, rfl⟩ := mem_pairDiffs hd; exact absR_nonneg _)) (le_of_lt (qnScale_pos _))
theorem qn_zero_on_constant (a : List Rat) (h : 2 ≤ a.length) (c : Rat) (hc : ∀ x ∈ a, x = c) : qnCore a = 0 := by
  unfold qnCore
  rw [(quantile_inHull (pairDiffs_ne_nil a h) qn_level.1 qn_level.2).eq_const (c := 0) (fun d hd => by
    obtain ⟨x, hx, y, hy, rfl⟩ := mem_pairDiffs hd; rw [hc x hx, hc y hy, absR_sub_self]), zero_div]
theorem qn_shift_invariant (a : List Rat) (c : Rat) : qnCore (a.map (· + c)) = qnCore a := by
  unfold qnCore
  rw [pairDiffs_map _ id (fun x y => congrArg absR (add_sub_add_right_eq_sub x y c)), List.map_id, List.length_map]
theorem qn_proportional (a : List Rat) (h : 2 ≤ a.length) (k : Rat) (hk : 0 ≤ k) : qnCore (a.map (k * ·)) = k * qnCore a := by
  unfold qnCore
  rw [pairDiffs_map _ (k * ·) (fun x y => by rw [← mul_sub, absR_mul _ _ hk]), List.length_map,
    quantile_map_mul k hk _ _ (pairDiffs_ne_nil a h) qn_level.1 qn_level.2, mul_div_assoc]

/-- biweight midvariance: the value returned, or the radicand of the root returned, is non-negative … -/
theorem bivar_nonneg (a : List Rat) (initial : Option Rat) :
    (∀ v, bivarCore false a initial = .direct v → 0 ≤ v) ∧ (∀ r, bivarCore false a initial = .root r → 0 ≤ r) := by
  rw [bivarCore_eq_tail]
  exact bivarTail_nonneg _ _ _ (mul_nonneg (median_nonneg _ (List.forall_mem_map.mpr (fun _ _ => absR_nonneg _))) (le_of_lt MAD_SCALE_BIVAR_pos))
/-- … and constant data give 0 (through the MAD fall-back taken on exactly symmetric data) -/
theorem bivar_zero_on_constant (a : List Rat) (ha : a ≠ []) (c : Rat) (h : ∀ x ∈ a, x = c) :
    bivarCore false a none = .direct 0 := by
  have hloc : biweightLocationCore false a none = c :=
    eq_of_range (biweight_location_in_range a ha c c (const_range h))
  rw [bivarCore_eq_tail, Option.getD_none, hloc, bivarTail_of_zero _ _ _
    (List.forall_mem_map.mpr (fun y hy => by rw [h y hy, sub_self]))]
  rw [median_const _ (mt List.map_eq_nil_iff.mp (mt List.map_eq_nil_iff.mp ha)) 0
    (List.forall_mem_map.mpr (List.forall_mem_map.mpr (fun z hz => by rw [h z hz, absR_sub_self]))), zero_mul]

/-- weighted standard deviation, stated on the variance whose root is returned -/
theorem wstd_nonneg (p : List (Rat × Rat)) (hw : ∀ q ∈ p, 0 ≤ q.2) (v : Rat) (h : weightedVarCore p = some v) : 0 ≤ v := by
  rw [weightedVarCore_def] at h
  cases hm : wavg p with
  | none => rw [hm] at h; cases h
  | some m =>
    rw [hm] at h
    exact wavg_nonneg _ (fun q hq => by obtain ⟨r, _, rfl⟩ := List.mem_map.mp hq; exact sq_nonneg' _)
      (weights_mapV (f := fun x => Desc.sq (x - m)) hw) v h
theorem wstd_zero_on_constant (p : List (Rat × Rat)) (c : Rat) (hc : ∀ q ∈ p, q.1 = c) (ht : totalW p ≠ 0) :
    weightedVarCore p = some 0 := by
  rw [weightedVarCore_def, wavg_const p c hc ht]
  exact wavg_const _ 0 (List.forall_mem_map.mpr (fun r hr => by rw [hc r hr, sub_self]; exact mul_zero 0))
    ((totalW_mapV (fun x => Desc.sq (x - c)) p).trans_ne ht)
theorem wstd_shift_invariant (c : Rat) (p : List (Rat × Rat)) : weightedVarCore (shiftP c p) = weightedVarCore p :=
  (weightedVar_mapV (· + c) 1 c (add_affine c) p).trans (by simp)
/-- the variance scales with `k²`, i.e. the standard deviation with `|k|` -/
theorem wstd_proportional (k : Rat) (p : List (Rat × Rat)) :
    weightedVarCore (scaleP k p) = (weightedVarCore p).map (fun v => k * k * v) :=
  weightedVar_mapV (k * ·) k 0 (mul_affine k) p
theorem wstd_published (p : List (Rat × Rat)) (ht : totalW p ≠ 0) :
    weightedVarCore p = some ((p.map (fun q => q.2 * (q.1 - (p.map (fun r => r.2 * r.1)).sum / totalW p) ^ 2)).sum / totalW p) := by
  have e1 : (p.map (fun q => q.1 * q.2)) = (p.map (fun r => r.2 * r.1)) :=
    List.map_congr_left (fun q _ => mul_comm _ _)
  rw [weightedVarCore_def, wavg_def, if_neg ht]
  show wavg (mapV (fun x => Desc.sq (x - _)) p) = _
  rw [wavg_def, totalW_mapV, if_neg ht, e1]
  unfold mapV
  rw [List.map_map]
  exact congrArg (fun l : List Rat => some (l.sum / totalW p))
    (List.map_congr_left (fun q _ => by simp only [Function.comp, Desc.sq]; ring))

/-- weighted MAD, for whatever index lists `argsort` returned for the values (`o1`) and the deviations (`o2`) -/
theorem wmad_nonneg (o1 o2 : List Nat) (p : List (Rat × Rat)) (hne : o2 ≠ [])
    (hidx : ∀ i ∈ o2, i < p.length) (hw : ∀ q ∈ p, 0 ≤ q.2) : 0 ≤ weightedMadCore false o1 o2 p :=
  weightedMadCore_nonneg o1 o2 p true hne hidx hw
theorem wmad_zero_on_constant (o1 o2 : List Nat) (p : List (Rat × Rat)) (hne1 : o1 ≠ []) (hne2 : o2 ≠ [])
    (hidx1 : ∀ i ∈ o1, i < p.length) (hidx2 : ∀ i ∈ o2, i < p.length) (hw : ∀ q ∈ p, 0 ≤ q.2)
    (c : Rat) (hc : ∀ q ∈ p, q.1 = c) : weightedMadCore false o1 o2 p = 0 :=
  weightedMadCore_const o1 o2 p true hne1 hne2 hidx1 hidx2 hw c hc
theorem wmad_shift_invariant (o1 o2 o1' o2' : List Nat) (p : List (Rat × Rat)) (c : Rat) (hp : p ≠ [])
    (hw : ∀ q ∈ p, 0 ≤ q.2)
    (h1 : ValidOrder o1 p) (h2 : ValidOrder o2 (devP (weightedMedianCore false o1 p) p))
    (h1' : ValidOrder o1' (shiftP c p))
    (h2' : ValidOrder o2' (devP (weightedMedianCore false o1' (shiftP c p)) (shiftP c p))) :
    weightedMadCore false o1' o2' (shiftP c p) = weightedMadCore false o1 o2 p :=
  (weightedMadCore_mapV_any_order (· + c) 1 c (add_affine c) zero_le_one o1 o2 o1' o2' p true (Or.inl hp) hw h1 h2 h1' h2').trans
    (one_mul _)
theorem wmad_proportional (o1 o2 o1' o2' : List Nat) (p : List (Rat × Rat)) (k : Rat) (hk : 0 ≤ k)
    (hw : ∀ q ∈ p, 0 ≤ q.2)
    (h1 : ValidOrder o1 p) (h2 : ValidOrder o2 (devP (weightedMedianCore false o1 p) p))
    (h1' : ValidOrder o1' (scaleP k p))
    (h2' : ValidOrder o2' (devP (weightedMedianCore false o1' (scaleP k p)) (scaleP k p))) :
    weightedMadCore false o1' o2' (scaleP k p) = k * weightedMadCore false o1 o2 p :=
  weightedMadCore_mapV_any_order (k * ·) k 0 (mul_affine k) hk o1 o2 o1' o2' p true (Or.inr (mul_zero k)) hw h1 h2 h1' h2'

/-- a single value (after NaN removal) has scale 0: the `on_array(0)` / `on_weighted_array(0)` decorators -/
theorem scale_of_single_value_is_zero (f : List Rat → Option Rat) (g : List (Rat × Rat) → Option Rat) (x w : Rat) :
    onArray (some 0) f [some x] = some 0 ∧ onWeighted (some 0) g [some x] [some w] = .val (some 0) :=
  ⟨rfl, rfl⟩

/-- NaN entries are ignored by the decorated estimators -/
theorem nan_ignored (d : Option Rat) (f : List Rat → Option Rat) (a : List (Option Rat)) :
    onArray d f a = onArray d f ((a.filterMap id).map some) := by
  unfold onArray
  rw [filterMap_id_map_some]

/-! ## smoothers: one value per input, constants reproduced, values within the input's range under a non-negative window -/

/-- every width `_width2wing` accepts (fraction, integer, wider than the signal) gives a half-window between 1
    and `n − 1`: the mirrored padding is always available -/
theorem accepted_width_bounds (width : Rat) (n wing : Nat) (h : width2wing width n = .ok wing) :
    1 ≤ wing ∧ wing + 1 ≤ n := width2wing_bounds width n wing h

theorem rolling_median_one_value_per_input (x : List Rat) (width : Rat) (y : List Rat)
    (h : rollingMedian x width = .ok y) : y.length = x.length := rollingMedian_length x width y h
theorem rolling_median_in_range (x : List Rat) (width : Rat) (y : List Rat) (h : rollingMedian x width = .ok y)
    (lo hi : Rat) (hx : ∀ v ∈ x, lo ≤ v ∧ v ≤ hi) : ∀ v ∈ y, lo ≤ v ∧ v ≤ hi :=
  fun v hv => (rollingMedian_inHull h v hv).range hx
theorem rolling_median_constant_reproduced (n : Nat) (c width : Rat) (y : List Rat)
    (h : rollingMedian (List.replicate n c) width = .ok y) : y = List.replicate n c := by
  exact List.eq_replicate_iff.mpr ⟨(rollingMedian_length _ _ _ h).trans List.length_replicate,
    fun v hv => (rollingMedian_inHull h v hv).eq_const fun _ hu => (List.mem_replicate.mp hu).2⟩

theorem kaiser_one_value_per_input (x : List Rat) (width : Rat) (window y : List Rat)
    (h : kaiser x width window = .ok y) : y.length = x.length := by
  rcases kaiser_ok h with ⟨_, rfl⟩ | ⟨wing, hw, rfl⟩
  · rfl
  · rw [length_unpad, convSame_length, length_padArray x wing (Nat.le_of_succ_le (width2wing_bounds _ _ _ hw).2),
      Nat.add_sub_cancel]
/-- a non-negative window of positive sum (the Kaiser window) keeps the output within the input range -/
theorem kaiser_in_range (x : List Rat) (width : Rat) (window y : List Rat) (h : kaiser x width window = .ok y)
    (hwin : ∀ wing, width2wing width x.length = .ok wing → window.length = 2 * wing + 1)
    (hnn : ∀ v ∈ window, 0 ≤ v) (hpos : 0 < window.sum)
    (lo hi : Rat) (hx : ∀ v ∈ x, lo ≤ v ∧ v ≤ hi) : ∀ v ∈ y, lo ≤ v ∧ v ≤ hi :=
  Smooth.kaiser_in_range x width window y h hwin hnn hpos lo hi hx
theorem kaiser_constant_reproduced (n : Nat) (c width : Rat) (window y : List Rat)
    (h : kaiser (List.replicate n c) width window = .ok y)
    (hwin : ∀ wing, width2wing width n = .ok wing → window.length = 2 * wing + 1)
    (hsum : window.sum ≠ 0) : y = List.replicate n c := by
  rcases kaiser_ok h with ⟨_, rfl⟩ | ⟨wing, hw, rfl⟩
  · rfl
  · rw [List.length_replicate] at hw
    exact unpad_iterate_convSame_const (normalise window) wing (by rw [normalise_length, hwin wing hw])
      (normalise_sum window hsum) 1 n wing c (Nat.le_of_eq (Nat.one_mul wing))
      (Nat.le_of_succ_le (width2wing_bounds _ _ _ hw).2)

theorem savgol_one_value_per_input (x : List Rat) (tw : Option Rat) (ww ord it : Nat) (coeffs y : List Rat)
    (h : savgol x tw ww ord it coeffs = .ok y) : y.length = x.length := by
  rcases savgol_ok h with ⟨_, rfl⟩ | ⟨g, hg, rfl⟩
  · rfl
  · rw [length_unpad, iterate_length _ (convSame_length coeffs),
      length_padArray x g.1 (Nat.le_of_succ_le (savgolGeometry_wing hg).2), Nat.add_sub_cancel]
/-- coefficients summing to 1 (any polynomial order ≥ 0) reproduce a constant signal, for every number of passes the
    geometry allows -/
theorem savgol_constant_reproduced (n : Nat) (c : Rat) (tw : Option Rat) (windowWidth ord it : Nat) (coeffs y : List Rat)
    (hodd : windowWidth % 2 = 1) (hsum : coeffs.sum = 1)
    (hlen : ∀ g, savgolGeometry n tw windowWidth ord it = .ok g → coeffs.length = g.2.1)
    (h : savgol (List.replicate n c) tw windowWidth ord it coeffs = .ok y) : y = List.replicate n c := by
  rcases savgol_ok h with ⟨_, rfl⟩ | ⟨g, hg, rfl⟩
  · rfl
  · rw [List.length_replicate] at hg
    have hwidth := savgolGeometry_width hg
    exact unpad_iterate_convSame_const coeffs ((g.2.1 - 1) / 2) (by rw [hlen g hg]; omega) hsum _ n g.1 c
      (savgolGeometry_reach hg) (Nat.le_of_succ_le (savgolGeometry_wing hg).2)

theorem savgol_weighted_one_value_per_input (x w : List Rat) (tw : Option Rat) (ww ord it : Nat) (coeffs : List Rat)
    (y : List (Option Rat)) (hw : w.length = x.length) (h : savgolWeighted x w tw ww ord it coeffs = .ok y) :
    y.length = x.length := by
  rcases savgolWeighted_ok h with ⟨_, rfl⟩ | ⟨g, hg, rfl⟩
  · exact List.length_map _
  · have hwl := length_weights_of_geometry hg hw
    rw [length_unpad, iterate_cwStep_length _ _ _ _ (by
      rw [List.length_map, length_padArray x g.1 (Nat.le_of_succ_le (savgolGeometry_wing hg).2), hwl]), hwl,
      Nat.add_sub_cancel]

/-- one weighted convolution pass (`cwStep`, the step `savgol` repeats) on a constant signal gives the quotient
    `D_i/N_i = c·N_i/N_i`: it is defined, and equal to the constant, exactly where the weighted window sum `N_i` is not 0 -/
theorem weighted_conv_defined (win w : List Rat) (c : Rat) :
    (cwStep win (List.replicate w.length (some c), w)).1 =
      (convSame win w).map (fun N => if N = 0 then none else some c) := cwStep_const win w c

/-- positivity of the weights does not give `N_i ≠ 0` (finding P): the 7-point cubic window has negative lobes, and
    the strictly positive weights (4, 1, ¼, ¼, ¼, ¼, ¼, written below in the reverse order) make the sum at
    position 3 vanish; second conjunct: so do all-zero weights -/
theorem weighted_savgol_zero_denominator :
    (convSame (normalise [-2 / 21, 3 / 21, 6 / 21, 7 / 21, 6 / 21, 3 / 21, -2 / 21]) [1 / 4, 1 / 4, 1 / 4, 1 / 4, 1 / 4, 1, 4]).getD 3 1 = 0 ∧
    (convSame (normalise [-2 / 21, 3 / 21, 6 / 21, 7 / 21, 6 / 21, 3 / 21, -2 / 21]) [0, 0, 0, 0, 0, 0, 0]).getD 3 1 = 0 := by
  decide +kernel

/-! ## non-vacuity -/

example : width2wing (1 / 4) 40 = .ok 5 := by decide +kernel
example : width2wing 1000 6 = .ok 3 := by decide +kernel
example : width2wing 3 1 = .error .assertionError := by decide +kernel
example : [0, 1, 2].Perm (List.range [((1 : Rat), (1 : Rat)), (2, 1), (3, 1)].length) := by decide
example : SortedByValue (permute [0, 1, 2] [((1 : Rat), (1 : Rat)), (2, 1), (3, 1)]) := by decide +kernel
example : ValidOrder [1, 3, 0, 2] [((3 : Rat), (0 : Rat)), (1, 1), (4, 2), (2, 1)] := ⟨by decide, by decide +kernel⟩
example : weightedMedianCore false [0, 1, 2] [(1, 1), (2, 1), (3, 1)] = 2 := by decide +kernel
example : weightedMedianCore false [1, 3, 0, 2] [(3, 0), (1, 1), (4, 2), (2, 1)] = 3 := by decide +kernel
example : rollingMedian [5] 3 = .ok [5] := by decide +kernel
example : rollingMedianPrefix [5] 3 = .error .assertionError := by decide +kernel

end CnvVerif.C19
