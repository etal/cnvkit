/-
  C12: tie to the source TEXT (`shorten_labels`, `shortest_name`).  The definitions `Generated.src_shorten_labels_*` and
  `src_shortest_name*` of Generated/ExprsShorten.lean are re-read from /repo's cnvlib/target.py on every run by
  harness/shortentrans.py (generator loop over sets of names); these theorems state that the hand-written model
  functions ARE those definitions, for all arguments.  `filter_names` enters as `filterNames`, tied by
  Props/C12SrcNames.
-/
import CnvVerif.Props.C12
import CnvVerif.Lemmas.SrcBinsShorten
set_option linter.unusedSimpArgs false
namespace CnvVerif.C12
open CnvVerif CnvVerif.Generated

/-- the model of `shorten_labels` IS the source's loop: initial state, one step per label, emission after the loop -/
theorem shorten_labels_is_the_source_loop (labels : List String) :
    shortenLabels labels =
      Py.genLoop (fun st l => src_shorten_labels_step filterNames shortestNames st.1 st.2 l)
        (fun st => src_shorten_labels_final filterNames shortestNames st.1 st.2) src_shorten_labels_init labels := by
  unfold shortenLabels src_shorten_labels_init
  exact Src.c12n_shortenGo_is_source [] 0 labels

/-- `set(label.rstrip().split(","))` as the source spells it is the model's `labelNames` -/
theorem label_names_is_the_source (label : String) :
    C12N.pySet (C12N.pySplit ',' (C12N.pyRstrip label)) = labelNames label := Src.c12n_labelNames_is_prims label

/-- the `DB|accession` trimming of `shortest_name` IS the source's `if len(name) > 2 and "|" in name[1:-1]: …` -/
theorem pipe_trim_is_the_source (name : String) : pipeTrim name = src_shortest_name_trim name := by
  unfold pipeTrim src_shortest_name_trim
  simp only [C12N.pyLen, C12N.pyInnerContains, C12N.pySplitLast, lastPipeSegment]
  by_cases h1 : 2 < name.toList.length <;>
    by_cases h2 : ((name.toList.drop 1).dropLast).contains '|' = true <;>
    simp [h1, h2]

/-- `shortest_name`: the model's candidates are the source's `min(filter_names(names), key=len)` candidates, trimmed -/
theorem shortest_names_is_the_source (names : List String) :
    shortestNames names = (src_shortest_name filterNames names).eraseDups := by
  have h : src_shortest_name_trim = pipeTrim := funext (fun n => (pipe_trim_is_the_source n).symm)
  unfold shortestNames src_shortest_name C12N.pyMinsByLen
  rw [h]

end CnvVerif.C12
