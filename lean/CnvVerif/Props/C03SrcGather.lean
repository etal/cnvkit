/-
  C03: tie of the gather glue to the source TEXT of `do_segmentation` (Generated/ExprsSegGather.lean, re-read
  on every run by harness/extractors/exprs_seggather.py; reading rules at its top).
-/
import CnvVerif.Generated.ExprsSegGather
import CnvVerif.Model.TileGatherExt5
namespace CnvVerif.C03
open CnvVerif CnvVerif.C03Gather CnvVerif.Generated

/-- the model's branch test IS the source's, for every method string -/
theorem whole_table_test_is_the_source (method : String) : src_segment_whole_table method = wholeTable method := by
  unfold src_segment_whole_table wholeTable
  cases (method == "flasso") <;> cases (method.startsWith "hmm") <;> rfl

/-- the pool's results are gathered in submission order (`pool.map`), over `by_arm` units, joined by `concat`, and only
    the columns are re-sorted afterwards -/
theorem gather_discipline_is_the_source :
    src_segment_gather_mode = "ordered" ∧ src_segment_units = "by_arm" ∧ src_segment_join = "concat" ∧
    src_segment_post = "sort_columns" := ⟨rfl, rfl, rfl, rfl⟩

/-- every task carries exactly the parameters of `_do_segmentation`, in its order; the whole-table call passes a prefix
    of them (the rest keep their defaults) -/
theorem worker_arguments_are_the_source :
    src_segment_worker_args = src_segment_worker_params ∧
    src_segment_whole_args = src_segment_worker_params.take src_segment_whole_args.length := ⟨rfl, rfl⟩

/-- `processes` reaches nothing but the choice of the pool (and the log line): the worker never sees it -/
theorem processes_only_picks_the_pool :
    src_segment_processes_uses = ["log", "pick_pool"] ∧ ¬ ("processes" ∈ src_segment_worker_args) :=
  ⟨rfl, by decide +kernel⟩

/-- the accepted methods are the ones the model's branch table lists -/
theorem methods_are_the_source :
    src_segment_methods = ["cbs", "flasso", "haar", "none", "hmm", "hmm-tumor", "hmm-germline"] := rfl

end CnvVerif.C03
