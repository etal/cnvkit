/-
  C16: the OUTER loop of `CopyNumArray.squash_genes` is tied to the source text.

  `harness/extractors/exprs_squashloop.py` re-reads on every run the statements of `squash_genes` outside the nested
  `squash_rows` -- `outrows = []`, `for name, subarr in self.by_gene(ignore)`, the `continue` on an empty group, the
  pass-through `extend` of the rows of an antitarget / ignored-name group, the `append` of ONE squashed row otherwise,
  `return self.as_rows(outrows)` -- into `Generated.src_squashloop_step` / `src_squashloop`.  Here the hand-written model
  (`squashGroup`, `squashGenes` of Model/Genes.lean, whose clauses are the theorems of Props/C16SquashLoop.lean) is
  proved EQUAL to the generated definitions for all arguments (by case analysis, not `rfl`: an equivalent spelling of
  the tests, swapped branches, `if len(..)` nesting instead of `continue`, renamed locals keep it green).
-/
import CnvVerif.Props.C16SquashLoop
import CnvVerif.Generated.ExprsSquashLoop
namespace CnvVerif.C16
open CnvVerif CnvVerif.Genes CnvVerif.Generated

/-- **source tie, one pass**: what the model lets one group contribute is the loop body of the source -/
theorem squashloop_step_is_the_source (f : Summary) (sa : Bool) (p : String × List Bin) :
    squashGroup f sa p = src_squashloop_step (squashloopRow f) sa p.1 p.2 := by
  obtain ⟨name, rows⟩ := p
  cases rows with
  | nil => simp [squashGroup, src_squashloop_step]
  | cons a as =>
    -- the same pass-through test on both sides; `squash_rows` yields the one row `squashloopRow`
    simp [squashGroup, src_squashloop_step, squashloop_rows_some]

/-- **source tie, the whole loop**: `squash_genes` of the model is the loop of the source run over the groups of
    `by_gene(ignore)`, which is what the source iterates over (its third parameter passed on), returned by `as_rows` -/
theorem squashloop_is_the_source (f : Summary) (sa : Bool) (ignore : List String) (t : List Bin) (pre : Bool) :
    squashGenes f sa ignore t pre = src_squashloop (squashloopRow f) sa (byGeneV pre ignore t) ∧
    src_squashloop_iter = ("by_gene", [src_squashloop_params.getD 2 ""]) ∧ src_squashloop_result = "as_rows" := by
  refine ⟨?_, by decide, by decide⟩
  unfold squashGenes src_squashloop
  congr 1
  funext p
  exact squashloop_step_is_the_source f sa p

end CnvVerif.C16
