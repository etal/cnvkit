/-
  C01 — what the purity path writes into log2 for EVERY ploidy (the property states the even case;
  this is what exactly holds when the ploidy is odd).  Lemmas in Lemmas/CallRescale.lean.
-/
import CnvVerif.Props.C01
import CnvVerif.Lemmas.CallRescale
namespace CnvVerif.C01
open CnvVerif

/-- for every ploidy ≥ 1, every class the reference carries (r > 0), every purity in (0,1) and every calling method:
    under the mixing premise the log2 is rewritten to the ratio of `n` copies against `assumedRefCopies` — the
    EXACT half `ploidy/2` (a rational) on Y and on X under a haploid-X reference, the ploidy elsewhere —, floored at
    `min_abs_val` of the ploidy -/
theorem rescaled_ratio_any_ploidy (cfg : CallCfg) (p : Rat) (hcfg : cfg.purity = some p)
    (hp0 : 0 < p) (hp1 : p < 1) (hpl : 0 < cfg.ploidy)
    (m : Method) (thr : List Rat) (first : String) (hasBaf : Bool) (row : SegRow) (n : Nat)
    (hr : 0 < (refExpect cfg.ploidy cfg.hapX cfg.female (classOf first cfg.par row.chrom row.s row.e)).1)
    (ht : row.t = (p * (n : Rat) +
            (1 - p) * ((refExpect cfg.ploidy cfg.hapX cfg.female (classOf first cfg.par row.chrom row.s row.e)).2 : Rat)) /
          ((refExpect cfg.ploidy cfg.hapX cfg.female (classOf first cfg.par row.chrom row.s row.e)).1 : Rat)) :
    (callRow cfg m thr first hasBaf row).ratio =
      some (max ((n : Rat) / assumedRefCopies cfg.ploidy cfg.hapX (classOf first cfg.par row.chrom row.s row.e))
                (Generated.MIN_ABS_VAL * (cfg.ploidy : Rat) /
                  assumedRefCopies cfg.ploidy cfg.hapX (classOf first cfg.par row.chrom row.s row.e))) :=
  callRow_rescaled_ratio_any cfg p hcfg hp0 hp1 hpl m thr first hasBaf row n hr ht

/-- the assumed copies against the copies `r = ploidy // 2` the table of `ref_expect_table` assigns: the same for even
    ploidy and on every full class (which gives `rescaled_ratio_even_ploidy` back); `r + 1/2` on Y / haploid X when
    the ploidy is odd -/
theorem assumed_copies_vs_reference_table (ploidy : Nat) (hapX female : Bool) (cls : CClass) (hcls : cls ≠ .pary) :
    assumedRefCopies ploidy hapX cls =
      ((refExpect ploidy hapX female cls).1 : Rat) +
        (if ploidy % 2 = 1 ∧ (cls = .y ∨ (hapX = true ∧ cls = .x)) then 1/2 else 0) :=
  assumedRefCopies_vs_table ploidy hapX female cls hcls

/-- hence, ODD ploidy, Y or haploid X, n > 0: the rewritten ratio is the pure sample's `n / r` times `r / (r + 1/2)`,
    strictly below it (ploidy 3: a male-reference X segment with n copies is written as log2(n/1.5), not log2(n/1)) -/
theorem rescaled_ratio_odd_ploidy_is_below_pure (ploidy : Nat) (hapX female : Bool) (cls : CClass)
    (hodd : ploidy % 2 = 1) (hhalf : cls = .y ∨ (hapX = true ∧ cls = .x))
    (hr : 0 < (refExpect ploidy hapX female cls).1) (n : Nat) (hn : 0 < n) :
    (n : Rat) / assumedRefCopies ploidy hapX cls < (n : Rat) / ((refExpect ploidy hapX female cls).1 : Rat) ∧
    (n : Rat) / assumedRefCopies ploidy hapX cls =
      (n : Rat) / ((refExpect ploidy hapX female cls).1 : Rat) *
        (((refExpect ploidy hapX female cls).1 : Rat) / (((refExpect ploidy hapX female cls).1 : Rat) + 1/2)) :=
  by
  have hcls : cls ≠ .pary := by
    rcases hhalf with h | ⟨_, h⟩ <;> rw [h] <;> decide
  rw [assumedRefCopies_vs_table ploidy hapX female cls hcls, if_pos ⟨hodd, hhalf⟩]
  have hr' : (0 : Rat) < ((refExpect ploidy hapX female cls).1 : Rat) := by exact_mod_cast hr
  have hn' : (0 : Rat) < (n : Rat) := by exact_mod_cast hn
  generalize ((refExpect ploidy hapX female cls).1 : Rat) = R at hr'
  constructor
  · exact div_lt_div_of_pos_left hn' hr' (lt_add_of_pos_right R (by norm_num))
  · rw [div_mul_div_comm, mul_comm (n : Rat) R, mul_div_mul_left _ _ hr'.ne']

/-! non-vacuity: ploidy 3, male reference, chrX, purity 1/2, male sample (x = 1, r = 1), n = 2: ratio t = 3/2;
    the call reports cn 2 and rewrites the ratio to 2 / 1.5 = 4/3 (a pure sample would show 2 / 1 = 2) -/
example : (callRow { ploidy := 3, purity := some (1/2), hapX := true, female := false, par := none }
    .clonal [] "chr1" false { chrom := "chrX", s := 0, e := 10, v := none, t := 3/2, baf := none }).ratio = some (4/3) := by
  decide +kernel

end CnvVerif.C01
