/-
  C03: the BAF column of `do_segmentation(…, variants=)` -- every segment gets the BAF of its own range
  (finding AZ of DESIGN.md 9.3, at the place where it did the damage), whatever `variants_in_segment` returns and whatever the row
  labels are; `transfer_fields` and the per-arm concatenation keep the column attached.
-/
import CnvVerif.Model.TileBafExt5b
import CnvVerif.Props.C18
import CnvVerif.Lemmas.TileBaf
namespace CnvVerif.C03Baf
open CnvVerif CnvVerif.Vcf CnvVerif.C18

/-- the tiling model is the stretch + aggregation of the segmenter's table (so the BAF model below reports the same
    segments as `assembleUnit`, the model all C03 theorems speak about) -/
theorem assembleUnit_eq_stretch (unit : List Bin) (runs : List Nat) :
    assembleUnit unit runs = (stretchEnds unit (rawSegs unit runs)).map (aggregate unit) :=
  assembleUnit_eq unit runs

/-- **each row of the variants branch carries the BAF of its own range**: whatever `variants_in_segment` returns
    (`pieces`), row i of the re-segmented table is stored with the median mirrored frequency of the heterozygous
    SNVs inside row i's own range -/
theorem variantsBranch_own_range (tb : VTable) (pieces : SegO → List SegO) (segs0 : List SegO)
    (hwf : WFRows tb.rows) (hseg : ∀ g ∈ segs0.flatMap pieces, 0 ≤ g.s)
    (hg : ChromGrouped ((segs0.flatMap pieces).map rangeOf))
    (hh : ∃ r ∈ tb.rows, isHet r = true) (i : Nat) (hi : i < (segs0.flatMap pieces).length) :
    (variantsBranch tb pieces segs0)[i]? =
      some ((segs0.flatMap pieces)[i], specBaf tb.paired false none tb.rows (rangeOf (segs0.flatMap pieces)[i])) := by
  have hseg' : ∀ g ∈ (segs0.flatMap pieces).map rangeOf, 0 ≤ g.2.1 := List.forall_mem_map.mpr hseg
  unfold variantsBranch
  simp only []
  rw [baf_is_median_of_mirrored tb _ false hwf hseg' hg hh, List.map_map, ← List.map_prod_left_eq_zip,
    List.getElem?_map, List.getElem?_eq_getElem hi]
  simp

/-- one BAF per row, for every table (no hypothesis) -/
theorem variantsBranch_length (tb : VTable) (pieces : SegO → List SegO) (segs0 : List SegO) :
    (variantsBranch tb pieces segs0).length = (segs0.flatMap pieces).length := by
  simp [variantsBranch, bafByRanges_length]

/-- `transfer_fields` leaves the column where it is: row i keeps its BAF -/
theorem transferB_keeps_baf (unit : List Bin) (h : unit ≠ []) (sb : List (SegO × Option Rat)) (i : Nat) :
    ((transferB unit sb)[i]?).map (·.2) = (sb[i]?).map (·.2) := by
  obtain ⟨f, t, rfl⟩ := List.exists_cons_of_ne_nil h
  obtain ⟨l, hl⟩ := exists_getLast_cons f t
  have hlen : ((stretchEnds (f :: t) (sb.map (·.1))).map (aggregate (f :: t))).length = (sb.map (·.2)).length := by
    rw [List.length_map, stretchEnds_cons f t hl, stretch_length, List.length_map, List.length_map]
  unfold transferB
  rw [← List.getElem?_map, ← List.getElem?_map, List.map_snd_zip (Nat.le_of_eq hlen.symm)]

/-- … and the segments reported with variants (no segment re-split) are exactly the segments of the tiling model -/
theorem unitWithBaf_segments (tb : VTable) (unit : List Bin) (runs : List Nat) :
    (unitWithBaf tb keepWhole unit runs).map (·.1) = assembleUnit unit runs := by
  rw [unitWithBaf_keepWhole, List.map_fst_zip (by rw [assembleUnit_length, bafByRanges_length, List.length_map])]

/-- the whole `baf` column of one arm, as a list -/
theorem unit_bafs_eq (tb : VTable) (unit : List Bin) (runs : List Nat)
    (hwf : WFRows tb.rows) (hseg : ∀ g ∈ rawSegs unit runs, 0 ≤ g.s)
    (hg : ChromGrouped ((rawSegs unit runs).map rangeOf))
    (hh : ∃ r ∈ tb.rows, isHet r = true) :
    (unitWithBaf tb keepWhole unit runs).map (·.2) =
      (rawSegs unit runs).map (fun g => specBaf tb.paired false none tb.rows (rangeOf g)) := by
  rw [unitWithBaf_keepWhole, List.map_snd_zip (by rw [assembleUnit_length, bafByRanges_length, List.length_map]),
    baf_is_median_of_mirrored tb _ false hwf (List.forall_mem_map.mpr hseg) hg hh, List.map_map]
  rfl

/-- **the BAF column of one arm's result**: with variants given and no segment re-split, segment i of the arm is the
    tiling model's segment i and its BAF is that of the range the segmenter cut (before the endpoint stretch) -/
theorem unit_baf_is_own_range (tb : VTable) (unit : List Bin) (runs : List Nat)
    (hsurv : (unit.filter (·.keep)).isEmpty = false)
    (hwf : WFRows tb.rows) (hseg : ∀ g ∈ rawSegs unit runs, 0 ≤ g.s)
    (hg : ChromGrouped ((rawSegs unit runs).map rangeOf))
    (hh : ∃ r ∈ tb.rows, isHet r = true) (i : Nat) (hi : i < (rawSegs unit runs).length) :
    ((unitWithBaf tb keepWhole unit runs)[i]?).map (·.2) =
      some (specBaf tb.paired false none tb.rows (rangeOf (rawSegs unit runs)[i])) := by
  have h := congrArg (·[i]?) (unit_bafs_eq tb unit runs hwf hseg hg hh)
  simp only [List.getElem?_map, List.getElem?_eq_getElem hi, Option.map_some] at h
  exact h

/-- **`do_segmentation(…, variants=)` over all arms**: the segments are those of the tiling model, arm by arm, and the
    `baf` column is, in the same order, the BAF of each segment's own range (`ownBafs`, the property's wording) --
    whatever labels the rows carry (finding AZ cannot recur without breaking this equation or the tie to the code) -/
theorem doSeg_baf_column_is_own_ranges (tb : VTable) (units : List (List Bin)) (runs : List (List Nat))
    (hwf : WFRows tb.rows) (hh : ∃ r ∈ tb.rows, isHet r = true)
    (hu : ∀ p ∈ units.zip runs, (p.1.filter (·.keep)).isEmpty = false →
      (∀ g ∈ rawSegs p.1 p.2, 0 ≤ g.s) ∧ ChromGrouped ((rawSegs p.1 p.2).map rangeOf)) :
    (doSegBaf tb keepWhole units runs).map (·.2) = ownBafs tb units runs ∧
    (doSegBaf tb keepWhole units runs).map (·.1) = (units.zip runs).flatMap (fun p => assembleUnit p.1 p.2) := by
  unfold doSegBaf ownBafs
  generalize units.zip runs = l at hu
  induction l with
  | nil => exact ⟨rfl, rfl⟩
  | cons p t ih =>
    obtain ⟨ih1, ih2⟩ := ih (fun q hq => hu q (List.mem_cons_of_mem _ hq))
    refine ⟨?_, by simp only [List.flatMap_cons, List.map_append, ih2, unitWithBaf_segments]⟩
    simp only [List.flatMap_cons, List.map_append, ih1]
    congr 1
    cases hs : (p.1.filter (·.keep)).isEmpty with
    | true => simp [unitWithBaf, hs]
    | false =>
      obtain ⟨h1, h2⟩ := hu p List.mem_cons_self hs
      simp only [Bool.false_eq_true, if_false]
      exact unit_bafs_eq tb p.1 p.2 hwf h1 h2 hh

/-! ### non-vacuity: an arm of four bins (one dropped in front), cut into two segments, over the example table of
    Props/C18 (which meets `WFRows` and has heterozygous rows, see there) -/

def exUnit : List Bin :=
  [ ⟨"chr1", 0, 5, "a", 0, 1, 1, false⟩, ⟨"chr1", 5, 25, "a", 0, 1, 1, true⟩,
    ⟨"chr1", 25, 35, "b", 1, 1, 1, true⟩, ⟨"chr1", 35, 100, "b", 1, 1, 1, true⟩ ]

example : (exUnit.filter (·.keep)).isEmpty = false := by decide
example : ∀ g ∈ rawSegs exUnit [1, 2], 0 ≤ g.s := by decide +kernel
example : ChromGrouped ((rawSegs exUnit [1, 2]).map rangeOf) := by
  refine ⟨?_, ?_, trivial⟩ <;> decide +kernel
/-- the first segment is stretched to 0 but its BAF is that of the range 5..25 the segmenter cut; the second segment's
    BAF is its own (1/4), not the first one's -/
example : (assembleUnit exUnit [1, 2]).map (fun g => (g.s, g.e)) = [(0, 25), (25, 100)] ∧
    (rawSegs exUnit [1, 2]).map (fun g => (g.s, g.e, specBaf true false none exRows (rangeOf g))) =
      [(5, 25, some (3/8)), (25, 100, some (1/4))] := by decide +kernel

end CnvVerif.C03Baf
