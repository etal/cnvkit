/-
  C06: tie to the source TEXT (subdivide: the LOOP STRUCTURE of `_split_targets`).
  `Generated.src_splitloop_*` (Generated/ExprsSplitLoop.lean) is re-read from /repo's Python on every run by
  harness/splitloop.py: the guard `if span >= min_size`, the branch `if nbins == 1: yield row`, the inner loop
  `for i in range(1, nbins)` with its carried `bin_start` (`yield row._replace(start=bin_start, end=bin_end)`;
  `bin_start = bin_end`), the `yield row._replace(start=bin_start)` after it, and what the row loop runs over
  (`merge(regions)`); the arithmetic inside is the pieces of Generated/ExprsInterval.lean (Props/C06SrcSubdivide.lean).
  These theorems state that the model's `splitRow` / `subdivideTable` EQUAL that reading, for every table, every
  positive (also fractional) average size and every minimum size.
-/
import CnvVerif.Props.C06
import CnvVerif.Lemmas.SrcIntervalSplitLoop
namespace CnvVerif.C06
open CnvVerif CnvVerif.Generated

set_option linter.unusedTactic false in
set_option linter.unreachableTactic false in
/-- one row of the loop: the (start, end) pairs of the model's `splitRow` ARE the pairs the source loop body yields --
    `yield row`, or the chain `(start, c1), (c1, c2), …, (c_{n-1}, end)` built by the inner loop and the yield after it -/
theorem subdivide_row_loop_is_the_source (avg : Rat) (havg : 0 < avg) (minSize : Int) (r : Row) (hlen : r.s ≤ r.e) :
    (splitRow avg minSize r).map (fun x => ((x.s : Rat), (x.e : Rat))) = src_splitloop_row r.s r.e avg minSize := by
  obtain ⟨_, hpos⟩ := Src.binCount_cast avg havg r hlen
  rw [splitRow_eq_splitInto, src_splitloop_row, Src.src_split_keeps_nf]
  by_cases hk : r.e - r.s ≥ minSize
  · have hfl : (((Src.binCount avg r : Nat) : Rat)).floor.toNat = Src.binCount avg r := by
      rw [show ((Src.binCount avg r : Nat) : Rat) = (((Src.binCount avg r : Nat) : Int) : Rat) by push_cast; rfl,
        Rat.floor_intCast, Int.toNat_natCast]
    simp only [hk, decide_true, if_true, Src.src_split_nbins_eq avg havg r hlen, hfl]
    -- the loop gives the pairs of `splitInto` for every bin count, so the branch `nbins == 1` (the row itself) is the same
    have hloop := Src.splitLoop_eq_splitInto r (Src.binCount avg r) hpos
      (src_splitloop_step r.s r.e avg minSize) (src_splitloop_final r.s r.e avg minSize)
      (fun b i => by simp only [src_splitloop_step, Src.src_split_bin_end_eq avg havg r hlen i, cutAt])
      (fun b => rfl)
    have hone : Src.binCount avg r = 1 →
        [((r.s : Rat), (r.e : Rat))] = (splitInto r (Src.binCount avg r)).map (fun x => ((x.s : Rat), (x.e : Rat))) :=
      fun h => by rw [h, splitInto_one]; rfl
    -- robust against `1 == nbins`, `nbins != 1` with the branches exchanged
    split <;> rename_i h <;>
      first
      | exact hloop.symm
      | exact (hone (by exact_mod_cast h)).symm
      | exact (hone (by exact_mod_cast h.symm)).symm
      | exact (hone (by exact_mod_cast not_not.mp h)).symm
  · have hk' : ¬ minSize ≤ r.e - r.s := hk
    simp [hk]

/-- … and every yielded row is its region with only `start` / `end` replaced (`row` itself or `row._replace(start=…, end=…)`:
    chromosome, label and every other field are the region's) -/
theorem subdivide_row_loop_replaces_only_start_end (avg : Rat) (minSize : Int) (r : Row) :
    ∀ x ∈ splitRow avg minSize r, { x with s := r.s, e := r.e } = r :=
  splitRow_fields avg minSize r

/-- the whole generator: the row loop runs over `merge(regions)` with default options, carries nothing from one row to
    the next, and the table-level model yields exactly what the source loop yields, region after region -/
theorem subdivide_table_loop_is_the_source (avg : Rat) (havg : 0 < avg) (minSize : Int) (t : Table)
    (hp : ∀ r ∈ t, r.s < r.e) :
    src_splitloop_over_default_merge = true ∧
    (subdivideTable avg minSize t).map (fun x => ((x.s : Rat), (x.e : Rat))) =
      (mergeTable 0 t).flatMap (fun r => src_splitloop_row r.s r.e avg minSize) := by
  refine ⟨rfl, ?_⟩
  rw [subdivideTable, List.map_flatMap]
  refine List.flatMap_congr fun r hr => subdivide_row_loop_is_the_source avg havg minSize r ?_
  -- a merged region has positive length
  have := (mergeTable_canon t hp r.chrom).1 r (mem_rowsOf_self hr)
  omega

/-! non-vacuity: the generated loop evaluated on concrete rows (10 bases at average 3: three bins; at average 20: the
    row itself; below the minimum size: nothing), and a table that satisfies the hypothesis -/
example : src_splitloop_row 10 20 3 0 = [(10, 13), (13, 16), (16, 20)] := by decide +kernel
example : src_splitloop_row 10 20 20 0 = [(10, 20)] ∧ src_splitloop_row 10 20 3 11 = [] := by
  constructor <;> decide +kernel
example : ∀ r ∈ ([⟨"chr1", 0, 10, "a"⟩, ⟨"chr1", 5, 12, "b"⟩] : Table), r.s < r.e := by decide +kernel

end CnvVerif.C06
