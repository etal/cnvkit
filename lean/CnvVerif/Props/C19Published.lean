/-
  C19: "each agrees with an independent implementation of its published formula".  The correspondence run compares
  every real output with a SECOND set of definitions written straight from the published formulas
  (`Drv.C19.Spec.*` in Driver/Descriptives.lean: insertion sort, Hyndman–Fan type-7 quantile, Wainer–Thissen gapper,
  Rousseeuw–Croux pairwise distances, weighted mean / variance as folds).  These theorems prove that the oracle's
  definitions and the model's are the same functions, for all inputs -- so the published-formula clauses do not
  rest on the sampled runs alone, and an edit to either side breaks an obligation.
-/
import CnvVerif.Props.C19
import CnvVerif.Lemmas.DescPublished
namespace CnvVerif.C19
open CnvVerif CnvVerif.Desc CnvVerif.Generated CnvVerif.Drv.C19

/-- the two sorting routines (insertion sort there, merge sort here) agree -/
theorem published_sort (l : List Rat) : Spec.isort l = sortR l := spec_isort_eq_sortR l

theorem published_median (l : List Rat) : Spec.median l = median l := spec_median_eq l

/-- Hyndman–Fan type 7 (`x₍⌊h⌋₎ + (h − ⌊h⌋)(x₍⌊h⌋+1₎ − x₍⌊h⌋₎)`, `h = (n−1)q`) is numpy's default "linear" percentile -/
theorem published_quantile (l : List Rat) (hl : l ≠ []) (q : Rat) (h0 : 0 ≤ q) (h1 : q ≤ 1) :
    Spec.quantile7 l q = quantile l q := spec_quantile7_eq l hl q h0 h1

/-- MAD: `1.4826 · median |x − median x|` (the decimal constant there, the raw MAD of the model here) -/
theorem mad_published (a : List Rat) : Spec.mad a = MAD_SCALE_dec * madCore a false := by
  rw [madCore_def]
  unfold Spec.mad
  simp only [spec_median_eq, spec_absQ_eq, Bool.false_eq_true, if_false]
  rfl

theorem iqr_published (a : List Rat) (ha : a ≠ []) : Spec.iqr a = iqrCore a := by
  unfold Spec.iqr iqrCore
  rw [published_quantile a ha _ (by norm_num) (by norm_num), published_quantile a ha _ (by norm_num) (by norm_num)]
  have e1 : ((IQR_Q_HI : Nat) : Rat) / 100 = 3 / 4 := by unfold IQR_Q_HI; norm_num
  have e2 : ((IQR_Q_LO : Nat) : Rat) / 100 = 1 / 4 := by unfold IQR_Q_LO; norm_num
  rw [e1, e2]

/-- Wainer & Thissen: `Σ_{i=1}^{n−1} i(n−i)(x₍ᵢ₊₁₎ − x₍ᵢ₎) / (n(n−1))` -/
theorem gapper_published (a : List Rat) : Spec.gapper a = gapperCore a := by
  rw [gapperCore_def]
  unfold Spec.gapper
  simp only [spec_isort_eq_sortR, spec_orderStat_eq]
  congr 1
  rw [← List.sum_eq_foldl]
  unfold gapTerms
  rw [diffs_length, diffs_eq_range, ← List.map_prod_right_eq_zip, List.map_map]
  exact congrArg List.sum (List.map_congr_left (fun i _ => mul_comm _ _))

/-- the distances `|x_i − x_j|, i < j` enumerated by index pairs are the ones the model's recursion lists, in the same order -/
theorem qn_pairs_published (x : List Rat) :
    ((List.range x.length).flatMap (fun i => ((List.range x.length).filter (fun j => i < j)).map
      (fun j => absQ (x.getD i 0 - x.getD j 0)))) = pairDiffs x := spec_qn_pairs x

/-- Qn as its docstring defines it: first quartile of the pairwise distances over `Cn`; oracle and model agree up to
    the reading of the constant 1.392 (decimal there, the double here) -/
theorem qn_published (a : List Rat) (h : 2 ≤ a.length) :
    Spec.qn a * (if a.length ≤ 10 then 174 / 125 else if a.length < 400 then 1 + 4 / (a.length : Rat) else 1) =
      qnCore a * qnScale a.length := by
  rw [spec_qn_eq a h, div_mul_cancel₀ _ (ne_of_gt (spec_qn_const_pos a.length))]
  unfold qnCore
  rw [div_mul_cancel₀ _ (ne_of_gt (qnScale_pos a.length))]
  have e : ((QN_Q : Nat) : Rat) / 100 = 1 / 4 := by unfold QN_Q; norm_num
  rw [e]

/-- weighted variance as two weighted means -/
theorem wvar_published (p : List (Rat × Rat)) (v : Rat) (h : weightedVarCore p = some v) : Spec.wvar p = v := by
  unfold weightedVarCore at h
  split at h
  · cases h
  · rename_i mean hm
    unfold Spec.wvar
    simp only [spec_wmean_eq p mean hm]
    exact spec_wmean_eq _ v h

example : Spec.median [3, 1, 2] = 2 := by decide +kernel
example : Spec.gapper [0, 1, 3] = 1 := by decide +kernel

end CnvVerif.C19
