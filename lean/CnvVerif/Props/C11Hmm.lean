/-
  C11: the initial HMM of `cnvlib/segmentation/hmm.py:hmm_get_model`.  `Generated.HMM_START_* / HMM_TRANS_*` are the
  exact values of the source expressions for the start probabilities and the transition matrix handed to pomegranate's
  `from_matrix` (harness/extractors/hmm.py evaluates them in rational arithmetic on every run).  No clause of C11
  speaks about these numbers directly; the obligations pin the SHAPE the detection relies on (a chromosome may start
  in any state, neutral preferred, loss and gain treated alike; all states equally and strongly sticky), so that an
  edited start distribution or transition matrix is seen even when no sampled profile happens to fail.
-/
import CnvVerif.Model.HaarExt
import Mathlib.Tactic.Ring
import Mathlib.Tactic.Linarith
import CnvVerif.Generated.HmmConsts
namespace CnvVerif.C11
open CnvVerif CnvVerif.Haar

/-- what `from_matrix` receives, and in which position -/
theorem hmm_from_matrix_arguments :
    Generated.HMM_FROM_MATRIX_ARGS.take 3 = ["transition_matrix", "distributions", "start_probabilities"] := by
  decide

/-- `hmm-germline` (3 states): the start probabilities are a distribution, symmetric between loss and gain, with the
neutral state strictly the likeliest (binomial weights 1 : 2 : 1); a chromosome may start in any state -/
theorem germline_start_prefers_neutral :
    startPrefersNeutral Generated.HMM_START_3 = true ∧ Generated.HMM_START_3 = [1 / 4, 1 / 2, 1 / 4] := by
  refine ⟨by decide +kernel, by decide +kernel⟩

/-- `hmm-germline`: every state is equally sticky and all moves are equally likely; staying weighs at least 100
times any single move (301 : 1 : 1 per row) -/
theorem germline_transitions_sticky :
    stickyMatrix 100 Generated.HMM_TRANS_3 = true ∧
    (Generated.HMM_TRANS_3.headD []).take 2 = [301 / 3, 1 / 3] := by
  refine ⟨by decide +kernel, by decide +kernel⟩

/-- the 5-state model of `hmm-tumor` is built by the same expressions (outside the claim of C11; recorded so that
a change to the shared expressions is seen for both sizes) -/
theorem tumor_initial_model_same_shape :
    startPrefersNeutral Generated.HMM_START_5 = true ∧ stickyMatrix 100 Generated.HMM_TRANS_5 = true := by
  refine ⟨by decide +kernel, by decide +kernel⟩

/-- what "sticky" means once pomegranate has normalised a row of `n` states: staying has probability at least
`k / (k + n - 1)` (for k = 100, n = 3: at least 100/102 per bin, whatever the common values are) -/
theorem sticky_stay_probability (k d o : Rat) (n : Nat) (hk : 0 < k) (ho : 0 < o) (hd : k * o ≤ d) (hn : 1 ≤ n) :
    k / (k + ((n : Rat) - 1)) ≤ d / (d + ((n : Rat) - 1) * o) := by
  have hn' : (0 : Rat) ≤ (n : Rat) - 1 := sub_nonneg.mpr (by exact_mod_cast hn)
  have hd0 : 0 < d := lt_of_lt_of_le (mul_pos hk ho) hd
  have p2 : 0 < d + ((n : Rat) - 1) * o := by have := mul_nonneg hn' ho.le; linarith
  -- cross-multiplied, the claim is `(n - 1) * (d - k * o) ≥ 0`
  rw [div_le_div_iff₀ (by linarith) p2]
  linarith [mul_nonneg hn' (sub_nonneg.mpr hd)]

/-! ### non-vacuity: the predicates reject an off-by-one binomial and an uneven matrix -/

example : startPrefersNeutral [1 / 7, 3 / 7, 3 / 7] = false := by decide +kernel
example : stickyMatrix 100 [[100, 1], [1, 99]] = false := by decide +kernel
example : stickyMatrix 100 [[31 / 3, 1 / 3, 1 / 3], [1 / 3, 31 / 3, 1 / 3], [1 / 3, 1 / 3, 31 / 3]] = false := by decide +kernel

end CnvVerif.C11
