/-
  C18: tie to the source TEXT of `_choose_samples` (skgenome/tabio/vcfio.py).  `Generated.src_choose_samples_pairs` -- the
  order in which the function builds its `pairs` list (declared pairs, else the others with the given normal, else all
  unpaired), filters it by `sample_id`, raises / salvages when nothing is left, checks uniqueness and returns the first pair --
  is re-read from /repo on every run (harness/pipetrans.py, extractor vcf_choose).  The theorem states that `chooseNamesH` of
  Model/VcfPairs.lean IS that structure once each parameter is read on the model's data as `SrcChoose.*` below say.
  (`chooseNamesH` first re-checks that the given ids name a sample column: that is the `for sid in (sample_id, normal_id)`
  loop BEFORE `pairs = None`, which this reader does not read.)
-/
import CnvVerif.Model.VcfPairs
import CnvVerif.Generated.VcfChoose
import CnvVerif.Lemmas.VcfChoose
namespace CnvVerif.C18
open CnvVerif CnvVerif.Vcf

namespace SrcChoose
abbrev Pairs := List (Option String × Option String)
abbrev Outcome := Except VErr (Option String × Option String)

/-- `[(oid, normal_id) for oid in [s for s in vcf_samples if s != normal_id]]` (only asked under `elif normal_id:`) -/
def othersWithNormal (samples : List String) (nid : Option String) : Pairs :=
  match truthy nid with
  | some n => (samples.filter (fun s => s != n)).map (fun o => (some o, some n))
  | none => []
/-- `[(sid, None) for sid in vcf_samples]` -/
def allUnpaired (samples : List String) : Pairs := samples.map (fun s => (some s, none))
/-- `[(s, n) for s, n in pairs if s == sample_id]` -/
def keepSample (sid : Option String) (ps : Pairs) : Pairs := ps.filter (fun p => p.1 == sid)
/-- `for sid in set(chain(*pairs)) - {None}: _confirm_unique(sid, vcf_samples)`, then the rest -/
def confirmUnique (samples : List String) (ps : Pairs) (rest : Outcome) : Outcome :=
  if !((pairNames ps).all (fun nm => samples.count nm == 1)) then .error .indexError else rest
/-- `sid, nid = pairs[0]; return sid, nid` -/
def firstPair (ps : Pairs) : Outcome :=
  match ps.head? with
  | some p => .ok p
  | none => .error .indexError
end SrcChoose

/-- `_choose_samples` after its selector checks IS the source's sequence of steps -/
theorem choose_samples_steps_are_the_source (samples : List String) (dp : List DPair) (sid nid : Option String) :
    chooseNamesH samples dp sid nid =
      if !(selOk samples sid && selOk samples nid) then .error .indexError else
      Generated.src_choose_samples_pairs (P := SrcChoose.Pairs) (R := SrcChoose.Outcome)
        (!dp.isEmpty) (truthy nid).isSome (truthy sid).isSome
        [] (dp.map (fun p => (p.1, some p.2))) (SrcChoose.othersWithNormal samples nid) (SrcChoose.allUnpaired samples)
        [(sid, none)] (SrcChoose.keepSample sid) (fun ps => !ps.isEmpty) (SrcChoose.confirmUnique samples)
        (.error .indexError) SrcChoose.firstPair := by
  unfold chooseNamesH Generated.src_choose_samples_pairs
  by_cases h1 : (selOk samples sid && selOk samples nid) = true
  case neg => simp [h1]
  simp only [h1, Bool.not_true, Bool.false_eq_true, if_false]
  have hc : candidatePairsH samples dp nid =
      (if (!dp.isEmpty) = true then dp.map (fun p => (p.1, some p.2))
       else if (truthy nid).isSome = true then SrcChoose.othersWithNormal samples nid else SrcChoose.allUnpaired samples) := by
    unfold candidatePairsH candidatePairs SrcChoose.othersWithNormal SrcChoose.allUnpaired
    cases dp.isEmpty <;> cases truthy nid <;> simp
  rw [hc]
  generalize (if (!dp.isEmpty) = true then dp.map (fun p => (p.1, some p.2))
       else if (truthy nid).isSome = true then SrcChoose.othersWithNormal samples nid else SrcChoose.allUnpaired samples)
    = pairs0
  cases hts : truthy sid with
  | none =>
    simp only [Option.isSome_none, Option.isNone_none, Bool.false_eq_true, if_false, Bool.and_true, Bool.not_not,
      Bool.not_false, if_true]
    cases pairs0.isEmpty <;> rfl
  | some s =>
    cases truthy_some hts
    simp only [Option.isSome_some, Option.isNone_some, if_true, Bool.and_false, Bool.not_not, Bool.not_true,
      Bool.false_eq_true, if_false, SrcChoose.keepSample]
    cases (pairs0.filter (fun p => p.1 == some s)).isEmpty <;> rfl

/-- non-vacuity: `chooseNamesH` on a two-sample file with a normal id, and the refusal when nothing is left -/
example : chooseNamesH ["N", "T"] [] none (some "N") = .ok (some "T", some "N") := by rfl
example : chooseNamesH ["N"] [] none (some "N") = .error .indexError := by rfl
example : chooseNamesH ["N", "T"] [] (some "N") (some "N") = .ok (some "N", none) := by rfl

end CnvVerif.C18
