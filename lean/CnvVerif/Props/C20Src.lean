/-
  C20: tie to the source TEXT.  `Generated.src_segments2vcf_row`, `src_export_bed_row` (and `src_export_verify_sample_sex`,
  `src_cmd_export_bed_label`, whose ties are in Props/C20Cli.lean) are re-translated from /repo's Python on every run (harness/exprtrans.py, ROW-wise
  reading; extractor harness/extractors/exprs_export.py).  These theorems state that the hand-written model of
  `export vcf` / `export bed` IS what those function bodies compute, for all arguments.
  Kept in a module of its own so that an edit to one of those functions breaks exactly these obligations.
-/
import CnvVerif.Props.C20
import CnvVerif.Lemmas.SrcExport
namespace CnvVerif.C20
open CnvVerif CnvVerif.Export

/-- `segments2vcf`, one segment: the record the model emits (or its silence), written out as the ten cells of a VCF
    line, is what the loop body of the source yields (or skips) -- neutral-row and non-digit-probes skip, POS 0 -> 1,
    DEL / DUP by `<`, SVLEN sign, the seven INFO fields in order, FORMAT keys, genotype strings.  `fmt` (Python's
    float formatting) is arbitrary. -/
theorem vcf_record_is_the_source (cfg : Cfg) (first : String) (r : Seg) (fmt : Rat → String) :
    (vcfEmit cfg (vcfCols cfg first r)).map (vcfCells fmt) =
      Generated.src_segments2vcf_row cfg.hasCn r.chrom r.s r.e r.v r.t r.probes (probesDigit cfg r) r.cn
        (expectOf cfg first r) (absoluteCol cfg first r) (expectCol' cfg first r) fmt := by
  -- the two spellings of the source (`cn` column / rounded absolute value) are one decision chain, `Src.vcfRow_core`
  cases h : cfg.hasCn
  · rw [Src.src_vcf_branches, ← Src.vcfRow_core cfg r fmt]
    congr 2
    simp only [vcfCols, ncopiesOf, expectVcf, h, absoluteCol, expectCol', Bool.false_eq_true, if_false]
    try rfl
  · rw [Src.src_vcf_cn_ignores, ← Src.vcfRow_core cfg r fmt]
    congr 2
    simp only [vcfCols, ncopiesOf, expectVcf, h, if_true]

/-- the whole table: the lines of `export vcf` are, in order, what the source's row function yields for each segment -/
theorem vcf_table_is_the_source (cfg : Cfg) (rows : List Seg) (fmt : Rat → String) :
    (segments2vcf cfg rows).map (vcfCells fmt) =
      rows.filterMap (fun r =>
        Generated.src_segments2vcf_row cfg.hasCn r.chrom r.s r.e r.v r.t r.probes (probesDigit cfg r) r.cn
          (expectOf cfg (firstChrom rows) r) (absoluteCol cfg (firstChrom rows) r)
          (expectCol' cfg (firstChrom rows) r) fmt) := by
  unfold segments2vcf
  simp only [List.map_filterMap, List.filterMap_map]
  apply List.filterMap_congr
  intro r _
  exact vcf_record_is_the_source cfg (firstChrom rows) r fmt

/-- `export_bed`, one segment: listed (with these five cells) or dropped exactly as the source's column program says,
    for each `show` mode, with or without a `cn` column, label given / empty / absent -/
theorem bed_row_is_the_source (cfg : Cfg) (first : String) (label : Option String) (sh : ShowMode) (r : Seg) :
    (if bedKeep cfg first sh r then some (bedCells (bedRowOf cfg first label r)) else none) =
      Generated.src_export_bed_row cfg.hasCn r.chrom r.s r.e r.gene r.cn (label.getD "") (showText sh)
        (cfg.ploidy : Int) (absoluteCol cfg first r) (expectOf cfg first r) := by
  have he : expectedCopies cfg first r = expectOf cfg first r := by
    rw [expectOf_eq]
  unfold Generated.src_export_bed_row bedKeep bedCells bedRowOf bedLabel ncopiesOf absoluteCol
  cases sh <;> cases label <;> cases cfg.hasCn <;> simp [showText, he]

/-- the whole table of `export bed` -/
theorem bed_table_is_the_source (cfg : Cfg) (label : Option String) (sh : ShowMode) (rows : List Seg) :
    (exportBed cfg label sh rows).map bedCells =
      rows.filterMap (fun r =>
        Generated.src_export_bed_row cfg.hasCn r.chrom r.s r.e r.gene r.cn (label.getD "") (showText sh)
          (cfg.ploidy : Int) (absoluteCol cfg (firstChrom rows) r) (expectOf cfg (firstChrom rows) r)) := by
  rw [exportBed_eq_spec]
  unfold bedSpec
  rw [List.map_map, ← filterMap_ite]
  apply List.filterMap_congr
  intro r _
  exact bed_row_is_the_source cfg (firstChrom rows) label sh r

/-- the value the source rounds when there is no `cn` column is `r * 2^log2` with `r` the reference copies of the
    segment's class (numpy's `round`, applied to it, is half-to-even; the rounding is not part of this statement) -/
theorem absolute_column_is_r_times_ratio (cfg : Cfg) (first : String) (r : Seg) :
    absoluteCol cfg first r =
      ((refExpect cfg.ploidy cfg.hapX cfg.female (classOf first cfg.par r.chrom r.s r.e)).1 : Rat) * r.t := by
  unfold absoluteCol
  simp [absoluteOf, purityActive_one]

end CnvVerif.C20
