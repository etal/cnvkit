/-
  C18: the general bridge between the two models of the sample choice.  `Model/Vcf.lean` (`chooseNames`, `chooseSamples`,
  `readVcf`, `loadHetSnps`) knows PEDIGREE records only and is what the theorems of Props/C18.lean / C18Ext.lean speak about;
  `Model/VcfPairs.lean` (`chooseNamesH`, …, `loadHetSnpsH`) knows all three header conventions and is what the driver runs.
  Here: on EVERY header without GATK records -- all sample lists, all PEDIGREE tags, all selectors, all records, all options
  -- the two are the same function, so every theorem about the first is a theorem about what the driver ops compute.
-/
import CnvVerif.Model.VcfPairs
import CnvVerif.Props.C18Pairs
namespace CnvVerif.C18
open CnvVerif CnvVerif.Vcf

/-- a PEDIGREE pair as a declared pair -/
def bridgeLiftPair (p : String × String) : DPair := (some p.1, p.2)
/-- a chosen (sample, normal) of `chooseNames` as one of `chooseNamesH` -/
def bridgeLiftChoice (p : String × Option String) : Option String × Option String := (some p.1, p.2)

theorem bridge_candidatePairsH_lift (samples : List String) (peds : List (String × String)) (nid : Option String) :
    candidatePairsH samples (peds.map bridgeLiftPair) nid = candidatePairs samples peds nid := by
  cases peds with
  | nil => simp [candidatePairsH]
  | cons a l => simp [candidatePairsH, candidatePairs, bridgeLiftPair, List.map_map, Function.comp_def]

/-- every candidate pair names a tumour -/
theorem bridge_candidatePairs_tumour (samples : List String) (peds : List (String × String)) (nid : Option String) :
    ∀ p ∈ candidatePairs samples peds nid, p.1.isSome = true := by
  intro p hp
  obtain ⟨o, e, _⟩ := mem_candidatePairs hp
  rw [e]
  rfl

/-- `chooseNamesH` on PEDIGREE-declared pairs IS `chooseNames`: for all sample lists, pairs and ids -/
theorem chooseNamesH_eq_chooseNames (samples : List String) (peds : List (String × String)) (sid nid : Option String) :
    chooseNamesH samples (peds.map bridgeLiftPair) sid nid = (chooseNames samples peds sid nid).map bridgeLiftChoice := by
  unfold chooseNamesH chooseNames
  rw [bridge_candidatePairsH_lift]
  cases (selOk samples sid && selOk samples nid)
  · rfl
  · -- the two differ in their last step only; it sees a candidate pair, or `(sample_id, None)` with an id given
    refine confirm_first_lift samples _ _ (salvage_tumour sid _ (fun q hq => ?_))
    split at hq
    · exact bridge_candidatePairs_tumour samples peds nid q (List.mem_filter.mp hq).1
    · exact bridge_candidatePairs_tumour samples peds nid q hq

/-- a header without GATK records declares its PEDIGREE pairs -/
theorem headerPairs_no_gatk (samples : List String) (h : Hdr) (hg : h.gatk = []) (hm : h.mutect2 = false) :
    headerPairs samples h = (parsePedigrees h.tags).map (fun l => l.map bridgeLiftPair) := by
  obtain ⟨tags, gatk, m2⟩ := h
  simp only at hg hm
  subst hg hm
  rw [headerPairs_pedigree_only]
  unfold pedPairs
  cases parsePedigrees tags <;> rfl

/-- `_choose_samples`: the two models agree on every header without GATK records -/
theorem chooseSamplesH_eq_chooseSamples (samples : List String) (h : Hdr) (hg : h.gatk = []) (hm : h.mutect2 = false)
    (sidSel nidSel : Sel) :
    chooseSamplesH samples h sidSel nidSel = (chooseSamples samples h.tags sidSel nidSel).map bridgeLiftChoice := by
  unfold chooseSamplesH chooseSamples
  rw [headerPairs_no_gatk samples h hg hm]
  cases resolveSel samples sidSel with
  | error e => rfl
  | ok sid =>
    cases resolveSel samples nidSel with
    | error e => rfl
    | ok nid =>
      simp only [bind, Except.bind]
      cases (!(selOk samples sid && selOk samples nid))
      · cases parsePedigrees h.tags with
        | error e => rfl
        | ok peds => exact chooseNamesH_eq_chooseNames samples peds sid nid
      · rfl

/-- `tabio.read(…, "vcf", …)`: the two models agree on every header without GATK records, for all records and options -/
theorem readVcfH_eq_readVcf (samples : List String) (h : Hdr) (hg : h.gatk = []) (hm : h.mutect2 = false)
    (recs : List Rec) (o : ReadOpts) :
    readVcfH samples h recs o = readVcf samples h.tags recs o := by
  unfold readVcfH
  rw [readVcf_eq_readWith, chooseSamplesH_eq_chooseSamples samples h hg hm]
  cases chooseSamples samples h.tags o.sid o.nid with
  | error e => rfl
  | ok p => rfl

/-- `load_het_snps`: likewise -/
theorem loadHetSnpsH_eq_loadHetSnps (samples : List String) (h : Hdr) (hg : h.gatk = []) (hm : h.mutect2 = false)
    (recs : List Rec) (o : HetOpts) :
    loadHetSnpsH samples h recs o = loadHetSnps samples h.tags recs o := by
  unfold loadHetSnpsH loadHetSnps
  rw [readVcfH_eq_readVcf samples h hg hm]

/-- what `chooseSamplesH` answers on a header without GATK records is never a pair without a tumour (the transfer of
    the `specPair` wording itself is Props/C18SrcRules.lean) -/
theorem no_gatk_choice_names_a_tumour (samples : List String) (h : Hdr) (hg : h.gatk = []) (hm : h.mutect2 = false)
    (sidSel nidSel : Sel) (p : Option String × Option String)
    (hc : chooseSamplesH samples h sidSel nidSel = .ok p) : p.1.isSome = true := by
  rw [chooseSamplesH_eq_chooseSamples samples h hg hm] at hc
  cases hcs : chooseSamples samples h.tags sidSel nidSel with
  | error e => rw [hcs] at hc; cases hc
  | ok q => rw [hcs] at hc; cases hc; rfl

/-- non-vacuity: the hypotheses hold on a header with PEDIGREE records (they are needed: with a MuTect record the H model
    can answer a pair without a tumour, which `chooseSamples` cannot express; example in Props/C18Pairs.lean) -/
example : ({ tags := [[("Derived", "T"), ("Original", "N")]] } : Hdr).gatk = [] ∧
    ({ tags := [[("Derived", "T"), ("Original", "N")]] } : Hdr).mutect2 = false := by decide
example : chooseSamplesH ["N", "T"] { tags := [[("Derived", "T"), ("Original", "N")]] } .unset .unset
    = .ok (some "T", some "N") := by decide +kernel

end CnvVerif.C18
