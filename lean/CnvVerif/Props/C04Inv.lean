/-
  C04 — the invariance clauses of the property as theorems about the whole of `do_fix` (model `doFix`):
  "… and is unchanged by rescaling the sample's depth or permuting the rows of any input."
  Lemmas in Lemmas/FixInv.lean and Lemmas/FixPlanExt5.lean.  The parameters `P` (numpy's seeded permutation, the half-window, sqrt of the bin
  sizes by coordinate, the two residual variances, the float edge keys) are functions of the number of good bins,
  of the coordinates and of the OUTPUT residuals only, so they are the same in both runs compared below.
-/
import CnvVerif.Props.C04
import CnvVerif.Lemmas.FixInv
import CnvVerif.Lemmas.FixPlanExt5
namespace CnvVerif.C04
open CnvVerif

/-- permuting the rows of the target table, of the antitarget table and of the reference changes nothing in the
    result of `fix` — values, weights, order, or the refusal (duplicated / missing bins are refused in any order).
    `KeysSortable`: no two chromosome spellings of one table share a sort key (`aligned_side_condition_holds`). -/
theorem perm_invariant (tgt tgt' anti anti' : List SRow) (ref ref' : List RRow) (cfg : FixCfg) (P : FixParams)
    (ht : tgt'.Perm tgt) (ha : anti'.Perm anti) (hr : ref.Perm ref')
    (hkt : KeysSortable tgt) (hka : KeysSortable anti) :
    doFix tgt' anti' ref' cfg P = doFix tgt anti ref cfg P :=
  doFix_congr tgt tgt' anti anti' ref ref' cfg cfg P (sharedGuard_perm tgt tgt' anti anti' ht ha) rfl
    (C04x.loadAdjust_congr _ _ _ ht.isEmpty_eq (prepare_perm tgt tgt' ref ref' ht hr hkt true cfg.par) fun _ _ _ => rfl)
    (C04x.loadAdjust_congr _ _ _ ha.isEmpty_eq (prepare_perm anti anti' ref ref' ha hr hka false cfg.par) fun _ _ _ => rfl)

/-- the same for one class of bins through `load_adjust_coverages`, with any subset of the corrections -/
theorem class_perm_invariant (samp samp' : List SRow) (ref ref' : List RRow) (hp : samp'.Perm samp) (hr : ref.Perm ref')
    (hks : KeysSortable samp) (skipLow fixGc fixEdge fixRmask : Bool)
    (par : Option String) (perm : List Nat) (wing : Nat) (ek : Option (List Rat)) :
    loadAdjust samp' ref' skipLow fixGc fixEdge fixRmask par perm wing ek =
      loadAdjust samp ref skipLow fixGc fixEdge fixRmask par perm wing ek :=
  C04x.loadAdjust_congr perm wing ek hp.isEmpty_eq (prepare_perm samp samp' ref ref' hp hr hks skipLow par) fun _ _ _ => rfl

/-- `match_ref_to_sample` does not depend on the reference's row order, with NO side condition (strengthens
    `match_ignores_reference_order`: duplicated reference coordinates are refused whatever their position) -/
theorem match_ignores_reference_order_always (ref ref' : List RRow) (samp : List SRow) (hp : ref.Perm ref') :
    matchRef ref' samp = matchRef ref samp := matchRef_ref_perm ref ref' samp hp

/-- rescaling the sample's depth by `2^c` (every sample log2 moves by `c`) leaves the whole result of `fix`
    unchanged — every enabled correction, the subtraction, the weights and the final centring — as long as no
    ON-TARGET bin is a low-coverage bin (log2 < −15 or depth 0) before or after.  Off-target bins need no condition
    (they are centred with `skip_low=False`).  At the excluded point the clause fails on the real code: open
    finding W (zero-coverage bins stay at the −20 sentinel whatever the depth). -/
theorem depth_scale_invariant (tgt anti : List SRow) (ref : List RRow) (cfg : FixCfg) (P : FixParams) (c : Rat)
    (hlow : ∀ r ∈ tgt, lowCov r = false ∧ lowCov (addLog2 c r) = false) :
    doFix (tgt.map (addLog2 c)) (anti.map (addLog2 c)) ref cfg P = doFix tgt anti ref cfg P := by
  have hk : ∀ t : List SRow, (t.map (addLog2 c)).map sKey = t.map sKey := fun t => by
    rw [List.map_map]; rfl
  exact doFix_congr _ _ _ _ ref ref cfg cfg P (by rw [hk, hk]) rfl
    (C04x.loadAdjust_congr _ _ _ List.isEmpty_map (prepare_shift tgt ref true cfg.par c fun _ => hlow) fun _ _ _ => rfl)
    (C04x.loadAdjust_congr _ _ _ List.isEmpty_map (prepare_shift anti ref false cfg.par c fun h => by cases h) fun _ _ _ => rfl)

/-- the cut-off named in `depth_scale_invariant` is the one `drop_low_coverage` uses (constants from params.py) -/
theorem low_coverage_cutoff (r : SRow) : lowCov r = true ↔ (r.log2 < -15 ∨ r.depth = 0) := by
  unfold lowCov
  have : Generated.NULL_LOG2_COVERAGE - Generated.MIN_REF_COVERAGE = -15 := by decide +kernel
  rw [this]
  simp

/-- one class: the first centring absorbs the constant, so everything downstream sees identical rows -/
theorem class_depth_scale_invariant (samp : List SRow) (ref : List RRow) (skipLow fixGc fixEdge fixRmask : Bool)
    (par : Option String) (perm : List Nat) (wing : Nat) (ek : Option (List Rat)) (c : Rat)
    (hlow : skipLow = true → ∀ r ∈ samp, lowCov r = false ∧ lowCov (addLog2 c r) = false) :
    loadAdjust (samp.map (addLog2 c)) ref skipLow fixGc fixEdge fixRmask par perm wing ek =
      loadAdjust samp ref skipLow fixGc fixEdge fixRmask par perm wing ek :=
  C04x.loadAdjust_congr perm wing ek List.isEmpty_map (prepare_shift samp ref skipLow par c hlow) fun _ _ _ => rfl

/-! non-vacuity: tables meeting the hypotheses, and a bin at the excluded point -/
example : ∀ r ∈ [(⟨"chr1", 0, 100, "A", 3, 8⟩ : SRow), ⟨"chr1", 200, 300, "A", -29/2, 1⟩, ⟨"chr2", 0, 100, "B", 4, 16⟩],
    lowCov r = false ∧ lowCov (addLog2 2 r) = false := by decide +kernel
example : lowCov ⟨"chr1", 200, 300, "A", -29/2, 1⟩ = false ∧ lowCov (addLog2 (-1) ⟨"chr1", 200, 300, "A", -29/2, 1⟩) = true := by
  decide +kernel
example : KeysSortable [(⟨"chr1", 0, 100, "A", 3, 8⟩ : SRow), ⟨"chr1", 200, 300, "A", 2, 1⟩] :=
  keysSortable_of_one_chrom _ "chr1" (by decide)
example : [(⟨"chr1", 200, 300, "A", 2, 1⟩ : SRow), ⟨"chr1", 0, 100, "A", 3, 8⟩].Perm
    [⟨"chr1", 0, 100, "A", 3, 8⟩, ⟨"chr1", 200, 300, "A", 2, 1⟩] := List.Perm.swap _ _ _

end CnvVerif.C04
