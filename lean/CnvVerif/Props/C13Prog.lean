/-
  C13: tie of `do_access`'s BODY to the source text.  `Generated.DO_ACCESS_PROG` is re-read from
  `cnvlib/access.py:do_access` on every run (harness/extractors/access_prog.py: reading rules at its top) as a term of
  the command language of Model/AccessExt5.lean; `C13P.runDoAccess` interprets it with the library calls read as the
  model functions of Model/Access.lean.  The theorems state that this program IS the model `doAccess` -- scan, name
  filter exactly under the flag, one `subtract` per exclude file in order on the running result, join LAST with the
  caller's minimum gap -- and therefore inherits the table-level theorems of Props/C13Table.lean.  An edit of the
  glue (loop left after the first file, subtraction from the unfiltered table, join before exclude, filter on the
  wrong branch, other read format, dropped step) changes the term and breaks `do_access_is_the_source`.
-/
import CnvVerif.Props.C13Table
import CnvVerif.Lemmas.AccessProg
namespace CnvVerif.C13
open CnvVerif CnvVerif.C13P

/-- the body of `do_access` as written in the source, interpreted, equals the model for every FASTA file, every
    list of exclude files, every minimum gap (also `None`) and both values of the flag -- including when it raises -/
theorem do_access_is_the_source (lines : List FLine) (excl : List Table) (gap : Option Int) (skip : Bool) :
    runDoAccess Generated.DO_ACCESS_PROG lines excl gap skip = doAccess lines excl gap skip :=
  (runDoAccess_eq_retTable ..).trans (prog_eq lines excl gap skip _ rfl rfl rfl rfl)

/-- the exclude loop of any body that subtracts one sorted file per pass from the accumulator and leaves the
    variables of `frame` alone folds `subtract` over ALL files in command order (not only the first, not reversed) -/
theorem do_access_exclude_loop_folds (b : AStmt) (v acc : Nat) (frame : List Nat)
    (hstep : ∀ (env : Env) (t x : Table), env.lookup acc = some (.table t) →
      ∃ env', execS b ((v, .bedFile x) :: env) = .ok (env', none) ∧
        env'.lookup acc = some (.table (subtractTable t (sortTable x))) ∧
        ∀ n ∈ frame, env'.lookup n = env.lookup n)
    (l : List Table) (env : Env) (t : Table) (h : env.lookup acc = some (.table t)) :
    ∃ env', l.foldlM (fun e x => do let r ← execS b ((v, .bedFile x) :: e); pure r.1) env = .ok env' ∧
      env'.lookup acc = some (.table (l.foldl (fun a ex => subtractTable a (sortTable ex)) t)) ∧
      ∀ n ∈ frame, env'.lookup n = env.lookup n :=
  foldlM_exclude b v acc frame hstep l env t h

/-- the source program inherits the table theorem: on every well-formed FASTA text with distinct names and
    non-empty exclude regions it returns a table (no exception) that, per chromosome, has non-empty rows at least
    `max 1 minGap` apart covering exactly the accessible bases plus the bridged small gaps -/
theorem do_access_source_exact (recs : List (String × List (List Char))) (excl : List Table)
    (minGap : Option Int) (skip : Bool)
    (hn : (recs.map (·.1)).Nodup)
    (hex : ∀ ex ∈ excl, ∀ r ∈ ex, 0 ≤ r.s ∧ r.s < r.e) :
    ∃ out, runDoAccess Generated.DO_ACCESS_PROG (renderRecords recs) excl minGap skip = .ok out ∧
      ∀ c, (∀ r ∈ rowsOf out c, r.s < r.e) ∧
        (rowsOf out c).Pairwise (fun a b => a.e + max 1 (minGap.getD 0) ≤ b.s) ∧
        ∀ p, cov (rowsOf out c) p ↔
          AccessibleT recs excl skip c p ∨ InSmallGap (AccessibleT recs excl skip c) (minGap.getD 0) p := by
  rw [do_access_is_the_source]
  exact access_table_exact recs excl minGap skip hn hex

/-- sequence text before the first header: the source program raises the same TypeError as the model, whatever
    the exclude files -/
theorem do_access_source_raises_with_scan (lines : List FLine) (excl : List Table) (gap : Option Int) (skip : Bool)
    (e : String) (h : getRegions lines = .error e) :
    runDoAccess Generated.DO_ACCESS_PROG lines excl gap skip = .error e := by
  rw [do_access_is_the_source]
  simp [doAccess, h, bind, Except.bind]

/-- `exclude_fnames` left out is the empty tuple: nothing is subtracted -/
theorem do_access_no_exclude (lines : List FLine) (gap : Option Int) (skip : Bool)
    (_h : Generated.DO_ACCESS_EXCLUDE_DEFAULT_EMPTY = true) :
    runDoAccess Generated.DO_ACCESS_PROG lines [] gap skip =
      (getRegions lines).bind (fun regs => joinRegions gap ((keepRegions skip regs).map regionRow)) := by
  rw [do_access_is_the_source]
  rfl

/-! ### non-vacuity -/

example : Generated.DO_ACCESS_EXCLUDE_DEFAULT_EMPTY = true := rfl

/-- the source program run by the kernel: header, one line with a 2-base N gap; minimum gap 3 bridges it, 2 keeps it;
    the non-canonical name is dropped exactly when the flag is on -/
example :
    (match runDoAccess Generated.DO_ACCESS_PROG [.header "c", .body "ACGTNNACGT".toList] [] (some 3) true with
      | .ok t => t.map (fun r => (r.chrom, r.s, r.e))
      | .error _ => []) = [("c", 0, 10)] := by decide +kernel

example :
    (match runDoAccess Generated.DO_ACCESS_PROG [.header "c", .body "ACGTNNACGT".toList] [] (some 2) true with
      | .ok t => t.map (fun r => (r.chrom, r.s, r.e))
      | .error _ => []) = [("c", 0, 4), ("c", 6, 10)] := by decide +kernel

example :
    (match runDoAccess Generated.DO_ACCESS_PROG [.header "chrM", .body "ACGT".toList] [] none true with
      | .ok t => t.map (fun r => (r.chrom, r.s, r.e))
      | .error _ => [("?", 0, 0)]) = [] ∧
    (match runDoAccess Generated.DO_ACCESS_PROG [.header "chrM", .body "ACGT".toList] [] none false with
      | .ok t => t.map (fun r => (r.chrom, r.s, r.e))
      | .error _ => []) = [("chrM", 0, 4)] := by decide +kernel

/-- the hypothesis of `do_access_source_raises_with_scan` is satisfiable: sequence text before the first header -/
example : ∃ e, getRegions [.body "ACGT".toList, .header "c"] = .error e := ⟨_, rfl⟩

end CnvVerif.C13
