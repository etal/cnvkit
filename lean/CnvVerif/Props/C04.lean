/-
  C04 — fix subtracts the reference bin-for-bin by coordinate and normalises soundly.
  The property theorems; the lemmas they rest on are in Lemmas/FixMatch, FixOrder, FixWindow, FixEdge, FixWeights, FixAlign, FixWhole
  (and Lemmas/Center.lean for the centring).  Finding letters: DESIGN.md 9.3.
-/
import CnvVerif.Model.Fix
import CnvVerif.Lemmas.Center
import CnvVerif.Lemmas.FixWhole
namespace CnvVerif.C04
open CnvVerif

/-- the reference bin is matched by (chromosome, start, end), never by row position: a successful
    match returns, for each sample row in order, a reference row with the same coordinates -/
theorem match_by_coordinate (ref : List RRow) (samp : List SRow) (m : List RRow)
    (h : matchRef ref samp = .ok m) : m.map rKey = samp.map sKey ∧ ∀ r ∈ m, r ∈ ref :=
  matchRef_ok ref samp m h

/-- … whatever the row order of the reference -/
theorem match_ignores_reference_order (ref ref' : List RRow) (samp : List SRow) (hp : ref.Perm ref')
    (hu : hasDup (ref.map rKey) = false) : matchRef ref' samp = matchRef ref samp :=
  matchRef_ref_perm ref ref' samp hp

/-- a sample bin absent from the reference is refused … -/
theorem rejects_missing_bin (ref : List RRow) (samp : List SRow) (r : SRow) (hr : r ∈ samp)
    (hm : ∀ q ∈ ref, rKey q ≠ sKey r) : ∃ e, matchRef ref samp = .error e :=
  matchRef_rejects_missing ref samp r hr hm

/-- … and so are duplicated coordinates -/
theorem rejects_duplicated_coordinates (ref : List RRow) (samp : List SRow)
    (h : hasDup (samp.map sKey) = true ∨ hasDup (ref.map rKey) = true) :
    ∃ e, matchRef ref samp = .error e := matchRef_rejects_dup ref samp h

/-- the reference filters are the ones the property names (constants read from params.py):
    log2 within ±5, spread ≤ 1, depth > 0, GC within 0.3–0.7 -/
theorem reference_filters (r : RRow) :
    badBin r = true ↔ (r.log2 < -5 ∨ r.log2 > 5 ∨ r.spread > 1 ∨ r.depth = 0 ∨
      ∃ g, r.gc = some g ∧ (g > Generated.GC_MAX_FRACTION ∨ g < Generated.GC_MIN_FRACTION)) := by
  unfold badBin
  have h1 : Generated.MIN_REF_COVERAGE = -5 := rfl
  have h2 : Generated.MAX_REF_SPREAD = 1 := rfl
  have h3 : -Generated.MIN_REF_COVERAGE = 5 := by rw [h1]; norm_num
  have hgc : Generated.GC_MIN_FRACTION ≤ Generated.GC_MAX_FRACTION := by
    norm_num [Generated.GC_MIN_FRACTION, Generated.GC_MAX_FRACTION]
  rw [h3, h1, h2, min_eq_left hgc, max_eq_right hgc]
  cases hg : r.gc with
  | none => simp [or_assoc]
  | some g => simp [or_assoc]

theorem filter_constants : Generated.GC_MIN_FRACTION_dec = 3/10 ∧ Generated.GC_MAX_FRACTION_dec = 7/10 ∧
    Generated.MIN_REF_COVERAGE = -5 ∧ Generated.MAX_REF_SPREAD = 1 := by
  refine ⟨rfl, rfl, rfl, rfl⟩

/-- every enabled correction (shuffle, sort by the covariate, subtract the rolling median, re-sort)
    loses and invents no row and changes nothing but log2: rows stay attached to their coordinates -/
theorem correction_keeps_rows_attached (perm : List Nat) (wing : Nat) (t : List SRow) (keys : List Rat)
    (hp : IsPerm perm t.length) (hk : keys.length = t.length) :
    ((centerByWindow perm wing t keys).map (fun r => (r.chrom, r.s, r.e, r.gene, r.depth))).Perm
      (t.map (fun r => (r.chrom, r.s, r.e, r.gene, r.depth))) :=
  centerByWindow_map_perm _ (fun _ _ => rfl) perm wing t keys hp hk

/-- … and leaves them in genomic order -/
theorem correction_output_in_genomic_order (perm : List Nat) (wing : Nat) (t : List SRow) (keys : List Rat) :
    (centerByWindow perm wing t keys).Pairwise (fun a b => sSortLe a b = true) :=
  centerByWindow_sorted perm wing t keys

/-- the subtracted bias is a rolling median: one value per bin, moving with the data (so a depth
    scale factor common to a class is removed by its correction) -/
theorem rolling_median_length (x : List Rat) (wing : Nat) : (rollingMedian x wing).length = x.length :=
  rollingMedian_length x wing

theorem rolling_median_moves_with_data (x : List Rat) (wing : Nat) (c : Rat) (hx : x ≠ []) :
    rollingMedian (x.map (· + c)) wing = (rollingMedian x wing).map (· + c) := by
  unfold rollingMedian
  simp only [padMirror_map, List.length_map, List.map_map]
  apply List.map_congr_left
  intro i hi
  rw [List.mem_range] at hi
  simp only [Function.comp]
  rw [← List.map_drop, ← List.map_take]
  apply medianR_transEquiv
  intro h
  have hl := congrArg List.length h
  have := length_le_padMirror x wing
  simp only [List.length_take, List.length_drop, List.length_nil] at hl
  omega

/-- the edge-density covariate follows the documented formulas -/
theorem edge_loss_formula (t i : Rat) :
    (¬ t < i → edgeLoss t i = i / (2 * t)) ∧
    (t < i → edgeLoss t i = i / (2 * t) - (i - t) ^ 2 / (2 * i * t)) :=
  ⟨edgeLoss_large t i, edgeLoss_small t i⟩

theorem edge_gain_formula (t g i : Rat) (hg : 0 ≤ g) :
    (¬ t + g < i → edgeGain t g i = (i - g) ^ 2 / (4 * i * t)) ∧
    (t + g < i → edgeGain t g i = (i - g) ^ 2 / (4 * i * t) - (i - t - g) ^ 2 / (4 * i * t)) :=
  ⟨edgeGain_far t g i hg, edgeGain_near t g i hg⟩

/-- the output is centred: this is `C15.center_zeroes_estimator` for the median, per chromosome first -/
theorem output_centered (sel : List CBin) (hsel : sel ≠ []) :
    medianR (centerValues medianR true
      (sel.map (fun b => { b with log2 := b.log2 + (-(medianR (centerValues medianR true sel))) }))) = 0 :=
  center_zeroes_estimator medianR medianR_transEquiv true sel hsel

/-- every weight lies in [0.0001, 1] … -/
theorem weight_in_range (rows : List (SRow × RRow × Rat)) (varT varA : Rat) :
    ∀ w ∈ applyWeights rows varT varA, Generated.WEIGHT_EPSILON ≤ w ∧ w ≤ Generated.WEIGHT_MAX := by
  intro w hw
  rw [applyWeights_eq] at hw
  obtain ⟨p, _, rfl⟩ := List.mem_map.mp hw
  exact clipQ_range _ _ _ weight_eps_le_max

theorem weight_constants : Generated.WEIGHT_EPSILON_dec = 1/10000 ∧ Generated.WEIGHT_MAX = 1 ∧
    Generated.WEIGHT_EPSILON ≤ Generated.WEIGHT_MAX ∧ 0 < Generated.WEIGHT_EPSILON ∧
    0 < Generated.WEIGHT_REF_EMPHASIS ∧ Generated.WEIGHT_REF_EMPHASIS < 1 :=
  ⟨rfl, rfl, weight_eps_le_max, weight_eps_pos, weight_emphasis_pos, weight_emphasis_lt_one⟩

/-- … never decreases with bin size … -/
theorem weight_mono_size (pooled : Bool) (spread m v sq₁ sq₂ : Rat) (hm : 0 < m) (hv : 0 ≤ v)
    (h1 : 0 < sq₁) (h12 : sq₁ ≤ sq₂) :
    weightOf pooled spread sq₁ m v ≤ weightOf pooled spread sq₂ m v :=
  CnvVerif.weight_mono_size pooled spread m v sq₁ sq₂ hm hv h1 h12

/-- … nor increases with reference spread -/
theorem weight_antitone_spread (pooled : Bool) (sq m v s₁ s₂ : Rat) (h0 : 0 ≤ s₁) (h12 : s₁ ≤ s₂) :
    weightOf pooled s₂ sq m v ≤ weightOf pooled s₁ sq m v :=
  CnvVerif.weight_antitone_spread pooled sq m v s₁ s₂ h0 h12

/-- the headline clause for a whole class of bins (targets or antitargets), through loading, masking, centring
    and every enabled correction, for ANY shuffling permutation, half-window and set of enabled corrections:
    the emitted bins are exactly the sample bins whose coordinate-matched reference bin passes the filters, in
    genomic order, and the reference rows subtracted afterwards are aligned with them position by position,
    every one a good row of the given reference.  (`KeysSortable`: two bins that tie in the genomic order have
    the same coordinates -- true of every table whose chromosome names the sort key tells apart, see
    `aligned_side_condition_holds`.) -/
theorem fix_emits_exactly_good_bins_aligned (samp : List SRow) (ref : List RRow) (skipLow fixGc fixEdge fixRmask : Bool)
    (par : Option String) (perm : List Nat) (wing : Nat) (ek : Option (List Rat))
    (cn : List SRow) (rf : List RRow) (sl : Rat)
    (hperm : IsPerm perm (goodRows (sortS samp) ref).length) (hks : KeysSortable samp)
    (h : loadAdjust samp ref skipLow fixGc fixEdge fixRmask par perm wing ek = .ok (cn, rf, sl)) :
    (cn.map sKey).Perm ((goodRows samp ref).map sKey) ∧ cn.Pairwise (fun a b => sSortLe a b = true) ∧
    rf.map rKey = cn.map sKey ∧ (∀ q ∈ rf, badBin q = false ∧ q ∈ ref) := by
  by_cases hne : samp = []
  · subst hne
    cases h
    exact ⟨.refl _, .nil, rfl, fun q hq => nomatch hq⟩
  obtain ⟨hcn, hrf, hgood⟩ := loadAdjust_ok hne h
  have hsp : (sortS samp).Perm samp := List.mergeSort_perm _ _
  have hk1 := centerS_keys skipLow par (goodRows (sortS samp) ref)
  -- the centred good bins of the sorted sample start the chain of corrections, and every plan keeps it
  have ht : FixTracks (goodRows (sortS samp) ref) cn := by
    rw [hcn]
    refine fixTracks_runPlan hks (fun k hk => ?_) wing hperm rf (by simpa using congrArg List.length hrf) ek _ _
      ⟨sorted_of_keys_eq hk1 ((sortS_sorted samp).filter _), hk1⟩
    obtain ⟨b, hb, rfl⟩ := List.mem_map.mp hk
    exact List.mem_map_of_mem (hsp.mem_iff.mp (List.mem_filter.mp hb).1)
  exact ⟨ht.2 ▸ ((hsp.filter _).map sKey), ht.1, hrf.trans ht.2.symm, hgood⟩

/-- the side condition of `fix_emits_exactly_good_bins_aligned` holds for every table whose chromosome names are
    told apart by the sort key (no mixture of spellings such as "chr1" and "1" within one table) -/
theorem aligned_side_condition_holds (samp : List SRow)
    (h : ∀ a ∈ samp, ∀ b ∈ samp, sorterChrom a.chrom = sorterChrom b.chrom → a.chrom = b.chrom) :
    KeysSortable samp := keysSortable_of_distinct_names samp h

/-- … and the whole class is refused when a sample bin is absent from the reference or coordinates repeat -/
theorem fix_class_rejects_missing_or_duplicated (samp : List SRow) (ref : List RRow) (skipLow fixGc fixEdge fixRmask : Bool)
    (par : Option String) (perm : List Nat) (wing : Nat) (ek : Option (List Rat)) (hne : samp ≠ [])
    (hbad : hasDup (samp.map sKey) = true ∨ hasDup (ref.map rKey) = true ∨ ∃ r ∈ samp, ∀ q ∈ ref, rKey q ≠ sKey r) :
    ∃ e, loadAdjust samp ref skipLow fixGc fixEdge fixRmask par perm wing ek = .error e := by
  have hsp : (sortS samp).Perm samp := List.mergeSort_perm _ _
  have hm : ∃ e, matchRef ref (sortS samp) = .error e := by
    rcases hbad with h | h | ⟨r, hr, hq⟩
    · exact matchRef_rejects_dup _ _ (.inl (by rw [hasDup_perm _ _ ((hsp.map sKey).symm)]; exact h))
    · exact matchRef_rejects_dup _ _ (.inr h)
    · exact matchRef_rejects_missing ref (sortS samp) r (hsp.mem_iff.mpr hr) hq
  obtain ⟨e, hm⟩ := hm
  refine ⟨e, ?_⟩
  rw [loadAdjust_eq, if_neg (by simpa using hne)]
  unfold prepare
  rw [hm]
  rfl

/-- with every bias correction off, a class of bins (targets, resp. antitargets) comes out of loading / masking /
    centring as exactly the good sample bins in genomic order, each log2 moved by ONE constant for the class -/
theorem nocorr_class_constant (samp : List SRow) (ref : List RRow) (skipLow : Bool) (par : Option String)
    (perm : List Nat) (wing : Nat) (ek : Option (List Rat)) (cn : List SRow) (rf : List RRow) (sl : Rat)
    (h : loadAdjust samp ref skipLow false false false par perm wing ek = .ok (cn, rf, sl)) :
    ∃ c : Rat, cn = (goodRows (sortS samp) ref).map (fun r => { r with log2 := r.log2 + c }) := by
  by_cases hne : samp = []
  · subst hne
    cases h
    exact ⟨0, by rw [sortS, List.mergeSort_nil]; rfl⟩
  have hplan : ∀ skip a b, C04x.correctionPlan skip false false false a b = [] := by
    intro skip a b; cases skip <;> rfl
  have hcn := (loadAdjust_ok hne h).1
  rw [hplan] at hcn
  exact ⟨_, hcn⟩

/-- the whole of `do_fix`, for ANY enabled corrections, permutations, windows and weights: every emitted bin's log2
    is the (class-adjusted) sample log2 of the bin with the SAME coordinates minus the log2 of a good reference bin
    with the SAME coordinates, plus one constant (the final centring): the subtraction is bin-for-bin by coordinate
    although targets and antitargets are adjusted separately, concatenated and re-sorted on both sides; the output
    is in genomic order and has exactly the adjusted bins' coordinates.  (`hnd` is not needed by the proof.) -/
theorem fix_subtracts_bin_for_bin_by_coordinate (tgt anti : List SRow) (ref : List RRow) (cfg : FixCfg) (P : FixParams)
    (outs : List FixOut) (h : doFix tgt anti ref cfg P = .ok outs)
    (hpT : IsPerm P.permT (goodRows (sortS tgt) ref).length)
    (hpA : IsPerm P.permA (goodRows (sortS anti) ref).length)
    (hks : KeysSortable (tgt ++ anti)) (hnd : hasDup ((tgt ++ anti).map sKey) = false) :
    ∃ (cnT cnA : List SRow) (rfT rfA : List RRow) (s1 s2 c : Rat),
      loadAdjust tgt ref true cfg.gc cfg.edge false cfg.par P.permT P.wingT P.edgeKeysT = .ok (cnT, rfT, s1) ∧
      loadAdjust anti ref false cfg.gc false cfg.rmask cfg.par P.permA P.wingA = .ok (cnA, rfA, s2) ∧
      outs.length = (cnT ++ cnA).length ∧
      (outs.map (fun o => sKey o.row)).Perm ((cnT ++ cnA).map sKey) ∧
      (outs.map (·.row)).Pairwise (fun a b => sSortLe a b = true) ∧
      ∀ o ∈ outs, ∃ s ∈ cnT ++ cnA, ∃ q ∈ ref, sKey s = sKey o.row ∧ rKey q = sKey o.row ∧ badBin q = false ∧
        o.row.log2 = s.log2 - q.log2 + c := by
  unfold doFix at h
  split at h
  · cases h
  rw [doFixCore_eq] at h
  split at h
  · cases h
  rename_i cnT rfT s1 hT
  split at h
  · cases h
  rename_i cnA rfA s2 hA
  cases h
  -- each class comes out aligned with its own reference rows
  obtain ⟨-, sT, kT, gT⟩ := fix_emits_exactly_good_bins_aligned tgt ref true cfg.gc cfg.edge false cfg.par P.permT P.wingT
    P.edgeKeysT cnT rfT s1 hpT (hks.mono fun _ => List.mem_append_left _) hT
  obtain ⟨-, -, kA, gA⟩ := fix_emits_exactly_good_bins_aligned anti ref false cfg.gc false cfg.rmask cfg.par P.permA P.wingA
    none cnA rfA s2 hpA (hks.mono fun _ => List.mem_append_right _) hA
  refine ⟨cnT, cnA, rfT, rfA, s1, s2, ?_⟩
  unfold fixCore
  by_cases hE : cnA.isEmpty = true
  · rw [if_pos hE, if_pos hE]
    obtain rfl : cnA = [] := by simpa using hE
    obtain ⟨c, hc⟩ := fixBody_final (cnT ++ []) ref cfg P cnT rfT (by simp) sT gT kT
    exact ⟨c, hT, hA, hc⟩
  · rw [if_neg hE, if_neg hE]
    -- both sides are re-sorted by the same comparison of coordinates, so they stay paired
    obtain ⟨c, hc⟩ := fixBody_final (cnT ++ cnA) ref cfg P _ _ (List.mergeSort_perm _ _) (sortS_sorted _)
      (fun q hq => (List.mem_append.mp ((List.mergeSort_perm _ _).mem_iff.mp hq)).elim (gT q) (gA q))
      (sortR_keys_eq_sortS_keys (by rw [List.map_append, List.map_append, kT, kA]))
    exact ⟨c, hT, hA, hc⟩

/-- … and `fix` as a whole refuses a bin that occurs in BOTH sample tables (finding BA) -/
theorem fix_rejects_bin_shared_by_both_tables (tgt anti : List SRow) (ref : List RRow) (cfg : FixCfg) (P : FixParams)
    (r : SRow) (ht : r ∈ tgt) (a : SRow) (ha : a ∈ anti) (hk : sKey r = sKey a) :
    doFix tgt anti ref cfg P = .error .dupSample := by
  unfold doFix
  have : (tgt.map sKey).any (fun k => (anti.map sKey).contains k) = true := by
    simp only [List.any_eq_true, List.mem_map]
    exact ⟨sKey r, ⟨r, ht, rfl⟩, by simp only [List.contains_iff_mem, List.mem_map]; exact ⟨a, ha, hk.symm⟩⟩
  rw [if_pos this]

/-! non-vacuity -/
example : edgeLoss 100 250 = 250 / 200 - (150 : Rat) ^ 2 / (2 * 250 * 100) := by decide +kernel
example : weightOf true (1/2) 10 10 (1/100) = Generated.WEIGHT_REF_EMPHASIS * (3/4) + (1 - Generated.WEIGHT_REF_EMPHASIS) * (99/100) := by
  decide +kernel

end CnvVerif.C04
