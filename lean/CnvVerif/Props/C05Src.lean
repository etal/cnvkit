/-
  C05: tie of `reference.calculate_gc_lo` to the source TEXT.  The definitions `Generated.src_*` of Generated/ExprsRef.lean are re-translated from
  /repo's Python on every run (harness/exprtrans_c05.py, extractor harness/extractors/exprs_ref.py); these theorems state
  that the hand-written model functions of the pooled / flat reference are those expressions.  Kept in a module of
  their own so that an edit to one of the functions breaks exactly these obligations.
-/
import CnvVerif.Props.C05
import CnvVerif.Lemmas.SrcRef
namespace CnvVerif.C05
open CnvVerif CnvVerif.Ref

/-- gc and rmask of a bin's sequence, as the model computes them, ARE the expressions of `reference.calculate_gc_lo`
    applied to the number of occurrences of each of the letters a t A T g c G C (`str.count`) -/
theorem gc_rmask_is_the_source (seq : List Char) :
    gcRmask seq = Generated.src_calculate_gc_lo (Src.cnt seq 'a') (Src.cnt seq 't') (Src.cnt seq 'A')
      (Src.cnt seq 'T') (Src.cnt seq 'g') (Src.cnt seq 'c') (Src.cnt seq 'G') (Src.cnt seq 'C') := by
  rw [gcRmask_counts]
  unfold Generated.src_calculate_gc_lo Src.cnt
  -- the source's total of unambiguous bases is the model's, cast to a rational
  have htot : ((seq.count 'G' : Rat) + seq.count 'C' + (seq.count 'g' + seq.count 'c') +
      (seq.count 'A' + seq.count 'T') + (seq.count 'a' + seq.count 't')) =
      ((seq.count 'G' + seq.count 'C' + seq.count 'g' + seq.count 'c' +
        (seq.count 'A' + seq.count 'T' + seq.count 'a' + seq.count 't') : Nat) : Rat) := by
    push_cast; ring
  simp only [htot, Nat.cast_eq_zero, not_not]
  split
  · rfl
  · congr 2 <;> (push_cast; ring)


/-! non-vacuity -/
example : Generated.src_calculate_gc_lo 1 1 1 0 0 1 1 0 = (2/5, 3/5) := by decide +kernel

end CnvVerif.C05
