/-
  C05 -- the pooled reference does not depend on the ORDER in which the coverage files are given
  ("over the samples": a set; the correspondence run shuffles the file lists).
  Lemmas in Lemmas/ReferencePerm.lean.  Two independent reasons, both theorems: the per-bin estimators are symmetric in
  their arguments, and the files are processed in sample-name order whatever order they were given in.
-/
import CnvVerif.Props.C05
import CnvVerif.Lemmas.ReferencePerm
namespace CnvVerif.C05
open CnvVerif CnvVerif.Ref

/-- Tukey's biweight location and midvariance of a bin (pseudo-sample value `f` first, then the samples' values) do not
    depend on the order of the samples' values -/
theorem bin_summary_is_symmetric_in_the_samples (f c : Rat) {vs vs' : List Rat} (h : vs.Perm vs') :
    locOf (f :: vs) = locOf (f :: vs') ∧ spreadOf (f :: vs) c = spreadOf (f :: vs') c :=
  ⟨locOf_perm (List.Perm.cons f h), spreadOf_perm (List.Perm.cons f h) c⟩

/-- … in any position: the summaries are symmetric functions of the whole column -/
theorem bin_summary_is_symmetric {l l' : List Rat} (h : l.Perm l') (c : Rat) :
    locOf l = locOf l' ∧ spreadOf l c = spreadOf l' c := ⟨locOf_perm h, spreadOf_perm h c⟩

/-- `summarize_info`: the (log2, spread) of every bin is the same for every order of the sample rows of the matrix
    `[pseudo-sample] ++ samples` -/
theorem summaries_do_not_depend_on_the_row_order (n : Nat) (flat : List Rat) {mat mat' : List (List Rat)}
    (h : mat.Perm mat') :
    (columns n (flat :: mat)).map (fun c => (locOf c, spreadOf c (locOf c))) =
    (columns n (flat :: mat')).map (fun c => (locOf c, spreadOf c (locOf c))) := by
  exact columns_map_summary_perm n (h.cons flat)

/-- a block of coverage files given in another order is the same reference block (sample names distinct: they are
    the file names without their extensions) … -/
theorem file_order_is_irrelevant (hapX : Bool) (par : Option String) (skipLow : Bool) (sexes : List (String × Bool))
    {files files' : List Sample} (h : files.Perm files') (hn : (files.map (·.name)).Nodup) :
    refBlock hapX par skipLow sexes files = refBlock hapX par skipLow sexes files' := by
  unfold refBlock
  rw [sortSamples_eq_of_perm h hn]

/-- … and so is the whole reference, with or without bias corrections, when the target files and the antitarget files
    are each given in an order of their own -/
theorem file_order_is_irrelevant_for_the_whole_reference (cfgT cfgA : CorrCfg) (hapX : Bool) (par : Option String)
    (sexes : List (String × Bool)) {t t' a a' : List Sample} (ht : t.Perm t') (ha : a.Perm a')
    (hnt : (t.map (·.name)).Nodup) (hna : (a.map (·.name)).Nodup) :
    doReferenceOn cfgT cfgA hapX par sexes t (some a) = doReferenceOn cfgT cfgA hapX par sexes t' (some a') := by
  have e1 := refBlockOn_file_order cfgT hapX par true sexes ht hnt
  have e2 := refBlockOn_file_order cfgA hapX par false sexes ha hna
  have e3 : a.isEmpty = a'.isEmpty := by
    rw [Bool.eq_iff_iff, List.isEmpty_iff_length_eq_zero, List.isEmpty_iff_length_eq_zero, ha.length_eq]
  unfold doReferenceOn
  dsimp only
  rw [e1, e2, e3, ht.length_eq, ha.length_eq]

/-! non-vacuity: two files in either order -/
example : ([⟨"s1", []⟩, ⟨"s2", []⟩] : List Sample).Perm [⟨"s2", []⟩, ⟨"s1", []⟩] ∧
    (([⟨"s1", []⟩, ⟨"s2", []⟩] : List Sample).map (·.name)).Nodup :=
  ⟨List.Perm.swap _ _ _, by decide⟩

end CnvVerif.C05
