/-
  C04: the decision table of `load_adjust_coverages` and of the pooled-or-flat test, and the statement that the
  model's `loadAdjust` (about which all C04 theorems are stated) runs exactly the plan the table gives
  ("every subset of {gc, edge, rmask} corrections", "references with/without gc and rmask columns", "pooled or flat").
  Lemmas in Lemmas/FixPlanExt5.lean (plan), FixWeights.lean (pooled test), FixInv.lean (depth column).
-/
import CnvVerif.Props.C04
import CnvVerif.Lemmas.FixPlanExt5
import CnvVerif.Lemmas.FixInv
namespace CnvVerif.C04
open CnvVerif

/-- `load_adjust_coverages` = sort, match, drop bad bins, centre, then fold `center_by_window` over the plan that the
    decision table gives for (skip verdict on the centred log2, the three flags, which columns the reference has);
    the edge-bias keys are computed on the rows as they are when their turn comes (after the GC correction) -/
theorem load_adjust_runs_the_plan (samp : List SRow) (ref : List RRow) (skipLow g e r : Bool)
    (par : Option String) (perm : List Nat) (wing : Nat) (ek : Option (List Rat)) :
    (loadAdjust samp ref skipLow g e r par perm wing ek).map (fun x => (x.1, x.2.1)) =
      C04x.loadAdjustPlanned samp ref skipLow g e r par perm wing ek :=
  by
  rw [loadAdjust_eq, C04x.loadAdjustPlanned_eq]
  split
  · rfl
  cases prepare samp ref skipLow par <;> rfl

/-- the decision table: GC correction iff not skipped, switched on and the column is there; edge correction iff not
    skipped and switched on; RepeatMasker correction iff not skipped, switched on and the column is there; always in the
    order gc, edge, rmask -/
theorem correction_decision_table (skip g e r hasGc hasRmask : Bool) :
    ("gc" ∈ C04x.correctionPlan skip g e r hasGc hasRmask ↔ (skip = false ∧ g = true ∧ hasGc = true)) ∧
    ("get_edge_bias" ∈ C04x.correctionPlan skip g e r hasGc hasRmask ↔ (skip = false ∧ e = true)) ∧
    ("rmask" ∈ C04x.correctionPlan skip g e r hasGc hasRmask ↔ (skip = false ∧ r = true ∧ hasRmask = true)) ∧
    (C04x.correctionPlan skip g e r hasGc hasRmask).Sublist ["gc", "get_edge_bias", "rmask"] :=
  C04x.plan_table skip g e r hasGc hasRmask

/-- pooled iff SOME bin has a spread above epsilon and SOME bin (not necessarily the same) a log2 whose fractional part
    exceeds epsilon -/
theorem pooled_iff_some_spread_and_some_fractional_log2 (rows : List (SRow × RRow × Rat)) :
    pooledRef rows = true ↔
      (∃ p ∈ rows, p.2.1.spread > Generated.WEIGHT_EPSILON) ∧
      (∃ q ∈ rows, absR (mod1 q.2.1.log2) > Generated.WEIGHT_EPSILON) :=
  pooledRef_iff rows

/-- the verdict does not depend on the order of the bins -/
theorem pooled_verdict_ignores_row_order (a b : List (SRow × RRow × Rat)) (h : a.Perm b) : pooledRef a = pooledRef b := by
  rw [Bool.eq_iff_iff, pooledRef_iff, pooledRef_iff]
  simp only [h.mem_iff]

/-- … and is monotone in the set of bins: a pooled table stays pooled when bins are added (so dropping bins can only
    turn a pooled reference into a flat one, never the reverse) -/
theorem pooled_verdict_monotone (a b : List (SRow × RRow × Rat)) (h : ∀ p ∈ a, p ∈ b) (hp : pooledRef a = true) :
    pooledRef b = true := by
  rw [pooledRef_iff] at hp ⊢
  obtain ⟨⟨p, hp, h1⟩, ⟨q, hq, h2⟩⟩ := hp
  exact ⟨⟨p, h p hp, h1⟩, ⟨q, h q hq, h2⟩⟩

/-- the three switches act on a class of bins ONLY through the decisions: two settings of (gc, edge, rmask) for which
    the skip verdict and the plan coincide give the same rows (generalises `class_missing_column_skips_correction`) -/
theorem switches_act_through_the_decisions (samp : List SRow) (ref : List RRow) (skipLow g e r g' e' r' : Bool)
    (par : Option String) (perm : List Nat) (wing : Nat) (ek : Option (List Rat))
    (h : C04x.decisions samp ref skipLow g e r par = C04x.decisions samp ref skipLow g' e' r' par) :
    (loadAdjust samp ref skipLow g e r par perm wing ek).map (fun x => (x.1, x.2.1)) =
      (loadAdjust samp ref skipLow g' e' r' par perm wing ek).map (fun x => (x.1, x.2.1)) :=
  by
  -- same decisions, same plan, hence the same result (slack included)
  refine congrArg _ (C04x.loadAdjust_congr perm wing ek rfl rfl fun hne p hp => ?_)
  rw [C04x.decisions_eq, C04x.decisions_eq, hne, hp] at h
  exact (Prod.mk.inj (Except.ok.inj h)).2

/-- a class most of whose kept bins have no coverage ("check that the right BED file was used"): every setting of the
    switches gives what all-corrections-off gives -/
theorem mostly_null_class_ignores_the_switches (samp : List SRow) (ref : List RRow) (skipLow g e r : Bool)
    (par : Option String) (perm : List Nat) (wing : Nat) (ek : Option (List Rat)) (p : List String)
    (h : C04x.decisions samp ref skipLow g e r par = .ok (true, p)) :
    (loadAdjust samp ref skipLow g e r par perm wing ek).map (fun x => (x.1, x.2.1)) =
      (loadAdjust samp ref skipLow false false false par perm wing ek).map (fun x => (x.1, x.2.1)) :=
  switches_act_through_the_decisions samp ref skipLow g e r false false false par perm wing ek
    (by rw [h, C04x.decisions_skip samp ref skipLow g e r false false false par p h])

/-- `mask_bad_bins` reads the REFERENCE's depth column only through `== 0`: multiplying it by a non-zero factor changes
    no verdict -/
theorem bad_bin_mask_reads_reference_depth_through_zero (r : RRow) (c : Rat) (hc : c ≠ 0) :
    badBin { r with depth := c * r.depth } = badBin r := by
  unfold badBin
  simp [hc]

/-- `center_all` (both per-class centrings and the final one) reads the SAMPLE's depth column only through `== 0`
    (`drop_low_coverage`): multiplying the column by a non-zero factor changes nothing but the column itself -/
theorem centring_reads_sample_depth_through_zero (c : Rat) (hc : c ≠ 0) (skipLow : Bool) (par : Option String) (t : List SRow) :
    centerS skipLow par (t.map (C04x.scaleDepth c)) = (centerS skipLow par t).map (C04x.scaleDepth c) := by
  unfold centerS
  rw [C04x.toCBin_scale, C04x.centerShift_scale c hc, List.map_map, List.map_map]
  rfl

/-! non-vacuity: the two witnesses may be different rows; the knife edge (spread exactly epsilon) is flat -/
example : pooledRef [((⟨"chr1", 0, 100, "A", 0, 1⟩ : SRow), (⟨"chr1", 0, 100, "A", -1, 1, none, none, 1/5⟩ : RRow), (10 : Rat)),
                     ((⟨"chr1", 100, 200, "A", 0, 1⟩ : SRow), (⟨"chr1", 100, 200, "A", 1/2, 1, none, none, 0⟩ : RRow), (10 : Rat))] = true := by
  decide +kernel
example : pooledRef [((⟨"chr1", 0, 100, "A", 0, 1⟩ : SRow), (⟨"chr1", 0, 100, "A", 1/2, 1, none, none, Generated.WEIGHT_EPSILON⟩ : RRow), (10 : Rat))] = false := by
  decide +kernel
example : C04x.correctionPlan false true true true true false = ["gc", "get_edge_bias"] := by decide
example : C04x.skipCorrections [-20, -20, 0, 0] = true ∧ C04x.skipCorrections [-20, 0, 0] = false := by decide +kernel
example : (2 : Rat) ≠ 0 := by decide

end CnvVerif.C04
