/-
  C02 — threshold calls for ARBITRARY strictly increasing thresholds; the allelic clauses at table
  level for every purity.  Lemmas in Lemmas/Call.lean (ℚ model); the ℝ layer is proved here.
  Finding letters: DESIGN.md 9.3.
-/
import CnvVerif.Props.C02
import CnvVerif.Lemmas.CallReal
namespace CnvVerif.C02
open CnvVerif

/-- the value reported for scan index `i`: `int(i·r/ploidy)` where the
    reference copies differ from the ploidy, `i` otherwise — and it never decreases with `i` -/
theorem step_value_monotone (ploidy r : Nat) {i j : Nat} (h : i ≤ j) :
    scaledIdx ploidy r i ≤ scaledIdx ploidy r j := scaledIdx_mono ploidy r h

/-- "a monotone step function of log2", clause 1 — at or below the last threshold cn never decreases as log2
    increases: every strictly increasing threshold vector of any length, every ploidy (1 included), every reference
    copy number (so every chromosome class × reference sex), and NO assumption on the ratios -/
theorem monotone_below_last_threshold (thr : List Rat) (hs : thr.Pairwise (· < ·)) (ploidy r : Nat)
    (v₁ v₂ t₁ t₂ : Rat) (hv : v₁ ≤ v₂) (h2 : ∃ th ∈ thr, v₂ ≤ th) :
    thresholdCall thr ploidy r (some v₁) t₁ ≤ thresholdCall thr ploidy r (some v₂) t₂ :=
  -- neither the ratios nor the bound above the last threshold are read: `v₁ ≤ v₂ ≤ th`
  have ⟨th, hm, hle⟩ := h2
  thresholdCall_mono_any thr ploidy r v₁ v₂ t₁ t₂ hv (fun h => absurd (lt_of_lt_of_le (h th hm) hv) (not_lt.mpr hle))
    (fun h => absurd (h th hm) (not_lt.mpr hle))

/-- clause 2 — above the last threshold it never decreases either (`t = 2^log2` is monotone: `two_rpow_monotone`) -/
theorem monotone_above_last_threshold (thr : List Rat) (ploidy r : Nat) (v₁ v₂ t₁ t₂ : Rat)
    (h1 : ∀ th ∈ thr, th < v₁) (h2 : ∀ th ∈ thr, th < v₂) (ht : t₁ ≤ t₂) :
    thresholdCall thr ploidy r (some v₁) t₁ ≤ thresholdCall thr ploidy r (some v₂) t₂ := by
  rw [above_last_is_ceil thr ploidy r v₁ t₁ h1, above_last_is_ceil thr ploidy r v₂ t₂ h2]
  exact ceil_mul_mono r ht

/-- clause 3 — ACROSS the last threshold, the exact criterion (an iff): no decrease from `v₁` (at or below the last
    threshold) to `v₂` (above it) precisely when `r·2^v₂` exceeds the step value at `v₁` minus one -/
theorem monotone_across_last_threshold_iff (thr : List Rat) (hs : thr.Pairwise (· < ·)) (ploidy r : Nat)
    (v₁ v₂ t₁ t₂ : Rat) (h1 : ∃ th ∈ thr, v₁ ≤ th) (h2 : ∀ th ∈ thr, th < v₂) :
    thresholdCall thr ploidy r (some v₁) t₁ ≤ thresholdCall thr ploidy r (some v₂) t₂ ↔
      ((scaledIdx ploidy r (thr.countP (fun th => decide (th < v₁))) : Int) : Rat) - 1 < (r : Rat) * t₂ := by
  rw [threshold_counts thr hs ploidy r v₁ t₁ h1, above_last_is_ceil thr ploidy r v₂ t₂ h2]
  exact le_ceil_iff_pred_lt _ _

/-- the whole line: for arbitrary strictly increasing thresholds the call is monotone in log2 as soon as, above
    the last threshold, `r·2^log2` exceeds (largest step value − 1).  Generalises `monotone_default_partial`
    (defaults: 4 thresholds, largest step value 3 on `r = ploidy`, so the bound reads `2 < ploidy·2^0.7`, true
    from ploidy 2 on and false at ploidy 1 — finding B). -/
theorem monotone_arbitrary_thresholds (thr : List Rat) (hs : thr.Pairwise (· < ·)) (ploidy r : Nat)
    (v₁ v₂ t₁ t₂ : Rat) (hv : v₁ ≤ v₂) (ht : t₁ ≤ t₂)
    (hab : (∀ th ∈ thr, th < v₂) → ((scaledIdx ploidy r (thr.length - 1) : Int) : Rat) - 1 < (r : Rat) * t₂) :
    thresholdCall thr ploidy r (some v₁) t₁ ≤ thresholdCall thr ploidy r (some v₂) t₂ :=
  thresholdCall_mono_any thr ploidy r v₁ v₂ t₁ t₂ hv (fun _ => ht) hab

/-- … and the bound is sharp — where exactly monotonicity fails: `v₁` in the last step below the last threshold,
    `v₂` above it with `r·2^v₂ ≤ largest step value − 1` is a strict decrease -/
theorem monotone_fails_exactly_when (thr : List Rat) (hs : thr.Pairwise (· < ·)) (ploidy r : Nat)
    (v₁ v₂ t₁ t₂ : Rat) (h1 : ∃ th ∈ thr, v₁ ≤ th)
    (hc : thr.countP (fun th => decide (th < v₁)) = thr.length - 1)
    (h2 : ∀ th ∈ thr, th < v₂)
    (hbad : (r : Rat) * t₂ ≤ ((scaledIdx ploidy r (thr.length - 1) : Int) : Rat) - 1) :
    thresholdCall thr ploidy r (some v₂) t₂ < thresholdCall thr ploidy r (some v₁) t₁ := by
  have := (monotone_across_last_threshold_iff thr hs ploidy r v₁ v₂ t₁ t₂ h1 h2).not
  rw [hc] at this
  exact not_le.mp (this.mpr (not_lt.mpr hbad))

/-- ℝ layer: the bound of `monotone_arbitrary_thresholds` holds at every log2 above the last threshold `L` as soon
    as it holds (non-strictly) AT `L` … -/
theorem bound_above_last_of_bound_at_last (r s L v : ℝ) (hr : 0 < r) (h : s - 1 ≤ r * (2 : ℝ) ^ L) (hv : L < v) :
    s - 1 < r * (2 : ℝ) ^ v := by
  have : (2 : ℝ) ^ L < (2 : ℝ) ^ v := Real.rpow_lt_rpow_of_exponent_lt (by norm_num) hv
  exact lt_of_le_of_lt h (mul_lt_mul_of_pos_left this hr)

/-- … and if it fails at `L` there IS a log2 above `L` at which `r·2^v = s − 1`, so that the call there is one less
    than just below `L`: a threshold vector is monotone iff `largest step value − 1 ≤ r·2^L` -/
theorem drop_exists_when_bound_fails_at_last (r s L : ℝ) (hr : 0 < r) (h : r * (2 : ℝ) ^ L < s - 1) :
    ∃ v, L < v ∧ r * (2 : ℝ) ^ v = s - 1 := by
  have hpos : 0 < (s - 1) / r := by
    have : 0 < r * (2 : ℝ) ^ L := mul_pos hr (Real.rpow_pos_of_pos (by norm_num) L)
    exact div_pos (lt_trans this h) hr
  refine ⟨Real.logb 2 ((s - 1) / r), ?_, ?_⟩
  · rw [Real.lt_logb_iff_rpow_lt (by norm_num) hpos, lt_div_iff₀ hr, mul_comm]
    exact h
  · rw [Real.rpow_logb (by norm_num) (by norm_num) hpos, mul_div_cancel₀ _ hr.ne']

/-- the same failure as finding B at the ORDINARY ploidy 2 once a user passes six thresholds: cn 5 at log2 0.45,
    cn 3 at log2 0.55 (`2·2^0.55 ≈ 2.93`) -/
theorem monotone_six_thresholds_ploidy2_counterexample :
    thresholdCall [-11/10, -1/4, 1/5, 3/10, 2/5, 1/2] 2 2 (some (45/100)) (1366/1000) = 5 ∧
    thresholdCall [-11/10, -1/4, 1/5, 3/10, 2/5, 1/2] 2 2 (some (55/100)) (1464/1000) = 3 := by decide +kernel

/-- cn1 and cn2 are both missing exactly where the segment has no BAF and cn > 0 — at the level of the whole
    `do_call` table, for every purity (none, 1, or in (0,1): BAFs rescaled when they come from `variants`), every
    ploidy, sex configuration and both calling methods -/
theorem allelic_missing_iff_every_purity (cfg : CallCfg) (m : Method) (hm : m ≠ .none) (thr : List Rat)
    (fromVariants : Bool) (rows : List SegRow) (i : Nat) (hi : i < rows.length) :
    let o := (callTableV cfg m thr fromVariants rows)[i]'(by simpa [callTableV, callTable] using hi)
    (o.cn1 = none ∧ o.cn2 = none) ↔ ((rows[i]).baf = none ∧ ∃ c, o.cn = some c ∧ 0 < c) := by
  simp only [callTableV, callTable, List.getElem_map]
  rw [callRow_missing_iff cfg m hm, bafForCall_baf_isNone]

example : ([-11/10, -1/4, 1/5, 3/10, 2/5, 1/2] : List Rat).Pairwise (· < ·) := by decide +kernel
example : scaledIdx 2 1 3 = 1 ∧ scaledIdx 3 3 2 = 2 := by decide +kernel

end CnvVerif.C02
