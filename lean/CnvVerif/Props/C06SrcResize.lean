/-
  C06: tie to the source TEXT (resize_ranges: the clip expressions, `if bp < 0`, the keep-test).
  The definitions `Generated.src_*` of Generated/ExprsInterval.lean are re-translated from /repo's Python on every run
  (harness/exprtrans.py, "pieces"; harness/extractors/exprs_interval.py names the pieces and the column expressions read
  elementwise).  These theorems state that the hand-written model functions are built from exactly those pieces.
  One module per source function so that an edit breaks exactly the obligations about that function.
-/
import CnvVerif.Props.C06
import CnvVerif.Lemmas.SrcIntervalResize
namespace CnvVerif.C06
open CnvVerif CnvVerif.Generated

/-- the model's `resizeTable` is the source's clip expressions `(start - bp).clip(lower=0[, upper=size])`,
    `(end + bp).clip(...)`, its `if bp < 0:` and its keep-test `end - start > 0` -/
theorem resize_is_the_source (bp : Int) (sizes : String → Option Int) (t : Table) :
    resizeTable bp sizes t =
      (let moved := t.map fun r =>
        match sizes r.chrom with
        | some hi => { r with s := src_resize_start r.s bp hi, e := src_resize_end r.e bp hi }
        | none => { r with s := src_resize_start_nosizes r.s bp, e := src_resize_end_nosizes r.e bp }
       if src_resize_drops bp = true then moved.filter (fun q => src_resize_ok_size q.s q.e) else moved) := by
  unfold resizeTable
  simp only [Src.src_resize_drops_nf, Src.src_resize_ok_size_nf, Src.src_resize_start_nf, Src.src_resize_end_nf,
    Src.src_resize_start_nosizes_nf, Src.src_resize_end_nosizes_nf, decide_eq_true_eq]
  have hmap : (t.map fun r =>
      ({ r with s := clipInt 0 (sizes r.chrom) (r.s - bp), e := clipInt 0 (sizes r.chrom) (r.e + bp) } : Row)) =
      (t.map fun r => match sizes r.chrom with
        | some hi => ({ r with s := clipInt 0 (some hi) (r.s - bp), e := clipInt 0 (some hi) (r.e + bp) } : Row)
        | none => { r with s := clipInt 0 none (r.s - bp), e := clipInt 0 none (r.e + bp) }) := by
    apply List.map_congr_left
    intro r _
    cases sizes r.chrom <;> rfl
  rw [hmap]

example : src_resize_start 3 5 100 = 0 ∧ src_resize_end 98 5 100 = 100 ∧ src_resize_ok_size 5 5 = false := by decide +kernel

end CnvVerif.C06
