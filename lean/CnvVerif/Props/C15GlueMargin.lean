/-
  C15: the glue COMPOSED with the decision model and the margin theorem (Props/C15Margin.lean) — at the level of the
  BIN TABLE.  `compare_sex_chromosomes` on a table without a weight column IS `sexIsMale` on the three selected
  value lists; hence, on the median-difference path, `guess_xx` and the `sex` report return the sample's sex for
  every table whose autosomal / chrX / chrY bins lie within the margin (the property's "guess_xx and the `sex`
  report return that sex", with the selection by chromosome name and PAR inside the statement).
-/
import CnvVerif.Props.C15Glue
import CnvVerif.Props.C15Margin
import CnvVerif.Props.C15
namespace CnvVerif.C15x
open CnvVerif

/-- the decision of `compare_sex_chromosomes(hapX, par)` on a table with a chrX bin is `sexIsMale` on the log2
    values of `autosomes(par)`, `chr_x_filter(par)`, `chr_y_filter(par)` -/
theorem compareSex_decision_is_sexIsMale (G : MoodTable → Rat) (hapX : Bool) (par : Option String) (t : List CBin)
    (hx : chrXBins par t ≠ []) :
    (compareSex (ctaOfG fun _ => G) hapX par false t).map (·.1) =
      some (sexIsMale G hapX ((autoBins par t).map (·.log2)) ((chrXBins par t).map (·.log2))
              ((chrYBins par t).map (·.log2))) := by
  rw [compareSex_of_x _ hapX par false t hx]
  simp only [List.isEmpty_iff, hx, if_false, Option.map_some, Option.some.injEq, lowIf,
    Bool.false_eq_true, chromLr, ctaOfG, sexIsMale, compareChromOf, List.map_eq_nil_iff, combinedScore_some]
  congr 3
  split <;> rfl

/-- TABLE-LEVEL MARGIN THEOREM.  A table (no weight column) whose autosomal bins lie within `d < 1/4` of a level
    `a`, whose chrX bins lie within `d` of the level expected for the sample's sex and the stated reference sex, whose
    chrY bins (if any) lie within `d` of `a` (male) / at least 2 below (female), and all of whose Mood tables are
    degenerate: `guess_xx` returns the sample's sex and the `sex` report prints it -/
theorem guessXX_and_report_within_margin (G : MoodTable → Rat) (hapX female : Bool) (a d : Rat)
    (par : Option String) (t : List CBin)
    (h : withinMargin hapX female a d ((autoBins par t).map (·.log2)) ((chrXBins par t).map (·.log2))
           ((chrYBins par t).map (·.log2)) = true)
    (hdeg : allDegenerate hapX ((autoBins par t).map (·.log2)) ((chrXBins par t).map (·.log2))
           ((chrYBins par t).map (·.log2)) = true) :
    guessXX (ctaOfG fun _ => G) hapX par t = some female ∧
    (sexRow (ctaOfG fun _ => G) hapX par t).1 = (if female then "Female" else "Male") := by
  have hx : chrXBins par t ≠ [] := by
    intro h0
    simp [withinMargin, h0] at h
  have hdec := compareSex_decision_is_sexIsMale G hapX par t hx
  rw [C15.sex_inferred_within_margin_degenerate_tables G hapX female a d _ _ _ h hdeg] at hdec
  have hg : guessXX (ctaOfG fun _ => G) hapX par t = some female := by
    unfold guessXX
    cases hc : compareSex (ctaOfG fun _ => G) hapX par false t with
    | none => simp [hc] at hdec
    | some r =>
      simp only [hc, Option.map_some, Option.some.injEq] at hdec
      simp [hdec]
  exact ⟨hg, (sexRow_agrees_with_guessXX _ hapX par t female hg).1⟩

/-- non-vacuity of the hypotheses at table level: flat autosomes, a male sample against a female reference -/
example : withinMargin false false 0 (1/5)
    ((autoBins none [{ chrom := "7", s := 0, e := 9, log2 := 0 }, { chrom := "7", s := 9, e := 19, log2 := 0 },
                     { chrom := "X", s := 0, e := 9, log2 := -9/10 }]).map (·.log2))
    ((chrXBins none [{ chrom := "7", s := 0, e := 9, log2 := 0 }, { chrom := "7", s := 9, e := 19, log2 := 0 },
                     { chrom := "X", s := 0, e := 9, log2 := -9/10 }]).map (·.log2)) [] = true := by
  have h7 : isAutosomeName "7" = true := C15.autosome_name_examples.2.1
  have hX : isAutosomeName "X" = false := C15.autosome_name_examples.2.2.2.1
  have hA : autoBins none [{ chrom := "7", s := 0, e := 9, log2 := 0 }, { chrom := "7", s := 9, e := 19, log2 := 0 },
      { chrom := "X", s := 0, e := 9, log2 := -9/10 }] =
      [{ chrom := "7", s := 0, e := 9, log2 := 0 }, { chrom := "7", s := 9, e := 19, log2 := 0 }] := by
    simp [autoBins, autosomesOf, h7, hX]
  have hXb : chrXBins none [{ chrom := "7", s := 0, e := 9, log2 := 0 }, { chrom := "7", s := 9, e := 19, log2 := 0 },
      { chrom := "X", s := 0, e := 9, log2 := -9/10 }] = [{ chrom := "X", s := 0, e := 9, log2 := -9/10 }] := by
    decide +kernel
  rw [hA, hXb]
  decide +kernel

end CnvVerif.C15x
