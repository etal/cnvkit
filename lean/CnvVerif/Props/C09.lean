/-
  C09 — `coverage` reports the mean per-base depth of the counted reads in every bin.
  The arguments are in Lemmas/Coverage.lean (one read against one bin: Lemmas/CoveragePositions.lean; chunks and gather:
  Lemmas/CoveragePool.lean); the theorems here put them together, a few lines each.  Model: Model/Coverage.lean
  (`coverage` = do_coverage; reads are BAM records as data, htslib and Executor.map are contracts).
-/
import CnvVerif.Model.Coverage
import CnvVerif.Lemmas.Coverage
namespace CnvVerif.C09
open CnvVerif CnvVerif.Cov

/-! ### what the source says (regenerated from /repo on every run) -/

/-- the sentinel the property names -/
theorem null_log2_is_minus_20 : Generated.NULL_LOG2_COVERAGE = -20 ∧ Generated.NULL_LOG2_COVERAGE_dec = -20 := by
  decide +kernel

/-- `filter_read` tests exactly the four flags of the property and drops MAPQ strictly below the cut-off;
    aligned positions are taken in the half-open bin `start <= p < end` -/
theorem filter_read_source :
    Generated.COUNT_FILTER_ATTRS = ["is_duplicate", "is_secondary", "is_unmapped", "is_qcfail"] ∧
    Generated.COUNT_MAPQ_OP = "Lt" ∧ Generated.COUNT_POS_OPS = ["LtE", "Lt"] := ⟨rfl, rfl, rfl⟩

/-- `bedcov` is run with no option but `-Q` (and `--reference`): htslib's default flag filter, deletions covered -/
theorem bedcov_options_source : Generated.BEDCOV_OPTIONS = ["--reference", "-Q"] := rfl

/-- both parallel sections use `Executor.map` (ordered), chunk tables are concatenated in that order;
    default chunk size 5000 -/
theorem pool_source : Generated.COVERAGE_POOL_CALLS = ["map", "map"] ∧
    Generated.PILEUP_CONCAT_IGNORE_INDEX = true ∧ Generated.TO_CHUNKS_DEFAULT_SIZE = 5000 := ⟨rfl, rfl, rfl⟩

/-- cnvkit's `filter_read`, the filter inside `samtools bedcov -Q q`, and the property's wording are one
    and the same predicate on every record -/
theorem one_read_filter (q : Nat) (r : ARead) :
    counted q r = propCounted q r ∧ bedcovCounted q r = propCounted q r :=
  ⟨counted_eq_propCounted q r, bedcovCounted_eq_propCounted q r⟩

/-- a read flagged duplicate (1024), secondary (256), unmapped (4) or QC-fail (512), or with mapping
    quality below the cut-off, is not counted -/
theorem flagged_reads_not_counted (q : Nat) (r : ARead)
    (h : flagSet r.flag 1024 = true ∨ flagSet r.flag 256 = true ∨ flagSet r.flag 4 = true ∨
      flagSet r.flag 512 = true ∨ r.mapq < q) : counted q r = false := by
  rw [counted_eq_propCounted]; exact uncounted_of_flag q r h

/-- a read with none of those four flags and mapping quality at least the cut-off is counted (no other flag bit
    matters) -/
theorem clean_reads_counted (q : Nat) (r : ARead)
    (h1 : flagSet r.flag 1024 = false) (h2 : flagSet r.flag 256 = false) (h3 : flagSet r.flag 4 = false)
    (h4 : flagSet r.flag 512 = false) (h5 : q ≤ r.mapq) : counted q r = true := by
  rw [counted_eq_propCounted]; exact (propCounted_iff q r).mpr ⟨h1, h2, h3, h4, h5⟩

/-- an uncounted read can be deleted from the BAM (wherever it sits) without changing the table:
    either algorithm, any number of processes, any chunk size, any completion order -/
theorem flags_excluded (contigs : List (String × Nat)) (l1 l2 : List Read) (r : Read) (q : Nat)
    (h : flagSet r.flag 1024 = true ∨ flagSet r.flag 256 = true ∨ flagSet r.flag 4 = true ∨
      flagSet r.flag 512 = true ∨ r.mapq < q)
    (lines : List BedLine) (algo : Algo) (procs size : Nat) (order : List Nat) :
    coverage contigs (l1 ++ r :: l2) q lines algo procs size order =
      coverage contigs (l1 ++ l2) q lines algo procs size order := by
  rw [← coverage_counted, ← coverage_counted contigs (l1 ++ l2), List.filter_append, List.filter_append,
    List.filter_cons_of_neg (by rw [uncounted_of_flag q (align r) h]; exact Bool.false_ne_true)]

/-- the count algorithm (`-c`): for every regions file the command accepts, the table is — bin by bin, in the order
    sorted-by-chromosome the reader produces — the row the property demands (`specRow`: the bin's own
    coordinates and name, depth `truthDepth`, log2 or the sentinel) -/
theorem count_reports_spec_rows (contigs : List (String × Nat)) (rs : List Read) (q : Nat)
    (lines : List BedLine) (procs size : Nat) (order : List Nat) (hv : validate contigs lines = none) :
    coverage contigs rs q lines .count procs size order =
      .ok ((regroup (binsOf lines)).map (specRow contigs (rs.map align) q)) := by
  rw [coverage_eq, hv]; rfl

/-- pileup: the same rows, in file order, when no read carries a deletion / reference skip -/
theorem pileup_reports_spec_rows (contigs : List (String × Nat)) (rs : List Read)
    (hng : ∀ r ∈ rs, noRefGap r.cigar = true) (q : Nat)
    (lines : List BedLine) (procs size : Nat) (order : List Nat) (hs : 0 < size)
    (hv : validate contigs lines = none) :
    coverage contigs rs q lines .pileup procs size order =
      .ok ((binsOf lines).map (specRow contigs (rs.map align) q)) := by
  rw [coverage_eq, hv]
  exact congrArg Except.ok (List.map_congr_left fun b _ =>
    spanRow_eq_specRow contigs rs q b (gapBases_zero_of_noRefGap contigs rs hng q b.chrom b.s b.e))

/-- depth = (aligned bases of counted reads that fall inside the bin) / bin length, spelled out on the
    BAM records: the sum, over the reads on the bin's contig that are not duplicate / secondary / unmapped /
    QC-fail and have MAPQ ≥ q, of the number of their aligned reference positions p with start ≤ p < end -/
theorem depth_is_bases_over_length (contigs : List (String × Nat)) (rs : List Read) (q : Nat) (b : Row) (t : Nat)
    (ht : tidOf contigs b.chrom = some t) (hb : b.s < b.e) :
    (specRow contigs (rs.map align) q b).key = b ∧
    (specRow contigs (rs.map align) q b).depth =
      ((((rs.filter (fun r => r.tid == t && propCounted q (align r))).map
          (fun r => ((r.positions.countP (fun p => decide (b.s ≤ p) && decide (p < b.e)) : Nat) : Int))).sum : Int) : Rat)
        / ((b.e - b.s : Int) : Rat) := by
  refine ⟨rfl, ?_⟩
  rw [specRow_depth, depthOf_pos _ _ _ hb, alignedBases_def contigs rs q b.chrom t ht]
  rfl

/-- a bin that no counted read overlaps (or a zero-width bin) gets depth 0 and log2 = -20 -/
theorem empty_bin_sentinel (contigs : List (String × Nat)) (rs : List Read) (q : Nat) (b : Row)
    (h : b.e ≤ b.s ∨ ∀ r ∈ rs, ∀ t, tidOf contigs b.chrom = some t → r.tid = t →
      propCounted q (align r) = true → ∀ p ∈ r.positions, ¬ (b.s ≤ p ∧ p < b.e)) :
    (specRow contigs (rs.map align) q b).depth = 0 ∧ (specRow contigs (rs.map align) q b).log2 = some (-20) := by
  have := specRow_empty contigs (rs.map align) q b (by
    rcases h with h | h
    · exact Or.inr h
    · exact Or.inl (alignedBases_zero_of_no_overlap contigs rs q b.chrom b.s b.e h))
  rw [null_log2_is_minus_20.1] at this
  exact this

/-- a bin holding an aligned base of a counted read gets a positive depth and log2 = log2(depth)
    (`none` in the model: the logarithm itself is computed by `math.log` / `np.log2`) -/
theorem covered_bin_gets_log (contigs : List (String × Nat)) (rs : List Read) (q : Nat) (b : Row)
    (hb : b.s < b.e) (h : 0 < alignedBasesInBin contigs (rs.map align) q b.chrom b.s b.e) :
    0 < (specRow contigs (rs.map align) q b).depth ∧ (specRow contigs (rs.map align) q b).log2 = none :=
  specRow_nonempty contigs (rs.map align) q b hb h

/-- what `samtools bedcov` reports in closed form is the pileup depth summed over the positions of the bin -/
theorem pileup_is_position_sum (rs : List Read) (q t : Nat) (s e : Int) :
    bedcovCount (rs.map align) q (some t) s e =
      ((binPositions s e).map (fun p =>
        (pileupAt ((rs.map align).filter (fun r => r.tid == t && bedcovCounted q r)) p : Int))).sum :=
  bedcovCount_eq_pileup_sum (rs.map align) q t s e

/-- double counting: a read without deletions / reference skips has as many aligned positions inside the
    bin as the bin has positions inside the read -/
theorem count_eq_pileup_one_read (r : Read) (hng : noRefGap r.cigar = true) (s e : Int) :
    ((r.positions.countP (fun p => decide (s ≤ p) && decide (p < e)) : Nat) : Int) = spanIn (align r) s e := by
  rw [← basesIn_eq_spanIn r hng s e, basesIn_eq_count_positions r s e]; rfl

/-- the pileup and count algorithms give the same rows (same bins, same depths, same log2), up to the
    order in which the bins are listed, on reads without indels — for any processes, chunk size, order -/
theorem count_eq_pileup_no_indels (contigs : List (String × Nat)) (rs : List Read)
    (hng : ∀ r ∈ rs, noRefGap r.cigar = true) (q : Nat) (lines : List BedLine)
    (p1 p2 size : Nat) (o1 o2 : List Nat) (hs : 0 < size) :
    (countTable contigs (rs.map align) q lines p1 o1).Perm
      (pileupTable contigs (rs.map align) q lines p2 size o2) :=
  count_perm_pileup_of_gap_free contigs rs q lines p1 p2 size o1 o2
    (fun b _ => gapBases_zero_of_noRefGap contigs rs hng q b.chrom b.s b.e)

def exDelReads : List Read := [{ tid := 0, pos := 0, cigar := [(0, 2), (2, 2), (0, 2)], flag := 0, mapq := 60 }]

/-- with a deletion they differ (documented: bedcov counts deleted reference positions as covered):
    2M2D2M at 0 against the bin [0, 6): 4 aligned bases, 6 covered positions -/
theorem deletion_counterexample :
    countBases (exDelReads.map align) 0 (some 0) 0 6 = 4 ∧ bedcovCount (exDelReads.map align) 0 (some 0) 0 6 = 6 := by
  decide +kernel

/-- pileup: row i of the table carries the coordinates and name of record i of the regions file
    (`-` when the file has no name column) -/
theorem rows_keep_bin_pileup (contigs : List (String × Nat)) (reads : List ARead) (q : Nat)
    (lines : List BedLine) (procs size : Nat) (order : List Nat) (hs : 0 < size) :
    (pileupTable contigs reads q lines procs size order).map OutRow.key = binsOf lines := by
  rw [pileupTable_span, List.map_map]
  exact List.map_id'' (fun _ => rfl) _

/-- count algorithm: the rows carry exactly the bins of the regions file (each as often as it is listed), re-ordered -/
theorem rows_keep_bin_count (contigs : List (String × Nat)) (reads : List ARead) (q : Nat)
    (lines : List BedLine) (procs : Nat) (order : List Nat) :
    ((countTable contigs reads q lines procs order).map OutRow.key).Perm (binsOf lines) := by
  rw [countTable_eq, List.map_map]
  have : (OutRow.key ∘ fun b => regionDepthCount reads q (tidOf contigs b.chrom) b) = id := rfl
  rw [this, List.map_id]
  exact regroup_perm _

/-- `to_chunks`: the chunks, concatenated, are the non-comment lines in order; all chunks but possibly the
    last hold exactly `size` lines, the last one between 1 and `size - 1` — for every size ≥ 1 -/
theorem chunks_partition {α} (isComment : α → Bool) (size : Nat) (hs : 0 < size) (lines : List α) :
    (toChunks isComment size lines).flatten = lines.filter (fun x => !isComment x) ∧
    ∃ full last, toChunks isComment size lines = full ++ last ∧ (∀ c ∈ full, c.length = size) ∧
      (last = [] ∨ ∃ c, last = [c] ∧ 0 < c.length ∧ c.length < size) :=
  ⟨toChunks_flatten isComment size lines, toChunks_shape isComment size hs lines⟩

/-- the ordered-map contract: whatever order the workers finish in (any permutation of the indexed
    results), the gathered list is the list of results in submission order -/
theorem gather_any_completion_order {β} (ys : List β) (done : List (Nat × β))
    (h : done.Perm ((List.range ys.length).zip ys)) : orderedGather ys.length done = ys :=
  orderedGather_of_perm ys done h

/-- the table is the same for any number of worker processes, any split of the regions file into chunks
    (any chunk size ≥ 1) and any completion order of the workers — both algorithms -/
theorem chunked_eq_serial (contigs : List (String × Nat)) (reads : List Read) (q : Nat)
    (lines : List BedLine) (algo : Algo) (procs size : Nat) (order : List Nat) (hs : 0 < size) :
    coverage contigs reads q lines algo procs size order = coverage contigs reads q lines algo 1 1 [] :=
  (coverage_eq ..).trans (coverage_eq ..).symm

/-! ### non-vacuity -/

def exReads : List Read := [
  { tid := 0, pos := 5, cigar := [(4, 3), (0, 10)], flag := 16, mapq := 30 },
  { tid := 0, pos := 8, cigar := [(0, 10)], flag := 1024, mapq := 60 },
  { tid := 0, pos := 8, cigar := [(0, 10)], flag := 0, mapq := 5 }]
def exBed : List BedLine := [BedLine.comment, .record { chrom := "c", s := 0, e := 10, rest := ["a"] },
  .record { chrom := "c", s := 10, e := 20, rest := ["b"] }, .comment,
  .record { chrom := "c", s := 20, e := 20, rest := ["z"] }]

def exRows : List OutRow :=
  [⟨"c", 0, 10, "a", 1 / 2, none⟩, ⟨"c", 10, 20, "b", 1 / 2, none⟩, ⟨"c", 20, 20, "z", 0, some (-20)⟩]

/-- a read straddling two bins (soft-clipped, reverse strand), a duplicate, a low-MAPQ read; comments in the
    regions file; a zero-width bin: the hypotheses hold and the serial pileup gives the expected rows -/
example :
    validate [("c", 100)] exBed = none ∧ (∀ r ∈ exReads, noRefGap r.cigar = true) ∧
    (coverage [("c", 100)] exReads 10 exBed .pileup 1 1 []).toOption = some exRows := by
  decide +kernel

/-- three chunks of one line, workers finishing in the order 1, 2, 0: same table -/
example : coverage [("c", 100)] exReads 10 exBed .pileup 3 1 [2, 0, 1] =
    coverage [("c", 100)] exReads 10 exBed .pileup 1 1 [] :=
  chunked_eq_serial _ _ _ _ _ _ _ _ (by decide)

/-- the count algorithm on the same input: the same rows (as a rearrangement) -/
example : ∃ t, coverage [("c", 100)] exReads 10 exBed .count 2 1 [1, 0] = .ok t ∧ t.Perm exRows := by
  refine ⟨_, count_reports_spec_rows _ _ _ _ _ _ _ (by decide +kernel), ?_⟩
  have h : (binsOf exBed).map (specRow [("c", 100)] (exReads.map align) 10) = exRows := by decide +kernel
  rw [← h]
  exact (regroup_perm _).map _

example : toChunks (fun (s : String) => s.front == '#') 2 ["#h", "a", "b", "#m", "c"] = [["a", "b"], ["c"]] := by
  decide +kernel

/-- a completion order that is not the submission order -/
example : completion [5, 1, 3] [(0, "x"), (1, "y"), (2, "z")] = [(1, "y"), (2, "z"), (0, "x")] := by
  simp [completion, List.mergeSort, List.MergeSort.Internal.splitInTwo, List.splitAt, List.splitAt.go]

end CnvVerif.C09
