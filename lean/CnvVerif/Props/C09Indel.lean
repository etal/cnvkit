/-
  C09 with indels.  The property claims equal depths of the two algorithms "on reads without indels"; these
  theorems say what holds WITH them, for every CIGAR:
    * `--count` reports aligned bases / length whatever the CIGARs are (Props/C09.lean, `count_reports_spec_rows`);
    * the pileup (`samtools bedcov`, no `-j`) reports covered reference positions / length;
    * covered = aligned + deleted/skipped positions of counted reads inside the bin, so the pileup depth exceeds the
      count depth by exactly that many positions / length, and the two agree on a bin IFF no counted read has a
      deleted / skipped position inside it (a per-bin condition: reads with D / N elsewhere do not matter);
    * insertions, soft clips, hard clips and padding can be struck from every CIGAR without changing either table.
  Lemmas in Lemmas/CoveragePositions.lean (the span of a read = aligned + deleted / skipped positions), Lemmas/Coverage.lean
  (the same bin by bin) and Lemmas/CoverageIndel.lean; `algorithms_agree_on_bin_iff` is proved here.
-/
import CnvVerif.Props.C09
import CnvVerif.Lemmas.CoverageIndel
namespace CnvVerif.C09
open CnvVerif CnvVerif.Cov

/-- pileup, ANY CIGARs, any processes / chunk size / completion order: row i is bin i of the regions file with
    depth = (reference positions of the bin covered by the span of a counted read, with multiplicity) / length -/
theorem pileup_reports_covered_positions (contigs : List (String × Nat)) (rs : List Read) (q : Nat)
    (lines : List BedLine) (procs size : Nat) (order : List Nat) (hs : 0 < size)
    (hv : validate contigs lines = none) :
    coverage contigs rs q lines .pileup procs size order =
      .ok ((binsOf lines).map (spanRow contigs (rs.map align) q)) := by
  rw [coverage_eq, hv]; rfl

/-- one read, one bin: positions of the bin inside the read's reference span = its aligned positions inside the bin
    + its deleted / skipped reference positions inside the bin -/
theorem span_is_aligned_plus_gap (r : Read) (s e : Int) :
    spanIn (align r) s e =
      ((r.positions.countP (fun p => decide (s ≤ p) && decide (p < e)) : Nat) : Int) +
      ((r.gapPositions.countP (fun p => decide (s ≤ p) && decide (p < e)) : Nat) : Int) := by
  rw [spanIn_eq_basesIn_add_gapIn, basesIn_eq_count_positions]; rfl

/-- bin by bin: pileup depth = count depth + (deleted / skipped positions of counted reads inside the bin) / length,
    and that number of positions is never negative: the pileup never reports less than `--count` -/
theorem pileup_depth_is_count_depth_plus_gaps (contigs : List (String × Nat)) (rs : List Read) (q : Nat) (b : Row) :
    (spanRow contigs (rs.map align) q b).depth =
      (specRow contigs (rs.map align) q b).depth + depthOf (gapBasesInBin contigs rs q b.chrom b.s b.e) b.s b.e ∧
    0 ≤ gapBasesInBin contigs rs q b.chrom b.s b.e := by
  refine ⟨?_, gapBases_nonneg _ _ _ _ _ _⟩
  rw [spanRow_depth, specRow_depth, spanned_eq_aligned_add_gaps, depthOf_add]

/-- the two algorithms report the same row for a (non-empty) bin IF AND ONLY IF no counted read has a deleted or
    skipped reference position inside that bin -/
theorem algorithms_agree_on_bin_iff (contigs : List (String × Nat)) (rs : List Read) (q : Nat) (b : Row)
    (hb : b.s < b.e) :
    spanRow contigs (rs.map align) q b = specRow contigs (rs.map align) q b ↔
      gapBasesInBin contigs rs q b.chrom b.s b.e = 0 := by
  constructor
  · intro h
    have hd := congrArg OutRow.depth h
    rw [spanRow_depth, specRow_depth, spanned_eq_aligned_add_gaps] at hd
    have := depthOf_inj _ _ _ _ hb hd
    omega
  · exact spanRow_eq_specRow contigs rs q b

/-- sufficient, in the words of the CIGARs: every counted read on the bin's contig keeps its D / N positions outside
    the bin (in particular: reads without D / N; reads whose deletion lies in another bin) -/
theorem gap_free_bin (contigs : List (String × Nat)) (rs : List Read) (q : Nat) (b : Row)
    (h : ∀ r ∈ rs, propCounted q (align r) = true → ∀ p ∈ r.gapPositions, ¬ (b.s ≤ p ∧ p < b.e)) :
    gapBasesInBin contigs rs q b.chrom b.s b.e = 0 :=
  gapBases_eq_zero contigs rs q b.chrom b.s b.e h

/-- table level, strengthening `count_eq_pileup_no_indels`: the tables agree (up to the order of the bins) as soon
    as every non-empty bin is free of deleted / skipped positions of counted reads — wherever else the reads carry
    deletions, and whatever insertions and clips they have -/
theorem count_eq_pileup_gap_free_bins (contigs : List (String × Nat)) (rs : List Read) (q : Nat)
    (lines : List BedLine) (p1 p2 size : Nat) (o1 o2 : List Nat) (hs : 0 < size)
    (h : ∀ b ∈ binsOf lines, gapBasesInBin contigs rs q b.chrom b.s b.e = 0) :
    (countTable contigs (rs.map align) q lines p1 o1).Perm
      (pileupTable contigs (rs.map align) q lines p2 size o2) :=
  count_perm_pileup_of_gap_free contigs rs q lines p1 p2 size o1 o2 h

/-- insertions, soft clips, hard clips and padding (every CIGAR operation that consumes no reference base) can be
    struck from every read: same table, either algorithm, any processes / chunks / order -/
theorem insertions_and_clips_invisible (contigs : List (String × Nat)) (rs : List Read) (q : Nat)
    (lines : List BedLine) (algo : Algo) (procs size : Nat) (order : List Nat) :
    coverage contigs (rs.map (fun r => { r with cigar := refOps r.cigar })) q lines algo procs size order =
      coverage contigs rs q lines algo procs size order := by
  rw [coverage_eq, coverage_eq, map_align_refOps]

/-! ### non-vacuity -/

def exIndelReads : List Read := [
  -- 3S 2M 1I 2M 2D 2M 4N 2M 2H at 10: aligned 10,11,12,13,16,17,22,23; deleted 14,15; skipped 18..21
  { tid := 0, pos := 10, cigar := [(4, 3), (0, 2), (1, 1), (0, 2), (2, 2), (0, 2), (3, 4), (0, 2), (5, 2)], flag := 0, mapq := 60 },
  -- a duplicate with a deletion: not counted by either algorithm
  { tid := 0, pos := 10, cigar := [(0, 2), (2, 10), (0, 2)], flag := 1024, mapq := 60 }]

/-- positions, gap positions, and the stripped CIGAR of the first read -/
example : (exIndelReads.map Read.positions).head? = some [10, 11, 12, 13, 16, 17, 22, 23] ∧
    (exIndelReads.map Read.gapPositions).head? = some [14, 15, 18, 19, 20, 21] ∧
    (exIndelReads.map (fun r => refOps r.cigar)).head? = some [(0, 2), (0, 2), (2, 2), (0, 2), (3, 4), (0, 2)] := by
  decide +kernel

/-- bin [10,14) holds no gap position (hypothesis of `gap_free_bin` true, both algorithms 4/4); bin [12,20) holds
    the deletion and part of the skip: count 4/8, pileup 8/8, gap positions 4 -/
example : gapBasesInBin [("c", 100)] exIndelReads 0 "c" 10 14 = 0 ∧
    gapBasesInBin [("c", 100)] exIndelReads 0 "c" 12 20 = 4 ∧
    (specRow [("c", 100)] (exIndelReads.map align) 0 ⟨"c", 12, 20, "g"⟩).depth = 1 / 2 ∧
    (spanRow [("c", 100)] (exIndelReads.map align) 0 ⟨"c", 12, 20, "g"⟩).depth = 1 := by
  decide +kernel

end CnvVerif.C09
