/-
  Python's `int(e)` as the translator (harness/exprtrans.py) writes it over `Rat`:
  `if e < 0 then ceil e else floor e`.  `pyInt` names that term; being an `abbrev`, its lemmas apply to the generated
  text as it stands under `simp only`, `exact` and `apply` (`rw` does not see through it).
-/
import Mathlib.Data.Rat.Floor
namespace CnvVerif.Src

/-- Python's `int(q)`: truncation towards zero -/
abbrev pyInt (q : Rat) : Rat := if q < 0 then ((q.ceil : Int) : Rat) else ((q.floor : Int) : Rat)

theorem pyInt_intCast (z : Int) : pyInt (z : Rat) = z := by
  rw [pyInt, Rat.ceil_intCast, Rat.floor_intCast, ite_self]

theorem pyInt_of_nonneg {q : Rat} (h : 0 ≤ q) : pyInt q = ((q.floor : Int) : Rat) := if_neg (not_lt.mpr h)

/-- `int(·)` of a non-negative quotient of integers is integer division, however the quotient is spelled -/
theorem pyInt_eq_ediv {q : Rat} {z : Int} {n : Nat} (hz : 0 ≤ z) (h : q = (z : Rat) / (n : Rat)) :
    pyInt q = ((z / (n : Int) : Int) : Rat) := by
  subst h
  rw [pyInt_of_nonneg (div_nonneg (by exact_mod_cast hz) (by exact_mod_cast n.zero_le))]
  exact congrArg Int.cast (Rat.floor_intCast_div_natCast z n)

theorem pyInt_eq_natDiv {q : Rat} {a b : Nat} (h : q = (a : Rat) / (b : Rat)) :
    pyInt q = (((a / b : Nat) : Int) : Rat) :=
  pyInt_eq_ediv (z := a) (Int.natCast_nonneg a) (by rw [h, Int.cast_natCast])

theorem pyInt_eq_self_iff (q : Rat) : pyInt q = q ↔ q.isInt = true := by
  unfold Rat.isInt
  rw [beq_iff_eq]
  constructor
  · intro he
    rw [← he, pyInt]
    split <;> exact Rat.den_intCast _
  · intro hd
    rw [← Rat.coe_int_num_of_den_eq_one hd]
    exact pyInt_intCast _

end CnvVerif.Src
