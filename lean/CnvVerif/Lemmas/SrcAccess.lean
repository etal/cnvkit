/-
  Behind Props/C13Src.lean (the hand-written scanner equals the loop body the translator reads off the current
  source, Generated/ExprsAccess.lean, regenerated from /repo on every run by harness/looptrans.py): the numpy
  primitives of the mixed-line branch against the model's list expressions, and the loop-carried triple.
-/
import CnvVerif.Generated.ExprsAccess
import CnvVerif.Model.Access
namespace CnvVerif.Src
open CnvVerif CnvVerif.Generated

theorem whereEqFrom_N (k : Nat) (l : List Char) : Py.whereEqFrom k 'N' l = nIdxFrom k l := by
  induction l generalizing k with
  | nil => rfl
  | cons x xs ih => simp only [Py.whereEqFrom, nIdxFrom, ih]

theorem whereEq_N (l : List Char) : Py.whereEq l 'N' = nIndices l := whereEqFrom_N 0 l

theorem zip_dropLast {α : Type} (l : List α) : List.zip l.dropLast (l.drop 1) = List.zip l (l.drop 1) := by
  rw [List.zip_eq_zip_take_min (l₁ := l), List.zip_eq_zip_take_min (l₁ := l.dropLast)]
  simp [List.dropLast_eq_take, List.take_take]

theorem select_zip {α β : Type} (a : List α) (b : List β) (f : α × β → Bool) :
    List.zip (Py.select a ((List.zip a b).map f)) (Py.select b ((List.zip a b).map f)) =
      (List.zip a b).filter f := by
  induction a generalizing b with
  | nil => simp [Py.select]
  | cons x xs ih =>
    cases b with
    | nil => simp [Py.select]
    | cons y ys =>
      simp only [List.zip_cons_cons, List.map_cons, Py.select, List.filter_cons]
      cases f (x, y) <;> simp [ih]

theorem anyTrue_false {α : Type} (l : List α) (f : α → Bool) (h : Py.anyTrue (l.map f) = false) :
    l.filter f = [] := by
  rw [List.filter_eq_nil_iff]
  intro a ha hf
  have : Py.anyTrue (l.map f) = true := by
    simp only [Py.anyTrue, List.any_map, List.any_eq_true]
    exact ⟨a, ha, by simpa using hf⟩
  rw [h] at this
  exact Bool.noConfusion this

/-- a yielded triple of `get_regions` while the sequence name is `c` -/
def tag (c : List Char) (r : Run) : List Char × Nat × Nat := (c, r.1, r.2)

theorem startsWith_header (ch : Char) (rest : List Char) : Py.startsWith (ch :: rest) [ch] = true := by
  simp [Py.startsWith]

theorem startsWith_body {ch : Char} (l : List Char) (h : l.head? ≠ some ch) : Py.startsWith l [ch] = false := by
  cases l with
  | nil => simp [Py.startsWith]
  | cons x xs =>
    have h2 : (ch == x) = false := by
      rw [beq_eq_false_iff_ne]
      exact fun hx => h (by simp [← hx])
    simp [Py.startsWith, List.isPrefixOf, h2]

theorem mask_eq (idx : List Nat) :
    Py.gtMask (Py.diff idx) 1 =
      (List.zip idx.dropLast (idx.drop 1)).map (fun p => decide (p.2 - p.1 > 1)) := by
  unfold Py.gtMask Py.diff
  rw [zip_dropLast, List.map_map]
  apply List.map_congr_left
  intro p _
  simp only [Function.comp]
  exact decide_eq_decide.mpr (by omega)

/-- the intermediate blocks of a mixed line: numpy's masked vectors = the model's filtered pairs -/
theorem mid_is_source (c : List Char) (cursor : Nat) (idx : List Nat) :
    List.map (fun (p : Nat × Nat) => (c, p.1, p.2))
      ((Py.addScalar (Py.addScalar (Py.select idx.dropLast (Py.gtMask (Py.diff idx) 1)) 1) cursor).zip
        (Py.addScalar (Py.select (idx.drop 1) (Py.gtMask (Py.diff idx) 1)) cursor)) =
    List.map (tag c) (((idx.zip (idx.drop 1)).filter (fun p => p.2 - p.1 > 1)).map
      (fun p => (p.1 + 1 + cursor, p.2 + cursor))) := by
  rw [mask_eq]
  simp only [Py.addScalar, List.map_map]
  rw [List.zip_map, select_zip, zip_dropLast]
  simp only [List.map_map]
  apply List.map_congr_left
  intro p _
  rfl

theorem mid_none (idx : List Nat) (h : ¬ Py.anyTrue (Py.gtMask (Py.diff idx) 1) = true) :
    (idx.zip (idx.drop 1)).filter (fun p => decide (p.2 - p.1 > 1)) = [] := by
  rw [mask_eq, zip_dropLast] at h
  exact anyTrue_false _ _ (by simpa using h)

/-- the block that ends at the first 'N' of a mixed line -/
theorem first_block_is_source (c : List Char) (cursor n0 : Nat) (rs : Option Nat) :
    (match rs with
      | some v => [(c, v, cursor + n0)]
      | none => if n0 ≠ 0 then [(c, cursor, cursor + n0)] else []) =
    List.map (tag c)
      (match rs with
      | some s => [(s, cursor + n0)]
      | none => if (n0 != 0) = true then [(cursor, cursor + n0)] else []) := by
  cases rs with
  | some s => rfl
  | none => by_cases hn : n0 = 0 <;> simp [hn, tag]

/-- the shape of a mixed line's result: both branches of `if <a run stays open>` yield the same regions -/
theorem mixed_shape (c : List Char) (n z : Nat) (p : Prop) [Decidable p] (F' : List (List Char × Nat × Nat))
    (F M : List Run) (hF : F' = F.map (tag c)) :
    (if p then (F' ++ M.map (tag c), c, n, some z) else (F' ++ M.map (tag c), c, n, none)) =
      ((F ++ M).map (tag c), c, n, if p then some z else none) := by
  rw [hF, ← List.map_append]
  exact (apply_ite (fun o => ((F ++ M).map (tag c), c, n, o)) p (some z) none).symm

/-- `line.split(None, 1)[0][1:]` on a header line: the text after '>' up to the first blank -/
theorem firstWord_gt {ch : Char} (hch : isPySpace ch = false) (rest : List Char) :
    (Py.firstWord (ch :: rest)).drop 1 = rest.takeWhile (fun c => !isPySpace c) := by
  simp [Py.firstWord, List.dropWhile, hch]

/-- the loop body / the flush as functions of the loop-carried triple (`chrom`, `cursor`, `run_start`) -/
def stepFn (st : List Char × Nat × Option Nat) (l : List Char) :
    List (List Char × Nat × Nat) × (List Char × Nat × Option Nat) :=
  src_get_regions_step st.1 st.2.1 st.2.2 l

def finalFn (st : List Char × Nat × Option Nat) : List (List Char × Nat × Nat) :=
  src_get_regions_final st.1 st.2.1 st.2.2

/-- a yielded triple as the model's `Region` (the name as a `String`) -/
def toRegion (r : List Char × Nat × Nat) : Region := (String.ofList r.1, r.2.1, r.2.2)

theorem map_toRegion_tag (c : List Char) (l : List Run) :
    (l.map (tag c)).map toRegion = l.map (fun x => (String.ofList c, x.1, x.2)) := by
  simp [List.map_map, Function.comp_def, tag, toRegion]

end CnvVerif.Src
