/-
  Lemmas behind Props/C05Perm.lean: the pooled reference does not depend on the ORDER of the sample files.
  Two independent reasons, both proved: (a) Tukey's biweight location and midvariance are symmetric functions of
  their arguments (Lemmas/DescBiweight.lean; so any row order of the sample matrix gives the same summaries), and (b) `load_sample_block`
  sorts the files by sample name first (so, names being distinct, every order of the file list is the same run).
-/
import CnvVerif.Model.ReferenceExt
import CnvVerif.Lemmas.Reference
import CnvVerif.Lemmas.Basic
import Mathlib.Data.List.Nodup
namespace CnvVerif.Ref
open CnvVerif

/-- the three shapes `locOf` and `spreadOf` match on, for two lists at once -/
theorem perm_shape {l l' : List Rat} (h : l.Perm l') :
    (l = [] ∧ l' = []) ∨ (∃ x, l = [x] ∧ l' = [x]) ∨ (∃ a b t a' b' t', l = a :: b :: t ∧ l' = a' :: b' :: t') := by
  rcases l with _ | ⟨a, _ | ⟨b, t⟩⟩
  · exact .inl ⟨rfl, h.symm.eq_nil⟩
  · exact .inr (.inl ⟨a, rfl, List.perm_singleton.mp h.symm⟩)
  · have hl := h.length_eq
    rcases l' with _ | ⟨a', _ | ⟨b', t'⟩⟩
    · simp at hl
    · simp at hl
    · exact .inr (.inr ⟨a, b, t, a', b', t', rfl, rfl⟩)

theorem locOf_perm {l l' : List Rat} (h : l.Perm l') : locOf l = locOf l' := by
  rcases perm_shape h with ⟨h1, h2⟩ | ⟨x, h1, h2⟩ | ⟨a, b, t, a', b', t', h1, h2⟩
  · rw [h1, h2]
  · rw [h1, h2]
  · subst h1; subst h2
    exact Desc.biweightLocationCore_perm h

theorem spreadOf_perm {l l' : List Rat} (h : l.Perm l') (c : Rat) : spreadOf l c = spreadOf l' c := by
  rcases perm_shape h with ⟨h1, h2⟩ | ⟨x, h1, h2⟩ | ⟨a, b, t, a', b', t', h1, h2⟩
  · rw [h1, h2]
  · rw [h1, h2]
  · subst h1; subst h2
    exact Desc.bivarCore_perm h c

/-- `summarize_info` on a matrix whose rows come in another order: column `j` is a permutation of column `j`, and
    location and spread are symmetric -/
theorem columns_map_summary_perm (n : Nat) {mat mat' : List (List Rat)} (h : mat.Perm mat') :
    (columns n mat).map (fun c => (locOf c, spreadOf c (locOf c))) =
      (columns n mat').map (fun c => (locOf c, spreadOf c (locOf c))) := by
  unfold columns
  simp only [List.map_map]
  apply List.map_congr_left
  intro j _
  have hp : (mat.map (fun row => row.getD j 0)).Perm (mat'.map (fun row => row.getD j 0)) := h.map _
  simp only [Function.comp_def]
  rw [locOf_perm hp, spreadOf_perm hp]

theorem sortSamples_perm (l : List Sample) : (sortSamples l).Perm l := List.mergeSort_perm l _

theorem sortSamples_sorted (l : List Sample) : (sortSamples l).Pairwise (fun a b => a.name ≤ b.name) :=
  pairwise_mergeSort_key (·.name) l

theorem sortSamples_eq_of_perm {l l' : List Sample} (h : l.Perm l') (hn : (l.map (·.name)).Nodup) :
    sortSamples l = sortSamples l' :=
  (mergeSort_eq_of_perm sortSamples_sorted h.symm fun _ ha _ hb h1 h2 =>
    List.inj_on_of_nodup_map hn ha hb (String.le_antisymm h1 h2)).symm

theorem refBlockOn_file_order (cfg : CorrCfg) (hapX : Bool) (par : Option String) (skipLow : Bool)
    (sexes : List (String × Bool)) {l l' : List Sample} (h : l.Perm l') (hn : (l.map (·.name)).Nodup) :
    refBlockOn cfg hapX par skipLow sexes l = refBlockOn cfg hapX par skipLow sexes l' := by
  unfold refBlockOn
  rw [sortSamples_eq_of_perm h hn]

end CnvVerif.Ref
