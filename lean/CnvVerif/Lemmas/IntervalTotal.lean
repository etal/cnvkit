/-
  `GenomicArray.total_range_size` = the number of distinct covered bases (C06).

  The code merges with `bp = 1` (rows that OVERLAP are combined; abutting rows stay apart) and returns
  `sum(end) - sum(start)`.  Here: the groups that `merge(bp=1)` leaves on a chromosome are pairwise disjoint, so the sum
  of their lengths is the cardinality of the (finite) set of covered bases, and that set is the one the input covers.
-/
import CnvVerif.Lemmas.IntervalTable
import Mathlib.Data.Int.Interval
namespace CnvVerif

/-- the bases covered by the rows of `l` (one chromosome; the chromosome field is ignored, as in `cov`) -/
def coveredBases : List Row → Finset Int
  | [] => ∅
  | r :: l => Finset.Ico r.s r.e ∪ coveredBases l

theorem mem_coveredBases (l : List Row) (p : Int) : p ∈ coveredBases l ↔ cov l p := by
  induction l with
  | nil => simp [coveredBases, cov]
  | cons r l ih =>
    rw [coveredBases, Finset.mem_union, Finset.mem_Ico, ih, cov_cons]

theorem coveredBases_unique (l : List Row) (S : Finset Int) (hS : ∀ p, p ∈ S ↔ cov l p) :
    S = coveredBases l := by
  ext p; rw [hS, mem_coveredBases]

theorem coveredBases_congr (a b : List Row) (h : ∀ p, cov a p ↔ cov b p) :
    coveredBases a = coveredBases b := by
  ext p; rw [mem_coveredBases, mem_coveredBases, h]

/-- sum of the row lengths, `sum(end) - sum(start)` -/
def lenSum (l : List Row) : Int := (l.map (fun r => r.e - r.s)).sum

theorem lenSum_cons (r : Row) (l : List Row) : lenSum (r :: l) = (r.e - r.s) + lenSum l := by
  simp [lenSum]

theorem lenSum_append (a b : List Row) : lenSum (a ++ b) = lenSum a + lenSum b := by
  simp [lenSum, List.sum_append]

theorem sums_eq_lenSum (l : List Row) : (l.map (·.e)).sum - (l.map (·.s)).sum = lenSum l := by
  induction l with
  | nil => simp [lenSum]
  | cons r l ih =>
    rw [lenSum_cons, ← ih]
    simp only [List.map_cons, List.sum_cons]
    omega

theorem card_coveredBases_disjoint (l : List Row) (hpos : ∀ r ∈ l, r.s ≤ r.e) (hd : l.Pairwise (fun a b => a.e ≤ b.s)) :
    ((coveredBases l).card : Int) = lenSum l := by
  induction l with
  | nil => simp [coveredBases, lenSum]
  | cons r l ih =>
    obtain ⟨hr, hl⟩ := List.pairwise_cons.mp hd
    have hdisj : Disjoint (Finset.Ico r.s r.e) (coveredBases l) := by
      rw [Finset.disjoint_left]
      intro p hp hq
      rw [Finset.mem_Ico] at hp
      obtain ⟨x, hx, h1, h2⟩ := (mem_coveredBases l p).mp hq
      have := hr x hx
      have := hpos x (by simp [hx])
      omega
    rw [coveredBases, Finset.card_union_of_disjoint hdisj, lenSum_cons, Int.card_Ico]
    push_cast
    rw [ih (fun x hx => hpos x (by simp [hx])) hl, Int.toNat_of_nonneg (by have := hpos r (by simp); omega)]

theorem mergeTable_one_disjoint (t : Table) (hp : ∀ r ∈ t, r.s ≤ r.e) (c : String) :
    (∀ r ∈ rowsOf (mergeTable 1 t) c, r.s ≤ r.e) ∧ (rowsOf (mergeTable 1 t) c).Pairwise (fun a b => a.e ≤ b.s) := by
  obtain ⟨h1, h2⟩ := mergeTable_spec 1 t c
  refine ⟨fun r hr => ?_, h2.imp (by intro a b h; omega)⟩
  obtain ⟨x, hx, h⟩ := h1 r hr
  have := hp x (mem_rowsOf.mp hx).1
  omega

/-- the chromosomes' groups rearrange the table (`flatMap_filter_key_perm`), and a sum does not see the order -/
theorem lenSum_by_chrom (m : Table) (ks : List String) (hks : ks.Nodup) (hall : ∀ r ∈ m, r.chrom ∈ ks) :
    lenSum m = (ks.map (fun c => lenSum (rowsOf m c))).sum := by
  unfold lenSum
  rw [← ((flatMap_filter_key_perm (·.chrom) ks m hks hall).map _).sum_eq, List.map_flatMap, List.flatMap_def,
    List.sum_flatten, List.map_map]
  rfl

theorem lenSum_mergeTable_one (t : Table) (hp : ∀ r ∈ t, r.s ≤ r.e) (c : String) :
    lenSum (rowsOf (mergeTable 1 t) c) = ((coveredBases (rowsOf t c)).card : Int) := by
  obtain ⟨h1, h2⟩ := mergeTable_one_disjoint t hp c
  rw [← card_coveredBases_disjoint _ h1 h2,
    coveredBases_congr _ _ (mergeTable_cov 1 (by decide) t c)]

/-- `total_range_size()` is the number of distinct covered bases, chromosome by chromosome -/
theorem totalRangeSize_eq_card (t : Table) (hp : ∀ r ∈ t, r.s ≤ r.e) :
    totalRangeSize t =
      ((chromsInOrder t).map (fun c => ((coveredBases (rowsOf t c)).card : Int))).sum := by
  unfold totalRangeSize
  split
  · rename_i he
    have : t = [] := by simpa using he
    subst this
    rfl
  · simp only
    rw [sums_eq_lenSum,
      lenSum_by_chrom (mergeTable 1 t) (chromsInOrder t) (nodup_eraseDups _)]
    · apply congrArg
      apply List.map_congr_left
      intro c _
      exact lenSum_mergeTable_one t hp c
    · -- `merge` puts no row on a chromosome the input does not have
      intro r hr
      obtain ⟨x, hx, _⟩ := (mergeTable_spec 1 t r.chrom).1 r (mem_rowsOf_self hr)
      exact (mem_chromsInOrder t r.chrom).mpr ⟨x, (mem_rowsOf.mp hx).1, (mem_rowsOf.mp hx).2⟩

end CnvVerif
