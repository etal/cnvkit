/-
  C04, what one class of bins does not depend on, as facts about `prepare` (`prepare_perm`, `prepare_shift`) and
  `center_all`; the theorems about `loadAdjust` and the whole of `doFix` follow by `C04x.loadAdjust_congr` and `doFix_congr`
  and stand in Props/C04Inv.lean and Props/C04Plan.lean:
  * the result does not depend on the row order of the sample table or of the reference;
  * adding one constant to every sample log2 (a depth scale factor) leaves the result unchanged when no
    bin centred with `skip_low` sits at (or is carried across) the low-coverage cut-off;
  * `center_all` reads the sample's depth column only through `= 0` (`C04x.centerShift_scale`).
-/
import CnvVerif.Lemmas.FixAlign
import CnvVerif.Lemmas.Center
namespace CnvVerif

-- unique coordinates make rows that tie in the genomic order the same row, so the order separates the rows
theorem sortS_perm_eq (a b : List SRow) (hp : a.Perm b) (hks : KeysSortable b) (hnd : (b.map sKey).Nodup) :
    sortS a = sortS b :=
  mergeSort_eq_of_perm sortS_sorted hp fun x hx y hy hxy hyx => nodup_map_inj sKey b hnd hx hy (hks x hx y hy hxy hyx)

theorem prepare_perm (samp samp' : List SRow) (ref ref' : List RRow) (hp : samp'.Perm samp) (hr : ref.Perm ref')
    (hks : KeysSortable samp) (skipLow : Bool) (par : Option String) :
    prepare samp' ref' skipLow par = prepare samp ref skipLow par := by
  unfold prepare
  cases hd : hasDup (samp.map sKey) with
  | true =>
    -- repeated coordinates are refused in any order
    have hdup : ∀ t : List SRow, t.Perm samp → hasDup ((sortS t).map sKey) = true := fun t ht =>
      (hasDup_perm _ _ ((((List.mergeSort_perm t sSortLe).trans ht).map sKey).symm)).trans hd
    rw [matchRef_dupSample _ _ (hdup samp (.refl _)), matchRef_dupSample _ _ (hdup samp' hp)]
    -- (a bare `rfl` is very slow here: it compares the two mapped functions first and wanders into `sortS`)
    simp only [Except.map]
  | false =>
    -- unique coordinates: both orders sort to the same table
    rw [sortS_perm_eq samp' samp hp hks ((hasDup_false_iff _).mp hd), matchRef_ref_perm ref ref' (sortS samp) hr]

/-- the sample sequenced `2^c` times deeper: every log2 coverage moves by `c` -/
def addLog2 (c : Rat) (r : SRow) : SRow := { r with log2 := r.log2 + c }

/-- `lowC` (Lemmas/Center.lean, what `drop_low_coverage` drops) on a sample row (`lowC_toCBin`) -/
def lowCov (r : SRow) : Bool :=
  decide (r.log2 < Generated.NULL_LOG2_COVERAGE - Generated.MIN_REF_COVERAGE) || decide (r.depth = 0)

theorem lowC_toCBin (r : SRow) : lowC (toCBin r) = lowCov r := rfl

theorem sortS_map (g : SRow → SRow) (hg : ∀ r, sKey (g r) = sKey r) (t : List SRow) :
    sortS (t.map g) = (sortS t).map g := by
  unfold sortS
  exact (List.map_mergeSort (r := sSortLe) (s := sSortLe) (f := g) (l := t)
    (fun a _ b _ => by rw [sSortLe_eq_kLe, sSortLe_eq_kLe, hg, hg])).symm

theorem matchRef_map (g : SRow → SRow) (hg : ∀ r, sKey (g r) = sKey r) (ref : List RRow) (s : List SRow) :
    matchRef ref (s.map g) = matchRef ref s := by
  have h1 : sKey ∘ g = sKey := funext hg
  have h2 : refFind ref ∘ g = refFind ref := funext fun r => by simp only [Function.comp, refFind, hg]
  rw [matchRef_eq, matchRef_eq]
  simp only [List.map_map, h1, h2]

theorem maskRows_map (g : SRow → SRow) (s : List SRow) (refM : List RRow) :
    maskRows (s.map g) refM = (maskRows s refM).map g := by
  unfold maskRows
  rw [List.zip_map_left, List.filter_map, List.map_map, List.map_map]
  rfl

theorem mem_maskRows (s : List SRow) (refM : List RRow) (r : SRow) (h : r ∈ maskRows s refM) : r ∈ s := by
  unfold maskRows at h
  obtain ⟨p, hp, rfl⟩ := List.mem_map.mp h
  exact (List.of_mem_zip (List.mem_filter.mp hp).1).1

theorem centerS_shift (sl : Bool) (par : Option String) (t : List SRow) (c : Rat)
    (hlow : sl = true → ∀ r ∈ t, lowCov r = false ∧ lowCov (addLog2 c r) = false) :
    centerS sl par (t.map (addLog2 c)) = centerS sl par t := by
  by_cases hne : t = []
  · subst hne; rfl
  · unfold centerS
    have hm : (t.map (addLog2 c)).map toCBin = (t.map toCBin).map (fun b => { b with log2 := b.log2 + c }) := by
      rw [List.map_map, List.map_map]; rfl
    -- no bin is low before or after: nothing is dropped, and no verdict changes
    rw [hm, centerShift_map_add medianR medianR_transEquiv true sl par (t.map toCBin) c
      (centerSel_ne_nil sl par _ (by simpa using hne) fun hs b hb => by
        obtain ⟨r, hr, rfl⟩ := List.mem_map.mp hb
        exact (hlow hs r hr).1)
      (fun hs b hb => by
        obtain ⟨r, hr, rfl⟩ := List.mem_map.mp hb
        exact (hlow hs r hr).2.trans (hlow hs r hr).1.symm), List.map_map]
    apply List.map_congr_left
    intro r _
    simp only [Function.comp_apply, addLog2, SRow.mk.injEq, true_and, and_true]
    ring

theorem prepare_shift (samp : List SRow) (ref : List RRow) (skipLow : Bool) (par : Option String) (c : Rat)
    (hlow : skipLow = true → ∀ r ∈ samp, lowCov r = false ∧ lowCov (addLog2 c r) = false) :
    prepare (samp.map (addLog2 c)) ref skipLow par = prepare samp ref skipLow par := by
  have hg : ∀ r, sKey (addLog2 c r) = sKey r := fun _ => rfl
  unfold prepare
  rw [sortS_map _ hg, matchRef_map _ hg]
  refine congrArg (Except.map · _) (funext fun refM => ?_)
  -- sorting, matching and masking read the coordinates only; the first centring absorbs the constant
  rw [maskRows_map, centerS_shift]
  intro hs r hr
  exact hlow hs r ((List.mergeSort_perm samp sSortLe).mem_iff.mp (mem_maskRows _ _ r hr))

end CnvVerif

namespace CnvVerif.C04x
open CnvVerif

/-- the sample's depth column multiplied by `c` -/
def scaleDepth (c : Rat) (r : SRow) : SRow := { r with depth := c * r.depth }

/-- the same scaling seen by `center_all` (`toCBin_scale`); a table without depth column stays without -/
def scaleDepthC (c : Rat) (b : CBin) : CBin := { b with depth := b.depth.map (c * ·) }

theorem toCBin_scale (c : Rat) (t : List SRow) :
    (t.map (scaleDepth c)).map toCBin = (t.map toCBin).map (scaleDepthC c) := by
  rw [List.map_map, List.map_map]; rfl

theorem centerShift_scale (c : Rat) (hc : c ≠ 0) (est : List Rat → Rat) (bc sl : Bool) (par : Option String) (T : List CBin) :
    centerShift est bc sl par (T.map (scaleDepthC c)) = centerShift est bc sl par T := by
  rw [centerShift_map est bc sl par (scaleDepthC c) 0 (fun b => ⟨rfl, rfl, rfl, (add_zero _).symm⟩)
    (fun l _ => by simp) T fun _ b _ => by cases hd : b.depth <;> simp [lowC, scaleDepthC, hd, hc]]
  simp

end CnvVerif.C04x
