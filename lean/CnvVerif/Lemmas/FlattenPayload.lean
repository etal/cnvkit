/-
  flatten: which row values a piece carries.  With the default combiner of the `gene` column (`join_strings`: the
  distinct labels in order) the label of a piece is the combination of the labels of exactly those input rows of the
  chromosome that span the piece, in sorted order -- the "rows in play" of `_flatten_tuples`, which only looks at the
  piece's own overlap group; rows of other groups never span it.
-/
import CnvVerif.Lemmas.FlattenCov
namespace CnvVerif

/-- row `r` spans the piece `z` -/
def spansB (z r : Row) : Bool := decide (r.s ≤ z.s) && decide (r.e ≥ z.e)

theorem spansB_iff (z r : Row) : spansB z r = true ↔ r.s ≤ z.s ∧ z.e ≤ r.e := by
  simp only [spansB, Bool.and_eq_true, decide_eq_true_eq, ge_iff_le]

/-- a piece inside the hull of group `g`: among pairwise separated groups only `g`'s rows can span it -/
theorem filter_spans_groups (G : List (List Row)) (hG : G.Pairwise FcBefore) (g : List Row) (hg : g ∈ G) (z : Row)
    (hz : z.s < z.e) (hlo : ∃ a ∈ g, a.s ≤ z.s) (hhi : ∃ a ∈ g, z.e ≤ a.e) :
    G.flatten.filter (spansB z) = g.filter (spansB z) := by
  induction G with
  | nil => simp at hg
  | cons h G ih =>
    obtain ⟨hh, hG'⟩ := List.pairwise_cons.mp hG
    rw [List.flatten_cons, List.filter_append]
    obtain ⟨a, ha, hal⟩ := hlo
    obtain ⟨c, hc, hch⟩ := hhi
    rcases List.mem_cons.mp hg with heq | hin
    · subst heq
      have : G.flatten.filter (spansB z) = [] := by
        rw [List.filter_eq_nil_iff]
        intro b hb
        obtain ⟨h', hh', hbh⟩ := List.mem_flatten.mp hb
        have := hh h' hh' c hc b hbh
        rw [spansB_iff]
        omega
      rw [this, List.append_nil]
    · have : h.filter (spansB z) = [] := by
        rw [List.filter_eq_nil_iff]
        intro b hb
        have := hh g hin b hb a ha
        rw [spansB_iff]
        omega
      rw [this, List.nil_append]
      exact ih hG' hin

theorem joinStrings_singleton (x : String) : joinStrings [x] = x := by
  unfold joinStrings
  rw [show [x].eraseDups = [x] by simp [List.eraseDups_cons]]
  rfl

theorem flattenGroup_payload (g : List Row) (z : Row) (hz : z ∈ flattenGroup g) :
    z.gene = joinStrings ((g.filter (spansB z)).map (·.gene)) := by
  unfold flattenGroup at hz
  split at hz
  · simp at hz
  · rename_i r
    have hzr : z = r := by simpa using hz
    subst hzr
    have : [z].filter (spansB z) = [z] := by simp [spansB]
    rw [this]
    exact (joinStrings_singleton _).symm
  · simp only [List.mem_map] at hz
    obtain ⟨⟨a, b⟩, _, rfl⟩ := hz
    rfl

/-- a piece has the chromosome of some row of its group -/
theorem flattenGroup_chrom (g : List Row) (z : Row) (hz : z ∈ flattenGroup g) : ∃ r ∈ g, z.chrom = r.chrom := by
  unfold flattenGroup at hz
  split at hz
  · simp at hz
  · rename_i r
    have hzr : z = r := by simpa using hz
    exact ⟨r, by simp, by rw [hzr]⟩
  · rename_i first _ _
    simp only [List.mem_map] at hz
    obtain ⟨⟨a, b⟩, _, rfl⟩ := hz
    exact ⟨first, by simp, rfl⟩

end CnvVerif
