/-
  Lemmas behind Props/C05Corr.lean: the reference with the bias corrections inside the model
  (Model/ReferenceExt.lean) -- with every correction off it IS the plain reference, the corrections do not look at the
  rows' own log2 column (so a sample's depth scale still cancels), and the dictionary of sample sexes
  (`lookup` after `dictSet`, `inferSexes`, `resolveSexes`): the insertion-ordered dictionary of Model/StatsGlue.lean
  at `Bool`, whose lemmas it uses.
-/
import CnvVerif.Model.ReferenceExt
import CnvVerif.Lemmas.Reference
import CnvVerif.Lemmas.Frame
import Mathlib.Data.List.Nodup
namespace CnvVerif.Ref
open CnvVerif

theorem corrStep_none (cfg : CorrCfg) (t : List SRow) : corrStep cfg none t = t := rfl

theorem map_log2_zip (rows : List CovRow) (l : List Rat) (h : l.length ≤ rows.length) :
    ((rows.zip l).map (fun p => toS p.1 p.2)).map (·.log2) = l := by
  rw [List.map_map]
  have : ((fun x : SRow => x.log2) ∘ fun p : CovRow × Rat => toS p.1 p.2) = Prod.snd := by
    funext p; rfl
  rw [this, List.map_snd_zip h]

theorem sampleLogr_length_le (hapX : Bool) (par : Option String) (skipLow : Bool) (isXX : Option Bool)
    (flat : List Rat) (rows : List CovRow) : (sampleLogr hapX par skipLow isXX flat rows).length ≤ rows.length := by
  unfold sampleLogr
  simp only [List.length_map, List.length_zip]
  omega

theorem correctLogr_off (cfg : CorrCfg) (hg : cfg.gc = none) (hr : cfg.rmask = none) (he : cfg.edge = none)
    (rows : List CovRow) (l : List Rat) (h : l.length ≤ rows.length) : correctLogr cfg rows l = l := by
  unfold correctLogr
  simp only [hg, hr, he, corrStep_none]
  split
  · rfl
  · exact map_log2_zip rows l h

theorem sampleLogrOn_off (cfg : CorrCfg) (hg : cfg.gc = none) (hr : cfg.rmask = none) (he : cfg.edge = none)
    (hapX : Bool) (par : Option String) (skipLow : Bool) (isXX : Option Bool) (flat : List Rat) (rows : List CovRow) :
    sampleLogrOn cfg hapX par skipLow isXX flat rows = sampleLogr hapX par skipLow isXX flat rows :=
  correctLogr_off cfg hg hr he rows _ (sampleLogr_length_le hapX par skipLow isXX flat rows)

theorem refBlockOn_eq (cfg : CorrCfg) (hapX : Bool) (par : Option String) (skipLow : Bool)
    (sexes : List (String × Bool)) (samples : List Sample) :
    refBlockOn cfg hapX par skipLow sexes samples =
      blockBy (fun _ => []) (blockRows (sampleLogrOn cfg hapX par skipLow) hapX par sexes) samples := rfl

theorem refBlockOn_off (cfg : CorrCfg) (hg : cfg.gc = none) (hr : cfg.rmask = none) (he : cfg.edge = none)
    (hapX : Bool) (par : Option String) (skipLow : Bool) (sexes : List (String × Bool)) (samples : List Sample) :
    refBlockOn cfg hapX par skipLow sexes samples = refBlock hapX par skipLow sexes samples := by
  have : sampleLogrOn cfg hapX par skipLow = sampleLogr hapX par skipLow :=
    funext fun _ => funext fun _ => funext fun _ => sampleLogrOn_off cfg hg hr he hapX par skipLow _ _ _
  rw [refBlockOn_eq, refBlock_eq, this]

theorem blockCfg_off (isTarget : Bool) (k : BlockKeys) :
    (blockCfg isTarget false false false k).gc = none ∧ (blockCfg isTarget false false false k).rmask = none ∧
    (blockCfg isTarget false false false k).edge = none := by
  cases isTarget <;> simp [blockCfg]

theorem doReferenceOn_off (cfgT cfgA : CorrCfg) (hT : cfgT.gc = none ∧ cfgT.rmask = none ∧ cfgT.edge = none)
    (hA : cfgA.gc = none ∧ cfgA.rmask = none ∧ cfgA.edge = none) (hapX : Bool) (par : Option String)
    (sexes : List (String × Bool)) (targets : List Sample) (anti : Option (List Sample)) :
    doReferenceOn cfgT cfgA hapX par sexes targets anti = doReference hapX par sexes targets anti := by
  unfold doReferenceOn doReference
  simp only [refBlockOn_off cfgT hT.1 hT.2.1 hT.2.2, refBlockOn_off cfgA hA.1 hA.2.1 hA.2.2]
  rfl

theorem correctLogr_rows_log2 (cfg : CorrCfg) (rows : List CovRow) (c : Rat) (l : List Rat) :
    correctLogr cfg (rows.map (fun r => { r with log2 := r.log2 + c })) l = correctLogr cfg rows l := by
  unfold correctLogr
  have : ((rows.map (fun r : CovRow => { r with log2 := r.log2 + c })).zip l).map (fun p => toS p.1 p.2)
      = (rows.zip l).map (fun p => toS p.1 p.2) := by
    rw [List.zip_map_left, List.map_map]
    apply List.map_congr_left
    intro p _
    rfl
  rw [this]

/-- dictionary lookup as `refBlock` performs it (`sexes.get(sample_id)`): `blockRows` and the statements of
    Props/C05.lean spell it `(sexes.find? (·.1 == s.name)).map (·.2)`, which is `lookup sexes s.name` by definition -/
def lookup (d : List (String × Bool)) (k : String) : Option Bool := (d.find? (·.1 == k)).map (·.2)

theorem lookup_nil (k' : String) : lookup [] k' = none := rfl

/-- `lookup` and `dictSet` are `Stats.Frame.get?` and `Stats.Frame.assign` (the insertion-ordered dictionary of
    Model/StatsGlue.lean) at `Bool`, by `rfl`; their lemmas are those of Lemmas/Frame.lean -/
theorem lookup_dictSet (d : List (String × Bool)) (k : String) (v : Bool) (k' : String) :
    lookup (dictSet d k v) k' = if k' = k then some v else lookup d k' := Stats.Frame.get?_assign d k k' v

theorem lookup_foldl_given (ids : List String) (f : Bool) (d : List (String × Bool)) (k : String) :
    lookup (ids.foldl (fun d k => dictSet d k f) d) k = if k ∈ ids then some f else lookup d k := by
  have := Stats.Frame.get?_assignAll_keyed d ids (fun _ => f) k
  rwa [Stats.Frame.assignAll, List.foldl_map] at this

theorem lookup_foldl_update (upd d : List (String × Bool)) (k : String) (hu : (upd.map (·.1)).Nodup) :
    lookup (upd.foldl (fun d p => dictSet d p.1 p.2) d) k =
      match lookup upd k with | some b => some b | none => lookup d k := by
  refine (Stats.Frame.get?_assignAll_nodup d upd k hu).trans ?_
  show (lookup upd k).or (lookup d k) = _
  cases lookup upd k <;> rfl

/-- the answers `infer_sexes` records, in file order -/
def answers (inf : List (String × Option Bool)) : List (String × Bool) := inf.filterMap fun p => p.2.map (p.1, ·)

theorem inferSexes_eq (inf : List (String × Option Bool)) :
    inferSexes inf = Stats.Frame.assignAll [] (answers inf) := by
  unfold inferSexes
  generalize ([] : List (String × Bool)) = d
  induction inf generalizing d with
  | nil => rfl
  | cons a t ih =>
    obtain ⟨k, _ | b⟩ := a
    · exact ih d
    · exact ih _

theorem inferSexes_keys (inf : List (String × Option Bool)) : ((inferSexes inf).map (·.1)).Nodup := by
  rw [inferSexes_eq]
  exact Stats.Frame.nodup_names_assignAll [] (answers inf) List.nodup_nil

end CnvVerif.Ref
