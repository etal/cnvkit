/-
  One chromosome's rows: coverage, the grouping walk of `merge`, canonical lists, and tilings (consecutive rows from `a`
  to `b`, the shape of the bins of `subdivide` and of the pieces of `flatten`).  `pairwise_flatMap_within` carries "the rows
  come in order" wherever canonical regions are replaced by rows inside them (the bins of `subdivide`, what `subtract` leaves
  of its keepers); `flatten` states its groups apart row by row, not hull by hull, and argues from the groups directly
  (`C06.flatten_disjoint`).  Last, `resize_ranges` as one equation (`resizeTable_eq`) and its clip.  Core Lean only.
-/
import CnvVerif.Model.Interval
import CnvVerif.Model.IntervalSpec
import CnvVerif.Lemmas.Basic
namespace CnvVerif

theorem cov_nil (p : Int) : cov [] p ↔ False := by simp [cov]

theorem cov_cons (a : Row) (l : List Row) (p : Int) :
    cov (a :: l) p ↔ (a.s ≤ p ∧ p < a.e) ∨ cov l p := by
  simp only [cov, List.mem_cons, exists_eq_or_imp]

theorem cov_congr {a b : List Row} (h : ∀ r, r ∈ a ↔ r ∈ b) (p : Int) : cov a p ↔ cov b p := by
  simp only [cov, h]

theorem cov_append (a b : List Row) (p : Int) : cov (a ++ b) p ↔ cov a p ∨ cov b p := by
  simp only [cov, List.mem_append, or_and_right, exists_or]

theorem cov_flatMap_iff {α} (l : List α) (f : α → List Row) (p : Int) :
    cov (l.flatMap f) p ↔ ∃ a ∈ l, cov (f a) p := by
  simp only [cov, List.mem_flatMap]
  constructor
  · rintro ⟨r, ⟨a, ha, hr⟩, h⟩; exact ⟨a, ha, r, hr, h⟩
  · rintro ⟨a, ha, r, hr, h⟩; exact ⟨r, ⟨a, ha, hr⟩, h⟩

theorem Row.other_fields_eq {x r : Row} (h : { x with s := r.s, e := r.e } = r) :
    x.chrom = r.chrom ∧ x.gene = r.gene := by
  have h1 := congrArg Row.chrom h
  have h2 := congrArg Row.gene h
  exact ⟨h1, h2⟩

/-! ### `merge`: `_nonoverlapping_groups` and `_squash_tuples` as the one walk `mergeGo`, for every `bp` -/

theorem StartSorted.absorb {cur x : Row} {xs : List Row} (hs : StartSorted (cur :: x :: xs)) :
    StartSorted ({ cur with e := max cur.e x.e } :: xs) := by
  obtain ⟨hhead, htail⟩ := List.pairwise_cons.mp hs
  exact List.pairwise_cons.mpr ⟨fun b hb => hhead b (List.mem_cons_of_mem _ hb), (List.pairwise_cons.mp htail).2⟩

theorem mergeGo_cov (bp : Int) (hbp : 0 ≤ bp) (cur : Row) (genes : List String) (l : List Row)
    (p : Int) (hs : StartSorted (cur :: l)) :
    cov (mergeGo bp cur genes l) p ↔ cov (cur :: l) p := by
  induction l generalizing cur genes with
  | nil => simp [mergeGo, cov]
  | cons x xs ih =>
    unfold mergeGo
    split
    · rw [cov_cons, ih x _ (List.pairwise_cons.mp hs).2, cov_cons, cov_cons, cov_cons]
    · -- the new row starts inside or at the end of the group (`bp ≥ 0`, starts in order): the union is one interval
      rename_i hgap
      have h1 : cur.s ≤ x.s := (List.pairwise_cons.mp hs).1 x (by simp)
      rw [ih _ _ hs.absorb]
      simp only [cov_cons]
      rw [← or_assoc]
      refine or_congr_left ?_
      show cur.s ≤ p ∧ p < max cur.e x.e ↔ _
      omega

/-- every row `merge` returns starts where an input row starts, on its chromosome, and ends no earlier -/
theorem mergeGo_mem (bp : Int) (cur : Row) (genes : List String) (l : List Row) :
    ∀ r ∈ mergeGo bp cur genes l, ∃ x ∈ cur :: l, r.chrom = x.chrom ∧ r.s = x.s ∧ x.e ≤ r.e := by
  induction l generalizing cur genes with
  | nil =>
    intro r hr
    rw [mergeGo, List.mem_singleton] at hr
    exact ⟨cur, by simp, by rw [hr], by rw [hr], by rw [hr]; exact Int.le_refl _⟩
  | cons x xs ih =>
    intro r hr
    unfold mergeGo at hr
    split at hr
    · rcases List.mem_cons.mp hr with h | h
      · exact ⟨cur, by simp, by rw [h], by rw [h], by rw [h]; exact Int.le_refl _⟩
      · obtain ⟨y, hy, h⟩ := ih x _ r h
        exact ⟨y, List.mem_cons_of_mem _ hy, h⟩
    · obtain ⟨y, hy, hc, h1, h2⟩ := ih _ _ r hr
      rcases List.mem_cons.mp hy with rfl | hy
      · exact ⟨cur, by simp, hc, h1, Int.le_trans (Int.le_max_left cur.e x.e) h2⟩
      · exact ⟨y, by simp [hy], hc, h1, h2⟩

theorem mergeGo_apart (bp : Int) (cur : Row) (genes : List String) (l : List Row) (hs : StartSorted (cur :: l)) :
    (mergeGo bp cur genes l).Pairwise (fun a b => a.e - bp < b.s) := by
  induction l generalizing cur genes with
  | nil => simp [mergeGo]
  | cons x xs ih =>
    unfold mergeGo
    split
    · rename_i hgap
      have hxs := (List.pairwise_cons.mp hs).2
      refine List.pairwise_cons.mpr ⟨?_, ih x _ hxs⟩
      -- a later output row starts at a row of `x :: xs`, none of which starts before `x`
      intro r hr
      obtain ⟨y, hy, _, h1, _⟩ := mergeGo_mem bp x _ xs r hr
      have hxy : x.s ≤ y.s := by
        rcases List.mem_cons.mp hy with rfl | hy
        · exact Int.le_refl _
        · exact (List.pairwise_cons.mp hxs).1 y hy
      show cur.e - bp < r.s
      omega
    · exact ih _ _ hs.absorb

theorem mergeChrom_cov (bp : Int) (hbp : 0 ≤ bp) (l : List Row) (hs : StartSorted l) (p : Int) :
    cov (mergeChrom bp l) p ↔ cov l p := by
  cases l with
  | nil => simp [mergeChrom]
  | cons x xs => exact mergeGo_cov bp hbp x [x.gene] xs p hs

theorem mergeChrom_mem (bp : Int) (l : List Row) :
    ∀ r ∈ mergeChrom bp l, ∃ x ∈ l, r.chrom = x.chrom ∧ r.s = x.s ∧ x.e ≤ r.e := by
  cases l with
  | nil => simp [mergeChrom]
  | cons x xs => exact mergeGo_mem bp x [x.gene] xs

theorem mergeChrom_apart (bp : Int) (l : List Row) (hs : StartSorted l) :
    (mergeChrom bp l).Pairwise (fun a b => a.e - bp < b.s) := by
  cases l with
  | nil => simp [mergeChrom]
  | cons x xs => exact mergeGo_apart bp x [x.gene] xs hs

theorem mergeChrom_canon (l : List Row) (hs : StartSorted l) (hp : ∀ r ∈ l, r.s < r.e) :
    Canon (mergeChrom 0 l) := by
  refine ⟨fun r hr => ?_, (mergeChrom_apart 0 l hs).imp (by intro a b h; omega)⟩
  obtain ⟨x, hx, _, h1, h2⟩ := mergeChrom_mem 0 l r hr
  have := hp x hx
  omega

theorem mergeGo_head (bp : Int) (cur : Row) (genes : List String) (l : List Row) :
    ∃ r t, mergeGo bp cur genes l = r :: t ∧ r.chrom = cur.chrom ∧ r.s = cur.s := by
  induction l generalizing cur genes with
  | nil => exact ⟨_, [], rfl, rfl, rfl⟩
  | cons x xs ih =>
    unfold mergeGo
    split
    · exact ⟨_, _, rfl, rfl, rfl⟩
    · exact ih { cur with e := max cur.e x.e } (x.gene :: genes)

/-! ### canonical lists are determined by their coverage -/

theorem canon_cons {x : Row} {xs : List Row} :
    Canon (x :: xs) ↔ x.s < x.e ∧ (∀ y ∈ xs, x.e < y.s) ∧ Canon xs :=
  forall_and_pairwise_cons

theorem Canon.filter {l : List Row} (h : Canon l) (f : Row → Bool) : Canon (l.filter f) :=
  ⟨fun r hr => h.1 r (List.mem_filter.mp hr).1, h.2.sublist List.filter_sublist⟩

theorem Canon.tail {x : Row} {xs : List Row} (h : Canon (x :: xs)) : Canon xs :=
  ⟨fun r hr => h.1 r (by simp [hr]), (List.pairwise_cons.mp h.2).2⟩

theorem Canon.head_pos {x : Row} {xs : List Row} (h : Canon (x :: xs)) : x.s < x.e :=
  h.1 x (by simp)

theorem Canon.tail_gt {x : Row} {xs : List Row} (h : Canon (x :: xs)) {p : Int}
    (hc : cov xs p) : x.e < p := by
  obtain ⟨r, hr, h1, _⟩ := hc
  have := (List.pairwise_cons.mp h.2).1 r hr
  omega

theorem Canon.cov_ge {x : Row} {xs : List Row} (h : Canon (x :: xs)) {p : Int}
    (hc : cov (x :: xs) p) : x.s ≤ p := by
  rcases (cov_cons x xs p).mp hc with h1 | h1
  · exact h1.1
  · have := h.tail_gt h1
    have := h.head_pos
    omega

theorem Canon.cov_head {x : Row} {xs : List Row} (h : Canon (x :: xs)) : cov (x :: xs) x.s :=
  (cov_cons x xs x.s).mpr (Or.inl ⟨Int.le_refl _, h.head_pos⟩)

theorem Canon.not_cov_head_end {x : Row} {xs : List Row} (h : Canon (x :: xs)) : ¬ cov (x :: xs) x.e := by
  rw [cov_cons]
  rintro (h1 | h1)
  · omega
  · have := h.tail_gt h1; omega

theorem Canon.head_end_le {x y : Row} {xs ys : List Row} (ha : Canon (x :: xs)) (hs : x.s = y.s)
    (h : ∀ p, cov (y :: ys) p → cov (x :: xs) p) : y.e ≤ x.e :=
  Int.not_lt.mp fun hlt =>
    ha.not_cov_head_end (h x.e ((cov_cons y ys x.e).mpr (Or.inl ⟨by have := ha.head_pos; omega, hlt⟩)))

theorem Canon.tail_cov_of {x y : Row} {xs ys : List Row} (ha : Canon (x :: xs)) (he : y.e ≤ x.e) {p : Int}
    (h : cov (x :: xs) p → cov (y :: ys) p) (hc : cov xs p) : cov ys p := by
  have := ha.tail_gt hc
  rcases (cov_cons y ys p).mp (h ((cov_cons x xs p).mpr (Or.inr hc))) with h3 | h3
  · omega
  · exact h3

theorem canon_unique (a b : List Row) (ha : Canon a) (hb : Canon b)
    (h : ∀ p, cov a p ↔ cov b p) : a.map ivOf = b.map ivOf := by
  induction a generalizing b with
  | nil =>
    cases b with
    | nil => rfl
    | cons y ys => exact ((cov_nil _).mp ((h y.s).mpr hb.cov_head)).elim
  | cons x xs ih =>
    cases b with
    | nil => exact ((cov_nil _).mp ((h x.s).mp ha.cov_head)).elim
    | cons y ys =>
      -- the first start is the least covered base, the first end the least uncovered base after it
      have hs : x.s = y.s :=
        Int.le_antisymm (ha.cov_ge ((h y.s).mpr hb.cov_head)) (hb.cov_ge ((h x.s).mp ha.cov_head))
      have he : x.e = y.e :=
        Int.le_antisymm (hb.head_end_le hs.symm fun p => (h p).mp) (ha.head_end_le hs fun p => (h p).mpr)
      have htl : ∀ p, cov xs p ↔ cov ys p := fun p =>
        ⟨ha.tail_cov_of (Int.le_of_eq he.symm) (h p).mp, hb.tail_cov_of (Int.le_of_eq he) (h p).mpr⟩
      simp only [List.map_cons, ih ys ha.tail hb.tail htl, ivOf, hs, he]

/-! ### tilings, and regions that are apart, each replaced by rows inside it -/

/-- `bins` are consecutive, each of non-negative length, from `a` to `b` -/
def Tiles : List Row → Int → Int → Prop
  | [], a, b => a = b
  | x :: xs, a, b => x.s = a ∧ x.s ≤ x.e ∧ Tiles xs x.e b

theorem Tiles.le {bins : List Row} {a b : Int} (h : Tiles bins a b) : a ≤ b := by
  induction bins generalizing a with
  | nil => simp only [Tiles] at h; omega
  | cons x xs ih =>
    obtain ⟨h1, h2, h3⟩ := h
    have := ih h3
    omega

theorem Tiles.cov {bins : List Row} {a b : Int} (h : Tiles bins a b) (p : Int) :
    cov bins p ↔ a ≤ p ∧ p < b := by
  induction bins generalizing a with
  | nil =>
    have : a = b := h
    rw [cov_nil]
    exact ⟨False.elim, fun h' => by omega⟩
  | cons x xs ih =>
    obtain ⟨h1, h2, h3⟩ := h
    have hle := Tiles.le h3
    rw [cov_cons, ih h3]
    omega

theorem Tiles.within {bins : List Row} {a b : Int} (h : Tiles bins a b) :
    ∀ x ∈ bins, a ≤ x.s ∧ x.s ≤ x.e ∧ x.e ≤ b := by
  induction bins generalizing a with
  | nil => intro x hx; cases hx
  | cons y ys ih =>
    obtain ⟨h1, h2, h3⟩ := h
    have hle := Tiles.le h3
    intro x hx
    rcases List.mem_cons.mp hx with rfl | hx
    · omega
    · have := ih h3 x hx
      omega

theorem Tiles.pairwise {bins : List Row} {a b : Int} (h : Tiles bins a b) :
    bins.Pairwise (fun x y => x.e ≤ y.s) := by
  induction bins generalizing a with
  | nil => exact List.Pairwise.nil
  | cons y ys ih =>
    obtain ⟨h1, h2, h3⟩ := h
    refine List.pairwise_cons.mpr ⟨?_, ih h3⟩
    intro z hz
    exact (Tiles.within h3 z hz).1

theorem Tiles.consecutive {bins : List Row} {a b : Int} (h : Tiles bins a b) : Consecutive bins := by
  induction bins generalizing a with
  | nil => trivial
  | cons x xs ih =>
    cases xs with
    | nil => trivial
    | cons y ys => exact ⟨h.2.2.1.symm, ih h.2.2⟩

theorem tiles_breaks (f : Int × Int → Row) (hf : ∀ q, (f q).s = q.1 ∧ (f q).e = q.2) (x : Int) (rest : List Int)
    (hb : (x :: rest).Pairwise (fun a b => a ≤ b)) :
    Tiles (((x :: rest).zip rest).map f) x ((x :: rest).getLast (List.cons_ne_nil _ _)) := by
  induction rest generalizing x with
  | nil => exact rfl
  | cons y ys ih =>
    obtain ⟨hx, ht⟩ := List.pairwise_cons.mp hb
    rw [List.zip_cons_cons, List.map_cons, List.getLast_cons (List.cons_ne_nil _ _)]
    exact ⟨(hf _).1, by rw [(hf _).1, (hf _).2]; exact hx y (by simp), by rw [(hf _).2]; exact ih y ht⟩

/-- things with hulls `[lo a, hi a)` more than `-gap` apart, each replaced by rows inside its hull that are in order:
    the rows are in order overall -/
theorem pairwise_flatMap_within {α} (lo hi : α → Int) (gap : Int) (R : Row → Row → Prop)
    (hR : ∀ x y : Row, x.e - gap < y.s → R x y) (L : List α) (hL : L.Pairwise (fun a b => hi a - gap < lo b))
    (f : α → List Row) (hf : ∀ a ∈ L, (f a).Pairwise R ∧ ∀ x ∈ f a, lo a ≤ x.s ∧ x.e ≤ hi a) :
    (L.flatMap f).Pairwise R := by
  rw [List.pairwise_flatMap]
  refine ⟨fun a ha => (hf a ha).1, hL.imp_of_mem fun {a b} ha hb h x hx y hy => hR x y ?_⟩
  have := ((hf a ha).2 x hx).2
  have := ((hf b hb).2 y hy).1
  omega

/-- in the shape `pairwise_flatMap_within` takes: the rows are their own hulls, gap 0 -/
theorem Canon.apart {l : List Row} (h : Canon l) : l.Pairwise (fun a b => a.e - 0 < b.s) :=
  h.2.imp (by intro a b h; omega)

theorem canon_flatMap (t : List Row) (f : Row → List Row) (hc : Canon t)
    (hf : ∀ k ∈ t, Canon (f k) ∧ ∀ q ∈ f k, k.s ≤ q.s ∧ q.e ≤ k.e) : Canon (t.flatMap f) :=
  ⟨fun r hr => by
      obtain ⟨k, hk, hr⟩ := List.mem_flatMap.mp hr
      exact (hf k hk).1.1 r hr,
    pairwise_flatMap_within (·.s) (·.e) 0 _ (fun x y h => by omega) t hc.apart f
      fun k hk => ⟨(hf k hk).1.2, (hf k hk).2⟩⟩

/-! ### `resize_ranges` -/

/-- `resize_ranges` without the case on the sign of `bp`: every row moved, then one filter -/
theorem resizeTable_eq (bp : Int) (sizes : String → Option Int) (t : Table) :
    resizeTable bp sizes t =
      (t.map fun r => { r with s := clipInt 0 (sizes r.chrom) (r.s - bp), e := clipInt 0 (sizes r.chrom) (r.e + bp) }).filter
        (fun q => decide (bp < 0 → q.e - q.s > 0)) := by
  unfold resizeTable
  by_cases hb : bp < 0
  · simp only [hb, if_true, forall_const]
  · simp only [hb, if_false, false_imp_iff, decide_true]
    exact (filter_const_true _).symm

theorem le_clipInt (lo : Int) (hi : Option Int) (hh : ∀ h, hi = some h → lo ≤ h) (x : Int) : lo ≤ clipInt lo hi x := by
  cases hi with
  | none => simp only [clipInt]; omega
  | some h =>
    have := hh h rfl
    simp only [clipInt]
    omega

end CnvVerif
