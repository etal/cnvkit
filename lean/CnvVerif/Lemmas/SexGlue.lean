/-
  `compare_sex_chromosomes` on a table that has a chrX bin: past the two early returns the result is one expression
  (Model/SexExt5.lean), stated here once for the theorems of Props/C15Glue.lean and Props/C15GlueMargin.lean; "no
  usable chrY bin" (none, or none left under `skip_low`) is one case of it (`compareSex_no_y`).  The namespace `C15x`
  is that of the glue model.
-/
import CnvVerif.Model.SexExt5
namespace CnvVerif.C15x
open CnvVerif

theorem ne_nil_of_chrXBins (par : Option String) (t : List CBin) (hx : chrXBins par t ≠ []) : t ≠ [] := by
  rintro rfl
  exact hx rfl

theorem compareSex_of_x (cta : Cta) (hapX : Bool) (par : Option String) (skipLow : Bool) (t : List CBin)
    (hx : chrXBins par t ≠ []) :
    compareSex cta hapX par skipLow t =
      (let chrx := lowIf skipLow (chrXBins par t)
       let auto := lowIf skipLow (autoBins par t)
       let xlr := chromLr cta 0 auto chrx (xShifts hapX).1 (xShifts hapX).2
       let chry := lowIf skipLow (chrYBins par t)
       let ylr := if (chrYBins par t).isEmpty then none else chromLr cta 2 auto chry yShifts.1 yShifts.2
       let am := segMean skipLow auto
       some ((match combinedScore xlr ylr with | some s => decide (s > 1) | none => false),
             { chrxRatio := subNan (segMean skipLow chrx) am, chryRatio := subNan (segMean skipLow chry) am,
               combined := combinedScore xlr ylr, chrxLr := xlr, chryLr := ylr })) := by
  unfold compareSex
  rw [if_neg (by simpa using ne_nil_of_chrXBins par t hx), if_neg (by simpa using hx)]
  rfl

theorem combinedScore_some (x : Rat) (y : Option Rat) : combinedScore (some x) y = some (sexScore x y) := by
  cases y <;> rfl

theorem combinedScore_none_right (x : Option Rat) : combinedScore x none = x := by cases x <;> rfl

theorem chromLr_nil (cta : Cta) (k : Nat) (auto : List CBin) (fs ms : Rat) : chromLr cta k auto [] fs ms = none := rfl

theorem segMean_lowIf (sl : Bool) (s : List CBin) : segMean sl s = segMean false (lowIf sl s) := by cases sl <;> rfl

theorem shiftVals_shiftVals (l : List Rat) (a b : Rat) : shiftVals (shiftVals l a) b = shiftVals l (a + b) := by
  simp only [shiftVals, List.map_map, Function.comp_def, Rat.add_assoc]

/-- no usable chrY bin (none at all, or none left under `skip_low`): the chrY log-ratio and the chrY ratio are NaN,
    the `np.isfinite` guard keeps them out of the score, and chrX decides -/
theorem compareSex_no_y (cta : Cta) (hapX : Bool) (par : Option String) (skipLow : Bool) (t : List CBin)
    (hx : chrXBins par t ≠ []) (hy : lowIf skipLow (chrYBins par t) = []) (r : Bool × SexStats)
    (h : compareSex cta hapX par skipLow t = some r) :
    r.2.chryLr = none ∧ r.2.chryRatio = none ∧ r.2.combined = r.2.chrxLr ∧
    r.1 = (match r.2.chrxLr with | some x => decide (x > 1) | none => false) := by
  rw [compareSex_of_x cta hapX par skipLow t hx, hy] at h
  obtain rfl := Option.some.inj h
  simp only [chromLr_nil, ite_self, combinedScore_none_right, segMean_lowIf skipLow [], true_and]
  exact ⟨by cases skipLow <;> rfl, trivial⟩

theorem mem_of_mem_autoBins (par : Option String) (t : List CBin) (b : CBin) (hb : b ∈ autoBins par t) : b ∈ t := by
  unfold autoBins autosomesOf at hb
  split at hb
  · exact hb
  · exact (List.mem_filter.mp hb).1

end CnvVerif.C15x
