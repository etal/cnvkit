/-
  C06 tie to the source TEXT -- subdivide: the keep-test, the bin count (`round`, `int`, `or`) and the cut position of `_split_targets`.
  The pieces that the translator re-reads on every run (Generated/ExprsInterval.lean) are the expressions the hand-written
  model (Model/Interval.lean) is built from.  Each generated piece is first brought to a NORMAL FORM (`src_*_nf`, proved
  by `rfl`, else `omega` / rewriting, so that an equivalent spelling of the same test or formula in the source still
  proves); the model functions are then shown to be those normal forms put together.  One lemma file per source function
  so that an edit names exactly the obligations about that function.
-/
import CnvVerif.Generated.ExprsInterval
import CnvVerif.Model.Interval
import CnvVerif.Lemmas.IntervalSubdivide
import CnvVerif.Lemmas.SrcInt
import Mathlib.Tactic.Ring
import Mathlib.Tactic.FieldSimp
set_option linter.unusedTactic false
set_option linter.unreachableTactic false
namespace CnvVerif.Src
open CnvVerif CnvVerif.Generated

theorem src_split_keeps_nf (s e m : Int) : src_split_keeps s e m = decide (e - s ≥ m) := by
  unfold src_split_keeps
  first
  | rfl
  | (simp only [decide_eq_decide]; omega)

/-- the translator's spelling of one-argument `round` is the model's `roundHalfEven` -/
theorem pyRound_eq (x : Rat) :
    (if x - ((x.floor : Int) : Rat) < (1 : Rat) / 2 then ((x.floor : Int) : Rat)
      else if x - ((x.floor : Int) : Rat) > (1 : Rat) / 2 then ((x.floor : Int) : Rat) + 1
      else if x.floor % 2 = 0 then ((x.floor : Int) : Rat) else ((x.floor : Int) : Rat) + 1) =
    ((roundHalfEven x : Int) : Rat) := by
  simp only [roundHalfEven, beq_iff_eq, Int.cast_ite, Int.cast_add, Int.cast_one]

/-- the translator's spelling of `int(e)` applied to a value that is already an integer -/
theorem pyTrunc_intCast (z : Int) :
    (if (z : Rat) < 0 then ((((z : Rat)).ceil : Int) : Rat) else ((((z : Rat)).floor : Int) : Rat)) = (z : Rat) :=
  pyInt_intCast z

theorem binCount_cast (avg : Rat) (havg : 0 < avg) (r : Row) (hlen : r.s ≤ r.e) :
    ((binCount avg r : Nat) : Rat) =
      (if ((roundHalfEven (((r.e - r.s : Int) : Rat) / avg) : Int) : Rat) ≠ 0
        then ((roundHalfEven (((r.e - r.s : Int) : Rat) / avg) : Int) : Rat) else 1) ∧ 1 ≤ binCount avg r := by
  have hnn := roundHalfEven_nonneg _ (span_div_nonneg avg havg r hlen)
  have hb := binCount_eq_max avg r hnn
  generalize roundHalfEven (((r.e - r.s : Int) : Rat) / avg) = z at hnn hb ⊢
  refine ⟨?_, by omega⟩
  rw [← Int.cast_natCast, hb]
  by_cases hz : z = 0
  · subst hz
    rw [Int.cast_zero, if_neg (not_not.mpr rfl)]
    rfl
  · rw [if_pos (Int.cast_ne_zero.mpr hz), Int.max_eq_right (by omega)]

/-- `nbins = int(round(span / avg_size)) or 1` is the model's bin count -/
theorem src_split_nbins_eq (avg : Rat) (havg : 0 < avg) (r : Row) (hlen : r.s ≤ r.e) :
    src_split_nbins (r.s : Rat) (r.e : Rat) avg = ((binCount avg r : Nat) : Rat) := by
  rw [(binCount_cast avg havg r hlen).1]
  unfold src_split_nbins
  simp only [pyRound_eq, pyTrunc_intCast, Int.cast_sub]

/-- `bin_end = row.start + int(i * bin_size)` is the model's cut `start + ⌊i·span/n⌋` -/
theorem src_split_bin_end_eq (avg : Rat) (havg : 0 < avg) (r : Row) (hlen : r.s ≤ r.e) (i : Nat) :
    src_split_bin_end (r.s : Rat) (r.e : Rat) avg (i : Rat) =
      ((r.s + ((i : Int) * (r.e - r.s)) / ((binCount avg r : Nat) : Int) : Int) : Rat) := by
  obtain ⟨hcast, hpos⟩ := binCount_cast avg havg r hlen
  have hn0 : ((binCount avg r : Nat) : Rat) ≠ 0 := by
    have : (0 : Rat) < ((binCount avg r : Nat) : Rat) := by exact_mod_cast hpos
    exact ne_of_gt this
  have hz : (0 : Int) ≤ (i : Int) * (r.e - r.s) := Int.mul_nonneg (by omega) (by omega)
  unfold src_split_bin_end
  simp only [pyRound_eq, pyTrunc_intCast]
  rw [← Int.cast_sub, ← hcast, Int.cast_add]
  -- robust against equivalent spellings of the sum and of the argument of `int( )`
  first
  | (congr 1
     apply pyInt_eq_ediv hz
     push_cast
     first | ring | (field_simp))
  | (rw [add_comm]
     congr 1
     apply pyInt_eq_ediv hz
     push_cast
     first | ring | (field_simp))

end CnvVerif.Src
