/-
  The weighted `HaarConv` response to a noise-free step under positive
  weights: closed form, zero outside `(b-h, b+h)`, strictly rising to `b`, strictly falling after it.
-/
import CnvVerif.Lemmas.HaarWeightedLoop
import CnvVerif.Lemmas.HaarPeaks
namespace CnvVerif.Haar

theorem pre_lin (a c : Rat) (x y : Nat → Rat) (k : Nat) :
    pre (fun i => a * x i + c * y i) k = a * pre x k + c * pre y k := by
  induction k with
  | zero => simp [pre]
  | succ m ih => rw [pre_succ, pre_succ, pre_succ, ih]; ring

theorem lowWin_lin (a c : Rat) (x y : Nat → Rat) (h k : Nat) :
    lowWin (fun i => a * x i + c * y i) h k = a * lowWin x h k + c * lowWin y h k := by
  unfold lowWin
  split <;> simp only [pre_lin] <;> ring

theorem highWin_lin (a c : Rat) (x y : Nat → Rat) (n h k : Nat) :
    highWin (fun i => a * x i + c * y i) n h k = a * highWin x n h k + c * highWin y n h k := by
  unfold highWin
  split <;> simp only [pre_lin] <;> ring

theorem pre_strict (w : Nat → Rat) (n : Nat) (hpos : ∀ i, i < n → 0 < w i) :
    ∀ j i, i < j → j ≤ n → pre w i < pre w j := by
  intro j
  induction j with
  | zero => intro i hi; omega
  | succ m ih =>
    intro i hi hj
    rw [pre_succ]
    have hw := hpos m (by omega)
    by_cases e : i = m
    · subst e; linarith
    · have := ih i (by omega) (by omega); linarith

theorem pre_mono (w : Nat → Rat) (n : Nat) (hpos : ∀ i, i < n → 0 < w i) (i j : Nat) (hij : i ≤ j) (hj : j ≤ n) :
    pre w i ≤ pre w j := by
  by_cases e : i = j
  · subst e; exact le_refl _
  · exact le_of_lt (pre_strict w n hpos j i (by omega) hj)

theorem pre_nonneg (w : Nat → Rat) (n : Nat) (hpos : ∀ i, i < n → 0 < w i) (j : Nat) (hj : j ≤ n) : 0 ≤ pre w j :=
  pre_mono w n hpos 0 j (Nat.zero_le j) hj

theorem pre_pos (w : Nat → Rat) (n : Nat) (hpos : ∀ i, i < n → 0 < w i) (j : Nat) (h0 : 0 < j) (hj : j ≤ n) :
    0 < pre w j :=
  pre_strict w n hpos j 0 h0 hj

theorem pre_upper_le (w : Nat → Rat) (b : Nat) : ∀ i, i ≤ b → pre (upperW w b) i = 0 := by
  intro i
  induction i with
  | zero => intro _; rfl
  | succ m ih =>
    intro hm
    rw [pre_succ, ih (by omega)]
    simp [upperW]; omega

theorem pre_upper_ge (w : Nat → Rat) (b : Nat) : ∀ i, b ≤ i → pre (upperW w b) i = pre w i - pre w b := by
  intro i hi
  induction i, hi using Nat.le_induction with
  | base => rw [pre_upper_le w b b (le_refl _)]; ring
  | succ m hm ih =>
    rw [pre_succ, pre_succ, ih]
    simp [upperW, hm]; ring

/-- a half-window that fits on both sides of the step, and positive weights on all `n` bins -/
structure StepW (w : Nat → Rat) (b n h : Nat) : Prop where
  h1 : 1 ≤ h
  hb : h ≤ b
  hn : b + h ≤ n
  pos : ∀ i, i < n → 0 < w i

theorem lowWin_pos (w : Nat → Rat) (n h : Nat) (h1 : 1 ≤ h) (hh : h ≤ n) (pos : ∀ i, i < n → 0 < w i)
    (k : Nat) (hk : k < n) : 0 < lowWin w h k := by
  unfold lowWin
  split
  · -- `k` and `h - k` bins, not both empty
    rcases Nat.eq_zero_or_pos k with rfl | hk0
    · exact add_pos_of_nonneg_of_pos (le_refl _) (pre_pos w n pos (h - 0) h1 (by omega))
    · exact add_pos_of_pos_of_nonneg (pre_pos w n pos k hk0 (by omega)) (pre_nonneg w n pos (h - k) (by omega))
  · exact sub_pos.mpr (pre_strict w n pos k (k - h) (by omega) (by omega))

theorem highWin_pos (w : Nat → Rat) (n h : Nat) (h1 : 1 ≤ h) (hh : h ≤ n) (pos : ∀ i, i < n → 0 < w i)
    (k : Nat) (hk : k < n) : 0 < highWin w n h k := by
  unfold highWin
  split
  · exact sub_pos.mpr (pre_strict w n pos (k + h) k (by omega) (by omega))
  · have a1 := pre_strict w n pos n k hk (le_refl _)
    have a2 := pre_mono w n pos (2 * n - k - h) n (by omega) (le_refl _)
    linarith

theorem StepW.highWin_pos {w : Nat → Rat} {b n h : Nat} (H : StepW w b n h) (k : Nat) (hk : k < n) :
    0 < highWin w n h k :=
  Haar.highWin_pos w n h H.h1 (by have := H.hb; have := H.hn; omega) H.pos k hk

theorem lowWin_upper_zero (w : Nat → Rat) (b h k : Nat) (hb : h ≤ b) (hk : k ≤ b) : lowWin (upperW w b) h k = 0 := by
  unfold lowWin
  split
  · rw [pre_upper_le w b k hk, pre_upper_le w b (h - k) (by omega)]; ring
  · rw [pre_upper_le w b k hk, pre_upper_le w b (k - h) (by omega)]; ring

theorem highWin_upper_all {w : Nat → Rat} {b n h : Nat} (H : StepW w b n h) (k : Nat) (hk : k < n) (hbk : b ≤ k) :
    highWin (upperW w b) n h k = highWin w n h k := by
  have h1 := H.h1; have hb := H.hb; have hn := H.hn
  unfold highWin
  split
  · rw [pre_upper_ge w b (k + h) (by omega), pre_upper_ge w b k hbk]; ring
  · rw [pre_upper_ge w b n (by omega), pre_upper_ge w b k hbk, pre_upper_ge w b (2 * n - k - h) (by omega)]; ring

theorem share_zero_left {w : Nat → Rat} {b n h : Nat} (H : StepW w b n h) (k : Nat) (hk : k + h ≤ b) :
    stepShareW w b n h k = 0 := by
  have hb := H.hb; have hn := H.hn
  unfold stepShareW
  rw [lowWin_upper_zero w b h k hb (by omega)]
  unfold highWin
  rw [if_pos (by omega), pre_upper_le w b (k + h) hk, pre_upper_le w b k (by omega)]
  simp

theorem share_rise {w : Nat → Rat} {b n h : Nat} (H : StepW w b n h) (k : Nat) (hk : k ≤ b) (hkb : b ≤ k + h) :
    stepShareW w b n h k = (pre w (k + h) - pre w b) / (pre w (k + h) - pre w k) := by
  have hb := H.hb; have hn := H.hn
  unfold stepShareW
  rw [lowWin_upper_zero w b h k hb hk]
  unfold highWin
  rw [if_pos (by omega), if_pos (by omega), pre_upper_ge w b (k + h) hkb, pre_upper_le w b k hk]
  simp

/-- at and beyond the step the high window lies wholly on the upper plateau: the share is 1 minus the share of the
low window's weight that does -/
theorem share_beyond {w : Nat → Rat} {b n h : Nat} (H : StepW w b n h) (k : Nat) (hk : b ≤ k) (hkn : k < n) :
    0 < pre w k - pre w (k - h) ∧
    stepShareW w b n h k
      = 1 - (pre w k - pre w b - pre (upperW w b) (k - h)) / (pre w k - pre w (k - h)) := by
  have h1 := H.h1; have hb := H.hb
  refine ⟨sub_pos.mpr (pre_strict w n H.pos k (k - h) (by omega) (by omega)), ?_⟩
  unfold stepShareW
  rw [highWin_upper_all H k hkn hk, div_self (ne_of_gt (H.highWin_pos k hkn)),
    lowWin_ge _ h k (by omega), lowWin_ge _ h k (by omega), pre_upper_ge w b k hk]

theorem share_fall {w : Nat → Rat} {b n h : Nat} (H : StepW w b n h) (k : Nat) (hk : b ≤ k) (hkn : k < n)
    (hkb : k ≤ b + h) :
    stepShareW w b n h k = (pre w b - pre w (k - h)) / (pre w k - pre w (k - h)) := by
  obtain ⟨hd, e⟩ := share_beyond H k hk hkn
  rw [e, pre_upper_le w b (k - h) (by omega)]
  field_simp
  ring

theorem share_zero_right {w : Nat → Rat} {b n h : Nat} (H : StepW w b n h) (k : Nat) (hkn : k < n)
    (hk : b + h ≤ k) : stepShareW w b n h k = 0 := by
  obtain ⟨hd, e⟩ := share_beyond H k (by omega) hkn
  rw [e, pre_upper_ge w b (k - h) (by omega),
    show pre w k - pre w b - (pre w (k - h) - pre w b) = pre w k - pre w (k - h) by ring,
    div_self (ne_of_gt hd), sub_self]

/-- moving both ends of an interval `[a, c]` around `m` to the right increases the share of its part beyond `m` -/
theorem share_frac_lt (a a' m c c' : Rat) (h1 : a < a') (h2 : a' ≤ m) (h3 : m ≤ c) (h4 : c < c') :
    (c - m) / (c - a) < (c' - m) / (c' - a') := by
  rw [div_lt_div_iff₀ (by linarith) (by linarith)]
  linarith [mul_pos (sub_pos.mpr h4) (show 0 < m - a by linarith),
    mul_nonneg (sub_nonneg.mpr h3) (le_of_lt (sub_pos.mpr h1))]

theorem share_rising {w : Nat → Rat} {b n h : Nat} (H : StepW w b n h) (k : Nat) (hkb : b ≤ k + h) (hk : k < b) :
    stepShareW w b n h k < stepShareW w b n h (k + 1) := by
  have h1 := H.h1; have hb := H.hb; have hn := H.hn
  rw [share_rise H k (by omega) hkb, share_rise H (k + 1) (by omega) (by omega),
    show k + 1 + h = (k + h) + 1 by omega]
  exact share_frac_lt _ _ _ _ _ (pre_strict w n H.pos (k + 1) k (by omega) (by omega))
    (pre_mono w n H.pos (k + 1) b (by omega) (by omega)) (pre_mono w n H.pos b (k + h) hkb (by omega))
    (pre_strict w n H.pos (k + h + 1) (k + h) (by omega) (by omega))

/-- the falling flank is the rising one read from the right -/
theorem share_falling {w : Nat → Rat} {b n h : Nat} (H : StepW w b n h) (k : Nat) (hk : b ≤ k) (hkn : k + 1 < n)
    (hkb : k < b + h) : stepShareW w b n h (k + 1) < stepShareW w b n h k := by
  have h1 := H.h1; have hb := H.hb; have hn := H.hn
  rw [share_fall H k hk (by omega) (by omega), share_fall H (k + 1) (by omega) hkn (by omega),
    show k + 1 - h = (k - h) + 1 by omega]
  have := share_frac_lt _ _ _ _ _
    (neg_lt_neg (pre_strict w n H.pos (k + 1) k (by omega) (by omega)))
    (neg_le_neg (pre_mono w n H.pos b k hk (by omega)))
    (neg_le_neg (pre_mono w n H.pos (k - h + 1) b (by omega) (by omega)))
    (neg_lt_neg (pre_strict w n H.pos (k - h + 1) (k - h) (by omega) (by omega)))
  simpa only [neg_sub_neg] using this

theorem share_pos {w : Nat → Rat} {b n h : Nat} (H : StepW w b n h) (k : Nat) (hkn : k < n) (h1' : b < k + h)
    (h2' : k < b + h) : 0 < stepShareW w b n h k := by
  have h1 := H.h1; have hb := H.hb; have hn := H.hn
  by_cases c : k ≤ b
  · rw [share_rise H k c (by omega)]
    exact div_pos (sub_pos.mpr (pre_strict w n H.pos (k + h) b h1' (by omega)))
      (sub_pos.mpr (pre_strict w n H.pos (k + h) k (by omega) (by omega)))
  · rw [share_fall H k (by omega) hkn (by omega)]
    exact div_pos (sub_pos.mpr (pre_strict w n H.pos b (k - h) (by omega) (by omega)))
      (sub_pos.mpr (pre_strict w n H.pos k (k - h) (by omega) (by omega)))

theorem share_at_step {w : Nat → Rat} {b n h : Nat} (H : StepW w b n h) : stepShareW w b n h b = 1 := by
  have h1 := H.h1; have hb := H.hb; have hn := H.hn
  rw [share_rise H b (le_refl _) (by omega)]
  have a := pre_strict w n H.pos (b + h) b (by omega) (by omega)
  exact div_self (by linarith)

theorem StepW.unimodal {w : Nat → Rat} {b n h : Nat} (H : StepW w b n h) : Unimodal (stepShareW w b n h) b n h :=
  ⟨fun k _ => share_zero_left H k, share_zero_right H, share_rising H, share_falling H, share_pos H⟩

end CnvVerif.Haar
