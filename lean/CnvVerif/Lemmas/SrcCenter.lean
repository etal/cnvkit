/-
  `by_chromosome()` as a list of per-chromosome log2 lists (`chromGroups`): every group is non-empty and
  `centerValues` per chromosome is the estimator mapped over the groups.  Props/C15SrcCenter.lean uses this to tie
  `centerShift` to the branch structure the translator reads off CopyNumArray.center_all (Generated/ExprsCenter.lean).
-/
import CnvVerif.Generated.ExprsCenter
import CnvVerif.Model.Center
import CnvVerif.Lemmas.Center
namespace CnvVerif.Src
open CnvVerif CnvVerif.Generated

/-- `by_chromosome()` of a table, as the list of the chromosomes' log2 lists (`groupby(sort=False)`: order of first
    appearance) -/
def chromGroups (sel : List CBin) : List (List Rat) :=
  ((sel.map (·.chrom)).eraseDups).map fun c => (sel.filter (·.chrom == c)).map (·.log2)

/-- no group is empty, so the `if len(subarr)` filter of the comprehension keeps every chromosome -/
theorem chromGroups_nonempty (sel : List CBin) : ∀ g ∈ chromGroups sel, (g.length != 0) = true := by
  intro g hg
  obtain ⟨c, hc, rfl⟩ := List.mem_map.mp hg
  simpa using chromGroup_ne_nil sel c hc

theorem centerValues_byChrom (est : List Rat → Rat) (sel : List CBin) :
    centerValues est true sel = (chromGroups sel).map est := by
  unfold centerValues chromGroups
  rw [if_pos rfl, List.map_map]
  rfl

end CnvVerif.Src
