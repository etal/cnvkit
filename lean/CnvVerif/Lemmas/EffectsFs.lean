/-
  The directory model of C10 (Model/Effects.lean (i)): a directory with one entry per name (`WF`), the search for the
  least free numbered suffix, `ensure_path` as "nothing, or one file moves to a free name", and the history relation
  `Grown`: after guarded writes every earlier content and every written content is there, once each.
-/
import CnvVerif.Model.Effects
import Std.Data.String.ToNat
import Mathlib.Data.List.Perm.Subperm
import Mathlib.Data.List.Nodup
namespace CnvVerif.Effects

/-- well-formed directory: one entry per name -/
def WF (fs : FS) : Prop := (names fs).Nodup

instance (fs : FS) : Decidable (WF fs) := inferInstanceAs (Decidable (names fs).Nodup)

theorem WF_nil : WF [] := List.nodup_nil

theorem bakName_ne (p : String) (k : Nat) : bakName p k ≠ p := by
  intro h
  have := congrArg String.length h
  simp [bakName, String.length_append] at this
  have h1 : ".".length = 1 := by decide
  omega

theorem bakName_inj (p : String) {j k : Nat} (h : bakName p j = bakName p k) : j = k := by
  unfold bakName at h
  rw [String.append_assoc, String.append_assoc, String.append_right_inj, String.append_right_inj] at h
  exact Nat.repr_injective h

theorem isFile_cons (an ac : String) (t : FS) (n : String) :
    isFile ((an, ac) :: t) n = (an == n || isFile t n) := rfl

theorem readFile_cons_eq (an ac : String) (t : FS) : readFile ((an, ac) :: t) an = some ac := by
  simp [readFile]

theorem readFile_cons_ne {an n : String} (ac : String) (t : FS) (h : an ≠ n) :
    readFile ((an, ac) :: t) n = readFile t n := by
  simp [readFile, h]

theorem removeFile_cons_eq (an ac : String) (t : FS) : removeFile ((an, ac) :: t) an = removeFile t an := by
  simp [removeFile]

theorem removeFile_cons_ne {an n : String} (ac : String) (t : FS) (h : an ≠ n) :
    removeFile ((an, ac) :: t) n = (an, ac) :: removeFile t n := by
  simp [removeFile, h]

theorem isFile_iff (fs : FS) (n : String) : isFile fs n = true ↔ n ∈ names fs := by
  simp only [isFile, names, List.any_eq_true, List.mem_map, beq_iff_eq]

theorem isFile_false_iff (fs : FS) (n : String) : isFile fs n = false ↔ n ∉ names fs := by
  rw [← isFile_iff]; simp

theorem isSome_readFile (fs : FS) (n : String) : (readFile fs n).isSome = isFile fs n := by
  rw [Bool.eq_iff_iff]
  simp only [readFile, isFile, Option.isSome_map, List.find?_isSome, List.any_eq_true]

theorem readFile_some_of_isFile {fs : FS} {n : String} (h : isFile fs n = true) : ∃ c, readFile fs n = some c :=
  Option.isSome_iff_exists.mp ((isSome_readFile fs n).trans h)

theorem isFile_of_readFile {fs : FS} {n c : String} (h : readFile fs n = some c) : isFile fs n = true := by
  rw [← isSome_readFile, h]; rfl

theorem names_removeFile (fs : FS) (n : String) : names (removeFile fs n) = (names fs).filter (fun x => x != n) := by
  unfold names removeFile; rw [List.filter_map]; rfl

theorem removeFile_of_free {fs : FS} {n : String} (h : isFile fs n = false) : removeFile fs n = fs := by
  rw [isFile_false_iff] at h
  refine List.filter_eq_self.mpr fun a ha => ?_
  have : a.1 ≠ n := fun e => h (e ▸ List.mem_map_of_mem (f := (·.1)) ha)
  simpa using this

theorem isFile_removeFile_self (fs : FS) (n : String) : isFile (removeFile fs n) n = false := by
  rw [isFile_false_iff, names_removeFile]; simp

theorem isFile_removeFile_of_ne {fs : FS} {n m : String} (h : n ≠ m) : isFile (removeFile fs m) n = isFile fs n := by
  rw [Bool.eq_iff_iff, isFile_iff, isFile_iff, names_removeFile]; simp [h]

theorem readFile_removeFile_of_ne {fs : FS} {n m : String} (h : n ≠ m) : readFile (removeFile fs m) n = readFile fs n := by
  induction fs with
  | nil => rfl
  | cons a t ih =>
    obtain ⟨an, ac⟩ := a
    by_cases h1 : an = m
    · subst h1
      rw [removeFile_cons_eq, ih, readFile_cons_ne _ _ (Ne.symm h)]
    · rw [removeFile_cons_ne _ _ h1]
      by_cases h2 : an = n
      · subst h2; rw [readFile_cons_eq, readFile_cons_eq]
      · rw [readFile_cons_ne _ _ h2, readFile_cons_ne _ _ h2, ih]

theorem WF_cons {fs : FS} (h : WF fs) {n c : String} (hn : isFile fs n = false) : WF ((n, c) :: fs) :=
  List.nodup_cons.mpr ⟨(isFile_false_iff fs n).mp hn, h⟩

theorem WF_removeFile {fs : FS} (h : WF fs) (n : String) : WF (removeFile fs n) := by
  unfold WF at *; rw [names_removeFile]; exact h.sublist List.filter_sublist

theorem perm_of_readFile {fs : FS} (hw : WF fs) {p c : String} (h : readFile fs p = some c) :
    fs.Perm ((p, c) :: removeFile fs p) := by
  induction fs with
  | nil => cases h
  | cons a t ih =>
    obtain ⟨an, ac⟩ := a
    have hw' : an ∉ names t ∧ (names t).Nodup := List.nodup_cons.mp hw
    by_cases h1 : an = p
    · subst h1
      rw [readFile_cons_eq] at h
      rw [removeFile_cons_eq, removeFile_of_free ((isFile_false_iff t an).mpr hw'.1), Option.some.inj h]
    · rw [readFile_cons_ne _ _ h1] at h
      rw [removeFile_cons_ne _ _ h1]
      exact ((ih hw'.2 h).cons (an, ac)).trans (List.Perm.swap _ _ _)

/-- `fs'` holds, under unique names, what `fs` held and the contents `cs` besides: nothing lost, nothing invented -/
structure Grown (cs : List String) (fs fs' : FS) : Prop where
  wf : WF fs'
  perm : (contents fs').Perm (cs ++ contents fs)

theorem Grown.refl {fs : FS} (hw : WF fs) : Grown [] fs fs := ⟨hw, .refl _⟩

theorem Grown.trans {cs cs' : List String} {fs fs₁ fs₂ : FS} (h₁ : Grown cs fs fs₁) (h₂ : Grown cs' fs₁ fs₂) :
    Grown (cs' ++ cs) fs fs₂ :=
  ⟨h₂.wf, h₂.perm.trans (List.append_assoc .. ▸ h₁.perm.append_left cs')⟩

theorem Grown.length {cs : List String} {fs fs' : FS} (h : Grown cs fs fs') : fs'.length = fs.length + cs.length := by
  simpa [contents, Nat.add_comm] using h.perm.length_eq

theorem Grown.mem {cs : List String} {fs fs' : FS} (h : Grown cs fs fs') {c : String} :
    c ∈ contents fs' ↔ c ∈ cs ∨ c ∈ contents fs := by
  rw [h.perm.mem_iff, List.mem_append]

theorem firstFree_succ_of_file {fs : FS} {p : String} {cnt : Nat} (h : isFile fs (bakName p cnt) = true) (fuel : Nat) :
    firstFree fs p (fuel + 1) cnt = firstFree fs p fuel (cnt + 1) := by
  rw [firstFree, if_pos h]

theorem firstFree_succ_of_free {fs : FS} {p : String} {cnt : Nat} (h : isFile fs (bakName p cnt) = false) (fuel : Nat) :
    firstFree fs p (fuel + 1) cnt = cnt := by
  rw [firstFree, if_neg (by rw [h]; exact Bool.false_ne_true)]

/-- the bounded search is core's `find?` along `range'` -/
theorem firstFree_eq_find (fs : FS) (p : String) (fuel cnt : Nat) :
    firstFree fs p fuel cnt =
      ((List.range' cnt fuel).find? fun j => !isFile fs (bakName p j)).getD (cnt + fuel) := by
  induction fuel generalizing cnt with
  | zero => rfl
  | succ f ih =>
    rw [firstFree, List.range'_succ, List.find?_cons, ih]
    cases isFile fs (bakName p cnt) <;> simp [Nat.add_assoc, Nat.add_comm 1]

/-- the bounded search stops at the least candidate from `cnt` on that is free — every suffix it stepped over is
    taken — unless it has walked over `fuel` existing backups -/
theorem firstFree_spec (fs : FS) (p : String) (fuel cnt : Nat) :
    cnt ≤ firstFree fs p fuel cnt ∧
    (∀ j, cnt ≤ j → j < firstFree fs p fuel cnt → isFile fs (bakName p j) = true) ∧
    (isFile fs (bakName p (firstFree fs p fuel cnt)) = false ∨ firstFree fs p fuel cnt = cnt + fuel) := by
  rw [firstFree_eq_find]
  cases h : (List.range' cnt fuel).find? fun j => !isFile fs (bakName p j) with
  | none =>
    exact ⟨Nat.le_add_right .., fun j h1 h2 => by simpa using List.find?_range'_eq_none.mp h j h1 h2, .inr rfl⟩
  | some k =>
    obtain ⟨hk, hm, hlt⟩ := List.find?_range'_eq_some.mp h
    exact ⟨(List.mem_range'_1.mp hm).1, fun j h1 h2 => by simpa using hlt j h1 h2, .inl (by simpa using hk)⟩

/-- pigeonhole: with `p` itself a file, the directory cannot also hold `fs.length` numbered backups -/
theorem firstFree_free {fs : FS} {p : String} (hp : isFile fs p = true) {c : Nat} :
    isFile fs (bakName p (firstFree fs p fs.length c)) = false := by
  obtain ⟨_, hwalked, hfree | hfull⟩ := firstFree_spec fs p fs.length c
  · exact hfree
  · exfalso
    let L : List String := p :: (List.range' c fs.length).map (bakName p)
    have hnd : L.Nodup := by
      refine List.nodup_cons.mpr ⟨?_, ?_⟩
      · intro hm
        obtain ⟨k, _, hk⟩ := List.mem_map.mp hm
        exact bakName_ne p k hk
      · exact List.Nodup.map (fun a b hab => bakName_inj p hab) (List.nodup_range' (s := c) (n := fs.length))
    have hsub : L ⊆ names fs := by
      intro x hx
      rcases List.mem_cons.mp hx with rfl | hx
      · exact (isFile_iff fs _).mp hp
      · obtain ⟨k, hk, rfl⟩ := List.mem_map.mp hx
        have := List.mem_range'_1.mp hk
        exact (isFile_iff fs _).mp (hwalked k this.1 (by omega))
    have := (List.subperm_of_subset hnd hsub).length_le
    simp [L, names] at this
    omega

theorem firstFree_more_fuel (fs : FS) (p : String) (f e c : Nat)
    (h : isFile fs (bakName p (firstFree fs p f c)) = false) : firstFree fs p (f + e) c = firstFree fs p f c := by
  rw [firstFree_eq_find] at h ⊢
  rw [firstFree_eq_find, ← List.range'_append_1, List.find?_append]
  cases hf : (List.range' c f).find? fun j => !isFile fs (bakName p j) with
  | some k => rfl
  | none =>
    rw [hf] at h
    cases e with
    | zero => rfl
    | succ e => simp [List.range'_succ, show isFile fs (bakName p (c + f)) = false from h]

theorem ensurePath_new {fs : FS} {p : String} (hp : isFile fs p = false) : ensurePath fs p = fs := by
  rw [ensurePath, if_neg (by rw [hp]; exact Bool.false_ne_true)]

theorem isFile_removeFile_bak {fs : FS} {p : String} (hp : isFile fs p = true) :
    isFile (removeFile fs p) (bakName p (firstFree fs p fs.length 1)) = false :=
  (isFile_removeFile_of_ne (bakName_ne p _)).trans (firstFree_free hp)

theorem ensurePath_existing {fs : FS} {p c0 : String} (hp : readFile fs p = some c0) :
    ensurePath fs p = (bakName p (firstFree fs p fs.length 1), c0) :: removeFile fs p := by
  have hfile := isFile_of_readFile hp
  rw [ensurePath, if_pos hfile]
  simp only [renameFile, hp]
  rw [removeFile_of_free (isFile_removeFile_bak hfile)]

theorem ensurePath_cases (fs : FS) (p : String) :
    (isFile fs p = false ∧ ensurePath fs p = fs) ∨
    ∃ c0, readFile fs p = some c0 ∧ isFile fs p = true ∧
      ensurePath fs p = (bakName p (firstFree fs p fs.length 1), c0) :: removeFile fs p := by
  cases hf : isFile fs p with
  | false => exact .inl ⟨rfl, ensurePath_new hf⟩
  | true =>
    obtain ⟨c0, hc0⟩ := readFile_some_of_isFile hf
    exact .inr ⟨c0, hc0, rfl, ensurePath_existing hc0⟩

theorem isFile_ensurePath_self (fs : FS) (p : String) : isFile (ensurePath fs p) p = false := by
  rcases ensurePath_cases fs p with ⟨hf, he⟩ | ⟨c0, _, _, he⟩
  · rw [he]; exact hf
  · rw [he, isFile_cons, isFile_removeFile_self, Bool.or_false]
    exact beq_false_of_ne (bakName_ne p _)

/-- after `ensure_path` the path is free, so the write only adds an entry -/
theorem guardedWrite_eq (fs : FS) (p c : String) : guardedWrite fs p c = (p, c) :: ensurePath fs p := by
  rw [guardedWrite, writeFile, removeFile_of_free (isFile_ensurePath_self fs p)]

theorem ensurePath_grown {fs : FS} (hw : WF fs) (p : String) : Grown [] fs (ensurePath fs p) := by
  rcases ensurePath_cases fs p with ⟨_, he⟩ | ⟨c0, hc0, hf, he⟩
  · rw [he]; exact .refl hw
  · rw [he]
    exact ⟨WF_cons (WF_removeFile hw p) (isFile_removeFile_bak hf),
      ((perm_of_readFile hw hc0).map (fun f : String × String => f.2)).symm⟩

theorem ensurePath_other {fs : FS} {p n : String} (hn : n ≠ p) (hfile : isFile fs n = true) :
    readFile (ensurePath fs p) n = readFile fs n := by
  rcases ensurePath_cases fs p with ⟨_, he⟩ | ⟨c0, _, hf, he⟩
  · rw [he]
  · have hnk : bakName p (firstFree fs p fs.length 1) ≠ n :=
      ne_of_apply_ne (isFile fs) (by rw [firstFree_free hf, hfile]; exact Bool.false_ne_true)
    rw [he, readFile_cons_ne _ _ hnk, readFile_removeFile_of_ne hn]

theorem guardedWrite_grown {fs : FS} (hw : WF fs) (p c : String) : Grown [c] fs (guardedWrite fs p c) := by
  have h := ensurePath_grown hw p
  rw [guardedWrite_eq]
  exact ⟨WF_cons h.wf (isFile_ensurePath_self fs p), h.perm.cons c⟩

theorem guardedWrite_other {fs : FS} (p c : String) {n : String} (hn : n ≠ p) (hfile : isFile fs n = true) :
    readFile (guardedWrite fs p c) n = readFile fs n := by
  rw [guardedWrite_eq, readFile_cons_ne _ _ (Ne.symm hn), ensurePath_other hn hfile]

theorem guardedWrite_reads_back (fs : FS) (p c : String) : readFile (guardedWrite fs p c) p = some c :=
  readFile_cons_eq _ _ _

theorem isFile_guardedWrite_of_isFile {fs : FS} (p c : String) {n : String} (h : isFile fs n = true) :
    isFile (guardedWrite fs p c) n = true := by
  by_cases hn : n = p
  · rw [hn, ← isSome_readFile, guardedWrite_reads_back]; rfl
  · rw [← isSome_readFile, guardedWrite_other p c hn h, isSome_readFile, h]

theorem guardedWrites_cons (fs : FS) (p c : String) (ws : List String) :
    guardedWrites fs p (c :: ws) = guardedWrites (guardedWrite fs p c) p ws := rfl

theorem guardedWrites_grown {fs : FS} (hw : WF fs) (p : String) (ws : List String) :
    Grown ws.reverse fs (guardedWrites fs p ws) := by
  induction ws generalizing fs with
  | nil => exact .refl hw
  | cons c rest ih =>
    have h := guardedWrite_grown hw p c
    exact List.reverse_cons ▸ h.trans (ih h.wf)

theorem writeFile_existing {fs : FS} (hw : WF fs) {p : String} (hp : isFile fs p = true) (c : String) :
    WF (writeFile fs p c) ∧ isFile (writeFile fs p c) p = true ∧ (writeFile fs p c).length = fs.length := by
  obtain ⟨c0, hc0⟩ := readFile_some_of_isFile hp
  exact ⟨WF_cons (WF_removeFile hw p) (isFile_removeFile_self fs p), isFile_of_readFile (readFile_cons_eq _ _ _),
    (perm_of_readFile hw hc0).length_eq.symm⟩

end CnvVerif.Effects
