/-
  The first position of the maximum of a list (numpy `argmax`), for any linear order: the notion and what one more
  scanned entry does to it.  The two `argmax` loops of the model (Model/Tile.lean on `Int`, Model/Descriptives.lean on
  `Rat`) keep it as their invariant.  Core Lean only.
-/
namespace CnvVerif
variable {α : Type} {d : α}

theorem getD_snoc_lt (l : List α) (x : α) {k : Nat} (h : k < l.length) : (l ++ [x]).getD k d = l.getD k d := by
  simp [List.getD_eq_getElem?_getD, List.getElem?_append_left h]

theorem getD_snoc_length (l : List α) (x : α) : (l ++ [x]).getD l.length d = x := by
  simp [List.getD_eq_getElem?_getD]

variable [LE α] [LT α]

/-- position `k` holds the maximum of `l` and no earlier position does -/
def FirstMax (d : α) (l : List α) (k : Nat) : Prop :=
  k < l.length ∧ (∀ y ∈ l, y ≤ l.getD k d) ∧ ∀ y ∈ l.take k, y < l.getD k d

variable [Std.IsLinearOrder α] [Std.LawfulOrderLT α]

theorem FirstMax.singleton (x : α) : FirstMax d [x] 0 :=
  ⟨Nat.zero_lt_one, fun y hy => List.mem_singleton.mp hy ▸ Std.le_refl x, fun _ hy => nomatch hy⟩

theorem FirstMax.snoc_of_le {l : List α} {k : Nat} (h : FirstMax d l k) {x : α} (hx : x ≤ l.getD k d) :
    FirstMax d (l ++ [x]) k := by
  obtain ⟨hk, hmax, hfirst⟩ := h
  refine ⟨by rw [List.length_append]; exact Nat.lt_add_right _ hk, ?_, ?_⟩
  · rw [getD_snoc_lt l x hk]
    intro y hy
    rcases List.mem_append.mp hy with hy | hy
    · exact hmax y hy
    · rw [List.mem_singleton.mp hy]; exact hx
  · rw [getD_snoc_lt l x hk, List.take_append_of_le_length (Nat.le_of_lt hk)]
    exact hfirst

theorem FirstMax.snoc_of_gt {l : List α} {k : Nat} (h : FirstMax d l k) {x : α} (hx : l.getD k d < x) :
    FirstMax d (l ++ [x]) l.length := by
  have hlt : ∀ y ∈ l, y < x := fun y hy => Std.lt_of_le_of_lt (h.2.1 y hy) hx
  refine ⟨by simp, ?_, ?_⟩
  · rw [getD_snoc_length]
    intro y hy
    rcases List.mem_append.mp hy with hy | hy
    · exact Std.le_of_lt (hlt y hy)
    · rw [List.mem_singleton.mp hy]; exact Std.le_refl _
  · rw [getD_snoc_length, List.take_left' rfl]
    exact hlt

end CnvVerif
