/-
  Lemmas behind Props/C19.lean: the smoothers.  Each smoother pads the signal by `wing` mirrored values, works on
  the padded signal and cuts the padding off again (`unpad`).  What is kept never sees the zeros a same-mode
  convolution puts beyond the ends, so it is a sliding pass over the padded signal (`unpad_convSame`; `slide` and its
  lemmas are in Lemmas/SmoothSlide.lean), like the windows `rollingMedian` reads off directly.  What the weighted sum
  does to a range of values or to a constant is in Lemmas/SmoothWindow.lean.
-/
import CnvVerif.Lemmas.OrderStat
import CnvVerif.Lemmas.SmoothWindow
import CnvVerif.Lemmas.SmoothSlide
namespace CnvVerif.Smooth
open CnvVerif.Desc

/-- every half-width `_width2wing` accepts is at least 1 and leaves room for the mirrored padding -/
theorem width2wing_bounds (width : Rat) (n wing : Nat) (h : width2wing width n = .ok wing) :
    1 ≤ wing ∧ wing + 1 ≤ n := by
  unfold width2wing at h
  simp only [] at h
  split at h
  · cases h
  · rename_i wing0 _
    split at h
    · rename_i hge
      injection h with h
      have : (1 : Int) ≤ min (max wing0 (Generated.MIN_WING : Int)) ((n : Int) - 1) := hge
      omega
    · cases h

section geometry
variable {n : Nat} {tw : Option Rat} {ww ord it : Nat} {g : Nat × Nat × Nat × Nat}

/-- `g` = (half-width of the padding, width of the window, order, number of passes) -/
theorem savgolGeometry_ok (h : savgolGeometry n tw ww ord it = .ok g) :
    ∃ wing, width2wing (tw.getD ((it * ww : Nat) : Rat)) n = .ok wing ∧
      g = (wing, min ww (2 * wing + 1), min ord (min ww (2 * wing + 1) / 2),
        max 1 (min Generated.SAVGOL_MAX_ITER ((2 * wing + 1) / min ww (2 * wing + 1)))) := by
  unfold savgolGeometry at h
  simp only [] at h
  split at h
  · cases h
  · exact ⟨_, ‹_›, (Except.ok.inj h).symm⟩

theorem savgolGeometry_wing (h : savgolGeometry n tw ww ord it = .ok g) : 1 ≤ g.1 ∧ g.1 + 1 ≤ n := by
  obtain ⟨wing, hw, rfl⟩ := savgolGeometry_ok h
  exact width2wing_bounds _ _ _ hw

theorem savgolGeometry_width (h : savgolGeometry n tw ww ord it = .ok g) : g.2.1 = min ww (2 * g.1 + 1) := by
  obtain ⟨wing, _, rfl⟩ := savgolGeometry_ok h
  rfl

/-- `q` windows of width `w` side by side fit into `2·wing + 1` positions, so `q` half-widths fit into `wing` -/
theorem mul_half_le (q w wing : Nat) (h : q * w ≤ 2 * wing + 1) : q * ((w - 1) / 2) ≤ wing := by
  have h1 : 2 * ((w - 1) / 2) ≤ w := Nat.le_trans (Nat.mul_div_le _ 2) (Nat.sub_le w 1)
  have h2 := Nat.mul_le_mul_left q h1
  rw [Nat.mul_left_comm] at h2
  omega

/-- the passes reach at most `wing` positions inwards: there are at most `⌊(2·wing+1) / width⌋` of them -/
theorem savgolGeometry_reach (h : savgolGeometry n tw ww ord it = .ok g) : g.2.2.2 * ((g.2.1 - 1) / 2) ≤ g.1 := by
  obtain ⟨wing, _, rfl⟩ := savgolGeometry_ok h
  show max 1 (min Generated.SAVGOL_MAX_ITER ((2 * wing + 1) / min ww (2 * wing + 1))) *
    ((min ww (2 * wing + 1) - 1) / 2) ≤ wing
  have hw : min ww (2 * wing + 1) ≤ 2 * wing + 1 := Nat.min_le_right _ _
  generalize min ww (2 * wing + 1) = w at hw ⊢
  apply mul_half_le
  rcases Nat.eq_zero_or_pos w with rfl | hpos
  · omega
  · have h1 : 1 ≤ (2 * wing + 1) / w := Nat.div_pos hw hpos
    exact le_trans (Nat.mul_le_mul_right w (by omega)) (Nat.div_mul_le_self _ _)

end geometry

theorem convSame_length (window y : List Rat) : (convSame window y).length = y.length := by
  unfold convSame; simp

theorem windowAt_inner (wing : Nat) (y : List Rat) (i : Nat) (h : i + 2 * wing + 1 ≤ y.length) :
    windowAt wing (zeroPad wing y) (wing + i) = (y.drop i).take (2 * wing + 1) := by
  have hl : (List.replicate wing (0 : Rat)).length = wing := List.length_replicate
  rw [windowAt, zeroPad, List.append_assoc, ← List.drop_drop, List.drop_left' hl,
    List.drop_append_of_le_length (by omega), List.take_append_of_le_length (by rw [List.length_drop]; omega)]

/-- a same-mode pass cut back by at least the half-width of the window never sees the zeros beyond the ends: it is
    the sliding weighted sum over the signal, cut back by what is left -/
theorem unpad_convSame (win l : List Rat) (hw W : Nat) (hwin : win.length = 2 * hw + 1) (hle : hw ≤ W) :
    unpad (convSame win l) W = slide (fun s => dot win s.reverse) (2 * hw) (unpad l (W - hw)) := by
  have hw' : (win.length - 1) / 2 = hw := by rw [hwin, Nat.add_sub_cancel, Nat.mul_div_cancel_left _ Nat.two_pos]
  -- with `W = hw + d` no truncated subtraction is left for `omega`
  obtain ⟨d, rfl⟩ := Nat.exists_eq_add_of_le hle
  rw [Nat.add_sub_cancel_left]
  apply List.ext_getElem?
  intro j
  rw [getElem?_unpad, getElem?_slide, convSame_length, length_unpad]
  by_cases hj : j + 2 * hw + 2 * d < l.length
  · obtain ⟨h0, h1, h2, h3⟩ : j + 2 * (hw + d) < l.length ∧ hw + d + j < l.length ∧ d + j + 2 * hw + 1 ≤ l.length ∧
        j + (2 * hw + 1) + 2 * d ≤ l.length := by omega
    rw [if_pos h0, if_pos (Nat.lt_sub_of_add_lt hj), convSame, List.getElem?_map, List.getElem?_range h1,
      Option.map_some, hw', Nat.add_assoc, windowAt_inner hw l _ h2, take_drop_unpad l d j _ h3]
  · rw [if_neg (by rwa [Nat.mul_add, ← Nat.add_assoc]), if_neg (mt Nat.add_lt_of_lt_sub hj)]

theorem windowAt_map_mul (wing : Nat) (w : List Rat) (c : Rat) (k : Nat) :
    windowAt wing (zeroPad wing (w.map (· * c))) k = (windowAt wing (zeroPad wing w) k).map (· * c) := by
  unfold windowAt zeroPad
  rw [List.map_take, List.map_drop]
  congr 2
  simp [List.map_append, List.map_replicate]

theorem convSame_map_mul (win w : List Rat) (c : Rat) : convSame win (w.map (· * c)) = (convSame win w).map (· * c) := by
  unfold convSame
  simp only [List.length_map, List.map_map]
  apply List.map_congr_left
  intro k _
  simp only [Function.comp]
  rw [windowAt_map_mul, ← List.map_reverse, dot_map_mul]

/-- `k` same-mode passes cut back by at least `k` half-widths are `k` sliding passes over the signal: what a pass does
    within `hw` of the ends (zeros here, polynomial edge fits in `savgol_filter(…, mode="interp")`) is cut off with the
    padding, as the comment of `savgol` in Model/Smoothing.lean says -/
theorem unpad_iterate_convSame (win : List Rat) (hw : Nat) (hwin : win.length = 2 * hw + 1) (k : Nat) (l : List Rat)
    (W : Nat) (hle : k * hw ≤ W) :
    unpad (iterate (convSame win) k l) W =
      iterate (slide (fun s => dot win s.reverse) (2 * hw)) k (unpad l (W - k * hw)) := by
  induction k generalizing W with
  | zero => rw [Nat.zero_mul]; rfl
  | succ j ih =>
    rw [Nat.succ_mul j hw] at hle ⊢
    rw [iterate_succ_last, iterate_succ_last, unpad_convSame win _ hw W hwin (by omega), ih _ (by omega), Nat.sub_sub,
      Nat.add_comm hw]

theorem unpad_iterate_convSame_const (coeffs : List Rat) (hw : Nat) (hlen : coeffs.length = 2 * hw + 1)
    (hsum : coeffs.sum = 1) (k n wing : Nat) (c : Rat) (hreach : k * hw ≤ wing) (hn : wing ≤ n) :
    unpad (iterate (convSame coeffs) k (padArray (List.replicate n c) wing)) wing = List.replicate n c := by
  rw [padArray_replicate n wing c hn, unpad_iterate_convSame coeffs hw hlen k _ wing hreach, unpad_replicate,
    show n + 2 * wing - 2 * (wing - k * hw) = n + k * (2 * hw) by rw [Nat.mul_left_comm]; omega]
  exact iterate_slide_replicate _ (2 * hw) c
    (by rw [List.reverse_replicate, ← hlen, dot_replicate, hsum, mul_one]) k n

/-- the shape the four smoothers share: a short input comes back as it is; otherwise the result is computed from a
    half-width or geometry `e`, whose error is passed on -/
theorem ok_of_guarded {ε α β} {c : Prop} [Decidable c] {a y : β} {e : Except ε α} {r : Except ε β} {F : α → β}
    (hr : ∀ v, e = .ok v → r = .ok (F v)) (he : ∀ err, e = .error err → r = .error err)
    (h : (if c then .ok a else r) = .ok y) : c ∧ y = a ∨ ∃ v, e = .ok v ∧ y = F v := by
  by_cases hc : c
  · rw [if_pos hc] at h
    exact .inl ⟨hc, (Except.ok.inj h).symm⟩
  · rw [if_neg hc] at h
    cases hv : e with
    | error err => rw [he err hv] at h; cases h
    | ok v => rw [hr v hv] at h; exact .inr ⟨v, rfl, (Except.ok.inj h).symm⟩

theorem rollingMedian_ok {x : List Rat} {width : Rat} {y : List Rat} (h : rollingMedian x width = .ok y) :
    x.length < 2 ∧ y = x ∨ ∃ wing, width2wing width x.length = .ok wing ∧
      y = slide median (2 * wing) (padArray x wing) := by
  refine ok_of_guarded (F := fun wing => slide median (2 * wing) (padArray x wing)) (fun wing hw => ?_)
    (fun e he => by rw [he]) h
  have := (width2wing_bounds _ _ _ hw).2
  rw [hw, slide, length_padArray x wing (by omega), Nat.add_sub_cancel]

theorem rollingMedian_length (x : List Rat) (width : Rat) (y : List Rat) (h : rollingMedian x width = .ok y) :
    y.length = x.length := by
  rcases rollingMedian_ok h with ⟨_, rfl⟩ | ⟨wing, hw, rfl⟩
  · rfl
  · rw [length_slide, length_padArray x wing (Nat.le_of_succ_le (width2wing_bounds _ _ _ hw).2), Nat.add_sub_cancel]

theorem slide_inHull {f : List Rat → Rat} {m : Nat} {l : List Rat}
    (hf : ∀ s : List Rat, s.length = m + 1 → InHull s (f s)) : ∀ v ∈ slide f m l, InHull l v := by
  intro v hv
  obtain ⟨s, hs, hsub, rfl⟩ := mem_slide hv
  exact (hf s hs).mono hsub

theorem rollingMedian_inHull {x : List Rat} {width : Rat} {y : List Rat} (h : rollingMedian x width = .ok y) :
    ∀ v ∈ y, InHull x v := by
  rcases rollingMedian_ok h with ⟨_, rfl⟩ | ⟨wing, _, rfl⟩
  · exact fun v hv => ⟨v, hv, v, hv, le_refl v, le_refl v⟩
  · exact fun v hv => (slide_inHull (fun s hs => median_inHull (List.ne_nil_of_length_eq_add_one hs)) v hv).mono
      (mem_padArray x wing)

theorem kaiser_ok {x : List Rat} {width : Rat} {window y : List Rat} (h : kaiser x width window = .ok y) :
    x.length < 2 ∧ y = x ∨ ∃ wing, width2wing width x.length = .ok wing ∧
      y = unpad (convSame (normalise window) (padArray x wing)) wing :=
  ok_of_guarded (fun v hv => by rw [hv]; rfl) (fun e he => by rw [he]) h

/-- a non-negative window of positive sum keeps the smoothed values within the range of the input -/
theorem kaiser_in_range (x : List Rat) (width : Rat) (window y : List Rat) (h : kaiser x width window = .ok y)
    (hwin : ∀ wing, width2wing width x.length = .ok wing → window.length = 2 * wing + 1)
    (hnn : ∀ v ∈ window, 0 ≤ v) (hpos : 0 < window.sum)
    (lo hi : Rat) (hx : ∀ v ∈ x, lo ≤ v ∧ v ≤ hi) : ∀ v ∈ y, lo ≤ v ∧ v ≤ hi := by
  rcases kaiser_ok h with ⟨_, rfl⟩ | ⟨wing, hw, rfl⟩
  · exact hx
  · have hwl : (normalise window).length = 2 * wing + 1 := by rw [normalise_length, hwin wing hw]
    rw [unpad_convSame _ _ wing wing hwl (le_refl _), Nat.sub_self, unpad_zero]
    intro v hv
    obtain ⟨s, hs, hsub, rfl⟩ := mem_slide hv
    have := dot_between (normalise window) s.reverse (by rw [List.length_reverse, hwl, hs])
      (normalise_nonneg window hnn hpos) lo hi
      (fun u hu => hx u (mem_padArray x wing u (hsub u (List.mem_reverse.mp hu))))
    rwa [normalise_sum window (ne_of_gt hpos), mul_one, mul_one] at this

theorem savgol_ok {x : List Rat} {tw : Option Rat} {ww ord it : Nat} {coeffs y : List Rat}
    (h : savgol x tw ww ord it coeffs = .ok y) :
    x.length < 2 ∧ y = x ∨ ∃ g, savgolGeometry x.length tw ww ord it = .ok g ∧
      y = unpad (iterate (convSame coeffs) g.2.2.2 (padArray x g.1)) g.1 :=
  ok_of_guarded (fun v hv => by rw [hv]) (fun e he => by rw [he]) h

theorem convSameOpt_length (win : List Rat) (y : List (Option Rat)) : (convSameOpt win y).length = y.length := by
  unfold convSameOpt
  simp only []
  split
  · simp [convSame_length]
  · simp [convSame_length]

theorem convSameOpt_map_some (win l : List Rat) : convSameOpt win (l.map some) = (convSame win l).map some := by
  have hall : (l.map some).all (·.isSome) = true := by simp [List.all_eq_true]
  have hget : ((fun x : Option Rat => x.getD 0) ∘ some) = id := rfl
  rw [convSameOpt, if_pos hall, List.map_map, hget, List.map_id]

theorem cwStep_weights (win : List Rat) (st : List (Option Rat) × List Rat) :
    (cwStep win st).2 = convSame win st.2 := rfl

theorem cwStep_length (win : List Rat) (y : List (Option Rat)) (w : List Rat) (h : y.length = w.length) :
    (cwStep win (y, w)).1.length = w.length ∧ (cwStep win (y, w)).2.length = w.length := by
  unfold cwStep
  constructor
  · simp [convSameOpt_length, convSame_length, h]
  · simp [convSame_length]

theorem iterate_cwStep_length (win : List Rat) (k : Nat) (y : List (Option Rat)) (w : List Rat) (h : y.length = w.length) :
    (iterate (cwStep win) k (y, w)).1.length = w.length := by
  induction k generalizing y w with
  | zero => exact h
  | succ n ih =>
    have hs := cwStep_length win y w h
    exact (ih _ _ (hs.1.trans hs.2.symm)).trans hs.2

theorem rollOff_length (w : List Rat) (wing : Nat) : (rollOff w wing).length = w.length := by
  unfold rollOff; simp

theorem length_weights_of_geometry {n : Nat} {tw : Option Rat} {ww ord it : Nat} {g : Nat × Nat × Nat × Nat}
    (hg : savgolGeometry n tw ww ord it = .ok g) {w : List Rat} (hw : w.length = n) :
    (rollOff (padArray w g.1) g.1).length = n + 2 * g.1 := by
  have h2 := (savgolGeometry_wing hg).2
  rw [rollOff_length, length_padArray w g.1 (by omega), hw]

theorem savgolWeighted_ok {x w : List Rat} {tw : Option Rat} {ww ord it : Nat} {coeffs : List Rat}
    {y : List (Option Rat)} (h : savgolWeighted x w tw ww ord it coeffs = .ok y) :
    x.length < 2 ∧ y = x.map some ∨ ∃ g, savgolGeometry x.length tw ww ord it = .ok g ∧
      y = unpad (iterate (cwStep (normalise coeffs)) g.2.2.2
        ((padArray x g.1).map some, rollOff (padArray w g.1) g.1)).1 g.1 :=
  ok_of_guarded (fun v hv => by rw [hv]) (fun e he => by rw [he]) h

theorem savgolWeighted_of_geometry {x w : List Rat} {tw : Option Rat} {ww ord nIter : Nat} {coeffs : List Rat}
    {y : List (Option Rat)} {wing ww' ord' it : Nat}
    (hg : savgolGeometry x.length tw ww ord nIter = .ok (wing, ww', ord', it))
    (h : savgolWeighted x w tw ww ord nIter coeffs = .ok y) :
    y = unpad (iterate (cwStep (normalise coeffs)) it
      ((padArray x wing).map some, rollOff (padArray w wing) wing)).1 wing := by
  rcases savgolWeighted_ok h with ⟨hlt, _⟩ | ⟨g, hg', rfl⟩
  · obtain ⟨h1, h2⟩ : 1 ≤ wing ∧ wing + 1 ≤ x.length := savgolGeometry_wing hg
    omega
  · rw [hg] at hg'
    cases hg'
    rfl

theorem cwStep_values (win y w : List Rat) :
    (cwStep win (y.map some, w)).1 =
      ((convSame win ((w.zip y).map (fun p => p.1 * p.2))).zip (convSame win w)).map
        (fun p => if p.2 = 0 then none else some (p.1 / p.2)) := by
  have hzip : (w.zip (y.map some)).map (fun p => p.2.map (p.1 * ·)) =
      ((w.zip y).map (fun p => p.1 * p.2)).map some := by
    rw [List.zip_map_right, List.map_map, List.map_map]
    rfl
  rw [cwStep, hzip, convSameOpt_map_some, List.zip_map_left, List.map_map]
  apply List.map_congr_left
  intro p _
  show (if p.2 = 0 then none else (some p.1).map (· / p.2)) = _
  rfl

theorem cwStep_const (win w : List Rat) (c : Rat) :
    (cwStep win (List.replicate w.length (some c), w)).1 =
      (convSame win w).map (fun N => if N = 0 then none else some c) := by
  have hzip : (w.zip (List.replicate w.length c)).map (fun p => p.1 * p.2) = w.map (· * c) := by
    apply List.ext_getElem (by simp)
    intro i h1 h2
    simp
  rw [← List.map_replicate, cwStep_values win _ w, hzip, convSame_map_mul,
    List.map_zip_eq_zipWith, List.zipWith_map_left, List.zipWith_self]
  apply List.map_congr_left
  intro N _
  show (if N = 0 then none else some (N * c / N)) = _
  split
  · rfl
  · rw [mul_div_cancel_left₀ _ ‹_›]

/-- where no entry is zero, the values `c·N/N` of a weighted pass over a constant are all defined -/
theorem map_defined_of_ne_zero {l : List Rat} (h : ∀ N ∈ l, N ≠ 0) (c : Rat) :
    l.map (fun N => if N = 0 then none else some c) = List.replicate l.length (some c) := by
  rw [← List.map_const']
  exact List.map_congr_left fun N hN => if_neg (h N hN)

end CnvVerif.Smooth
