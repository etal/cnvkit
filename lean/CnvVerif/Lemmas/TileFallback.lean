/-
  The fallback branches of `transfer_fields` (Model/TileFallback.lean): the model's sum `sumQ` as `List.sum` with the
  sign facts the zero-weight branch needs, the aggregated fields as equations, the end-point stretch of
  `transferFields`, and that what the model returns passes the row oracle `transferSpec`.
-/
import CnvVerif.Model.Tile
import CnvVerif.Model.TileFallback
import CnvVerif.Lemmas.Tile
import Mathlib.Tactic.Ring
import Mathlib.Tactic.Linarith
import Mathlib.Tactic.FieldSimp
import Mathlib.Tactic.NormNum
namespace CnvVerif

theorem sumQ_eq_sum (l : List Rat) : sumQ l = l.sum := List.sum_eq_foldl.symm

theorem sumQ_nil : sumQ [] = 0 := rfl

theorem sumQ_cons (x : Rat) (xs : List Rat) : sumQ (x :: xs) = x + sumQ xs := by
  rw [sumQ_eq_sum, sumQ_eq_sum, List.sum_cons]

theorem sumQ_map_const {α} (l : List α) (f : α → Rat) (c : Rat) (h : ∀ b ∈ l, f b = c) :
    sumQ (l.map f) = (l.length : Rat) * c := by
  rw [sumQ_eq_sum, List.sum_eq_card_nsmul _ c (List.forall_mem_map.mpr h), nsmul_eq_mul, List.length_map]

theorem sumQ_nonneg {α} (l : List α) (f : α → Rat) (h : ∀ b ∈ l, 0 ≤ f b) : 0 ≤ sumQ (l.map f) := by
  induction l with
  | nil => simp [sumQ_nil]
  | cons x xs ih =>
    rw [List.map_cons, sumQ_cons]
    have := ih (fun b hb => h b (List.mem_cons_of_mem _ hb))
    have := h x (by simp)
    linarith

theorem sumQ_eq_zero_iff {α} (l : List α) (f : α → Rat) (h : ∀ b ∈ l, 0 ≤ f b) :
    sumQ (l.map f) = 0 ↔ ∀ b ∈ l, f b = 0 := by
  induction l with
  | nil => simp [sumQ_nil]
  | cons x xs ih =>
    rw [List.map_cons, sumQ_cons]
    have hx := h x (by simp)
    have hxs := sumQ_nonneg xs f (fun b hb => h b (List.mem_cons_of_mem _ hb))
    have ih' := ih (fun b hb => h b (List.mem_cons_of_mem _ hb))
    constructor
    · intro h0 b hb
      have h1 : f x = 0 := by linarith
      have h2 : sumQ (xs.map f) = 0 := by linarith
      rcases List.mem_cons.mp hb with rfl | hb
      · exact h1
      · exact ih'.mp h2 b hb
    · intro hall
      rw [hall x (by simp), ih'.mpr (fun b hb => hall b (List.mem_cons_of_mem _ hb))]
      ring

theorem aggregate_weight_eq (unit : List Bin) (g : SegO) :
    (aggregate unit g).weight = sumQ ((spanned unit g).map (·.weight)) := rfl

theorem aggregate_depth_eq (unit : List Bin) (g : SegO) :
    (aggregate unit g).depth =
      if sumQ ((spanned unit g).map (·.weight)) > 0 then
        sumQ ((spanned unit g).map (fun b => b.depth * b.weight)) / sumQ ((spanned unit g).map (·.weight))
      else 0 := rfl

theorem aggregateNW_gene_eq (unit : List Bin) (g : SegO) : (aggregateNW unit g).gene = (aggregate unit g).gene := rfl

/-- the stretch leaves chromosome, log2 and probes of every segment alone ("but keep log2 as-is") -/
theorem stretchEnds_keeps (f l : Bin) (segs : List SegO) :
    (stretchEnds f l segs).map (fun g => (g.chrom, g.log2, g.probes)) = segs.map (fun g => (g.chrom, g.log2, g.probes)) :=
  stretch_map (fun g => (g.chrom, g.log2, g.probes)) (fun _ _ => rfl) (fun _ _ => rfl) f l segs

theorem stretchEnds_length (f l : Bin) (segs : List SegO) : (stretchEnds f l segs).length = segs.length :=
  stretch_length f l segs

theorem transferFields_cons_cons (hw : Bool) (f : Bin) (t : List Bin) (g : SegO) (segs : List SegO) :
    transferFields hw (f :: t) (g :: segs) =
      .table ((stretchEnds f ((f :: t).getLast?.getD f) (g :: segs)).map
        (if hw then aggregate (f :: t) else aggregateNW (f :: t))) := rfl

theorem closeQ_refl (a : Rat) : closeQ a a = true := by
  unfold closeQ
  simp only [sub_self, lt_self_iff_false, if_false, decide_eq_true_eq]
  have h1 : (0 : Rat) ≤ max 1 (if a < 0 then -a else a) := le_trans (by norm_num) (le_max_left _ _)
  have : (0 : Rat) ≤ 1 / 1000000000 := by norm_num
  exact mul_nonneg this h1

theorem spanned_aggregate (cn : List Bin) (g : SegO) : spanned cn (aggregate cn g) = spanned cn g := rfl
theorem spanned_aggregateNW (cn : List Bin) (g : SegO) : spanned cn (aggregateNW cn g) = spanned cn g := rfl

/-- what the model returns passes the oracle that judges the real rows -/
theorem transferSpec_map_aggregate (cn : List Bin) (segs : List SegO) :
    transferSpec true cn (segs.map (aggregate cn)) = [] := by
  unfold transferSpec
  simp only [Bool.not_true, Bool.false_or, Bool.true_or, List.any_eq_true, Bool.not_eq_true']
  simp only [List.mem_map, gt_iff_lt, Bool.or_eq_false_iff, Bool.not_eq_eq_eq_not, Bool.not_false,
    decide_eq_true_eq, Bool.and_eq_false_imp, exists_exists_and_eq_and, decide_eq_false_iff_not, not_lt,
    Bool.false_eq_true, and_false, exists_const, ↓reduceIte, List.append_nil, List.append_eq_nil_iff, ite_eq_right_iff,
    List.cons_ne_self, imp_false, not_exists, not_and, Classical.not_imp, Bool.not_eq_false, Decidable.not_not]
  refine ⟨fun x _ _ => ⟨by rw [aggregate_idem]; exact closeQ_refl _, by rw [aggregate_idem]; exact closeQ_refl _⟩,
    fun x _ hle => ⟨closeQ_refl _, ?_⟩⟩
  have hle' : sumQ ((spanned cn x).map (·.weight)) ≤ 0 := hle
  rw [aggregate_depth_eq, if_neg (not_lt.mpr hle')]

theorem transferSpec_map_aggregateNW (cn : List Bin) (segs : List SegO) :
    transferSpec false cn (segs.map (aggregateNW cn)) = [] := by
  unfold transferSpec
  simp only [Bool.not_false, Bool.true_or, Bool.false_or, List.any_eq_true, Bool.not_eq_true']
  simp only [List.mem_map, Bool.true_eq_false, and_false, exists_const, ↓reduceIte, List.append_nil,
    Bool.and_eq_false_imp, exists_exists_and_eq_and, List.nil_append, ite_eq_right_iff, List.cons_ne_self, imp_false,
    not_exists, not_and, Classical.not_imp, Bool.not_eq_false]
  exact fun x _ => ⟨closeQ_refl _, closeQ_refl _⟩

end CnvVerif
