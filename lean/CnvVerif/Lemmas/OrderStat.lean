/-
  Order statistics of a list of rationals, for every model of `np.sort` / `np.median` in the development: the ascending
  sort is the one sorted permutation, so it commutes with monotone maps; an entry of the sorted list is an entry of the
  list; the median is the mean of the order statistics `⌊(n−1)/2⌋` and `⌊n/2⌋`.  Whatever lies between two entries
  (`InHull`) inherits every bound, the sign and the constancy of the data.  First, `absR` (the models' `abs`) is `|·|`.
-/
import Mathlib.Data.List.Sort
import Mathlib.Tactic.Linarith
import Mathlib.Tactic.Ring
import CnvVerif.Model.Descriptives
namespace CnvVerif.Desc

theorem absR_eq_abs (q : Rat) : absR q = |q| := by
  unfold absR
  split
  · rename_i h; rw [abs_of_neg h]
  · rename_i h; rw [abs_of_nonneg (not_lt.mp h)]

theorem absR_nonneg (q : Rat) : 0 ≤ absR q := by rw [absR_eq_abs]; exact abs_nonneg q

theorem absR_sub_self (c : Rat) : absR (c - c) = 0 := by rw [sub_self, absR_eq_abs, abs_zero]

theorem nth_eq_getElem (l : List Rat) (i : Nat) (h : i < l.length) : nth l i = l[i] := by
  unfold nth; simp [List.getD, h]

theorem nth_mem (l : List Rat) (i : Nat) (h : i < l.length) : nth l i ∈ l := by
  rw [nth_eq_getElem l i h]; exact List.getElem_mem h

theorem nth_map (f : Rat → Rat) (l : List Rat) (i : Nat) (h : i < l.length) :
    nth (l.map f) i = f (nth l i) := by
  rw [nth_eq_getElem _ _ (by simpa using h), nth_eq_getElem _ _ h]; simp

/-
  Every location estimator of the development returns a value between two of the data; range, sign and
  constant-data statements all follow from that one fact.
-/
theorem eq_of_range {v c : Rat} (h : c ≤ v ∧ v ≤ c) : v = c := le_antisymm h.2 h.1

theorem const_range {l : List Rat} {c : Rat} (h : ∀ x ∈ l, x = c) : ∀ x ∈ l, c ≤ x ∧ x ≤ c :=
  fun x hx => by rw [h x hx]; exact ⟨le_refl c, le_refl c⟩

def InHull (l : List Rat) (v : Rat) : Prop := ∃ x ∈ l, ∃ y ∈ l, x ≤ v ∧ v ≤ y

theorem InHull.range {l : List Rat} {v lo hi : Rat} (h : InHull l v) (hl : ∀ x ∈ l, lo ≤ x ∧ x ≤ hi) :
    lo ≤ v ∧ v ≤ hi := by
  obtain ⟨x, hx, y, hy, h1, h2⟩ := h
  exact ⟨le_trans (hl x hx).1 h1, le_trans h2 (hl y hy).2⟩

theorem InHull.ge {l : List Rat} {v lo : Rat} (h : InHull l v) (hl : ∀ x ∈ l, lo ≤ x) : lo ≤ v := by
  obtain ⟨x, hx, _, _, h1, _⟩ := h
  exact le_trans (hl x hx) h1

theorem InHull.le {l : List Rat} {v hi : Rat} (h : InHull l v) (hl : ∀ x ∈ l, x ≤ hi) : v ≤ hi := by
  obtain ⟨_, _, y, hy, _, h2⟩ := h
  exact le_trans h2 (hl y hy)

theorem InHull.near {l : List Rat} {v L d : Rat} (h : InHull l v) (hl : ∀ x ∈ l, |x - L| ≤ d) : |v - L| ≤ d := by
  have := h.range (lo := L - d) (hi := L + d) fun x hx => by
    have := abs_le.mp (hl x hx); constructor <;> linarith
  rw [abs_le]; constructor <;> linarith

theorem InHull.eq_const {l : List Rat} {v c : Rat} (h : InHull l v) (hl : ∀ x ∈ l, x = c) : v = c :=
  eq_of_range (h.range (const_range hl))

theorem InHull.mono {l l' : List Rat} {v : Rat} (h : InHull l v) (hsub : ∀ x ∈ l, x ∈ l') : InHull l' v := by
  obtain ⟨x, hx, y, hy, h12⟩ := h
  exact ⟨x, hsub x hx, y, hsub y hy, h12⟩

theorem mid_between {x y : Rat} (h : x ≤ y) : x ≤ (x + y) / 2 ∧ (x + y) / 2 ≤ y := by
  constructor <;> linarith

theorem lerp_between {a b g : Rat} (hab : a ≤ b) (h0 : 0 ≤ g) (h1 : g ≤ 1) :
    a ≤ a + g * (b - a) ∧ a + g * (b - a) ≤ b := by
  have hd : 0 ≤ b - a := sub_nonneg.mpr hab
  have := mul_le_mul_of_nonneg_right h1 hd
  exact ⟨le_add_of_nonneg_right (mul_nonneg h0 hd), by linarith⟩

theorem inHull_mid {l : List Rat} {x y : Rat} (hx : x ∈ l) (hy : y ∈ l) : InHull l ((x + y) / 2) := by
  rcases le_total x y with h | h
  · exact ⟨x, hx, y, hy, mid_between h⟩
  · rw [add_comm]; exact ⟨y, hy, x, hx, mid_between h⟩

theorem sortR_perm (l : List Rat) : (sortR l).Perm l := List.mergeSort_perm l _

theorem sortR_length (l : List Rat) : (sortR l).length = l.length := (sortR_perm l).length_eq

theorem sortR_sorted (l : List Rat) : (sortR l).Pairwise (· ≤ ·) := by
  have := List.pairwise_mergeSort (le := fun a b : Rat => decide (a ≤ b))
    (fun a b c h₁ h₂ => by simp at *; exact le_trans h₁ h₂)
    (fun a b => by simp; exact le_total a b) l
  unfold sortR
  simpa using this

theorem mem_sortR {l : List Rat} {x : Rat} : x ∈ sortR l ↔ x ∈ l := (sortR_perm l).mem_iff

theorem sortR_ne_nil {l : List Rat} (hl : l ≠ []) : sortR l ≠ [] :=
  fun h => hl (List.nil_perm.mp (h ▸ sortR_perm l))

/-- the ascending sort is THE sorted permutation: how every equation between sorts is proved -/
theorem sortR_unique {l s : List Rat} (hs : s.Pairwise (· ≤ ·)) (hp : s.Perm l) : sortR l = s :=
  List.Perm.eq_of_pairwise' (sortR_sorted l) hs ((sortR_perm l).trans hp.symm)

theorem sortR_eq_of_perm {l₁ l₂ : List Rat} (hp : l₁.Perm l₂) : sortR l₁ = sortR l₂ :=
  (sortR_unique (sortR_sorted l₁) ((sortR_perm l₁).trans hp)).symm

theorem sortR_of_sorted {l : List Rat} (h : l.Pairwise (· ≤ ·)) : sortR l = l := sortR_unique h (.refl l)

theorem sortR_map_mono (f : Rat → Rat) (hf : Monotone f) (l : List Rat) : sortR (l.map f) = (sortR l).map f :=
  sortR_unique (List.pairwise_map.mpr ((sortR_sorted l).imp (fun h => hf h))) ((sortR_perm l).map f)

/-- the maps `x ↦ k·x + c`, `k ≥ 0`, are monotone: the reason every order statistic is equivariant under them -/
theorem affine_mono {f : Rat → Rat} {k c : Rat} (hf : ∀ x, f x = k * x + c) (hk : 0 ≤ k) : Monotone f :=
  fun a b h => by rw [hf, hf]; exact add_le_add_left (mul_le_mul_of_nonneg_left h hk) c

theorem add_affine (c : Rat) : ∀ x : Rat, x + c = 1 * x + c := fun x => by rw [one_mul]
theorem mul_affine (k : Rat) : ∀ x : Rat, k * x = k * x + 0 := fun _ => (add_zero _).symm

theorem sorted_nth_le {s : List Rat} (hs : s.Pairwise (· ≤ ·)) {i j : Nat} (hij : i ≤ j) (hj : j < s.length) :
    nth s i ≤ nth s j := by
  rw [nth_eq_getElem s i (lt_of_le_of_lt hij hj), nth_eq_getElem s j hj]
  rcases Nat.lt_or_eq_of_le hij with h | h
  · exact List.pairwise_iff_getElem.mp hs i j (lt_of_le_of_lt hij hj) hj h
  · subst h; exact le_refl _

theorem nth_sortR_mem (l : List Rat) {i : Nat} (h : i < l.length) : nth (sortR l) i ∈ l :=
  mem_sortR.mp (nth_mem _ _ (by rw [sortR_length]; exact h))

theorem nth_sortR_map {f : Rat → Rat} (hf : Monotone f) (l : List Rat) {i : Nat} (h : i < l.length) :
    nth (sortR (l.map f)) i = f (nth (sortR l) i) := by
  rw [sortR_map_mono f hf, nth_map _ _ _ (by rw [sortR_length]; exact h)]

theorem median_def (l : List Rat) : median l =
    if (sortR l).length % 2 = 1 then nth (sortR l) ((sortR l).length / 2)
    else (nth (sortR l) ((sortR l).length / 2 - 1) + nth (sortR l) ((sortR l).length / 2)) / 2 := rfl

theorem half_pred_of_odd {n : Nat} (h : n % 2 = 1) : (n - 1) / 2 = n / 2 := by
  rw [Nat.div_eq_sub_mod_div (m := n), h]

theorem half_pred_of_even {n : Nat} (h : ¬ n % 2 = 1) : (n - 1) / 2 = n / 2 - 1 := by
  obtain ⟨m, rfl⟩ : 2 ∣ n := Nat.dvd_of_mod_eq_zero ((Nat.mod_two_eq_zero_or_one n).resolve_right h)
  cases m with
  | zero => rfl
  | succ m => rw [Nat.mul_div_cancel_left _ (by decide)]; exact Nat.mul_add_div (by decide) m 1

theorem half_pred_lt {n : Nat} (h : 0 < n) : (n - 1) / 2 < n :=
  lt_of_le_of_lt (Nat.div_le_self _ _) (Nat.sub_lt h Nat.one_pos)

theorem half_lt {n : Nat} (h : 0 < n) : n / 2 < n := Nat.div_lt_self h (by decide)

/-- odd or even, the median is the mean of the order statistics `⌊(n−1)/2⌋` and `⌊n/2⌋` -/
theorem median_eq_mid (l : List Rat) :
    median l = (nth (sortR l) ((l.length - 1) / 2) + nth (sortR l) (l.length / 2)) / 2 := by
  rw [median_def, sortR_length]
  split
  · rename_i h; rw [half_pred_of_odd h, add_self_div_two]
  · rename_i h; rw [half_pred_of_even h]

theorem median_nil : median [] = 0 := by
  rw [median_eq_mid, sortR_of_sorted List.Pairwise.nil]; exact add_self_div_two 0

theorem median_eq_of_perm {l₁ l₂ : List Rat} (hp : l₁.Perm l₂) : median l₁ = median l₂ := by
  rw [median_def, median_def, sortR_eq_of_perm hp]

theorem median_inHull {l : List Rat} (hl : l ≠ []) : InHull l (median l) := by
  have hn := List.length_pos_of_ne_nil hl
  rw [median_eq_mid]
  exact inHull_mid (nth_sortR_mem l (half_pred_lt hn)) (nth_sortR_mem l (half_lt hn))

theorem median_map_affine (f : Rat → Rat) (k c : Rat) (hf : ∀ x, f x = k * x + c) (hk : 0 ≤ k) (l : List Rat)
    (hl : l ≠ []) : median (l.map f) = f (median l) := by
  have hn := List.length_pos_of_ne_nil hl
  have hm := affine_mono hf hk
  rw [median_eq_mid, median_eq_mid, List.length_map, nth_sortR_map hm l (half_pred_lt hn),
    nth_sortR_map hm l (half_lt hn), hf, hf, hf]
  ring

theorem median_map_add (c : Rat) (l : List Rat) (hl : l ≠ []) : median (l.map (· + c)) = median l + c :=
  median_map_affine _ 1 c (add_affine c) zero_le_one l hl

theorem median_map_mul (k : Rat) (hk : 0 ≤ k) (l : List Rat) : median (l.map (k * ·)) = k * median l := by
  by_cases hl : l = []
  · subst hl; rw [List.map_nil, median_nil, mul_zero]
  · exact median_map_affine _ k 0 (mul_affine k) hk l hl

theorem median_mem_range (l : List Rat) (hl : l ≠ []) (lo hi : Rat) (h : ∀ x ∈ l, lo ≤ x ∧ x ≤ hi) :
    lo ≤ median l ∧ median l ≤ hi := (median_inHull hl).range h

theorem median_nonneg (l : List Rat) (h : ∀ x ∈ l, 0 ≤ x) : 0 ≤ median l := by
  by_cases hl : l = []
  · subst hl; rw [median_nil]
  · exact (median_inHull hl).ge h

theorem median_const (l : List Rat) (hl : l ≠ []) (c : Rat) (h : ∀ x ∈ l, x = c) : median l = c :=
  (median_inHull hl).eq_const h

theorem count_le_of_lt_getElem (s : List Rat) (hs : s.Pairwise (· ≤ ·)) (a : Rat) (i : Nat) (hi : i < s.length)
    (h : a < s[i]) : s.count a ≤ i := by
  induction s generalizing i with
  | nil => simp at hi
  | cons x t ih =>
    obtain ⟨hx, ht⟩ := List.pairwise_cons.mp hs
    cases i with
    | zero =>
      rw [List.getElem_cons_zero] at h
      rw [Nat.le_zero, List.count_eq_zero, List.mem_cons, not_or]
      exact ⟨ne_of_lt h, fun hm => absurd (hx a hm) (not_le.mpr h)⟩
    | succ j =>
      have := ih ht j (Nat.lt_of_succ_lt_succ hi) h
      rw [List.count_cons]
      split <;> omega

theorem count_add_le_of_getElem_lt (s : List Rat) (hs : s.Pairwise (· ≤ ·)) (a : Rat) (i : Nat) (hi : i < s.length)
    (h : s[i] < a) : s.count a + (i + 1) ≤ s.length := by
  induction s generalizing i with
  | nil => simp at hi
  | cons x t ih =>
    obtain ⟨hx, ht⟩ := List.pairwise_cons.mp hs
    have hxa : x < a := by
      cases i with
      | zero => exact h
      | succ j => exact lt_of_le_of_lt (hx _ (List.getElem_mem _)) h
    rw [List.count_cons_of_ne (ne_of_lt hxa), List.length_cons]
    cases i with
    | zero => have := List.count_le_length (a := a) (l := t); omega
    | succ j => have := ih ht j (Nat.lt_of_succ_lt_succ hi) h; omega

theorem getElem_eq_of_count (s : List Rat) (hs : s.Pairwise (· ≤ ·)) (a : Rat) (i : Nat) (hi : i < s.length)
    (hlo : s.length < s.count a + (i + 1)) (hhi : i < s.count a) : s[i] = a := by
  by_contra hne
  rcases lt_or_gt_of_ne hne with hlt | hgt
  · exact absurd (count_add_le_of_getElem_lt s hs a i hi hlt) (Nat.not_le.mpr hlo)
  · exact absurd (count_le_of_lt_getElem s hs a i hi hgt) (Nat.not_le.mpr hhi)

/-- a value held by more than half of the entries is the median: in the sorted list its copies cover both middle
    positions -/
theorem median_of_majority (l : List Rat) (a : Rat) (h : l.length < 2 * l.count a) : median l = a := by
  have key : ∀ i, l.length < l.count a + (i + 1) → i < l.count a → nth (sortR l) i = a := by
    intro i hlo hhi
    have hi : i < (sortR l).length := by rw [sortR_length]; exact lt_of_lt_of_le hhi List.count_le_length
    have hc := (sortR_perm l).count_eq a
    rw [nth_eq_getElem _ _ hi]
    exact getElem_eq_of_count _ (sortR_sorted l) a i hi (by rwa [hc, sortR_length]) (by rwa [hc])
  rw [median_eq_mid, key _ (by omega) (by omega), key _ (by omega) (by omega)]
  exact add_self_div_two a

theorem sum_map_add_const (l : List Rat) (c : Rat) : (l.map (· + c)).sum = l.sum + (l.length : Rat) * c := by
  induction l with
  | nil => simp
  | cons a t ih => simp only [List.map_cons, List.sum_cons, List.length_cons, ih]; push_cast; ring

/-- the arithmetic mean moves with the data (C15 `meanR` over `foldl`, C17 `meanR` over `List.sum`) -/
theorem mean_map_add {l : List Rat} (hl : l ≠ []) (c : Rat) :
    (l.map (· + c)).sum / ((l.map (· + c)).length : Rat) = l.sum / (l.length : Rat) + c := by
  have hne : (l.length : Rat) ≠ 0 := Nat.cast_ne_zero.mpr (fun h => hl (List.length_eq_zero_iff.mp h))
  rw [sum_map_add_const, List.length_map, add_div, mul_div_cancel_left₀ _ hne]

theorem median_singleton (x : Rat) : median [x] = x :=
  median_const [x] (List.cons_ne_nil _ _) x (fun _ h => List.mem_singleton.mp h)

end CnvVerif.Desc
