/-
  Lemmas behind Props/C17SrcBh.lean: the model's recursive running minimum with the Benjamini–Hochberg
  factors (`bhScan` / `bhAccumulate`, Model/Stats.lean) is `np.minimum.accumulate(steps * values)` in the reading of
  Model/NpVecBh.lean; hence the vector expression of `p_adjust_bh` is the model's algorithm for the sorting
  permutation it is given (`bhWithOrder`).
-/
import CnvVerif.Generated.ExprsBh
import CnvVerif.Lemmas.StatsBH
namespace CnvVerif.Src.Bh
open CnvVerif CnvVerif.Stats

theorem arangeDown_zero (lo : Nat) : NpBh.arangeDown 0 lo = [] := rfl

theorem arangeDown_succ (k : Nat) :
    NpBh.arangeDown (k + 1) 0 = ((k + 1 : Nat) : Rat) :: NpBh.arangeDown k 0 := by
  simp [NpBh.arangeDown]

theorem arangeDown_length (k : Nat) : (NpBh.arangeDown k 0).length = k := by
  induction k with
  | zero => rfl
  | succ k ih => rw [arangeDown_succ, List.length_cons, ih]

/-- the BH factors `n / (n - i)` over a list of `k` remaining values -/
def steps (n k : Nat) : List Rat := (NpBh.arangeDown k 0).map (fun v => ((n : Nat) : Rat) / v)

theorem bhScan_is_minScan (n : Nat) (cur : Rat) (xs : List Rat) :
    bhScan n cur xs = NpBh.minScan cur (List.zipWith (fun u v => u * v) (steps n xs.length) xs) := by
  induction xs generalizing cur with
  | nil => simp [bhScan, NpBh.minScan]
  | cons x xs ih =>
    simp only [steps, List.length_cons, arangeDown_succ, List.map_cons, List.zipWith_cons_cons, bhScan,
      NpBh.minScan]
    rw [ih]
    rfl

theorem bhAccumulate_is_minAccumulate (n k : Nat) (L : List Rat) (hk : L.length = k) :
    bhAccumulate n L = NpBh.minAccumulate (List.zipWith (fun u v => u * v) (steps n k) L) := by
  subst hk
  cases L with
  | nil => simp [bhAccumulate, NpBh.minAccumulate]
  | cons x xs =>
    simp only [steps, List.length_cons, arangeDown_succ, List.map_cons, List.zipWith_cons_cons, bhAccumulate,
      NpBh.minAccumulate]
    rw [bhScan_is_minScan]
    rfl

/-- the vector expression of `p_adjust_bh` -- factors times sorted values, running minimum, cap, `take` by the
    inverse permutation -- is the model's algorithm for the sorting permutation `o` -/
theorem withOrder_is_vector_expr (p : List Rat) (o : List Nat) (ho : o.length = p.length) :
    bhWithOrder p o =
      Np.take ((NpBh.minAccumulate (List.zipWith (fun u v => u * v) (steps p.length p.length) (Np.take p o))).map
        (fun v => min (1 : Rat) v)) (NpBh.invPerm o) := by
  rw [← bhAccumulate_is_minAccumulate p.length p.length _ (by rw [Np.take, List.length_map, ho])]
  unfold bhWithOrder Np.take NpBh.invPerm
  rw [ho, List.map_map]
  rfl

/-- the same with the factors written the other way round (`values * steps`) -/
theorem withOrder_is_vector_expr' (p : List Rat) (o : List Nat) (ho : o.length = p.length) :
    bhWithOrder p o =
      Np.take ((NpBh.minAccumulate (List.zipWith (fun u v => u * v) (Np.take p o) (steps p.length p.length))).map
        (fun v => min (1 : Rat) v)) (NpBh.invPerm o) := by
  rw [List.zipWith_comm_of_comm mul_comm]
  exact withOrder_is_vector_expr p o ho

end CnvVerif.Src.Bh
