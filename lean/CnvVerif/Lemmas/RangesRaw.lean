/-
  `in_ranges` on arrays of any length (Model/RangesExt5.lean): one equation says when the call raises and that
  otherwise it is `inRangesOpt` on the non-empty arrays; Props/C07Raw.lean reads its theorems off it.
-/
import CnvVerif.Model.RangesExt5
import CnvVerif.Lemmas.Ranges
namespace CnvVerif

theorem c07Given_of_ne {x : Option (List Int)} (h : x ≠ some []) : c07Given x = x := by
  rcases x with _ | _ | _
  · rfl
  · exact absurd rfl h
  · rfl

theorem c07Given_eq_none {x : Option (List Int)} : c07Given x = none ↔ x = none ∨ x = some [] := by
  rcases x with _ | _ | _ <;> simp [c07Given]

theorem c07Given_eq_some {x : Option (List Int)} {l : List Int} (h : c07Given x = some l) : x = some l ∧ l ≠ [] := by
  rcases x with _ | _ | ⟨a, x⟩
  · cases h
  · cases h
  · cases h
    exact ⟨rfl, List.cons_ne_nil _ _⟩

theorem c07LenMismatch_given (starts ends : Option (List Int)) :
    c07LenMismatch (c07Given starts) (c07Given ends) = true ↔
      ∃ ss es, starts = some ss ∧ ends = some es ∧ ss ≠ [] ∧ es ≠ [] ∧ ss.length ≠ es.length := by
  constructor
  · intro h
    generalize hs : c07Given starts = a at h
    generalize he : c07Given ends = b at h
    rcases a with _ | ss <;> rcases b with _ | es
    · exact absurd h Bool.false_ne_true
    · exact absurd h Bool.false_ne_true
    · exact absurd h Bool.false_ne_true
    · obtain ⟨rfl, hs'⟩ := c07Given_eq_some hs
      obtain ⟨rfl, he'⟩ := c07Given_eq_some he
      exact ⟨ss, es, rfl, rfl, hs', he', bne_iff_ne.mp h⟩
  · rintro ⟨ss, es, rfl, rfl, hs, he, hl⟩
    rw [c07Given_of_ne fun h => hs (Option.some.inj h), c07Given_of_ne fun h => he (Option.some.inj h)]
    exact bne_iff_ne.mpr hl

theorem selectRange_none (t : Table) (mode : Mode) : selectRange t none none mode = t := by
  have : trimRows t none none = t := List.map_id' t
  unfold selectRange idxSelect
  simp [this]

theorem inRangesOpt_none (t : Table) (chrom : Option String) (mode : Mode) :
    inRangesOpt t chrom none none mode = chromRows t chrom := by
  rw [inRangesOpt_eq]
  split
  · rfl
  · simp [zipBounds, selectRange_none]

theorem inRangesOpt_single (t : Table) (chrom : Option String) (qs qe : Option Int) (mode : Mode) :
    inRangesOpt t chrom (qs.map fun s => [s]) (qe.map fun e => [e]) mode = inRange t chrom qs qe mode := by
  have hz : zipBounds (qs.map fun s => [s]) (qe.map fun e => [e]) = [(qs, qe)] := by cases qs <;> cases qe <;> rfl
  rw [inRangesOpt_eq, hz]
  show _ = selectRange (chromRows t chrom) qs qe mode
  split
  · rename_i he
    rw [List.isEmpty_iff.mp he, selectRange_nil]
  · simp only [List.flatMap_cons, List.flatMap_nil, List.append_nil]

theorem c07InRangesRaw_eq (t : Table) (chrom : Option String) (starts ends : Option (List Int)) (mode : Mode) :
    c07InRangesRaw t chrom starts ends mode =
      if chromRows t chrom ≠ [] ∧ c07Given starts = none ∧ ends = some [] then .error .valueError
      else if chromRows t chrom ≠ [] ∧ isMonotone ((chromRows t chrom).map (·.e)) = false ∧
          c07LenMismatch (c07Given starts) (c07Given ends) = true then .error .assertionError
      else .ok (inRangesOpt t chrom (c07Given starts) (c07Given ends) mode) := by
  have hc : c07ChromRows t chrom = chromRows t chrom := rfl
  unfold c07InRangesRaw
  simp only [hc]
  by_cases hemp : (chromRows t chrom).isEmpty = true
  · have hnil := List.isEmpty_iff.mp hemp
    rw [if_pos hemp, inRangesOpt_eq, if_pos hemp, if_neg (fun h => h.1 hnil), if_neg (fun h => h.1 hnil)]
  · have hne : chromRows t chrom ≠ [] := fun h => hemp (List.isEmpty_iff.mpr h)
    have hopt : ∀ s' e', Except.ok (ε := C07Err) ((zipBounds s' e').map
        (fun q => selectRange (chromRows t chrom) q.1 q.2 mode)).flatten = .ok (inRangesOpt t chrom s' e' mode) := by
      intro s' e'
      rw [inRangesOpt_eq, if_neg hemp, List.flatMap_def]
    rw [if_neg hemp]
    -- absent / empty / non-empty for each array: of the nine shapes only `ends = some []` with `starts` absent or
    -- empty gives the `ValueError`, and only two non-empty arrays can differ in length
    rcases starts with _ | _ | ⟨s, ss⟩ <;> rcases ends with _ | _ | ⟨e, es⟩ <;>
      simp [c07Given, c07LenMismatch, hopt, hne, inRangesOpt_none]

end CnvVerif
