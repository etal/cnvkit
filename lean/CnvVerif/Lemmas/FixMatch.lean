/-
  C04, matching by coordinate: a successful `match_ref_to_sample` (`matchRef`) is the row-by-row lookup of the sample's
  coordinates in a reference without repeated coordinates (`matchRef_ok_inv`), hence aligned with the sample, independent
  of the reference's row order, and refused when a coordinate repeats or is missing.
-/
import CnvVerif.Model.Fix
import CnvVerif.Lemmas.Basic
import Mathlib.Data.List.Forall2
namespace CnvVerif

theorem hasDup_false_iff {α} [BEq α] [LawfulBEq α] (l : List α) : hasDup l = false ↔ l.Nodup := by
  induction l with
  | nil => simp [hasDup]
  | cons x xs ih =>
    simp only [hasDup, Bool.or_eq_false_iff, ih, List.nodup_cons]
    simp

/-- the lookup step of `matchRef` -/
def refFind (ref : List RRow) (r : SRow) : Option RRow := ref.find? (fun q => rKey q == sKey r)

theorem matchRef_eq (ref : List RRow) (samp : List SRow) :
    matchRef ref samp =
      if hasDup (samp.map sKey) then .error .dupSample
      else if hasDup (ref.map rKey) then .error .dupRef
      else if ((samp.map (refFind ref)).filter (·.isNone)).length > 0
        then .error (.missing ((samp.map (refFind ref)).filter (·.isNone)).length)
        else .ok ((samp.map (refFind ref)).filterMap id) := rfl

theorem all_some_of_no_none {α} (l : List (Option α)) (h : ¬ (l.filter (·.isNone)).length > 0) :
    l = (l.filterMap id).map some := by
  induction l with
  | nil => rfl
  | cons a t ih =>
    cases a with
    | none => exact absurd (Nat.succ_pos _) h
    | some q => exact congrArg (some q :: ·) (ih h)

theorem matchRef_ok_inv {ref : List RRow} {samp : List SRow} {m : List RRow} (h : matchRef ref samp = .ok m) :
    hasDup (samp.map sKey) = false ∧ hasDup (ref.map rKey) = false ∧ samp.map (refFind ref) = m.map some := by
  rw [matchRef_eq] at h
  by_cases h1 : hasDup (samp.map sKey) = true
  · rw [if_pos h1] at h; cases h
  by_cases h2 : hasDup (ref.map rKey) = true
  · rw [if_neg h1, if_pos h2] at h; cases h
  by_cases h3 : ((samp.map (refFind ref)).filter (·.isNone)).length > 0
  · rw [if_neg h1, if_neg h2, if_pos h3] at h; cases h
  rw [if_neg h1, if_neg h2, if_neg h3] at h
  cases h
  exact ⟨Bool.eq_false_iff.mpr h1, Bool.eq_false_iff.mpr h2, all_some_of_no_none _ h3⟩

theorem refFind_some {ref : List RRow} {r : SRow} {q : RRow} (h : refFind ref r = some q) :
    rKey q = sKey r ∧ q ∈ ref :=
  ⟨by simpa using List.find?_some h, List.mem_of_find?_eq_some h⟩

theorem map_eq_map_iff_forall₂ {α β γ} {f : α → γ} {g : β → γ} {l1 : List α} {l2 : List β} :
    l1.map f = l2.map g ↔ List.Forall₂ (fun a b => f a = g b) l1 l2 := by
  rw [← List.forall₂_eq_eq_eq, List.forall₂_map_left_iff, List.forall₂_map_right_iff]

theorem matchRef_ok (ref : List RRow) (samp : List SRow) (m : List RRow) (h : matchRef ref samp = .ok m) :
    m.map rKey = samp.map sKey ∧ ∀ r ∈ m, r ∈ ref := by
  have h := (matchRef_ok_inv h).2.2
  refine ⟨(map_eq_map_iff_forall₂.mpr ((map_eq_map_iff_forall₂.mp h).imp fun a q hq => (refFind_some hq).1.symm)).symm,
    fun r hr => ?_⟩
  obtain ⟨a, _, ha⟩ := List.mem_map.mp (h ▸ List.mem_map_of_mem hr : some r ∈ samp.map (refFind ref))
  exact (refFind_some ha).2

theorem hasDup_perm {α} [BEq α] [LawfulBEq α] (l l' : List α) (hp : l.Perm l') : hasDup l' = hasDup l := by
  have h := hp.nodup_iff
  rw [← hasDup_false_iff, ← hasDup_false_iff] at h
  cases hl : hasDup l with
  | false => exact h.mp hl
  | true => exact (Bool.eq_false_or_eq_true _).resolve_right fun h' => Bool.false_ne_true ((h.mpr h').symm.trans hl)

/-- no side condition: duplicated reference coordinates are refused in any order -/
theorem matchRef_ref_perm (ref ref' : List RRow) (samp : List SRow) (hp : ref.Perm ref') :
    matchRef ref' samp = matchRef ref samp := by
  rw [matchRef_eq, matchRef_eq, hasDup_perm _ _ (hp.map rKey)]
  by_cases hu : hasDup (ref.map rKey) = true
  · rw [if_pos hu, if_pos hu]
  · -- without repeated reference coordinates the lookup finds the same row in any order
    have hf : refFind ref' = refFind ref := funext fun r =>
      find_perm_of_nodup_key rKey ref ref' (sKey r) hp ((hasDup_false_iff _).mp (Bool.eq_false_iff.mpr hu))
    rw [hf]

theorem matchRef_dupSample (ref : List RRow) (samp : List SRow) (h : hasDup (samp.map sKey) = true) :
    matchRef ref samp = .error .dupSample := by
  rw [matchRef_eq, if_pos h]

theorem matchRef_rejects_dup (ref : List RRow) (samp : List SRow)
    (h : hasDup (samp.map sKey) = true ∨ hasDup (ref.map rKey) = true) :
    ∃ e, matchRef ref samp = .error e := by
  cases hm : matchRef ref samp with
  | error e => exact ⟨e, rfl⟩
  | ok m =>
    obtain ⟨h1, h2, _⟩ := matchRef_ok_inv hm
    rw [h1, h2] at h
    simp at h

theorem matchRef_rejects_missing (ref : List RRow) (samp : List SRow) (r : SRow) (hr : r ∈ samp)
    (hm : ∀ q ∈ ref, rKey q ≠ sKey r) : ∃ e, matchRef ref samp = .error e := by
  cases hok : matchRef ref samp with
  | error e => exact ⟨e, rfl⟩
  | ok m =>
    have hmem : refFind ref r ∈ m.map some := (matchRef_ok_inv hok).2.2 ▸ List.mem_map_of_mem hr
    obtain ⟨q, _, hq⟩ := List.mem_map.mp hmem
    obtain ⟨hk, hqr⟩ := refFind_some hq.symm
    exact absurd hk (hm q hqr)

end CnvVerif
