/-
  The outlier filter of `segment` (Model/TileOutlierExt5.lean): the decision rule as a two-sided strict inequality, the
  mask (one flag per row; all clear on a short chromosome), its application chromosome by chromosome (the groups
  `chromRuns` concatenate to the table, are non-empty and single-chromosome: `splitRunsBy_spec`), and what the survive
  mask makes of a flagged bin.
-/
import CnvVerif.Model.TileOutlierExt5
import CnvVerif.Lemmas.SplitRunsBy
import Mathlib.Data.Rat.Floor
import Mathlib.Tactic.Linarith
namespace CnvVerif.C03Outl
open CnvVerif

theorem absQ_eq_abs (e : Rat) : absQ e = |e| := by
  unfold absQ
  split_ifs with h
  · exact (abs_of_neg h).symm
  · exact (abs_of_nonneg (not_lt.mp h)).symm

theorem absQ_nonneg (e : Rat) : 0 ≤ absQ e := by
  rw [absQ_eq_abs]; exact abs_nonneg e

theorem isOutlier_iff (m x trend quants : Rat) :
    isOutlier m x trend quants = true ↔ (x - trend > quants * m ∨ trend - x > quants * m) := by
  unfold isOutlier
  rw [decide_eq_true_iff, absQ_eq_abs, gt_iff_lt, lt_abs, neg_sub]

theorem outlierMask_length (width : Nat) (m : Rat) (pts : List Pt) :
    (outlierMask width m pts).length = pts.length := by
  unfold outlierMask; split_ifs <;> simp

theorem outlierMask_short (width : Nat) (m : Rat) (pts : List Pt) (h : pts.length ≤ width) :
    outlierMask width m pts = List.replicate pts.length false := by
  unfold outlierMask; rw [if_pos h]

theorem flatMap_length_of {α β} (f : List α → List β) (hf : ∀ g, (f g).length = g.length) (gs : List (List α)) :
    (gs.flatMap f).length = gs.flatten.length := by
  simp [List.length_flatMap, List.length_flatten, hf]

theorem chromRuns_spec (rows : List (String × Pt)) :
    (chromRuns rows).flatten = rows ∧ (∀ g ∈ chromRuns rows, g ≠ []) ∧
      ∀ g ∈ chromRuns rows, ∀ a ∈ g, ∀ b ∈ g, a.1 = b.1 :=
  splitRunsBy_spec (fun (a b : String × Pt) => a.1 == b.1) (fun a => a.1) (by intro a b h; simpa using h) rows

theorem dropMask_length (width : Nat) (factor : Rat) (rows : List (String × Pt)) :
    (dropMask width factor rows).length = rows.length := by
  have h := flatMap_length_of (fun g : List (String × Pt) => outlierMask width factor (g.map (·.2)))
    (by intro g; simp [outlierMask_length]) (chromRuns rows)
  rwa [(chromRuns_spec rows).1] at h

theorem dropOutliers_sublist {α} (mask : List Bool) (rows : List α) : (dropOutliers mask rows).Sublist rows := by
  unfold dropOutliers
  refine (List.filter_sublist.map _).trans ?_
  rw [List.zip_eq_zip_take_min, List.map_fst_zip (by simp)]
  exact List.take_sublist ..

theorem dropOutliers_mem {α} (mask : List Bool) (rows : List α) (a : α) (h : a ∈ dropOutliers mask rows) :
    a ∈ rows := (dropOutliers_sublist mask rows).subset h

theorem dropOutliers_all_false {α} (rows : List α) :
    dropOutliers (List.replicate rows.length false) rows = rows := by
  unfold dropOutliers
  rw [List.filter_eq_self.mpr fun p hp => by rw [(List.mem_replicate.mp (List.of_mem_zip hp).2).2]; rfl,
    List.map_fst_zip (by simp)]

theorem filterKeep_outlier (skipLow : Bool) (minWeight skipOutliers : Rat) (b : Bin) (h : skipOutliers ≠ 0) :
    filterKeep skipLow minWeight skipOutliers (some true) b = false := by
  unfold filterKeep surviveMask
  have : (skipOutliers != 0) = true := by simpa using h
  simp [this]

theorem filterKeep_off (skipLow : Bool) (minWeight : Rat) (o : Option Bool) (b : Bin) :
    filterKeep skipLow minWeight 0 o b = surviveMask skipLow minWeight false b.log2 b.depth b.weight := by
  unfold filterKeep; simp

theorem countP_split {α} (p q : α → Bool) (l : List α) :
    (l.filter fun c => p c && q c).length + (l.filter fun c => !p c && q c).length = (l.filter q).length := by
  rw [List.length_eq_countP_add_countP p (l := l.filter q), List.countP_filter, List.countP_filter,
    List.countP_eq_length_filter, List.countP_eq_length_filter]
  simp only [Bool.not_eq_true, Bool.decide_eq_false]

end CnvVerif.C03Outl
