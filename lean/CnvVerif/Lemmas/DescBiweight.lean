/-
  Lemmas behind Props/C19.lean and Props/C19Loop.lean: biweight location -- the outer loop and every value its
  variable `result` takes (`C19Loop.trace`), one step (range, translation, rescaling, the published formula, constant
  data) -- and biweight midvariance (sign, constant data); both do not depend on the order of the data (`_perm`).
-/
import CnvVerif.Lemmas.Descriptives
import CnvVerif.Model.DescLoopExt5

namespace CnvVerif.C19Loop
open CnvVerif CnvVerif.Desc

theorem trace_getLast (step : Rat → Rat) (eps : Rat) (fuel : Nat) (init : Rat) :
    (trace step eps fuel init).getLast? = some (bilocLoop step eps fuel init) := by
  induction fuel generalizing init with
  | zero => simp [trace, bilocLoop]
  | succ n ih =>
    unfold trace bilocLoop
    simp only []
    split
    · simp
    · rw [List.getLast?_cons, ih]; simp

theorem trace_head (step : Rat → Rat) (eps : Rat) (fuel : Nat) (init : Rat) :
    (trace step eps fuel init).head? = some (step init) := by
  cases fuel with
  | zero => simp [trace]
  | succ n => unfold trace; simp only []; split <;> simp

theorem trace_length (step : Rat → Rat) (eps : Rat) (fuel : Nat) (init : Rat) :
    1 ≤ (trace step eps fuel init).length ∧ (trace step eps fuel init).length ≤ fuel + 1 := by
  induction fuel generalizing init with
  | zero => simp [trace]
  | succ n ih =>
    unfold trace
    simp only []
    split
    · simp
    · have := ih (step init); simp only [List.length_cons]; omega

theorem trace_chain (step : Rat → Rat) (eps : Rat) (fuel : Nat) (init : Rat) :
    List.IsChain (fun p r => r = step p) (init :: trace step eps fuel init) := by
  induction fuel generalizing init with
  | zero => simp [trace]
  | succ n ih =>
    unfold trace
    simp only []
    split
    · simp
    · exact List.IsChain.cons_cons rfl (ih _)

theorem trace_in_range (step : Rat → Rat) (eps lo hi : Rat)
    (hstep : ∀ x, lo ≤ x ∧ x ≤ hi → lo ≤ step x ∧ step x ≤ hi) (fuel : Nat) (init : Rat) (hinit : lo ≤ init ∧ init ≤ hi) :
    ∀ r ∈ trace step eps fuel init, lo ≤ r ∧ r ≤ hi :=
  (trace_chain step eps fuel init).cons_induction (fun r => lo ≤ r ∧ r ≤ hi) _ (fun x _ hxy hx => hxy ▸ hstep x hx) hinit

/-- two loops whose steps and stopping tests correspond under `f` have corresponding iterates -/
theorem trace_map (f : Rat → Rat) (step step' : Rat → Rat) (eps eps' : Rat) (hstep : ∀ x, step' (f x) = f (step x))
    (hconv : ∀ x y, absR (f x - f y) ≤ eps' ↔ absR (x - y) ≤ eps) (fuel : Nat) (init : Rat) :
    trace step' eps' fuel (f init) = (trace step eps fuel init).map f := by
  induction fuel generalizing init with
  | zero => exact congrArg (fun v => [v]) (hstep init)
  | succ n ih =>
    unfold trace
    simp only []
    rw [hstep init]
    by_cases hc : absR (step init - init) ≤ eps
    · rw [if_pos hc, if_pos ((hconv _ _).mpr hc)]; rfl
    · rw [if_neg hc, if_neg (mt (hconv _ _).mp hc), ih]; rfl

/-- what holds of every iterate holds of the result, the last of them -/
theorem loop_mem_trace (step : Rat → Rat) (eps : Rat) (fuel : Nat) (init : Rat) :
    bilocLoop step eps fuel init ∈ trace step eps fuel init :=
  List.mem_of_getLast? (trace_getLast step eps fuel init)

theorem loop_of_trace_map (step step' : Rat → Rat) (eps eps' : Rat) (fuel : Nat) (init init' : Rat) (f : Rat → Rat)
    (h : trace step' eps' fuel init' = (trace step eps fuel init).map f) :
    bilocLoop step' eps' fuel init' = f (bilocLoop step eps fuel init) := by
  have h1 := trace_getLast step' eps' fuel init'
  rw [h, List.getLast?_map, trace_getLast] at h1
  exact (Option.some.inj h1).symm

theorem trace_fixed_point (step : Rat → Rat) (eps : Rat) (heps : 0 ≤ eps) (fuel : Nat) (init : Rat) (h : step init = init) :
    trace step eps fuel init = [init] := by
  cases fuel with
  | zero => simp [trace, h]
  | succ n =>
    unfold trace
    simp only []
    rw [h, absR_sub_self, if_pos heps]

theorem trace_exit (step : Rat → Rat) (eps : Rat) (fuel : Nat) (init : Rat) :
    (trace step eps fuel init).length = fuel + 1 ∨
      ∃ p, (p = init ∨ p ∈ trace step eps fuel init) ∧ step p = bilocLoop step eps fuel init ∧
        absR (bilocLoop step eps fuel init - p) ≤ eps := by
  induction fuel generalizing init with
  | zero => left; simp [trace]
  | succ n ih =>
    unfold trace bilocLoop
    simp only []
    by_cases hc : absR (step init - init) ≤ eps
    · right; rw [if_pos hc, if_pos hc]; exact ⟨init, Or.inl rfl, rfl, hc⟩
    · rw [if_neg hc, if_neg hc]
      rcases ih (step init) with h | ⟨p, hp, h1, h2⟩
      · left; simp [h]
      · right
        refine ⟨p, Or.inr ?_, h1, h2⟩
        rcases hp with hp | hp
        · subst hp; exact List.mem_cons_self
        · exact List.mem_cons_of_mem _ hp

end CnvVerif.C19Loop

namespace CnvVerif.Desc
open CnvVerif.C19Loop

theorem bilocLoop_of_fixed (step : Rat → Rat) (eps : Rat) (heps : 0 ≤ eps) (fuel : Nat) (init : Rat)
    (h : step init = init) : bilocLoop step eps fuel init = init :=
  List.mem_singleton.mp (trace_fixed_point step eps heps fuel init h ▸ loop_mem_trace step eps fuel init)

theorem bilocLoop_in_range (step : Rat → Rat) (eps : Rat) (lo hi : Rat)
    (hstep : ∀ x, lo ≤ x ∧ x ≤ hi → lo ≤ step x ∧ step x ≤ hi) (fuel : Nat) (init : Rat) (hinit : lo ≤ init ∧ init ≤ hi) :
    lo ≤ bilocLoop step eps fuel init ∧ bilocLoop step eps fuel init ≤ hi :=
  trace_in_range step eps lo hi hstep fuel init hinit _ (loop_mem_trace step eps fuel init)

theorem bilocLoop_shift (step step' : Rat → Rat) (eps t : Rat) (h : ∀ x, step' (x + t) = step x + t) (fuel : Nat) (init : Rat) :
    bilocLoop step' eps fuel (init + t) = bilocLoop step eps fuel init + t :=
  loop_of_trace_map step step' eps eps fuel init (init + t) (· + t)
    (trace_map (· + t) step step' eps eps h (fun x y => by rw [add_sub_add_right_eq_sub]) fuel init)

/-- Tukey's biweight `(1 − u²)²` -/
def biw (s x : Rat) : Rat := sq (1 - sq (x / s))

theorem biw_nonneg (s x : Rat) : 0 ≤ biw s x := sq_nonneg' _

theorem biw_scale (k s x : Rat) (hk : k ≠ 0) : biw (k * s) (k * x) = biw s x := by
  unfold biw; rw [mul_div_mul_left _ _ hk]

theorem biw_pos {s x : Rat} (h : absR (x / s) < 1) : 0 < biw s x := by
  have h1 : 0 < 1 - sq (x / s) := by
    rw [absR_eq_abs] at h
    unfold sq
    rw [sub_pos, ← abs_mul_abs_self]
    exact mul_lt_one_of_nonneg_of_lt_one_left (abs_nonneg _) h h.le
  exact mul_pos h1 h1

def biwKept (s : Rat) (d : List Rat) : List Rat := d.filter (fun x => decide (absR (x / s) < 1))

/-- one step from `init` once the deviations `d` and the scale `s` are known -/
def biwStep (s : Rat) (d : List Rat) (init : Rat) : Rat :=
  if ((biwKept s d).map (biw s)).sum = 0 then init
  else init + ((biwKept s d).map (fun x => x * biw s x)).sum / ((biwKept s d).map (biw s)).sum

theorem biwStep_of_zero {s : Rat} {d : List Rat} (h : ((biwKept s d).map (biw s)).sum = 0) (init : Rat) :
    biwStep s d init = init := if_pos h

theorem biwStep_of_num_zero {s : Rat} {d : List Rat} (h : ((biwKept s d).map (fun x => x * biw s x)).sum = 0)
    (init : Rat) : biwStep s d init = init := by
  unfold biwStep
  split
  · rfl
  · rw [h, zero_div, add_zero]

theorem biwStep_of_kept_zero {s : Rat} {d : List Rat} (h : ∀ x ∈ biwKept s d, x = 0) (init : Rat) :
    biwStep s d init = init :=
  biwStep_of_num_zero (List.sum_eq_zero (List.forall_mem_map.mpr fun x hx => by rw [h x hx, zero_mul])) init

theorem mem_biwKept {s : Rat} (hs : 0 < s) {d : List Rat} {x : Rat} : x ∈ biwKept s d ↔ x ∈ d ∧ absR x < s := by
  unfold biwKept
  rw [List.mem_filter, decide_eq_true_eq, absR_eq_abs, abs_div, abs_of_pos hs, div_lt_one hs, ← absR_eq_abs]

theorem biwKept_perm {s : Rat} {d d' : List Rat} (h : d.Perm d') : (biwKept s d).Perm (biwKept s d') := h.filter _

theorem biwStep_perm {s : Rat} {d d' : List Rat} (h : d.Perm d') (init : Rat) : biwStep s d init = biwStep s d' init := by
  unfold biwStep
  rw [((biwKept_perm h).map _).sum_eq, ((biwKept_perm h).map (fun x => x * biw s x)).sum_eq]

theorem bilocIter_eq_step (c eps : Rat) (a : List Rat) (init : Rat) :
    bilocIter c eps a init =
      biwStep (max (c * median ((a.map (· - init)).map absR)) eps) (a.map (· - init)) init := by
  unfold bilocIter
  simp only [← List.map_prod_left_eq_zip, List.map_map]
  rfl

theorem bilocIter_perm (c eps : Rat) {a a' : List Rat} (h : a.Perm a') (init : Rat) :
    bilocIter c eps a init = bilocIter c eps a' init := by
  have hd : (a.map (· - init)).Perm (a'.map (· - init)) := h.map _
  rw [bilocIter_eq_step, bilocIter_eq_step, median_eq_of_perm (hd.map _), biwStep_perm hd]

/-- when the weights do not sum to zero a step is a weighted mean of the data `init + d`: it lies within their range,
    wherever it started -/
theorem biwStep_in_range (s : Rat) (d : List Rat) (init lo hi : Rat) (hne : ((biwKept s d).map (biw s)).sum ≠ 0)
    (h : ∀ x ∈ d, lo - init ≤ x ∧ x ≤ hi - init) : lo ≤ biwStep s d init ∧ biwStep s d init ≤ hi := by
  unfold biwStep
  rw [if_neg hne]
  have hpos : 0 < ((biwKept s d).map (biw s)).sum :=
    lt_of_le_of_ne (List.sum_nonneg (List.forall_mem_map.mpr (fun _ _ => biw_nonneg _ _))) (Ne.symm hne)
  obtain ⟨hdn, hup⟩ := wsum_between (biwKept s d) (fun x => x) (biw s) (lo - init) (hi - init)
    (fun x hx => ⟨h x (List.mem_filter.mp hx).1, biw_nonneg s x⟩)
  exact ⟨le_add_of_sub_left_le ((le_div_iff₀ hpos).mpr hdn), add_le_of_le_sub_left ((div_le_iff₀ hpos).mpr hup)⟩

theorem deviations_in_range {a : List Rat} {lo hi : Rat} (h : ∀ x ∈ a, lo ≤ x ∧ x ≤ hi) (init : Rat) :
    ∀ x ∈ a.map (· - init), lo - init ≤ x ∧ x ≤ hi - init :=
  List.forall_mem_map.mpr (fun y hy => ⟨sub_le_sub_right (h y hy).1 _, sub_le_sub_right (h y hy).2 _⟩)

theorem bilocIter_in_range (c eps : Rat) (a : List Rat) (init lo hi : Rat) (hinit : lo ≤ init ∧ init ≤ hi)
    (h : ∀ x ∈ a, lo ≤ x ∧ x ≤ hi) : lo ≤ bilocIter c eps a init ∧ bilocIter c eps a init ≤ hi := by
  rw [bilocIter_eq_step]
  generalize max (c * median ((a.map (· - init)).map absR)) eps = s
  by_cases hne : ((biwKept s (a.map (· - init))).map (biw s)).sum = 0
  · rw [biwStep_of_zero hne]; exact hinit
  · exact biwStep_in_range s _ init lo hi hne (deviations_in_range h init)

theorem biwStep_add (s : Rat) (d : List Rat) (init t : Rat) : biwStep s d (init + t) = biwStep s d init + t := by
  unfold biwStep
  split
  · rfl
  · exact add_right_comm _ _ _

theorem bilocIter_shift (c eps : Rat) (a : List Rat) (init t : Rat) :
    bilocIter c eps (a.map (· + t)) (init + t) = bilocIter c eps a init + t := by
  have hd : (a.map (· + t)).map (· - (init + t)) = a.map (· - init) := by
    rw [List.map_map]; exact List.map_congr_left (fun x _ => add_sub_add_right_eq_sub x init t)
  rw [bilocIter_eq_step, bilocIter_eq_step, hd, biwStep_add]

theorem biwStep_scale (s : Rat) (d : List Rat) (init k : Rat) (hk : k ≠ 0) :
    biwStep (k * s) (d.map (k * ·)) (k * init) = k * biwStep s d init := by
  have hf : biwKept (k * s) (d.map (k * ·)) = (biwKept s d).map (k * ·) := by
    unfold biwKept
    rw [List.filter_map]
    exact congrArg _ (List.filter_congr (fun x _ => by rw [Function.comp_apply, mul_div_mul_left _ _ hk]))
  have hw : ((biwKept s d).map (k * ·)).map (biw (k * s)) = (biwKept s d).map (biw s) := by
    rw [List.map_map]; exact List.map_congr_left (fun x _ => biw_scale k s x hk)
  have hn : (((biwKept s d).map (k * ·)).map (fun x => x * biw (k * s) x)).sum =
      k * ((biwKept s d).map (fun x => x * biw s x)).sum := by
    rw [List.map_map, ← sum_map_mul_left]
    exact congrArg _ (List.map_congr_left (fun x _ => by rw [Function.comp_apply, biw_scale k s x hk, mul_assoc]))
  unfold biwStep
  rw [hf, hw, hn]
  split
  · rfl
  · rw [mul_add, mul_div_assoc]

/-- the step under a positive rescaling of the data, the floor `eps` rescaled along -/
theorem bilocIter_scale (c eps : Rat) (a : List Rat) (init k : Rat) (hk : 0 < k) :
    bilocIter c (k * eps) (a.map (k * ·)) (k * init) = k * bilocIter c eps a init := by
  have hd : (a.map (k * ·)).map (· - k * init) = (a.map (· - init)).map (k * ·) := by
    rw [List.map_map, List.map_map]; exact List.map_congr_left (fun x _ => (mul_sub k x init).symm)
  have habs : ((a.map (· - init)).map (k * ·)).map absR = ((a.map (· - init)).map absR).map (k * ·) := by
    simp only [List.map_map]
    exact List.map_congr_left (fun x _ => by simp only [Function.comp]; exact absR_mul k _ hk.le)
  rw [bilocIter_eq_step, bilocIter_eq_step, hd, habs, median_map_mul k hk.le, mul_left_comm,
    ← mul_max_of_nonneg _ _ hk.le]
  exact biwStep_scale _ _ init k (ne_of_gt hk)

theorem biwSum_pos {s : Rat} {d : List Rat} (hs : 0 < s) {x : Rat} (hx : x ∈ d) (hxs : absR x < s) :
    0 < ((biwKept s d).map (biw s)).sum :=
  have hk := (mem_biwKept hs).mpr ⟨hx, hxs⟩
  lt_of_lt_of_le (biw_pos (of_decide_eq_true (List.mem_filter.mp hk).2))
    (List.single_le_sum (List.forall_mem_map.mpr (fun _ _ => biw_nonneg _ _)) _ (List.mem_map_of_mem hk))

/-- some point is always inside the cut-off, so that the "insufficient variation" branch is never
    taken: with `c > 1` and a floor `eps > 0` a deviation not above the median one is below the scale `max (c·MAD) eps` -/
theorem exists_below_scale (c eps : Rat) (d : List Rat) (hd : d ≠ []) (hc : 1 < c) (heps : 0 < eps) :
    0 < max (c * median (d.map absR)) eps ∧ ∃ x ∈ d, absR x < max (c * median (d.map absR)) eps := by
  obtain ⟨y, hy, _, _, hxle, _⟩ := median_inHull (mt List.map_eq_nil_iff.mp hd)
  obtain ⟨x, hx, rfl⟩ := List.mem_map.mp hy
  generalize median (d.map absR) = mad at hxle
  have hspos : 0 < max (c * mad) eps := lt_of_lt_of_le heps (le_max_right _ _)
  refine ⟨hspos, x, hx, ?_⟩
  rcases (absR_nonneg x).eq_or_lt with h0 | hpos
  · rw [← h0]; exact hspos
  · exact lt_of_le_of_lt hxle
      (lt_of_lt_of_le (lt_mul_of_one_lt_left (lt_of_lt_of_le hpos hxle) hc) (le_max_left _ _))

theorem bilocIter_const_any_start (c eps : Rat) (hc : 1 < c) (heps : 0 < eps) (a : List Rat) (ha : a ≠ []) (v : Rat)
    (h : ∀ x ∈ a, x = v) (init : Rat) : bilocIter c eps a init = v := by
  obtain ⟨hs, x, hx, hxs⟩ := exists_below_scale c eps (a.map (· - init)) (mt List.map_eq_nil_iff.mp ha) hc heps
  rw [bilocIter_eq_step]
  exact eq_of_range (biwStep_in_range _ _ init v v (ne_of_gt (biwSum_pos hs hx hxs))
    (deviations_in_range (const_range h) init))

theorem biweightLocationCore_def (a : List Rat) (initial : Option Rat) :
    biweightLocationCore false a initial =
      bilocLoop (bilocIter Generated.BILOC_C Generated.BILOC_EPS a) Generated.BILOC_EPS (Generated.BILOC_MAX_ITER - 1)
        (initial.getD (median a)) := rfl

theorem biweightLocationCore_perm {a a' : List Rat} (h : a.Perm a') :
    biweightLocationCore false a none = biweightLocationCore false a' none := by
  rw [biweightLocationCore_def, biweightLocationCore_def, median_eq_of_perm h, funext (bilocIter_perm _ _ h)]

theorem biweightLocationCore_of_fixed (a : List Rat) (heps : 0 ≤ Generated.BILOC_EPS)
    (h : bilocIter Generated.BILOC_C Generated.BILOC_EPS a (median a) = median a) :
    biweightLocationCore false a none = median a :=
  bilocLoop_of_fixed _ _ heps _ _ h

theorem biweightLocationCore_in_range_of (a : List Rat) (initial : Option Rat) (lo hi : Rat)
    (hinit : lo ≤ initial.getD (median a) ∧ initial.getD (median a) ≤ hi) (h : ∀ x ∈ a, lo ≤ x ∧ x ≤ hi) :
    lo ≤ biweightLocationCore false a initial ∧ biweightLocationCore false a initial ≤ hi :=
  bilocLoop_in_range _ _ lo hi (fun x hx => bilocIter_in_range _ _ a x lo hi hx h) _ _ hinit

/-- the biweight location lies within any interval that holds the data and the starting point the caller supplies -/
theorem biweightLocationCore_in_range_initial (a : List Rat) (init lo hi : Rat) (hinit : lo ≤ init ∧ init ≤ hi)
    (h : ∀ x ∈ a, lo ≤ x ∧ x ≤ hi) :
    lo ≤ biweightLocationCore false a (some init) ∧ biweightLocationCore false a (some init) ≤ hi :=
  biweightLocationCore_in_range_of a (some init) lo hi hinit h

/-- Beers, Flynn & Gebhardt (1990) / astropy: `M + Σ_{|u|<1} (x−M)(1−u²)² / Σ_{|u|<1} (1−u²)²`,
    `u = (x − M)/(c·MAD)`, `MAD = median |x − M|`, the divisor guarded from below by `eps` -/
def publishedBiweightStep (c eps : Rat) (x : List Rat) (M : Rat) : Rat :=
  let mad := median (x.map (fun v => |v - M|))
  let u : Rat → Rat := fun v => (v - M) / max (c * mad) eps
  let inside := x.filter (fun v => decide (|u v| < 1))
  M + (inside.map (fun v => (v - M) * (1 - u v ^ 2) ^ 2)).sum / (inside.map (fun v => (1 - u v ^ 2) ^ 2)).sum

theorem bilocIter_published (c eps : Rat) (a : List Rat) (M : Rat) :
    bilocIter c eps a M = publishedBiweightStep c eps a M := by
  rw [bilocIter_eq_step]
  unfold publishedBiweightStep biwStep biwKept
  simp only []
  have hmad : (a.map (· - M)).map absR = a.map (fun v => |v - M|) := by
    rw [List.map_map]; exact List.map_congr_left (fun x _ => absR_eq_abs _)
  rw [hmad]
  generalize max (c * median (a.map (fun v => |v - M|))) eps = s
  have hfilter : (a.map (· - M)).filter (fun x => decide (absR (x / s) < 1)) =
      (a.filter (fun v => decide (|(v - M) / s| < 1))).map (· - M) := by
    rw [List.filter_map]
    exact congrArg _ (List.filter_congr (fun x _ => by rw [Function.comp_apply, absR_eq_abs]))
  have e1 : (biw s ∘ fun x => x - M) = fun v => (1 - ((v - M) / s) ^ 2) ^ 2 := by
    funext v; simp only [Function.comp, biw, sq]; ring
  have e2 : ((fun x => x * biw s x) ∘ fun x => x - M) = fun v => (v - M) * (1 - ((v - M) / s) ^ 2) ^ 2 := by
    funext v; simp only [Function.comp, biw, sq]; ring
  rw [hfilter, List.map_map, List.map_map, e1, e2]
  split
  · rename_i h0; rw [h0, div_zero, add_zero]
  · rfl

theorem MAD_SCALE_BIVAR_pos : 0 < Generated.MAD_SCALE_BIVAR := by unfold Generated.MAD_SCALE_BIVAR; norm_num

/-- the part of `bivarCore` after the deviations `d`, the scale `s` and the MAD fall-back value `fb` are known -/
def bivarTailModel (d : List Rat) (s fb : Rat) : ScaleOut :=
  let kept := biwKept s d
  if (kept.map (· / s)).sum = 0 then .direct fb
  else
    let n : Rat := (kept.length : Rat)
    let num := (kept.map (fun x => sq x * sq (sq (1 - sq (x / s))))).sum
    let den := (kept.map (fun x => (1 - sq (x / s)) * (1 - 5 * sq (x / s)))).sum
    if den = 0 then .undefined else .root (n * num / sq den)

theorem bivarCore_eq_tail (pre : Bool) (a : List Rat) (initial : Option Rat) :
    bivarCore pre a initial =
      bivarTailModel (a.map (· - initial.getD (biweightLocationCore pre a none)))
        (max (Generated.BIVAR_C * median ((a.map (· - initial.getD (biweightLocationCore pre a none))).map absR)) Generated.BIVAR_EPS)
        (median ((a.map (· - initial.getD (biweightLocationCore pre a none))).map absR) * Generated.MAD_SCALE_BIVAR) := rfl

theorem bivarTail_nonneg (d : List Rat) (s fb : Rat) (hfb : 0 ≤ fb) :
    (∀ v, bivarTailModel d s fb = .direct v → 0 ≤ v) ∧ (∀ r, bivarTailModel d s fb = .root r → 0 ≤ r) := by
  unfold bivarTailModel
  simp only []
  split
  · exact ⟨fun v hv => ScaleOut.direct.inj hv ▸ hfb, fun r hr => ScaleOut.noConfusion hr⟩
  · split
    · exact ⟨fun v hv => ScaleOut.noConfusion hv, fun r hr => ScaleOut.noConfusion hr⟩
    · refine ⟨fun v hv => ScaleOut.noConfusion hv, fun r hr => ScaleOut.root.inj hr ▸ ?_⟩
      exact div_nonneg (mul_nonneg (Nat.cast_nonneg _) (List.sum_nonneg
        (List.forall_mem_map.mpr (fun _ _ => mul_nonneg (sq_nonneg' _) (sq_nonneg' _))))) (sq_nonneg' _)

theorem bivarTail_of_kept_zero (d : List Rat) (s fb : Rat) (h : ∀ x ∈ biwKept s d, x = 0) :
    bivarTailModel d s fb = .direct fb :=
  if_pos (List.sum_eq_zero (List.forall_mem_map.mpr fun x hx => by rw [h x hx, zero_div]))

theorem bivarTail_perm {d d' : List Rat} (h : d.Perm d') (s fb : Rat) : bivarTailModel d s fb = bivarTailModel d' s fb := by
  unfold bivarTailModel
  have hk := biwKept_perm (s := s) h
  simp only [(hk.map _).sum_eq, hk.length_eq]

theorem bivarCore_perm {a a' : List Rat} (h : a.Perm a') (c : Rat) :
    bivarCore false a (some c) = bivarCore false a' (some c) := by
  have hd : (a.map (· - c)).Perm (a'.map (· - c)) := h.map _
  simp only [bivarCore_eq_tail, Option.getD_some]
  rw [median_eq_of_perm (hd.map _), bivarTail_perm hd]

theorem bivarTail_of_zero (d : List Rat) (s fb : Rat) (hd : ∀ x ∈ d, x = 0) : bivarTailModel d s fb = .direct fb :=
  bivarTail_of_kept_zero d s fb fun x hx => hd x (List.mem_filter.mp hx).1

end CnvVerif.Desc
