/-
  C06 tie to the source text -- merge / flatten: the gap test, the fast paths, the rows in play.
  Each piece that the translator re-reads from /repo on every run (Generated/ExprsInterval.lean) is brought to a normal
  form here (`src_*_nf`: by `rfl`, else `omega` / rewriting, so that an equivalent spelling of the same test or formula
  in the source still proves).  One file per source function, so that an edit names the obligations about that function.
-/
import CnvVerif.Generated.ExprsInterval
import CnvVerif.Model.Interval
namespace CnvVerif.Src
open CnvVerif CnvVerif.Generated

theorem src_merge_new_group_nf (a b bp : Int) : src_merge_new_group a b bp = decide (a - b > -bp) := by
  unfold src_merge_new_group
  first
  | rfl
  | (simp only [decide_eq_decide]; omega)

theorem src_merge_fast_path_nf (a b bp : Int) : src_merge_fast_path a b bp = decide (a - b > -bp) := by
  unfold src_merge_fast_path
  first
  | rfl
  | (simp only [decide_eq_decide]; omega)

theorem src_flatten_fast_path_nf (a b : Int) : src_flatten_fast_path a b = decide (a ≥ b) := by
  unfold src_flatten_fast_path
  first
  | rfl
  | (simp only [decide_eq_decide]; omega)

theorem src_flatten_in_play_nf (rs re a b : Int) : src_flatten_in_play rs re a b = (decide (rs ≤ a) && decide (re ≥ b)) := by
  unfold src_flatten_in_play
  first
  | (rw [Bool.decide_and])
  | (rw [← Bool.decide_and, decide_eq_decide]; omega)

end CnvVerif.Src
