/-
  C08 — tab files (.cnn/.cnr/.cns) WITH float columns, at the level of the characters in the
  file: the lines `tabio.write` prints (`renderLinesF (writeTab t)`, floats spelled by `%.6g`) are read back
  by `readTab` to the same table with every float rounded to 6 significant digits (a float column whose
  printed values are all integer literals comes back as an integer column of the same values), and
  printing that table again gives the same characters.
-/
import CnvVerif.Lemmas.FormatsSpell
import CnvVerif.Lemmas.FormatsTab
namespace CnvVerif.Fmt
open CnvVerif CnvVerif.Generated

/-- is the `k`-th column printed as integer literals in every row? (then pandas reads it as int64) -/
def colAllInt (rows : List FRow) (k : Nat) : Bool :=
  rows.all fun r => isIntLit (renderCellF (r.cols.getD k .na)).toList

/-- what a cell of column `k` comes back as: floats rounded to 6 significant digits — as integers when
    the whole column was printed as integer literals; every other cell unchanged -/
def colBack (rows : List FRow) (k : Nat) : Cell → Cell
  | .flt q => if colAllInt rows k then .int ((parseInt (fmt6g q)).getD 0) else .flt (sixg q)
  | c => c

theorem colAllInt_lit {rows : List FRow} {k : Nat} (h : colAllInt rows k = true) {r : FRow} (hr : r ∈ rows) :
    isIntLit (renderCellF (r.cols.getD k .na)).toList = true :=
  List.all_eq_true.mp h r hr

theorem colBack_flt_of_float {rows : List FRow} {k : Nat} (hai : colAllInt rows k = false) (q : Rat) :
    colBack rows k (.flt q) = .flt (sixg q) := by
  simp only [colBack, hai, Bool.false_eq_true, if_false]

theorem colBack_flt_of_int {rows : List FRow} {k : Nat} (hai : colAllInt rows k = true) {r : FRow} (hr : r ∈ rows)
    {q : Rat} (hq : r.cols.getD k .na = .flt q) :
    ∃ i : Int, colBack rows k (.flt q) = .int i ∧ fmt6g q = toString i ∧ (i : Rat) = sixg q := by
  have hlit := colAllInt_lit hai hr
  rw [hq] at hlit
  obtain ⟨i, hs, hi, hv⟩ := fmt6g_int q hlit
  exact ⟨i, by simp only [colBack, hai, if_true, hi, Option.getD_some], hs, hv⟩

theorem colBack_flt_ne_na (rows : List FRow) (k : Nat) (q : Rat) : colBack rows k (.flt q) ≠ .na := by
  show (if colAllInt rows k then Cell.int _ else Cell.flt _) ≠ Cell.na
  split <;> exact Cell.noConfusion

theorem typeColumn_floatcol (rows : List FRow) (k : Nat)
    (h : ∀ r ∈ rows, (∃ q, r.cols[k]? = some (Cell.flt q)) ∨ r.cols[k]? = some Cell.na) :
    typeColumn ((rows.map fun r => r.cols.getD k .na).map renderCellF) =
      rows.map fun r => colBack rows k (r.cols.getD k .na) := by
  have hcell : ∀ r ∈ rows, (∃ q, r.cols.getD k .na = Cell.flt q) ∨ r.cols.getD k .na = Cell.na := by
    intro r hr
    rcases h r hr with ⟨q, hq⟩ | hq
    · exact Or.inl ⟨q, getD_of_getElem? hq⟩
    · exact Or.inr (getD_of_getElem? hq)
  have hall : ((rows.map fun r => r.cols.getD k .na).map renderCellF).all (fun v => isIntLit v.toList) =
      colAllInt rows k := by
    unfold colAllInt; rw [List.map_map, List.all_map]; rfl
  unfold typeColumn
  rw [hall, List.map_map]
  cases hai : colAllInt rows k with
  | true =>
    -- every cell is printed as an integer literal: pandas reads the column as int64
    simp only [if_true, List.map_map]
    refine List.map_congr_left fun r hr => ?_
    rcases hcell r hr with ⟨q, hq⟩ | hq
    · obtain ⟨i, hb, hs, _⟩ := colBack_flt_of_int hai hr hq
      simp only [Function.comp_def, hq, hb, renderCellF, hs, parseInt_toString]
    · have hlit := colAllInt_lit hai hr
      rw [hq] at hlit; exact absurd hlit (by decide)
  | false =>
    have h2 : (rows.map (renderCellF ∘ fun r => r.cols.getD k .na)).all
        (fun v => isNA v || (parseDec v.toList).isSome) = true := by
      rw [List.all_map, List.all_eq_true]
      intro r hr
      rcases hcell r hr with ⟨q, hq⟩ | hq
      · simp only [Function.comp_def, hq, renderCellF, parseDec_fmt6g, Option.isSome_some, Bool.or_true]
      · simp only [Function.comp_def, hq, renderCellF]; decide
    simp only [Bool.false_eq_true, if_false, h2, if_true, List.map_map]
    refine List.map_congr_left fun r hr => ?_
    rcases hcell r hr with ⟨q, hq⟩ | hq
    · simp only [Function.comp_def, hq, renderCellF, colBack_flt_of_float hai, Bool.false_eq_true, if_false,
        fmt6g_not_na, parseDec_fmt6g]
    · simp only [Function.comp_def, hq, renderCellF, colBack]; decide

/-- tab-separated CNVkit tables whose extra columns hold integers, text, or floats (NaN allowed outside
    `log2`: a bin without a log2 value is dropped by the reader) -/
def WFTabF (t : FTab) : Prop :=
  t.names.Nodup ∧ sortNames t.names = t.names ∧
  (∀ n ∈ t.names, n ≠ "chromosome" ∧ n ≠ "start" ∧ n ≠ "end") ∧
  (∀ r ∈ t.rows, isNA r.chrom = false ∧ r.cols.length = t.names.length) ∧
  (∀ j, j < t.names.length →
      (t.names[j]? ≠ some "gene" ∧ ∀ r ∈ t.rows, ∃ i, r.cols[j]? = some (Cell.int i)) ∨
      (∀ r ∈ t.rows, ∃ g, r.cols[j]? = some (Cell.str g) ∧ (PlainLabel g ∨ t.names[j]? = some "gene")) ∨
      (t.names[j]? ≠ some "gene" ∧ ∀ r ∈ t.rows, (∃ q, r.cols[j]? = some (Cell.flt q)) ∨
        (r.cols[j]? = some Cell.na ∧ t.names[j]? ≠ some "log2")))

/-- the row that comes back: every cell as `colBack` says for its column -/
def backRow (t : FTab) (r : FRow) : FRow :=
  { r with cols := (List.range t.names.length).map fun k => colBack t.rows k (r.cols.getD k .na) }

theorem renderCellF_cellOut (c : Cell) : renderCellF (cellOut c) = renderCellF c := by
  cases c <;> simp [cellOut, renderCellF, fmt6g_sixg]

theorem renderCellF_str (s : String) : renderCellF (.str s) = s := rfl
theorem renderCellF_int (i : Int) : renderCellF (.int i) = toString i := rfl

theorem renderLinesF_writeTab (t : FTab) :
    renderLinesF (writeTab t) = ("chromosome" :: "start" :: "end" :: t.names) :: t.rows.map (lineG renderCellF) := by
  simp [renderLinesF, writeTab, renderCellF_str, renderCellF_int, lineG, Function.comp_def, renderCellF_cellOut]

theorem readTab_floats (t : FTab) (h : WFTabF t) :
    readTab (renderLinesF (writeTab t)) = .ok { names := t.names, rows := t.rows.map (backRow t) } := by
  obtain ⟨_, _, hnames, hrows, hcols⟩ := h
  have hsome : ∀ k, k < t.names.length → t.names[k]? = some (t.names.getD k "") := by
    intro k hk; rw [List.getD_eq_getElem?_getD, List.getElem?_eq_getElem hk]; rfl
  -- in an integer or text column nothing is a float, so `colBack` leaves the cells alone
  have hplain : ∀ k : Nat, (∀ r ∈ t.rows, ∃ i, r.cols[k]? = some (Cell.int i)) ∨
      (∀ r ∈ t.rows, ∃ g, r.cols[k]? = some (Cell.str g)) →
      ∀ r ∈ t.rows, colBack t.rows k (r.cols.getD k .na) = r.cols.getD k .na ∧ r.cols.getD k .na ≠ .na := by
    intro k hk r hr
    rcases hk with hk | hk
    · obtain ⟨i, hi⟩ := hk r hr
      rw [getD_of_getElem? hi]; exact ⟨rfl, Cell.noConfusion⟩
    · obtain ⟨g, hg⟩ := hk r hr
      rw [getD_of_getElem? hg]; exact ⟨rfl, Cell.noConfusion⟩
  have hstr : ∀ k : Nat, (∀ r ∈ t.rows, ∃ g, r.cols[k]? = some (Cell.str g) ∧ (PlainLabel g ∨ t.names[k]? = some "gene")) →
      ∀ r ∈ t.rows, ∃ g, r.cols[k]? = some (Cell.str g) :=
    fun k hk r hr => (hk r hr).imp fun _ hg => hg.1
  rw [renderLinesF_writeTab, readTab_linesG t.names t.rows renderCellF (colBack t.rows) hnames hrows]
  · congr 2
    refine List.map_congr_left fun r _ => ?_
    simp only [backRow, add_shifts shift_cancel.1]
  · intro k hk
    rcases hcols k hk with ⟨hng, hint⟩ | hs | ⟨hng, hflt⟩
    · rw [tabColumn_plain _ (fun _ => rfl) (fun _ => rfl) t.names t.rows k hk (Or.inl ⟨hng, hint⟩)]
      exact List.map_congr_left fun r hr => ((hplain k (Or.inl hint) r hr).1).symm
    · rw [tabColumn_plain _ (fun _ => rfl) (fun _ => rfl) t.names t.rows k hk (Or.inr hs)]
      exact List.map_congr_left fun r hr => ((hplain k (Or.inr (hstr k hs)) r hr).1).symm
    · rw [if_neg (by
        intro hc
        simp only [TAB_GENE_AS_TEXT, Bool.true_and, beq_iff_eq] at hc
        exact hng (by rw [hsome k hk, hc]))]
      exact typeColumn_floatcol t.rows k fun r hr => (hflt r hr).imp id fun hq => hq.1
  · intro hct r hr
    have hli : t.names.idxOf "log2" < t.names.length :=
      List.idxOf_lt_length_of_mem (List.contains_iff_mem.mp hct)
    rcases hcols _ hli with ⟨_, hint⟩ | hs | ⟨_, hflt⟩
    · rw [(hplain _ (Or.inl hint) r hr).1]; exact (hplain _ (Or.inl hint) r hr).2
    · rw [(hplain _ (Or.inr (hstr _ hs)) r hr).1]; exact (hplain _ (Or.inr (hstr _ hs)) r hr).2
    · rcases hflt r hr with ⟨q, hq⟩ | ⟨_, hne⟩
      · rw [getD_of_getElem? hq]; exact colBack_flt_ne_na _ _ q
      · exact absurd (by rw [List.getElem?_eq_getElem hli, List.getElem_idxOf]) hne

theorem tabF_roundtrip (t : FTab) (h : WFTabF t) (sel : SampleSel) :
    readFmt "tab" false sel (renderLinesF (writeTab t)) =
      .ok { names := t.names, rows := sortF (t.rows.map (backRow t)) } := by
  have hread := readTab_floats t h
  obtain ⟨hnd, hs, _, _, _⟩ := h
  rw [readFmt_tab, hread]
  exact finish_ga_id { names := t.names, rows := t.rows.map (backRow t) } hnd hs
    (by intro r hr; obtain ⟨r0, _, rfl⟩ := List.mem_map.mp hr; simp [backRow])

theorem colBack_render (rows : List FRow) (k : Nat) (r : FRow) (hr : r ∈ rows) :
    renderCellF (colBack rows k (r.cols.getD k .na)) = renderCellF (r.cols.getD k .na) := by
  cases hc : r.cols.getD k .na with
  | flt q =>
    cases hai : colAllInt rows k with
    | false => rw [colBack_flt_of_float hai]; exact fmt6g_sixg q
    | true =>
      obtain ⟨i, hb, hs, _⟩ := colBack_flt_of_int hai hr hc
      rw [hb]; exact hs.symm
  | int i => rfl
  | str s => rfl
  | na => rfl

theorem lineG_backRow (t : FTab) (r : FRow) (hr : r ∈ t.rows) (hlen : r.cols.length = t.names.length) :
    lineG renderCellF (backRow t r) = lineG renderCellF r := by
  simp only [lineG, backRow, List.map_map, Function.comp_def]
  congr 3
  have : (List.range t.names.length).map (fun k => renderCellF (colBack t.rows k (r.cols.getD k .na))) =
      (List.range t.names.length).map (fun k => (r.cols.map renderCellF).getD k "") := by
    apply List.map_congr_left
    intro k hk
    have hk' : k < r.cols.length := by rw [hlen]; exact List.mem_range.mp hk
    rw [colBack_render t.rows k r hr]
    simp [List.getD_eq_getElem?_getD, List.getElem?_eq_getElem hk']
  rw [this]
  exact range_map_getD _ _ _ (by simp [hlen])

/-- the file written from the table that was read back is the first file with its body lines sorted -/
theorem renderLinesF_second (t : FTab) (hrows : ∀ r ∈ t.rows, r.cols.length = t.names.length) :
    renderLinesF (writeTab ⟨t.names, sortF (t.rows.map (backRow t))⟩) =
      ("chromosome" :: "start" :: "end" :: t.names) :: (sortF t.rows).map (lineG renderCellF) := by
  rw [renderLinesF_writeTab, ← sortF_map_of_coords (backRow t) (fun _ => rfl), List.map_map]
  congr 1
  exact List.map_congr_left fun r hr =>
    have hr' := (sortF_perm _).mem_iff.mp hr
    lineG_backRow t r hr' (hrows r hr')

end CnvVerif.Fmt
