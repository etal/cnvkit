/-
  Lemmas behind Props/C17.lean, table part: the groups of bins `do_segmetrics` / `residuals` obtain
  from `iter_slices` are, segment by segment and in segment order, exactly the bins the property
  names (overlapping resp. contained, same chromosome); the tested table of `do_bintest`, with or
  without segments, as one pipeline over any list of residual rows (`onTarget`, `adjusted`).
-/
import CnvVerif.Model.Stats
import CnvVerif.Model.StatsExt5
import CnvVerif.Lemmas.Ranges
import CnvVerif.Lemmas.PerChrom
namespace CnvVerif.Stats
open CnvVerif

/-- every chromosome's bins are sorted by start with `0 ≤ start < end` (C07's `WFTable`) -/
def BinsWF (bins : List Bin) : Prop :=
  ∀ c, WFTable ((bins.map (·.row)).filter (fun r => r.chrom == c))

/-- each chromosome's rows are adjacent: regrouping the table by chromosome (in order of first
    appearance) gives the table back -/
def ChromBlocks (l : Table) : Prop := (groupByChrom l).flatMap (·.2) = l

/-- a segmentation: each chromosome's segments are adjacent rows (they may overlap or leave gaps), starts `≥ 0` -/
def SegsWF (segs : List Seg) : Prop :=
  ChromBlocks (segs.map (·.row)) ∧ ∀ sg ∈ segs, 0 ≤ sg.row.s

/-- the bins the property attaches to a segment: same chromosome and
    outer: `end > seg.start ∧ start < seg.end`; inner: `start ≥ seg.start ∧ end ≤ seg.end` -/
def selBins (inner : Bool) (bins : List Bin) (sg : Seg) : List Bin :=
  bins.filter (fun b => b.row.chrom == sg.row.chrom &&
    selFilter (some sg.row.s) (some sg.row.e) inner b.row)

theorem selBins_outer (bins : List Bin) (sg : Seg) : selBins false bins sg = overlapping bins sg := by
  unfold selBins overlapping
  apply List.filter_congr
  intro b _
  simp [selFilter, Bool.and_assoc]

instance (l : Table) : Decidable (ChromBlocks l) := by unfold ChromBlocks; infer_instance

/-- enough for `BinsWF`: within a chromosome later rows do not start earlier, and every bin has
    `0 ≤ start < end` (what a sorted `.cnr` table satisfies; chromosomes may even interleave) -/
theorem binsWF_of_pairwise (bins : List Bin)
    (hp : (bins.map (·.row)).Pairwise (fun a b => a.chrom = b.chrom → a.s ≤ b.s))
    (hr : ∀ b ∈ bins, 0 ≤ b.row.s ∧ b.row.s < b.row.e) : BinsWF bins :=
  fun c => ⟨pairwise_rowsOf hp c, fun r hrm => by
    obtain ⟨b, hb, rfl⟩ := List.mem_map.mp (List.mem_filter.mp hrm).1
    exact hr b hb⟩

theorem pick_filter (bins : List Bin) (P : Row → Bool) :
    pick bins ((bins.map (·.row)).filter P) = bins.filter (fun b => P b.row) := by
  unfold pick
  apply List.filter_congr
  intro b hb
  by_cases hp : P b.row = true
  · rw [hp, List.contains_iff_mem, List.mem_filter]
    exact ⟨List.mem_map_of_mem hb, hp⟩
  · have hp' : P b.row = false := by simpa using hp
    rw [hp']
    apply Bool.eq_false_iff.mpr
    intro hcon
    rw [List.contains_iff_mem, List.mem_filter] at hcon
    exact hp hcon.2

/-- `iter_ranges_of(segarr, "log2", mode, True)` yields, in segment order, exactly the bins the
    property attaches to each segment -/
theorem segBins_exact (bins : List Bin) (segs : List Seg) (hb : BinsWF bins) (hs : SegsWF segs)
    (mode : Mode) : segBins bins segs mode = segs.map (selBins (mode == .inner) bins) := by
  -- every query row gets the slice of its own chromosome's rows, in visiting order (C07); contiguous chromosomes are
  -- visited in table order, and on a well-formed chromosome the slice is the filter by the property's predicate
  rw [segBins, iterSlices_keep, queriesInOrder_eq_groups, hs.1, List.map_map, List.map_map]
  exact List.map_congr_left fun sg _ => (congrArg (pick bins) (hitsOf_filter _ _ _ (hb _))).trans (pick_filter bins _)

theorem segBins_length (bins : List Bin) (segs : List Seg) (mode : Mode) :
    (segBins bins segs mode).length = segs.length := by
  unfold segBins
  rw [List.length_map, iterSlices_length, List.length_map]

theorem segRow_seg (cfg : Cfg) (sg : Seg) (bs : List Bin) (boot : List BootRow) :
    (segRow cfg sg bs boot).seg = sg := rfl

/-- the rows `do_bintest` tests (after the on-target filter) -/
def testedRows (bins : List Bin) (segs : List Seg) (targetOnly : Bool) : List (Bin × Rat) :=
  let rows := bintestRows bins segs
  if targetOnly then rows.filter (fun r => !Generated.ANTITARGET_ALIASES.contains r.1.gene) else rows

theorem padjustBH_length (p : List Rat) : (padjustBH p).length = p.length := by
  unfold padjustBH
  rw [List.length_map, List.length_range]

/-! The two modes of `do_bintest` (with segments: Model/Stats.lean; without: Model/StatsExt5.lean) differ only in the
    residual rows they start from.  Both keep the on-target rows when asked (`onTarget`), attach the adjusted tails
    (`adjusted`) and keep `q < alpha`; the model's definitions are these two functions by `rfl`. -/

/-- the `target_only` filter of `do_bintest` -/
def onTarget (t : Bool) (rows : List (Bin × Rat)) : List (Bin × Rat) :=
  if t then rows.filter (fun r => !Generated.ANTITARGET_ALIASES.contains r.1.gene) else rows

/-- `z_prob` then `p_adjust_bh` over the rows: every row with its adjusted p -/
def adjusted (tail : Rat → Rat) (rows : List (Bin × Rat)) : List Hit :=
  (rows.zip (padjustBH (rows.map (fun r => pRaw tail r.2 r.1.weight)))).map
    (fun x => { bin := x.1.1, resid := x.1.2, q := x.2 })

theorem testedRows_eq (bins : List Bin) (segs : List Seg) (t : Bool) :
    testedRows bins segs t = onTarget t (bintestRows bins segs) := rfl
theorem nosegTested_eq (bins : List Bin) (t : Bool) : nosegTested bins t = onTarget t (nosegRows bins) := rfl
theorem bintestAll_eq (tail : Rat → Rat) (bins : List Bin) (segs : List Seg) (t : Bool) :
    bintestAll tail bins segs t = adjusted tail (testedRows bins segs t) := rfl
theorem nosegAll_eq (tail : Rat → Rat) (bins : List Bin) (t : Bool) :
    nosegAll tail bins t = adjusted tail (nosegTested bins t) := rfl

theorem mem_onTarget {t : Bool} {rows : List (Bin × Rat)} {x : Bin × Rat} (h : x ∈ onTarget t rows) :
    x ∈ rows ∧ (t = true → x.1.gene ∉ Generated.ANTITARGET_ALIASES) := by
  cases t
  · exact ⟨h, fun h => nomatch h⟩
  · obtain ⟨hm, hp⟩ := List.mem_filter.mp h
    exact ⟨hm, fun _ hc => by rw [List.contains_iff_mem.mpr hc] at hp; exact Bool.false_ne_true hp⟩

theorem onTarget_of_none {rows : List (Bin × Rat)} (h : ∀ r ∈ rows, r.1.gene ∉ Generated.ANTITARGET_ALIASES)
    (t : Bool) : onTarget t rows = rows := by
  cases t
  · rfl
  · exact List.filter_eq_self.mpr fun r hr => by simpa using h r hr

theorem adjusted_q (tail : Rat → Rat) (rows : List (Bin × Rat)) :
    (adjusted tail rows).map (·.q) = padjustBH (rows.map (fun r => pRaw tail r.2 r.1.weight)) := by
  rw [adjusted, List.map_map]
  exact List.map_snd_zip (Nat.le_of_eq (by rw [padjustBH_length, List.length_map]))

theorem adjusted_rows (tail : Rat → Rat) (rows : List (Bin × Rat)) :
    (adjusted tail rows).map (fun h => (h.bin, h.resid)) = rows := by
  rw [adjusted, List.map_map]
  exact List.map_fst_zip (Nat.le_of_eq (by rw [padjustBH_length, List.length_map]))

theorem mem_adjusted {tail : Rat → Rat} {rows : List (Bin × Rat)} {h : Hit} (hh : h ∈ adjusted tail rows) :
    (h.bin, h.resid) ∈ rows := by
  rw [← adjusted_rows tail rows]
  exact List.mem_map_of_mem hh

theorem getD_map_min_one_le (l : List Rat) (i : Nat) : (l.map (fun x => min 1 x)).getD i 0 ≤ 1 := by
  rw [List.getD_eq_getElem?_getD, List.getElem?_map]
  cases l[i]? with
  | none => decide
  | some z => exact Std.min_le_left

theorem mem_padjustBH_le_one {p : List Rat} {x : Rat} (hx : x ∈ padjustBH p) : x ≤ 1 := by
  unfold padjustBH at hx
  obtain ⟨i, _, rfl⟩ := List.mem_map.mp hx
  exact getD_map_min_one_le _ _

theorem adjusted_q_le_one (tail : Rat → Rat) (rows : List (Bin × Rat)) (h : Hit) (hh : h ∈ adjusted tail rows) :
    h.q ≤ 1 :=
  mem_padjustBH_le_one (adjusted_q tail rows ▸ List.mem_map_of_mem hh)

theorem dedupFirst_subset (l : List (Bin × Rat)) : ∀ y ∈ dedupFirst l, y ∈ l := by
  induction l with
  | nil => intro y hy; exact hy
  | cons x xs ih =>
    intro y hy
    unfold dedupFirst at hy
    rcases List.mem_cons.mp hy with h | h
    · rw [h]; exact List.mem_cons_self ..
    · exact List.mem_cons_of_mem _ (ih y (List.mem_filter.mp h).1)

theorem mem_residuals (bins : List Bin) (segs : List Seg) (hb : BinsWF bins) (hs : SegsWF segs)
    (b : Bin) (r : Rat) (h : (b, r) ∈ residuals bins segs) :
    b ∈ bins ∧ ∃ sg ∈ segs, b.row.chrom = sg.row.chrom ∧ sg.row.s ≤ b.row.s ∧ b.row.e ≤ sg.row.e ∧
      r = b.log2 - sg.log2 := by
  unfold residuals at h
  rw [segBins_exact bins segs hb hs, ← List.map_prod_right_eq_zip, List.mem_flatMap] at h
  obtain ⟨x, hx, hbr⟩ := h
  obtain ⟨sg, hsg, rfl⟩ := List.mem_map.mp hx
  obtain ⟨b', hb', heq⟩ := List.mem_map.mp hbr
  obtain ⟨rfl, rfl⟩ := Prod.mk.inj heq
  obtain ⟨hmem, hp⟩ := List.mem_filter.mp hb'
  have e : (Mode.inner == Mode.inner) = true := rfl
  simp only [e, selFilter, if_true, Option.all_some, Bool.and_eq_true, beq_iff_eq, decide_eq_true_eq] at hp
  exact ⟨hmem, sg, hsg, hp.1, hp.2.1, hp.2.2, rfl⟩

theorem bintestRows_subset (bins : List Bin) (segs : List Seg) :
    ∀ y ∈ bintestRows bins segs, y ∈ residuals bins segs := by
  intro y hy
  unfold bintestRows at hy
  simp only at hy
  have hr1 : ∀ z ∈ (if ((residuals bins segs).map (·.1.row)).eraseDups.length == (residuals bins segs).length
      then residuals bins segs else dedupFirst (residuals bins segs)), z ∈ residuals bins segs := by
    intro z hz
    split at hz
    · exact hz
    · exact dedupFirst_subset _ z hz
  split at hy
  · rw [List.mem_filterMap] at hy
    obtain ⟨b, _, hf⟩ := hy
    exact hr1 y (List.mem_of_find?_eq_some hf)
  · exact hr1 y hy

end CnvVerif.Stats
