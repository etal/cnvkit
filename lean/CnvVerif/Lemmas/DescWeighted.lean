/-
  Lemmas behind Props/C19.lean: the weighted estimators (`weighted_std`, `weighted_median`,
  `weighted_mad`).
-/
import CnvVerif.Lemmas.Descriptives
import CnvVerif.Lemmas.Basic
import CnvVerif.Lemmas.FirstMax
namespace CnvVerif.Desc

/-- a weighted sample is a list of pairs (value, weight): its total weight -/
def totalW (p : List (Rat × Rat)) : Rat := (p.map (·.2)).sum

/-- a constant added to the values / the values rescaled, weights kept -/
def shiftP (c : Rat) (p : List (Rat × Rat)) : List (Rat × Rat) := p.map (fun q => (q.1 + c, q.2))
def scaleP (k : Rat) (p : List (Rat × Rat)) : List (Rat × Rat) := p.map (fun q => (k * q.1, q.2))

/-- absolute deviations from `m`, weights kept -/
def devP (m : Rat) (p : List (Rat × Rat)) : List (Rat × Rat) := p.map (fun q => (absR (q.1 - m), q.2))

/-- `f` applied to the values, weights kept: `shiftP c`, `scaleP k` and `devP m` are `mapV (· + c)`, `mapV (k * ·)` and
    `mapV (fun x => absR (x - m))`, definitionally -/
def mapV (f : Rat → Rat) (p : List (Rat × Rat)) : List (Rat × Rat) := p.map (fun q => (f q.1, q.2))

theorem shiftP_eq_mapV (c : Rat) (p : List (Rat × Rat)) : shiftP c p = mapV (· + c) p := rfl
theorem scaleP_eq_mapV (k : Rat) (p : List (Rat × Rat)) : scaleP k p = mapV (k * ·) p := rfl
theorem devP_eq_mapV (m : Rat) (p : List (Rat × Rat)) : devP m p = mapV (fun x => absR (x - m)) p := rfl

theorem map_snd_mapV (f : Rat → Rat) (p : List (Rat × Rat)) : (mapV f p).map (·.2) = p.map (·.2) :=
  List.map_map

theorem map_fst_mapV (f : Rat → Rat) (p : List (Rat × Rat)) : (mapV f p).map (·.1) = (p.map (·.1)).map f := by
  unfold mapV; rw [List.map_map, List.map_map]; rfl

theorem length_mapV (f : Rat → Rat) (p : List (Rat × Rat)) : (mapV f p).length = p.length := List.length_map _

theorem totalW_mapV (f : Rat → Rat) (p : List (Rat × Rat)) : totalW (mapV f p) = totalW p :=
  congrArg List.sum (map_snd_mapV f p)

theorem weights_mapV {f : Rat → Rat} {p : List (Rat × Rat)} (hw : ∀ q ∈ p, 0 ≤ q.2) : ∀ q ∈ mapV f p, 0 ≤ q.2 :=
  List.forall_mem_map.mpr hw

theorem sum_weights_nonneg (p : List (Rat × Rat)) (hw : ∀ q ∈ p, 0 ≤ q.2) : 0 ≤ (p.map (·.2)).sum :=
  List.sum_nonneg (List.forall_mem_map.mpr hw)

theorem wavg_def (p : List (Rat × Rat)) : wavg p =
    if totalW p = 0 then none else some ((p.map (fun q => q.1 * q.2)).sum / totalW p) := rfl

theorem wsum_mapV {f : Rat → Rat} {k c : Rat} (hf : ∀ x, f x = k * x + c) (p : List (Rat × Rat)) :
    ((mapV f p).map (fun q => q.1 * q.2)).sum = k * (p.map (fun q => q.1 * q.2)).sum + c * totalW p := by
  unfold totalW mapV
  induction p with
  | nil => simp
  | cons a t ih => simp only [List.map_cons, List.sum_cons, ih]; rw [hf]; ring

theorem wavg_mapV (f : Rat → Rat) (k c : Rat) (hf : ∀ x, f x = k * x + c) (p : List (Rat × Rat)) :
    wavg (mapV f p) = (wavg p).map f := by
  rw [wavg_def, wavg_def, totalW_mapV, wsum_mapV hf]
  split
  · rfl
  · rename_i ht
    rw [Option.map_some, hf, add_div, mul_div_assoc, mul_div_cancel_right₀ c ht]

theorem weightedVarCore_def (p : List (Rat × Rat)) : weightedVarCore p =
    match wavg p with
    | none => none
    | some mean => wavg (p.map (fun q => (sq (q.1 - mean), q.2))) := rfl

/-- under `x ↦ k·x + c` the weighted variance is multiplied by `k²` (the standard deviation by `|k|`) -/
theorem weightedVar_mapV (f : Rat → Rat) (k c : Rat) (hf : ∀ x, f x = k * x + c) (p : List (Rat × Rat)) :
    weightedVarCore (mapV f p) = (weightedVarCore p).map (fun v => k * k * v) := by
  rw [weightedVarCore_def, weightedVarCore_def, wavg_mapV f k c hf]
  cases wavg p with
  | none => rfl
  | some m =>
    -- the squared deviations from the mapped mean are `k²` times those from the mean
    have : (mapV f p).map (fun q => (sq (q.1 - f m), q.2)) =
        mapV (fun v => k * k * v) (p.map (fun q => (sq (q.1 - m), q.2))) := by
      unfold mapV
      rw [List.map_map, List.map_map]
      exact List.map_congr_left (fun q _ => by simp only [Function.comp, hf, sq]; congr 1; ring)
    show wavg _ = Option.map _ (wavg _)
    rw [this]
    exact wavg_mapV _ (k * k) 0 (mul_affine _) _

theorem wavg_nonneg (p : List (Rat × Rat)) (hv : ∀ q ∈ p, 0 ≤ q.1) (hw : ∀ q ∈ p, 0 ≤ q.2) (v : Rat)
    (h : wavg p = some v) : 0 ≤ v := by
  rw [wavg_def] at h
  split at h
  · cases h
  · injection h with h
    rw [← h]
    exact div_nonneg
      (List.sum_nonneg (List.forall_mem_map.mpr (fun q hq => mul_nonneg (hv q hq) (hw q hq))))
      (sum_weights_nonneg p hw)

theorem wavg_const (p : List (Rat × Rat)) (c : Rat) (hc : ∀ q ∈ p, q.1 = c) (ht : totalW p ≠ 0) :
    wavg p = some c := by
  have : (p.map (fun q => q.1 * q.2)) = p.map (fun q => c * q.2) :=
    List.map_congr_left (fun q hq => by rw [hc q hq])
  rw [wavg_def, if_neg ht, this, sum_map_mul_left c (·.2) p]
  exact congrArg some (mul_div_cancel_right₀ c ht)

theorem firstIdx_le (P : Nat → Bool) (n : Nat) : firstIdx P n ≤ n := by
  unfold firstIdx
  have := List.findIdx_le_length (p := P) (xs := List.range n)
  simpa using this

theorem firstIdx_spec_lt (P : Nat → Bool) (n i : Nat) (h : i < firstIdx P n) : P i = false := by
  unfold firstIdx at h
  have := List.not_of_lt_findIdx h
  simpa using this

theorem firstIdx_spec_at (P : Nat → Bool) (n : Nat) (h : firstIdx P n < n) : P (firstIdx P n) = true := by
  unfold firstIdx at h ⊢
  have hlt : (List.range n).findIdx P < (List.range n).length := by simpa using h
  have := List.findIdx_getElem (w := hlt)
  simpa using this

theorem firstIdx_le_of (P : Nat → Bool) (n i : Nat) (h : P i = true) : firstIdx P n ≤ i := by
  by_contra hc
  have := firstIdx_spec_lt P n i (Nat.not_le.mp hc)
  rw [h] at this; cases this

theorem firstIdx_of_iff (P : Nat → Prop) [DecidablePred P] (n k : Nat) (hk : k < n) (h : ∀ i < n, P i ↔ k ≤ i) :
    firstIdx (fun i => decide (P i)) n = k := by
  apply le_antisymm (firstIdx_le_of _ n k (decide_eq_true ((h k hk).mpr (le_refl k))))
  by_contra hc
  have hlt := Nat.not_le.mp hc
  have := (h _ (lt_trans hlt hk)).mp (of_decide_eq_true (firstIdx_spec_at _ n (lt_trans hlt hk)))
  exact Nat.not_le.mpr hlt this

theorem firstIdx_mono (P Q : Nat → Bool) (n : Nat) (h : ∀ i, Q i = true → P i = true) : firstIdx P n ≤ firstIdx Q n :=
  List.findIdx_le_findIdx (fun i _ => h i)

/-- the loop invariant of `argmaxGo`: `bi` is the first maximum of the part `pre` already read -/
theorem argmaxGo_firstMax (xs pre : List Rat) (bi : Nat) (h : FirstMax 0 pre bi) :
    FirstMax 0 (pre ++ xs) (argmaxGo xs (nth pre bi) bi pre.length) := by
  induction xs generalizing pre bi with
  | nil => rw [List.append_nil]; exact h
  | cons x t ih =>
    unfold argmaxGo
    rw [List.append_cons]
    by_cases hx : nth pre bi < x
    · rw [if_pos hx]
      have := ih (pre ++ [x]) pre.length (h.snoc_of_gt hx)
      rwa [nth, getD_snoc_length, List.length_append, List.length_singleton] at this
    · rw [if_neg hx]
      have := ih (pre ++ [x]) bi (h.snoc_of_le (Rat.not_lt.mp hx))
      rwa [nth, getD_snoc_lt pre x h.1, List.length_append, List.length_singleton] at this

theorem argmax_spec (l : List Rat) (hl : l ≠ []) : argmax l < l.length ∧ ∀ x ∈ l, x ≤ nth l (argmax l) := by
  match l, hl with
  | x :: xs, _ => exact ⟨(argmaxGo_firstMax xs [x] 0 (.singleton x)).1, (argmaxGo_firstMax xs [x] 0 (.singleton x)).2.1⟩

/-- what `argsort` achieves: the rows in ascending order of their values (ties in any order) -/
abbrev SortedByValue (p : List (Rat × Rat)) : Prop := p.Pairwise (fun x y => x.1 ≤ y.1)

/-- total weight of the values strictly below / strictly above `m` -/
def wBelow (m : Rat) (p : List (Rat × Rat)) : Rat := ((p.filter (fun q => decide (q.1 < m))).map (·.2)).sum
def wAbove (m : Rat) (p : List (Rat × Rat)) : Rat := ((p.filter (fun q => decide (m < q.1))).map (·.2)).sum

theorem sum_filter_le (p : List (Rat × Rat)) (hw : ∀ q ∈ p, 0 ≤ q.2) (f : Rat × Rat → Bool) :
    ((p.filter f).map (·.2)).sum ≤ (p.map (·.2)).sum :=
  (List.filter_sublist.map _).sum_le_sum (List.forall_mem_map.mpr hw)

theorem wBelow_perm {p₁ p₂ : List (Rat × Rat)} (h : p₁.Perm p₂) (m : Rat) : wBelow m p₁ = wBelow m p₂ :=
  ((h.filter _).map _).sum_eq

theorem wAbove_perm {p₁ p₂ : List (Rat × Rat)} (h : p₁.Perm p₂) (m : Rat) : wAbove m p₁ = wAbove m p₂ :=
  ((h.filter _).map _).sum_eq

theorem totalW_perm {p₁ p₂ : List (Rat × Rat)} (h : p₁.Perm p₂) : totalW p₁ = totalW p₂ := (h.map _).sum_eq

theorem sorted_drop_ge (p : List (Rat × Rat)) (hs : SortedByValue p) (k : Nat) (hk : k < p.length) :
    ∀ q ∈ p.drop k, nth (p.map (·.1)) k ≤ q.1 := by
  intro q hq
  obtain ⟨i, hi, rfl⟩ := List.getElem_of_mem hq
  rw [nth_eq_getElem _ _ (by simpa using hk)]
  simp only [List.getElem_map, List.getElem_drop]
  rw [List.length_drop] at hi
  rcases Nat.eq_zero_or_pos i with rfl | hpos
  · simp
  · exact List.pairwise_iff_getElem.mp hs k (k + i) hk (by omega) (by omega)

theorem sorted_take_le (p : List (Rat × Rat)) (hs : SortedByValue p) (k : Nat) (hk : k < p.length) :
    ∀ q ∈ p.take (k + 1), q.1 ≤ nth (p.map (·.1)) k := by
  intro q hq
  obtain ⟨i, hi, rfl⟩ := List.getElem_of_mem hq
  rw [nth_eq_getElem _ _ (by simpa using hk)]
  simp only [List.getElem_map, List.getElem_take]
  rw [List.length_take] at hi
  rcases Nat.lt_or_eq_of_le (show i ≤ k by omega) with hlt | rfl
  · exact List.pairwise_iff_getElem.mp hs i k (by omega) hk hlt
  · exact le_refl _

theorem cumAt_eq (p : List (Rat × Rat)) (i : Nat) : cumAt (p.map (·.2)) i = ((p.take (i + 1)).map (·.2)).sum := by
  unfold cumAt; rw [List.map_take]

theorem sum_take_add_drop (p : List (Rat × Rat)) (k : Nat) :
    ((p.take k).map (·.2)).sum + ((p.drop k).map (·.2)).sum = totalW p := by
  unfold totalW
  conv_rhs => rw [← List.take_append_drop k p]
  rw [List.map_append, List.sum_append]

theorem cumAt_last (p : List (Rat × Rat)) (i : Nat) (h : p.length ≤ i + 1) : cumAt (p.map (·.2)) i = totalW p := by
  rw [cumAt_eq, List.take_of_length_le h]; rfl

theorem cumAt_eq_take_add (p : List (Rat × Rat)) (k : Nat) (hk : k < p.length) :
    cumAt (p.map (·.2)) k = ((p.take k).map (·.2)).sum + nth (p.map (·.2)) k := by
  rw [cumAt_eq, List.take_succ_eq_append_getElem hk, List.map_append, List.sum_append,
    nth_eq_getElem _ _ (by simpa using hk)]
  simp

/-- in a value-sorted table the values below `m ≤ vₖ` sit in the first `k` rows -/
theorem wBelow_le_take (p : List (Rat × Rat)) (hs : SortedByValue p) (hw : ∀ q ∈ p, 0 ≤ q.2) (k : Nat) (hk : k < p.length)
    (m : Rat) (hm : m ≤ nth (p.map (·.1)) k) : wBelow m p ≤ ((p.take k).map (·.2)).sum := by
  unfold wBelow
  conv_lhs => rw [← List.take_append_drop k p]
  rw [List.filter_append, (List.filter_eq_nil_iff (l := p.drop k)).mpr (fun q hq => by
    simpa using le_trans hm (sorted_drop_ge p hs k hk q hq)), List.append_nil]
  exact sum_filter_le _ (fun q hq => hw q (List.mem_of_mem_take hq)) _

/-- … and the values above `m ≥ vₖ` sit after row `k` -/
theorem wAbove_le_drop (p : List (Rat × Rat)) (hs : SortedByValue p) (hw : ∀ q ∈ p, 0 ≤ q.2) (k : Nat) (hk : k < p.length)
    (m : Rat) (hm : nth (p.map (·.1)) k ≤ m) : wAbove m p ≤ totalW p - cumAt (p.map (·.2)) k := by
  unfold wAbove
  rw [cumAt_eq, ← sum_take_add_drop p (k + 1), add_sub_cancel_left]
  conv_lhs => rw [← List.take_append_drop (k + 1) p]
  rw [List.filter_append, (List.filter_eq_nil_iff (l := p.take (k + 1))).mpr (fun q hq => by
    simpa using le_trans (sorted_take_le p hs k hk q hq) hm), List.nil_append]
  exact sum_filter_le _ (fun q hq => hw q (List.mem_of_mem_drop hq)) _

/-- `lower_idx` of `weighted_median`: `searchsorted(midpoint - tol)` on the cumulative weights -/
def loIdx (tol : Rat) (p : List (Rat × Rat)) : Nat :=
  firstIdx (fun i => decide (totalW p / 2 - tol ≤ cumAt (p.map (·.2)) i)) p.length
/-- `upper_idx`: `searchsorted(midpoint + tol, side="right")`, clipped to the last row -/
def hiIdx (tol : Rat) (p : List (Rat × Rat)) : Nat :=
  min (firstIdx (fun i => decide (totalW p / 2 + tol < cumAt (p.map (·.2)) i)) p.length) (p.length - 1)

/-- the majority shortcut of `weighted_median`: some single weight exceeds the midpoint -/
def dominated (p : List (Rat × Rat)) : Bool := (p.map (·.2)).any (fun x => decide (totalW p / 2 < x))

theorem wmedSorted_def (tol : Rat) (p : List (Rat × Rat)) : wmedSorted tol p =
    if dominated p = true then nth (p.map (·.1)) (argmax (p.map (·.2)))
    else (nth (p.map (·.1)) (loIdx tol p) + nth (p.map (·.1)) (hiIdx tol p)) / 2 := by
  unfold wmedSorted dominated loIdx hiIdx totalW
  simp only [List.length_map]

theorem argmax_weights_lt {p : List (Rat × Rat)} (hne : p ≠ []) : argmax (p.map (·.2)) < p.length := by
  simpa using (argmax_spec (p.map (·.2)) (mt List.map_eq_nil_iff.mp hne)).1

theorem dominated_spec {p : List (Rat × Rat)} (hd : dominated p = true) :
    totalW p / 2 < nth (p.map (·.2)) (argmax (p.map (·.2))) := by
  obtain ⟨x, hx, hlt⟩ := List.any_eq_true.mp hd
  exact lt_of_lt_of_le (of_decide_eq_true hlt) ((argmax_spec _ (List.ne_nil_of_mem hx)).2 x hx)

theorem dominated_row {p : List (Rat × Rat)} (hne : p ≠ []) (hd : dominated p = true) :
    ∃ q ∈ p, q.1 = nth (p.map (·.1)) (argmax (p.map (·.2))) ∧ totalW p / 2 < q.2 := by
  have hj := argmax_weights_lt hne
  refine ⟨p[argmax (p.map (·.2))], List.getElem_mem hj, ?_, ?_⟩
  · rw [nth_eq_getElem _ _ (by simpa using hj), List.getElem_map]
  · have := dominated_spec hd
    rwa [nth_eq_getElem _ _ (by simpa using hj), List.getElem_map] at this

theorem firstIdx_cum_lt (U : Rat → Prop) [DecidablePred U] {p : List (Rat × Rat)} (hne : p ≠ []) (h : U (totalW p)) :
    firstIdx (fun i => decide (U (cumAt (p.map (·.2)) i))) p.length < p.length := by
  have hn := List.length_pos_of_ne_nil hne
  refine lt_of_le_of_lt (firstIdx_le_of _ _ (p.length - 1) ?_) (Nat.sub_lt hn Nat.one_pos)
  rw [cumAt_last p _ (by omega)]
  exact decide_eq_true h

theorem loIdx_lt (tol : Rat) (p : List (Rat × Rat)) (hne : p ≠ []) (hW : 0 ≤ totalW p) (htol : 0 ≤ tol) :
    loIdx tol p < p.length :=
  firstIdx_cum_lt (fun x => totalW p / 2 - tol ≤ x) hne (by linarith)

theorem loIdx_spec (tol : Rat) (p : List (Rat × Rat)) (hne : p ≠ []) (hW : 0 ≤ totalW p) (htol : 0 ≤ tol) :
    totalW p / 2 - tol ≤ cumAt (p.map (·.2)) (loIdx tol p) :=
  of_decide_eq_true (firstIdx_spec_at _ p.length (loIdx_lt tol p hne hW htol))

theorem hiIdx_lt (tol : Rat) (p : List (Rat × Rat)) (hne : p ≠ []) : hiIdx tol p < p.length :=
  lt_of_le_of_lt (min_le_right _ _) (Nat.sub_lt (List.length_pos_of_ne_nil hne) Nat.one_pos)

theorem loIdx_le_hiIdx (tol : Rat) (p : List (Rat × Rat)) (hne : p ≠ []) (hW : 0 ≤ totalW p) (htol : 0 ≤ tol) :
    loIdx tol p ≤ hiIdx tol p := by
  refine le_min (firstIdx_mono _ _ _ (fun i hi => ?_)) (Nat.le_sub_one_of_lt (loIdx_lt tol p hne hW htol))
  rw [decide_eq_true_eq] at hi ⊢
  linarith

theorem take_hiIdx_le (tol : Rat) (p : List (Rat × Rat)) (hw : ∀ q ∈ p, 0 ≤ q.2) (htol : 0 ≤ tol) :
    ((p.take (hiIdx tol p)).map (·.2)).sum ≤ totalW p / 2 + tol := by
  rcases Nat.eq_zero_or_pos (hiIdx tol p) with h0 | hpos
  · rw [h0, List.take_zero]
    exact add_nonneg (div_nonneg (sum_weights_nonneg p hw) zero_le_two) htol
  · have := firstIdx_spec_lt _ p.length (hiIdx tol p - 1)
      (lt_of_lt_of_le (Nat.sub_lt hpos Nat.one_pos) (min_le_left _ _))
    rw [decide_eq_false_iff_not, not_lt, cumAt_eq, Nat.sub_add_cancel hpos] at this
    exact this

theorem nth_fst_mem (p : List (Rat × Rat)) (i : Nat) (hi : i < p.length) : nth (p.map (·.1)) i ∈ p.map (·.1) :=
  nth_mem _ _ (by simpa using hi)

theorem wmedSorted_inHull (tol : Rat) (p : List (Rat × Rat)) (hne : p ≠ []) (hW : 0 ≤ totalW p) (htol : 0 ≤ tol) :
    InHull (p.map (·.1)) (wmedSorted tol p) := by
  rw [wmedSorted_def]
  split
  · exact ⟨_, nth_fst_mem p _ (argmax_weights_lt hne), _, nth_fst_mem p _ (argmax_weights_lt hne), le_refl _, le_refl _⟩
  · exact inHull_mid (nth_fst_mem p _ (loIdx_lt tol p hne hW htol)) (nth_fst_mem p _ (hiIdx_lt tol p hne))

/-- **half weights**, for any rounding allowance `tol ≥ 0` -/
theorem wmedSorted_half_weights (tol : Rat) (p : List (Rat × Rat)) (hs : SortedByValue p)
    (hw : ∀ q ∈ p, 0 ≤ q.2) (hpos : 0 < totalW p) (htol : 0 ≤ tol) :
    wBelow (wmedSorted tol p) p ≤ totalW p / 2 + tol ∧ wAbove (wmedSorted tol p) p ≤ totalW p / 2 + tol := by
  have hne : p ≠ [] := by intro h; subst h; exact lt_irrefl _ hpos
  have hW : 0 ≤ totalW p := le_of_lt hpos
  rw [wmedSorted_def]
  split
  · -- one row `j` holds more than half of the weight; it is counted on neither side
    rename_i hd
    have hj := argmax_weights_lt hne
    have hbig := dominated_spec hd
    have hcum := cumAt_eq_take_add p _ hj
    have h1 := wBelow_le_take p hs hw _ hj _ (le_refl _)
    have h2 := wAbove_le_drop p hs hw _ hj _ (le_refl _)
    have h3 : 0 ≤ totalW p - cumAt (p.map (·.2)) (argmax (p.map (·.2))) :=
      le_trans (sum_weights_nonneg _ (fun q hq => hw q (List.mem_of_mem_filter hq))) h2
    have h4 : 0 ≤ ((p.take (argmax (p.map (·.2)))).map (·.2)).sum :=
      sum_weights_nonneg _ (fun q hq => hw q (List.mem_of_mem_take hq))
    constructor <;> linarith
  · -- the median lies between the values at `loIdx` and `hiIdx`: cut below at `hiIdx`, above at `loIdx`
    obtain ⟨hlo, hhi⟩ := mid_between (sorted_nth_le (List.pairwise_map.mpr hs) (loIdx_le_hiIdx tol p hne hW htol)
      (by simpa using hiIdx_lt tol p hne))
    have h1 := wBelow_le_take p hs hw _ (hiIdx_lt tol p hne) _ hhi
    have h2 := wAbove_le_drop p hs hw _ (loIdx_lt tol p hne hW htol) _ hlo
    have h3 := loIdx_spec tol p hne hW htol
    exact ⟨le_trans h1 (take_hiIdx_le tol p hw htol), by linarith⟩

/-- `nth` returns the default `0` beyond the end of the list, so `nth` commutes with `map f` either inside the list or when
    `f` fixes `0`; the same alternative is carried by the `_mapV` lemmas below -/
theorem nth_map_of_lt_or_zero (f : Rat → Rat) (l : List Rat) (i : Nat) (h : i < l.length ∨ f 0 = 0) :
    nth (l.map f) i = f (nth l i) := by
  by_cases hi : i < l.length
  · exact nth_map f l i hi
  · have h0 := h.resolve_left hi
    unfold nth; simp [List.getD, hi, h0]

theorem wmedTol_mapV (f : Rat → Rat) (p : List (Rat × Rat)) : wmedTol (mapV f p) = wmedTol p := by
  unfold wmedTol; rw [map_snd_mapV, length_mapV]

theorem wmedTol_nonneg (p : List (Rat × Rat)) (hw : ∀ q ∈ p, 0 ≤ q.2) : 0 ≤ wmedTol p := by
  unfold wmedTol FLOAT_EPS
  have := sum_weights_nonneg p hw
  positivity

/-- the weighted median of sorted rows is equivariant under `x ↦ k·x + c` (the rows examined depend on the weights
    only); off the non-degenerate case the values looked up are the default `0`, which `f` must then fix -/
theorem wmedSorted_mapV (f : Rat → Rat) (k c : Rat) (hf : ∀ x, f x = k * x + c) (tol : Rat) (p : List (Rat × Rat))
    (h : (p ≠ [] ∧ 0 ≤ totalW p ∧ 0 ≤ tol) ∨ f 0 = 0) : wmedSorted tol (mapV f p) = f (wmedSorted tol p) := by
  have hd : dominated (mapV f p) = dominated p := by unfold dominated; rw [map_snd_mapV, totalW_mapV]
  have hlo : loIdx tol (mapV f p) = loIdx tol p := by unfold loIdx; rw [map_snd_mapV, totalW_mapV, length_mapV]
  have hhi : hiIdx tol (mapV f p) = hiIdx tol p := by unfold hiIdx; rw [map_snd_mapV, totalW_mapV, length_mapV]
  have hlen : ∀ i, i < p.length → i < (p.map (·.1)).length := fun i hi => by simpa using hi
  rw [wmedSorted_def, wmedSorted_def, hd, hlo, hhi, map_fst_mapV, map_snd_mapV]
  split
  · exact nth_map_of_lt_or_zero f _ _ (h.imp_left (fun h => hlen _ (argmax_weights_lt h.1)))
  · rw [nth_map_of_lt_or_zero f _ _ (h.imp_left (fun h => hlen _ (loIdx_lt tol p h.1 h.2.1 h.2.2))),
      nth_map_of_lt_or_zero f _ _ (h.imp_left (fun h => hlen _ (hiIdx_lt tol p h.1))), hf, hf, hf]
    ring

theorem half_units_le_iff {c tol : Rat} (h0 : 0 ≤ tol) (h1 : tol < c / 2) (u v : Nat) :
    (u : Rat) * (c / 2) ≤ (v : Rat) * (c / 2) + tol ↔ u ≤ v := by
  have hc : 0 ≤ c / 2 := le_trans h0 h1.le
  constructor
  · intro h
    by_contra hcon
    have huv : (v : Rat) + 1 ≤ (u : Rat) := by exact_mod_cast Nat.not_le.mp hcon
    have := mul_le_mul_of_nonneg_right huv hc
    rw [add_mul, one_mul] at this
    exact not_le.mpr h1 (le_of_add_le_add_left (le_trans this h))
  · intro h
    exact le_add_of_le_of_nonneg (mul_le_mul_of_nonneg_right (Nat.cast_le.mpr h) hc) h0

theorem lt_two_mul_succ_iff {n i : Nat} : n < 2 * (i + 1) ↔ n / 2 ≤ i := by
  rw [← Nat.lt_succ_iff, Nat.div_lt_iff_lt_mul (by decide), mul_comm]

theorem le_two_mul_succ_iff {n i : Nat} (hn : 0 < n) : n ≤ 2 * (i + 1) ↔ (n - 1) / 2 ≤ i := by
  obtain ⟨m, rfl⟩ : ∃ m, n = m + 1 := ⟨n - 1, (Nat.succ_pred_eq_of_pos hn).symm⟩
  rw [Nat.add_sub_cancel, Nat.succ_le_iff, ← lt_two_mul_succ_iff]

theorem weights_eq_replicate {p : List (Rat × Rat)} {c : Rat} (hw : ∀ q ∈ p, q.2 = c) :
    p.map (·.2) = List.replicate p.length c :=
  List.eq_replicate_iff.mpr ⟨List.length_map _, List.forall_mem_map.mpr hw⟩

/-- with equal positive weights and an allowance below half a weight, the weighted median of sorted values is
    their ordinary median: in units of half a weight the total is `n` and the cumulative weights are `2(i+1)`, so the
    two rows found are `⌊(n−1)/2⌋` and `⌊n/2⌋` -/
theorem wmedSorted_equal_weights (tol c : Rat) (p : List (Rat × Rat)) (hs : SortedByValue p) (hn : 2 ≤ p.length)
    (hw : ∀ q ∈ p, q.2 = c) (htol0 : 0 ≤ tol) (htol : tol < c / 2) :
    wmedSorted tol p = median (p.map (·.1)) := by
  have hn0 : 0 < p.length := lt_of_lt_of_le two_pos hn
  have hwrep := weights_eq_replicate hw
  have hW : totalW p / 2 = (p.length : Rat) * (c / 2) := by
    unfold totalW; rw [hwrep, sum_replicate, mul_div_assoc]
  have hcum : ∀ i, i < p.length → cumAt (p.map (·.2)) i = ((2 * (i + 1) : Nat) : Rat) * (c / 2) := by
    intro i hi
    unfold cumAt
    rw [hwrep, List.take_replicate, sum_replicate, min_eq_left hi]; push_cast; ring
  have hcmp := half_units_le_iff htol0 htol
  have hlo : loIdx tol p = (p.length - 1) / 2 :=
    firstIdx_of_iff _ _ _ (half_pred_lt hn0) (fun i hi => by
      rw [hW, hcum i hi, sub_le_iff_le_add, hcmp, le_two_mul_succ_iff hn0])
  have hhi : hiIdx tol p = p.length / 2 := by
    unfold hiIdx
    rw [firstIdx_of_iff _ _ _ (half_lt hn0) (fun i hi => by
      rw [hW, hcum i hi, ← not_le, hcmp, not_le, lt_two_mul_succ_iff])]
    exact min_eq_left (Nat.le_sub_one_of_lt (half_lt hn0))
  have hnd : dominated p = false := by
    rw [Bool.eq_false_iff]
    intro h
    obtain ⟨q, hq, -, this⟩ := dominated_row (List.ne_nil_of_length_pos hn0) h
    rw [hw q hq, hW] at this
    have h2 : (2 : Rat) * (c / 2) ≤ (p.length : Rat) * (c / 2) :=
      mul_le_mul_of_nonneg_right (by exact_mod_cast hn) (le_trans htol0 htol.le)
    rw [mul_div_cancel₀ c two_ne_zero] at h2
    exact not_lt.mpr h2 this
  rw [wmedSorted_def, hnd, hlo, hhi, median_eq_mid, sortR_of_sorted (List.pairwise_map.mpr hs), List.length_map]
  rfl

/-- the allowance the code computes stays below half a weight for fewer than 2²⁶ equally weighted values:
    it is `c/2 · n²·2⁻⁵²` -/
theorem wmedTol_small (c : Rat) (p : List (Rat × Rat)) (hc : 0 < c) (hw : ∀ q ∈ p, q.2 = c) (hn : p.length < 2 ^ 26) :
    wmedTol p < c / 2 := by
  have h : p.length * p.length < 4503599627370496 := Nat.mul_lt_mul'' hn hn
  have hlt : (p.length : Rat) * (p.length : Rat) * FLOAT_EPS < 1 := by
    unfold FLOAT_EPS
    rw [mul_one_div, div_lt_one (by norm_num)]
    exact_mod_cast h
  have : wmedTol p = c / 2 * ((p.length : Rat) * (p.length : Rat) * FLOAT_EPS) := by
    unfold wmedTol; rw [weights_eq_replicate hw, sum_replicate]; ring
  rw [this]
  exact mul_lt_of_lt_one_right (half_pos hc) hlt

theorem permute_perm (order : List Nat) (p : List (Rat × Rat)) (h : order.Perm (List.range p.length)) :
    (permute order p).Perm p := by
  unfold permute
  have h1 := h.map (fun i => p.getD i default)
  rwa [map_getD_range] at h1

theorem permute_mapV (f : Rat → Rat) (order : List Nat) (p : List (Rat × Rat))
    (h : (∀ i ∈ order, i < p.length) ∨ f 0 = 0) : permute order (mapV f p) = mapV f (permute order p) := by
  unfold permute mapV
  rw [List.map_map]
  apply List.map_congr_left
  intro i hi
  by_cases hlt : i < p.length
  · simp [List.getD, hlt]
  · have h0 := (h.resolve_left (fun hall => hlt (hall i hi)))
    simp [List.getD, hlt]
    exact (congrArg (fun v => (v, (0 : Rat))) h0).symm

theorem mem_permute (order : List Nat) (p : List (Rat × Rat)) (h : ∀ i ∈ order, i < p.length) :
    ∀ q ∈ permute order p, q ∈ p := by
  intro q hq
  unfold permute at hq
  obtain ⟨i, hi, rfl⟩ := List.mem_map.mp hq
  have := h i hi
  simp [List.getD, this]

theorem wmedTol_perm {p₁ p₂ : List (Rat × Rat)} (h : p₁.Perm p₂) : wmedTol p₁ = wmedTol p₂ := by
  unfold wmedTol
  rw [(h.map _).sum_eq, h.length_eq]

theorem weightedMedianCore_def (order : List Nat) (p : List (Rat × Rat)) :
    weightedMedianCore false order p = wmedSorted (wmedTol (permute order p)) (permute order p) := rfl

/-- what the lemmas on sorted rows need of the permuted rows: some row, non-negative weights -/
theorem permute_nondegenerate {order : List Nat} {p : List (Rat × Rat)} (hne : order ≠ [])
    (hidx : ∀ i ∈ order, i < p.length) (hw : ∀ q ∈ p, 0 ≤ q.2) :
    permute order p ≠ [] ∧ 0 ≤ totalW (permute order p) ∧ 0 ≤ wmedTol (permute order p) :=
  have hw' : ∀ q ∈ permute order p, 0 ≤ q.2 := fun q hq => hw q (mem_permute order p hidx q hq)
  ⟨mt List.map_eq_nil_iff.mp hne, sum_weights_nonneg _ hw', wmedTol_nonneg _ hw'⟩

theorem weightedMedianCore_inHull (order : List Nat) (p : List (Rat × Rat)) (hne : order ≠ [])
    (hidx : ∀ i ∈ order, i < p.length) (hw : ∀ q ∈ p, 0 ≤ q.2) :
    InHull (p.map (·.1)) (weightedMedianCore false order p) := by
  obtain ⟨h1, h2, h3⟩ := permute_nondegenerate hne hidx hw
  exact (wmedSorted_inHull _ _ h1 h2 h3).mono
    (List.forall_mem_map.mpr (fun q hq => List.mem_map_of_mem (mem_permute order p hidx q hq)))

theorem weightedMedianCore_mapV (f : Rat → Rat) (k c : Rat) (hf : ∀ x, f x = k * x + c) (order : List Nat)
    (p : List (Rat × Rat)) (h : (order ≠ [] ∧ (∀ i ∈ order, i < p.length) ∧ ∀ q ∈ p, 0 ≤ q.2) ∨ f 0 = 0) :
    weightedMedianCore false order (mapV f p) = f (weightedMedianCore false order p) := by
  rw [weightedMedianCore_def, weightedMedianCore_def, permute_mapV f order p (h.imp_left (·.2.1)), wmedTol_mapV]
  exact wmedSorted_mapV f k c hf _ _ (h.imp_left (fun h => permute_nondegenerate h.1 h.2.1 h.2.2))

theorem weightedMedianCore_shift (order : List Nat) (c : Rat) (p : List (Rat × Rat)) (hne : order ≠ [])
    (hidx : ∀ i ∈ order, i < p.length) (hw : ∀ q ∈ p, 0 ≤ q.2) :
    weightedMedianCore false order (shiftP c p) = weightedMedianCore false order p + c :=
  shiftP_eq_mapV c p ▸ weightedMedianCore_mapV (· + c) 1 c (add_affine c) order p (Or.inl ⟨hne, hidx, hw⟩)

theorem MAD_SCALE_WEIGHTED_pos : 0 < Generated.MAD_SCALE_WEIGHTED := by unfold Generated.MAD_SCALE_WEIGHTED; norm_num

theorem weightedMadCore_def (o1 o2 : List Nat) (p : List (Rat × Rat)) (b : Bool) :
    weightedMadCore false o1 o2 p b =
      if b = true then weightedMedianCore false o2 (devP (weightedMedianCore false o1 p) p) * Generated.MAD_SCALE_WEIGHTED
      else weightedMedianCore false o2 (devP (weightedMedianCore false o1 p) p) := rfl

theorem length_devP (m : Rat) (p : List (Rat × Rat)) : (devP m p).length = p.length :=
  devP_eq_mapV m p ▸ length_mapV _ p

theorem weights_devP {m : Rat} {p : List (Rat × Rat)} (hw : ∀ q ∈ p, 0 ≤ q.2) : ∀ q ∈ devP m p, 0 ≤ q.2 :=
  devP_eq_mapV m p ▸ weights_mapV hw

theorem forall_devP_vals {m : Rat} {p : List (Rat × Rat)} {P : Rat → Prop} (h : ∀ q ∈ p, P (absR (q.1 - m))) :
    ∀ v ∈ (devP m p).map (·.1), P v :=
  List.forall_mem_map.mpr (List.forall_mem_map.mpr h)

theorem weightedMadCore_nonneg (o1 o2 : List Nat) (p : List (Rat × Rat)) (b : Bool) (hne : o2 ≠ [])
    (hidx : ∀ i ∈ o2, i < p.length) (hw : ∀ q ∈ p, 0 ≤ q.2) : 0 ≤ weightedMadCore false o1 o2 p b := by
  have h : 0 ≤ weightedMedianCore false o2 (devP (weightedMedianCore false o1 p) p) :=
    (weightedMedianCore_inHull o2 _ hne (by rw [length_devP]; exact hidx) (weights_devP hw)).ge
      (forall_devP_vals fun _ _ => absR_nonneg _)
  rw [weightedMadCore_def]
  split
  · exact mul_nonneg h (le_of_lt MAD_SCALE_WEIGHTED_pos)
  · exact h

theorem weightedMadCore_const (o1 o2 : List Nat) (p : List (Rat × Rat)) (b : Bool) (hne1 : o1 ≠ []) (hne2 : o2 ≠ [])
    (hidx1 : ∀ i ∈ o1, i < p.length) (hidx2 : ∀ i ∈ o2, i < p.length) (hw : ∀ q ∈ p, 0 ≤ q.2)
    (c : Rat) (hc : ∀ q ∈ p, q.1 = c) : weightedMadCore false o1 o2 p b = 0 := by
  have hm : weightedMedianCore false o1 p = c :=
    (weightedMedianCore_inHull o1 p hne1 hidx1 hw).eq_const (List.forall_mem_map.mpr hc)
  have h0 : weightedMedianCore false o2 (devP c p) = 0 :=
    (weightedMedianCore_inHull o2 _ hne2 (by rw [length_devP]; exact hidx2) (weights_devP hw)).eq_const
      (forall_devP_vals fun r hr => by rw [hc r hr, absR_sub_self])
  rw [weightedMadCore_def, hm, h0, zero_mul, ite_self]

theorem devP_mapV {f : Rat → Rat} {k c : Rat} (hf : ∀ x, f x = k * x + c) (hk : 0 ≤ k) (m : Rat) (p : List (Rat × Rat)) :
    devP (f m) (mapV f p) = mapV (k * ·) (devP m p) := by
  unfold devP mapV
  rw [List.map_map, List.map_map]
  exact List.map_congr_left (fun q _ => by
    show (absR (f q.1 - f m), q.2) = (k * absR (q.1 - m), q.2)
    rw [hf, hf, add_sub_add_right_eq_sub, ← mul_sub, absR_mul _ _ hk])

theorem weightedMadCore_mapV (f : Rat → Rat) (k c : Rat) (hf : ∀ x, f x = k * x + c) (hk : 0 ≤ k) (o1 o2 : List Nat)
    (p : List (Rat × Rat)) (b : Bool) (h : (o1 ≠ [] ∧ (∀ i ∈ o1, i < p.length) ∧ ∀ q ∈ p, 0 ≤ q.2) ∨ f 0 = 0) :
    weightedMadCore false o1 o2 (mapV f p) b = k * weightedMadCore false o1 o2 p b := by
  rw [weightedMadCore_def, weightedMadCore_def, weightedMedianCore_mapV f k c hf o1 p h, devP_mapV hf hk,
    weightedMedianCore_mapV _ k 0 (mul_affine k) o2 _ (Or.inr (mul_zero k))]
  exact mul_ite_scale b k _ _

/-- adding a constant leaves the weighted MAD unchanged -/
theorem weightedMadCore_shift (o1 o2 : List Nat) (p : List (Rat × Rat)) (b : Bool) (c : Rat) (hne1 : o1 ≠ [])
    (hidx1 : ∀ i ∈ o1, i < p.length) (hw : ∀ q ∈ p, 0 ≤ q.2) :
    weightedMadCore false o1 o2 (shiftP c p) b = weightedMadCore false o1 o2 p b :=
  shiftP_eq_mapV c p ▸
    (weightedMadCore_mapV (· + c) 1 c (add_affine c) zero_le_one o1 o2 p b (Or.inl ⟨hne1, hidx1, hw⟩)).trans (one_mul _)

/-- rescaling by `k ≥ 0` rescales the weighted MAD by `k` -/
theorem weightedMadCore_scale (o1 o2 : List Nat) (p : List (Rat × Rat)) (b : Bool) (k : Rat) (hk : 0 ≤ k) :
    weightedMadCore false o1 o2 (scaleP k p) b = k * weightedMadCore false o1 o2 p b :=
  scaleP_eq_mapV k p ▸ weightedMadCore_mapV (k * ·) k 0 (mul_affine k) hk o1 o2 p b (Or.inr (mul_zero k))

end CnvVerif.Desc
