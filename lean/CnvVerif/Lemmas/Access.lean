/-
  `access` on one sequence end to end: the scan, as rows, minus every exclude file, joined over small gaps, reports
  exactly the accessible bases and the bridged gaps (`accessChrom_spec`), for any line splitting, any exclude files and
  any minimum gap.
-/
import CnvVerif.Lemmas.AccessScan
import CnvVerif.Lemmas.AccessJoin
import CnvVerif.Lemmas.IntervalSubtract
namespace CnvVerif

theorem subtractChrom_eq (t b : List Row) : subtractChrom t b = subtractCanon t (mergeChrom 0 b) := rfl

theorem subtractChrom_spec (t b : List Row) (hc : Canon t) (hs : StartSorted b)
    (hp : ∀ r ∈ b, r.s < r.e) :
    Canon (subtractChrom t b) ∧ ∀ p, cov (subtractChrom t b) p ↔ cov t p ∧ ¬ cov b p :=
  have hm := mergeChrom_canon b hs hp
  ⟨subtractCanon_canon t _ hc hm, fun p => by
    rw [subtractChrom_eq, subtractCanon_cov t _ hm p, mergeChrom_cov 0 (Int.le_refl 0) b hs p]⟩

theorem foldl_subtractChrom_spec (excl : List (List Row)) (t : List Row) (hc : Canon t)
    (hex : ∀ b ∈ excl, StartSorted b ∧ ∀ r ∈ b, r.s < r.e) :
    Canon (excl.foldl subtractChrom t) ∧
      ∀ p, cov (excl.foldl subtractChrom t) p ↔ cov t p ∧ ∀ b ∈ excl, ¬ cov b p := by
  induction excl generalizing t with
  | nil => exact ⟨hc, fun p => ⟨fun h => ⟨h, nofun⟩, fun h => h.1⟩⟩
  | cons b bs ih =>
    obtain ⟨hb, hbs⟩ := List.forall_mem_cons.mp hex
    obtain ⟨c1, v1⟩ := subtractChrom_spec t b hc hb.1 hb.2
    obtain ⟨c2, v2⟩ := ih _ c1 hbs
    exact ⟨c2, fun p => by rw [List.foldl_cons, v2 p, v1 p, List.forall_mem_cons, and_assoc]⟩

/-- position `p` of the sequence holds a character other than 'N' -/
def NonNAt (w : List Char) (p : Int) : Prop := 0 ≤ p ∧ nonN w p.toNat = true

/-- neither 'N' nor inside a region of any exclude file -/
def Accessible (w : List Char) (excl : List (List Row)) (p : Int) : Prop :=
  NonNAt w p ∧ ∀ b ∈ excl, ¬ cov b p

/-- the runs of sequence `name` as table rows: what `accessChrom` (Model/Access.lean) starts from -/
def runRows (name : String) (runs : List Run) : List Row :=
  runs.map (fun r => regionRow (name, r.1, r.2))

theorem runRows_canon (name : String) (runs : List Run) (h : CanonN runs) : Canon (runRows name runs) := by
  refine ⟨?_, ?_⟩
  · intro r hr
    obtain ⟨x, hx, rfl⟩ := List.mem_map.mp hr
    have := h.1 x hx
    show (x.1 : Int) < (x.2 : Int)
    omega
  · unfold runRows
    rw [List.pairwise_map]
    refine h.2.imp ?_
    intro a b hab
    show (a.2 : Int) < (b.1 : Int)
    omega

theorem runRows_cov (name : String) (runs : List Run) (p : Int) :
    cov (runRows name runs) p ↔ 0 ≤ p ∧ covN runs p.toNat := by
  have key : ∀ n : Nat, cov (runRows name runs) (n : Int) ↔ covN runs n := by
    intro n
    constructor
    · rintro ⟨r, hr, h1, h2⟩
      obtain ⟨x, hx, rfl⟩ := List.mem_map.mp hr
      exact ⟨x, hx, Int.ofNat_le.mp h1, Int.ofNat_lt.mp h2⟩
    · rintro ⟨x, hx, h1, h2⟩
      exact ⟨_, List.mem_map.mpr ⟨x, hx, rfl⟩, Int.ofNat_le.mpr h1, Int.ofNat_lt.mpr h2⟩
  constructor
  · intro h
    have h0 : 0 ≤ p := by
      obtain ⟨r, hr, h1, _⟩ := h
      obtain ⟨x, _, rfl⟩ := List.mem_map.mp hr
      exact Int.le_trans (Int.natCast_nonneg x.1) h1
    obtain ⟨n, rfl⟩ := Int.eq_ofNat_of_zero_le h0
    exact ⟨h0, (key n).mp h⟩
  · rintro ⟨h0, h⟩
    obtain ⟨n, rfl⟩ := Int.eq_ofNat_of_zero_le h0
    exact (key n).mpr h

theorem accessChrom_eq (name : String) (lines : List (List Char)) (excl : List (List Row)) (g : Int) :
    accessChrom name lines excl g =
      joinChrom g (excl.foldl subtractChrom (runRows name (scanSeq lines))) := rfl

/-- an exclude file is its rows on this chromosome sorted by start, as `tabio.read` leaves them, of positive length;
    they may overlap, nest or touch -/
theorem accessChrom_spec (name : String) (lines : List (List Char)) (excl : List (List Row)) (g : Int)
    (hex : ∀ b ∈ excl, StartSorted b ∧ ∀ r ∈ b, r.s < r.e) :
    (∀ r ∈ accessChrom name lines excl g, r.s < r.e) ∧
    (accessChrom name lines excl g).Pairwise (fun a b => a.e + max 1 g ≤ b.s) ∧
    ∀ p, cov (accessChrom name lines excl g) p ↔
      Accessible lines.flatten excl p ∨ InSmallGap (Accessible lines.flatten excl) g p := by
  have hruns : Canon (runRows name (scanSeq lines)) := by
    rw [scanSeq_eq_maxRuns]; exact runRows_canon _ _ (accRuns_canon _ _)
  obtain ⟨hc, hv⟩ := foldl_subtractChrom_spec excl (runRows name (scanSeq lines)) hruns hex
  have hagree : ∀ q, Accessible lines.flatten excl q ↔
      cov (excl.foldl subtractChrom (runRows name (scanSeq lines))) q := by
    intro q
    rw [hv q, runRows_cov, scanSeq_eq_maxRuns, maxRuns_cov]
    rfl
  rw [accessChrom_eq]
  exact joinChrom_spec _ g _ hc hagree

end CnvVerif
