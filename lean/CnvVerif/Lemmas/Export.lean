/-
  Behind Props/C20.lean, C20Cli.lean and C20Src.lean, the exporters of cnvlib/export.py and skgenome/tabio/seg.py (Model/Export.lean): the mask and
  loop forms of `export_bed` / `segments2vcf` are filter-then-map (`exportBed_eq_spec`, `segments2vcf_eq`); the loop of
  `merge_samples` on samples with equal labels (`mergeLoop_equal_labels`, `mergeSamples_equal_bins`) and what `fmt_jtv` /
  `fmt_cdt` make of the merged table (`merged_rows`); bin labels identify bins (`labelWithGene_inj`), so unequal bins are refused.
-/
import CnvVerif.Model.Export
import CnvVerif.Lemmas.Call
import CnvVerif.Lemmas.FormatsChars
namespace CnvVerif.Export
open CnvVerif

-- the literals of the source are those the property names
theorem vcf_svlen_factor_eq : Generated.VCF_SVLEN_LOSS_FACTOR = -1 := rfl
theorem seg_start_shift_eq : Generated.SEG_START_SHIFT = 1 := rfl

theorem maskSelect_map {α β} (f : α → β) (p : α → Bool) (l : List α) :
    maskSelect (l.map f) (l.map p) = (l.filter p).map f := by
  induction l with
  | nil => rfl
  | cons a t ih =>
    simp only [List.map_cons, maskSelect, List.filter_cons]
    cases h : p a <;> simp [ih]

theorem filterMap_ite {α β} (p : α → Bool) (g : α → β) (l : List α) :
    l.filterMap (fun a => if p a then some (g a) else none) = (l.filter p).map g := by
  rw [← List.filterMap_eq_filter, List.map_filterMap]
  exact List.filterMap_congr fun a _ => by cases h : p a <;> simp [Option.guard, h]

/-- the expected copies of a class do not depend on the reference sex (`absolute_expect` pins it to haploid X) -/
theorem refExpect_snd (cfg : Cfg) (hapX : Bool) (first : String) (r : Seg) :
    (((refExpect cfg.ploidy hapX cfg.female (classOf first cfg.par r.chrom r.s r.e)).2 : Nat) : Int) =
      expectedCopies cfg first r := by
  unfold expectedCopies
  cases classOf first cfg.par r.chrom r.s r.e <;> simp only [refExpect] <;> cases cfg.female <;> rfl

theorem expectOf_eq (cfg : Cfg) (first : String) (r : Seg) :
    expectOf cfg first r = expectedCopies cfg first r := refExpect_snd cfg true first r

theorem expectVcf_eq (cfg : Cfg) (first : String) (r : Seg) :
    expectVcf cfg first r = expectedCopies cfg first r := by
  unfold expectVcf
  split
  · exact expectOf_eq cfg first r
  · exact refExpect_snd cfg cfg.hapX first r

theorem expectCol_eq (cfg : Cfg) (rows : List Seg) :
    expectCol cfg rows = rows.map (expectedCopies cfg (firstChrom rows)) := by
  unfold expectCol
  exact List.map_congr_left (fun r _ => expectOf_eq cfg (firstChrom rows) r)

theorem purityActive_one : purityActive (some 1) = none := by decide

theorem exportBed_eq_spec (cfg : Cfg) (label : Option String) (sh : ShowMode) (rows : List Seg) :
    exportBed cfg label sh rows = bedSpec cfg label sh rows := by
  unfold exportBed bedSpec
  cases sh with
  | all =>
    have hf : rows.filter (bedKeep cfg (firstChrom rows) ShowMode.all) = rows :=
      List.filter_eq_self.mpr (fun r _ => rfl)
    rw [hf]
  | ploidy =>
    simp only [List.map_map]
    rw [maskSelect_map]
    rfl
  | variant =>
    simp only [expectCol_eq]
    rw [zipWith_map_same, maskSelect_map]
    rfl

/-- the hypothesis of the VCF clause: a `probes` column of non-negative integers -/
def ProbesOk (cfg : Cfg) (rows : List Seg) : Prop :=
  cfg.hasProbes = true ∧ ∀ r ∈ rows, 0 ≤ r.probes

theorem vcfEmit_cols (cfg : Cfg) (first : String) (r : Seg) :
    vcfEmit cfg (vcfCols cfg first r) =
      if probesDigit cfg r && vcfKeep cfg first r then some (vcfRecOf cfg first r) else none := by
  cases hp : probesDigit cfg r
  · simp [vcfEmit, vcfCols, hp]
  rw [Bool.true_and]
  unfold vcfEmit vcfCols vcfKeep vcfRecOf
  simp only [hp, expectVcf_eq, Generated.VCF_POS_REPLACE_FROM, Generated.VCF_POS_REPLACE_TO,
    Generated.VCF_SVTYPE_LOSS, Generated.VCF_SVTYPE_GAIN, Generated.VCF_FORMAT_LOSS, Generated.VCF_FORMAT_GAIN,
    vcf_svlen_factor_eq]
  by_cases heq : ncopiesOf cfg first r = expectedCopies cfg first r
  · simp [heq]
  · by_cases hlt : ncopiesOf cfg first r < expectedCopies cfg first r
    · have hng : ¬ (ncopiesOf cfg first r > expectedCopies cfg first r) := by omega
      simp [heq, hlt, hng]
    · have hgt : ncopiesOf cfg first r > expectedCopies cfg first r := by omega
      simp [heq, hlt, hgt]

/-- no hypothesis on the `probes` column: a table with digit probes throughout (`segments2vcf_eq_spec`) and one without
    the column (`C20.vcf_without_probes_is_empty`) are the two extreme cases -/
theorem segments2vcf_eq (cfg : Cfg) (rows : List Seg) :
    segments2vcf cfg rows =
      (rows.filter fun r => probesDigit cfg r && vcfKeep cfg (firstChrom rows) r).map (vcfRecOf cfg (firstChrom rows)) := by
  unfold segments2vcf
  rw [List.filterMap_map, ← filterMap_ite]
  exact List.filterMap_congr fun r _ => vcfEmit_cols cfg _ r

theorem segments2vcf_eq_spec (cfg : Cfg) (rows : List Seg) (h : ProbesOk cfg rows) :
    segments2vcf cfg rows = vcfSpec cfg rows := by
  rw [segments2vcf_eq, vcfSpec]
  exact congrArg _ (List.filter_congr fun r hr => by simp [probesDigit, h.1, h.2 r hr])

/-- the segments the VCF reports are those `export bed --show variant` lists -/
theorem vcfKeep_eq_bedKeep (cfg : Cfg) (first : String) (r : Seg) :
    vcfKeep cfg first r = bedKeep cfg first .variant r := rfl

theorem renameChrom_nil (c : String) : renameChrom [] c = c := rfl

/-- `format_seg` in the property's words: the row of `segSpecRow`, its chromosome renamed -/
theorem formatSeg_eq (ids : List (String × Nat)) (sm : SegSample) :
    formatSeg ids sm = sm.rows.map fun r => { segSpecRow sm r with chrom := renameChrom ids r.chrom } := rfl

/-- `write_seg`: one mapping, made from the first sample, for every sample -/
theorem exportSeg_cons (en : Bool) (first : SegSample) (rest : List SegSample) :
    exportSeg en (first :: rest) =
      (first :: rest).flatMap (formatSeg (if en then createChromIds first.rows else [])) := rfl

theorem formatSeg_nil (sm : SegSample) : formatSeg [] sm = sm.rows.map (segSpecRow sm) := formatSeg_eq [] sm

/-- with renumbering on, every sample's chromosome names are renamed by the ids built from the FIRST sample's rows -/
theorem exportSeg_chrom (en : Bool) (first : SegSample) (rest : List SegSample) :
    (exportSeg en (first :: rest)).map (·.chrom) =
      (first :: rest).flatMap (fun sm => sm.rows.map (fun r =>
        renameChrom (if en then createChromIds first.rows else []) r.chrom)) := by
  simp only [exportSeg_cons, List.map_flatMap, formatSeg_eq, List.map_map, Function.comp_def]

theorem Frame.has_iff (f : Frame) (k : String) : f.has k = true ↔ k ∈ f.map (·.1) := by
  unfold Frame.has
  simp only [List.any_eq_true, List.mem_map, beq_iff_eq]

def sampleCols (l : List BinSample) : Frame := l.map (fun sm => (sm.id, log2Col sm))

theorem sampleCols_names (l : List BinSample) : (sampleCols l).map (·.1) = l.map (·.id) := by
  unfold sampleCols
  simp

theorem mergeLoop_equal_labels (labels : List Cell) (cols : Frame) (k : Nat) (rest : List BinSample)
    (hl : ∀ sm ∈ rest, labelCol sm = labels) (hc : (cols.map (·.1)).Nodup) :
    ((cols.map (·.1) ++ rest.map (·.id)).Nodup → mergeLoop labels cols k rest = .ok (cols ++ sampleCols rest)) ∧
    (¬ (cols.map (·.1) ++ rest.map (·.id)).Nodup → ∃ id, mergeLoop labels cols k rest = .error (.duplicate id)) := by
  induction rest generalizing cols k with
  | nil => exact ⟨fun _ => by simp [mergeLoop, sampleCols], fun hd => absurd (by simpa using hc) hd⟩
  | cons sm t ih =>
    rw [mergeLoop, if_neg (by simp [hl sm List.mem_cons_self])]
    by_cases hh : cols.has sm.id = true
    · have hdup : ¬ (cols.map (·.1) ++ (sm :: t).map (·.id)).Nodup := fun hd =>
        (List.nodup_append.mp hd).2.2 _ ((Frame.has_iff cols sm.id).mp hh) _ List.mem_cons_self rfl
      rw [if_pos hh]
      exact ⟨fun hd => absurd hd hdup, fun _ => ⟨_, rfl⟩⟩
    · have hnot : sm.id ∉ cols.map (·.1) := fun hm => hh ((Frame.has_iff cols sm.id).mpr hm)
      have e : (cols ++ [(sm.id, log2Col sm)]).map (·.1) ++ t.map (·.id) = cols.map (·.1) ++ (sm :: t).map (·.id) := by
        simp
      have ih := ih (cols ++ [(sm.id, log2Col sm)]) (k + 1) (fun s hs => hl s (List.mem_cons_of_mem _ hs))
        (by
          rw [List.map_append, List.nodup_append]
          refine ⟨hc, List.nodup_singleton _, fun a ha b hb hab => hnot ?_⟩
          rw [List.mem_singleton.mp hb] at hab
          exact (show a = sm.id from hab) ▸ ha)
      rw [if_neg hh, ← e]
      exact ⟨fun hd => by rw [ih.1 hd]; simp [sampleCols], ih.2⟩

theorem mergeLoop_mismatch (labels : List Cell) (cols : Frame) (k : Nat) (rest : List BinSample)
    (h : ∃ sm ∈ rest, labelCol sm ≠ labels) :
    ∃ e, mergeLoop labels cols k rest = .error e := by
  induction rest generalizing cols k with
  | nil => obtain ⟨sm, hm, _⟩ := h; simp at hm
  | cons sm t ih =>
    unfold mergeLoop
    by_cases h1 : labelCol sm = labels
    · simp only [h1, bne_self_eq_false, Bool.false_eq_true, if_false]
      split
      · exact ⟨_, rfl⟩
      · apply ih
        obtain ⟨s, hs, hne⟩ := h
        rcases List.mem_cons.mp hs with rfl | hs'
        · exact absurd h1 hne
        · exact ⟨s, hs', hne⟩
    · have : (labels != labelCol sm) = true := by
        simp only [bne_iff_ne, ne_eq]
        exact fun hh => h1 hh.symm
      simp only [this, if_true]
      exact ⟨_, rfl⟩

theorem rowsOf_length (n : Nat) (cols : List (List Cell)) : (rowsOf n cols).length = n := by
  simp [rowsOf]

theorem rowsOf_get (n : Nat) (cols : List (List Cell)) (i : Nat) (hi : i < n) :
    (rowsOf n cols)[i]? = some (cols.map (fun c => c.getD i (Cell.str ""))) := by
  simp [rowsOf, hi]

theorem labelCol_length (sm : BinSample) : (labelCol sm).length = sm.bins.length := by
  simp [labelCol]

theorem log2Col_getD (sm : BinSample) (i : Nat) (hi : i < sm.bins.length) :
    (log2Col sm).getD i (Cell.str "") = Cell.num ((sm.bins.getD i default).v) := by
  simp [log2Col, List.getD_eq_getElem?_getD, hi]

theorem labelCol_getD (sm : BinSample) (i : Nat) (hi : i < sm.bins.length) :
    (labelCol sm).getD i (Cell.str "") = Cell.str (labelWithGene (sm.bins.getD i default)) := by
  simp [labelCol, List.getD_eq_getElem?_getD, hi]

/-- `fmt_jtv` / `fmt_cdt` on the merged table: leading columns `lead` built from its number of rows and its label column
    (`iloc[:, 4]`), then the sample columns (`iloc[:, 5:]`); `cells i` are the leading cells of bin `i` -/
theorem merged_rows (first : BinSample) (samples : List BinSample)
    (hlen : ∀ sm ∈ samples, sm.bins.length = first.bins.length)
    (lead : Nat → List Cell → List (List Cell)) (cells : Nat → List Cell)
    (hlead : ∀ i, i < first.bins.length →
      (lead first.bins.length (labelCol first)).map (fun c => c.getD i (Cell.str "")) = cells i) :
    let T : Frame := binCols first ++ sampleCols samples
    let R := rowsOf T.nrows (lead T.nrows (((T[4]?).map (·.2)).getD []) ++ (List.drop 5 T).map (·.2))
    R.length = first.bins.length ∧
    ∀ i, i < first.bins.length →
      R[i]? = some (cells i ++ samples.map (fun sm => Cell.num ((sm.bins.getD i default).v))) := by
  intro T R
  have hT : T.nrows = first.bins.length ∧ ((T[4]?).map (·.2)).getD [] = labelCol first ∧
      (List.drop 5 T).map (·.2) = samples.map log2Col := by
    simp [T, Frame.nrows, binCols, sampleCols]
  simp only [R, hT.1, hT.2.1, hT.2.2]
  refine ⟨rowsOf_length _ _, fun i hi => ?_⟩
  rw [rowsOf_get _ _ i hi, List.map_append, List.map_map, hlead i hi]
  refine congrArg (fun l => some (_ ++ l)) (List.map_congr_left fun sm hsm => ?_)
  exact log2Col_getD sm i (by rw [hlen sm hsm]; exact hi)

/-! ### bin labels identify bins -/

theorem split_at {c : Char} (a a' r r' : List Char) (ha : c ∉ a) (ha' : c ∉ a')
    (h : a ++ c :: r = a' ++ c :: r') : a = a' ∧ r = r' := by
  have hp : ∀ l : List Char, c ∉ l → ∀ x ∈ l, (x != c) = true := fun l hl x hx => bne_iff_ne.mpr fun e => hl (e ▸ hx)
  have t := congrArg (List.takeWhile (· != c)) h
  have d := congrArg (List.dropWhile (· != c)) h
  rw [takeWhile_append_stop _ _ _ _ (hp a ha) (by simp), takeWhile_append_stop _ _ _ _ (hp a' ha') (by simp)] at t
  rw [dropWhile_append_stop _ _ _ _ (hp a ha) (by simp), dropWhile_append_stop _ _ _ _ (hp a' ha') (by simp)] at d
  exact ⟨t, (List.cons.inj d).2⟩

theorem labelWithGene_toList (b : Bin) :
    (labelWithGene b).toList =
      b.chrom.toList ++ ':' :: ((toString b.s).toList ++ '-' :: ((toString b.e).toList ++ ':' :: b.gene.toList)) := by
  simp only [labelWithGene, String.toList_append]
  rw [show ":".toList = [':'] by decide, show "-".toList = ['-'] by decide]
  simp

theorem labelWithGene_inj (b b' : Bin) (hc : ':' ∉ b.chrom.toList) (hc' : ':' ∉ b'.chrom.toList)
    (hs : 0 ≤ b.s) (hs' : 0 ≤ b'.s) (h : labelWithGene b = labelWithGene b') :
    b.chrom = b'.chrom ∧ b.s = b'.s ∧ b.e = b'.e ∧ b.gene = b'.gene := by
  have hl := congrArg String.toList h
  rw [labelWithGene_toList, labelWithGene_toList] at hl
  obtain ⟨h1, hl⟩ := split_at _ _ _ _ hc hc' hl
  have nd : ∀ a : Int, 0 ≤ a → '-' ∉ (toString a).toList := fun a ha hm =>
    absurd ((Fmt.toString_digits a ha).2 _ hm) (by decide)
  obtain ⟨h2, hl⟩ := split_at _ _ _ _ (nd _ hs) (nd _ hs') hl
  obtain ⟨h3, h4⟩ := split_at _ _ _ _ (Fmt.toString_not_mem _ (by decide) (by decide))
    (Fmt.toString_not_mem _ (by decide) (by decide)) hl
  have inj : ∀ {x y : Int}, (toString x).toList = (toString y).toList → x = y := fun hxy =>
    Option.some.inj (by rw [← Fmt.parseInt_toString, String.toList_injective hxy, Fmt.parseInt_toString])
  exact ⟨String.toList_injective h1, inj h2, inj h3, String.toList_injective h4⟩

/-- what `merge_samples` compares through the label: coordinates and gene -/
def binKey (b : Bin) : String × Int × Int × String := (b.chrom, b.s, b.e, b.gene)

/-- a bin whose label can be read back: no ':' in the chromosome name, start not negative -/
def BinOk (b : Bin) : Prop := ':' ∉ b.chrom.toList ∧ 0 ≤ b.s

theorem bins_eq_of_labels (l l' : List Bin) (hw : ∀ b ∈ l, BinOk b) (hw' : ∀ b ∈ l', BinOk b)
    (h : l.map (fun b => Cell.str (labelWithGene b)) = l'.map (fun b => Cell.str (labelWithGene b))) :
    l.map binKey = l'.map binKey :=
  map_eq_map_of_imp (fun b hb b' hb' e => by
    obtain ⟨h1, h2, h3, h4⟩ := labelWithGene_inj b b' (hw b hb).1 (hw' b' hb').1 (hw b hb).2 (hw' b' hb').2 (Cell.str.inj e)
    simp only [binKey, h1, h2, h3, h4]) h

theorem labels_of_bins_eq (a b : BinSample) (h : a.bins.map binKey = b.bins.map binKey) :
    labelCol a = labelCol b := by
  have := congrArg (List.map fun k : String × Int × Int × String =>
    Cell.str (k.1 ++ ":" ++ toString k.2.1 ++ "-" ++ toString k.2.2.1 ++ ":" ++ k.2.2.2)) h
  rw [List.map_map, List.map_map] at this
  -- `labelWithGene b` unfolds to this function of `binKey b`
  exact this

theorem mergeSamples_equal_bins (first : BinSample) (rest : List BinSample)
    (hb : ∀ sm ∈ rest, sm.bins.map binKey = first.bins.map binKey) :
    (∀ sm ∈ first :: rest, sm.bins.length = first.bins.length) ∧
    (((first :: rest).map (·.id)).Nodup →
      mergeSamples (first :: rest) = .ok (binCols first ++ sampleCols (first :: rest))) ∧
    (¬ ((first :: rest).map (·.id)).Nodup → ∃ id, mergeSamples (first :: rest) = .error (.duplicate id)) := by
  have key := mergeLoop_equal_labels (labelCol first) [(first.id, log2Col first)] 1 rest
    (fun sm hsm => labels_of_bins_eq sm first (hb sm hsm)) (List.nodup_singleton _)
  refine ⟨fun sm hsm => ?_, fun hd => ?_, fun hd => ?_⟩
  · rcases List.mem_cons.mp hsm with rfl | h
    · rfl
    · simpa using congrArg List.length (hb sm h)
  · simp only [mergeSamples, key.1 hd]
    rfl
  · obtain ⟨id, he⟩ := key.2 hd
    exact ⟨id, by simp only [mergeSamples, he]⟩

end CnvVerif.Export
