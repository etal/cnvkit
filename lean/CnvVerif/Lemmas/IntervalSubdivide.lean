/-
  `subdivide`.  One region: the bin count `int(round(span / avg)) or 1` (`Src.binCount`, defined here and compared with
  the generated text in Lemmas/SrcIntervalSubdivide.lean); the bins as rows cut at the positions
  `start + ⌊i·span/n⌋`, `i = 0 … n` (rows cut at any non-decreasing sequence of positions tile the stretch between the first
  and the last); what `_split_targets` yields, in one equation (`splitRow_eq_splitInto`: keep-test, bin count, equal split;
  one bin is the row itself, `splitInto_one`, so the `nbins == 1` branch is no case).  The table (any number of chromosomes,
  any row order): the bins of every chromosome are the bins of its merged regions of at least the minimum size.
-/
import CnvVerif.Lemmas.Interval
import CnvVerif.Lemmas.PerChrom
import CnvVerif.Lemmas.Round
namespace CnvVerif

theorem ediv_add_bounds (a b n : Int) (hn : 0 < n) :
    a / n + b / n ≤ (a + b) / n ∧ (a + b) / n ≤ a / n + b / n + 1 := by
  rw [Int.add_ediv_of_pos hn]
  split <;> omega

/-- the quotient the code rounds is not negative -/
theorem span_div_nonneg (avg : Rat) (havg : 0 < avg) (r : Row) (hr : r.s ≤ r.e) :
    0 ≤ ((r.e - r.s : Int) : Rat) / avg := by
  rw [Rat.div_def]
  exact Rat.mul_nonneg (Rat.intCast_nonneg.mpr (by omega)) (Rat.le_of_lt (Rat.inv_pos.mpr havg))

namespace Src

/-- the bin count of the model: `int(round(span / avg)) or 1` -/
def binCount (avg : Rat) (r : Row) : Nat :=
  let nb0 := roundHalfEven (((r.e - r.s : Int) : Rat) / avg)
  if nb0 == 0 then 1 else nb0.toNat

end Src

theorem splitRow_eq_binCount (avg : Rat) (minSize : Int) (r : Row) :
    splitRow avg minSize r =
      if r.e - r.s ≥ minSize then
        (if Src.binCount avg r == 1 then [r] else splitInto r (Src.binCount avg r))
      else [] := rfl

/-- `or 1` only replaces a zero: the bin count is `max 1 (round (span / avg))` when that is not negative -/
theorem binCount_eq_max (avg : Rat) (r : Row) (hnn : 0 ≤ roundHalfEven (((r.e - r.s : Int) : Rat) / avg)) :
    (Src.binCount avg r : Int) = max 1 (roundHalfEven (((r.e - r.s : Int) : Rat) / avg)) := by
  unfold Src.binCount
  generalize roundHalfEven (((r.e - r.s : Int) : Rat) / avg) = nb at hnn ⊢
  by_cases h0 : nb = 0
  · subst h0; rfl
  · have hb : (nb == 0) = false := by simpa using h0
    simp only [hb, Bool.false_eq_true, if_false]
    rw [Int.toNat_of_nonneg hnn, Int.max_eq_right (by omega)]

/-- the rows `[cut i, cut (i+1))`, `i < k`, each with the other fields of `r` -/
def cutRows (r : Row) (cut : Nat → Int) (k : Nat) : List Row :=
  (List.range k).map fun i => { r with s := cut i, e := cut (i + 1) }

theorem mem_cutRows (r : Row) (cut : Nat → Int) (k : Nat) (b : Row) :
    b ∈ cutRows r cut k ↔ ∃ i < k, { r with s := cut i, e := cut (i + 1) } = b := by
  simp only [cutRows, List.mem_map, List.mem_range]

theorem cutRows_fields (r : Row) (cut : Nat → Int) (k : Nat) :
    ∀ b ∈ cutRows r cut k, { b with s := r.s, e := r.e } = r := by
  intro b hb
  obtain ⟨i, _, rfl⟩ := (mem_cutRows r cut k b).mp hb
  rfl

theorem tiles_cutRows (r : Row) (cut : Nat → Int) (hm : ∀ i, cut i ≤ cut (i + 1)) (k : Nat) :
    Tiles (cutRows r cut k) (cut 0) (cut k) := by
  induction k generalizing cut with
  | zero => exact rfl
  | succ k ih =>
    rw [cutRows, List.range_succ_eq_map, List.map_cons, List.map_map]
    exact ⟨rfl, hm 0, ih (fun i => cut (i + 1)) fun i => hm (i + 1)⟩

/-- the `i`-th cut position of `splitInto r n` -/
def cutAt (r : Row) (n i : Nat) : Int := r.s + ((i : Int) * (r.e - r.s)) / (n : Int)

theorem splitInto_eq_cutRows (r : Row) (n : Nat) : splitInto r n = cutRows r (cutAt r n) n := rfl

theorem cutAt_zero (r : Row) (n : Nat) : cutAt r n 0 = r.s := by
  simp only [cutAt, Int.natCast_zero, Int.zero_mul, Int.zero_ediv, Int.add_zero]

theorem cutAt_last (r : Row) (n : Nat) (hn : 1 ≤ n) : cutAt r n n = r.e := by
  rw [cutAt, Int.mul_ediv_cancel_left _ (by omega)]
  omega

/-- every bin is `⌊span/n⌋` or `⌊span/n⌋ + 1` long -/
theorem cutAt_step (r : Row) (n : Nat) (hn : 1 ≤ n) (i : Nat) :
    (r.e - r.s) / (n : Int) ≤ cutAt r n (i + 1) - cutAt r n i ∧
      cutAt r n (i + 1) - cutAt r n i ≤ (r.e - r.s) / (n : Int) + 1 := by
  have h := ediv_add_bounds ((i : Int) * (r.e - r.s)) (r.e - r.s) n (by omega)
  have e : ((i + 1 : Nat) : Int) * (r.e - r.s) = (i : Int) * (r.e - r.s) + (r.e - r.s) := by
    rw [Int.natCast_add, Int.add_mul, Int.natCast_one, Int.one_mul]
  rw [cutAt, cutAt, e]
  omega

theorem cutAt_mono (r : Row) (n : Nat) (hn : 1 ≤ n) (hlen : 0 ≤ r.e - r.s) (i : Nat) :
    cutAt r n i ≤ cutAt r n (i + 1) := by
  have := (cutAt_step r n hn i).1
  have : 0 ≤ (r.e - r.s) / (n : Int) := Int.ediv_nonneg hlen (by omega)
  omega

/-- also with more bins than bases: the surplus bins are empty -/
theorem splitInto_tiles (r : Row) (n : Nat) (hn : 1 ≤ n) (hr : r.s ≤ r.e) :
    Tiles (splitInto r n) r.s r.e := by
  have := tiles_cutRows r _ (cutAt_mono r n hn (by omega)) n
  rwa [cutAt_zero, cutAt_last r n hn] at this

theorem splitInto_length (r : Row) (n : Nat) : (splitInto r n).length = n := by
  rw [splitInto, List.length_map, List.length_range]

theorem splitInto_sizes (r : Row) (n : Nat) (hn : 1 ≤ n) :
    ∀ x ∈ splitInto r n, (r.e - r.s) / (n : Int) ≤ x.e - x.s ∧ x.e - x.s ≤ (r.e - r.s) / (n : Int) + 1 := by
  intro x hx
  obtain ⟨i, _, rfl⟩ := (mem_cutRows r _ n x).mp hx
  exact cutAt_step r n hn i

theorem splitInto_fields (r : Row) (n : Nat) :
    ∀ x ∈ splitInto r n, x.chrom = r.chrom ∧ x.gene = r.gene :=
  fun x hx => Row.other_fields_eq (cutRows_fields r _ n x hx)

/-- one bin is the row itself: the `nbins == 1` branch of `_split_targets` is no case of its own -/
theorem splitInto_one (r : Row) : splitInto r 1 = [r] := by
  rw [splitInto_eq_cutRows, cutRows, List.range_one, List.map_singleton, cutAt_zero, cutAt_last r 1 (Nat.le_refl 1)]

theorem ite_one_splitInto (r : Row) (n : Nat) : (if n = 1 then [r] else splitInto r n) = splitInto r n := by
  split
  · rename_i h; rw [h, splitInto_one]
  · rfl

/-- `_split_targets` on one region: keep-test, bin count, equal split -/
theorem splitRow_eq_splitInto (avg : Rat) (minSize : Int) (r : Row) :
    splitRow avg minSize r = if minSize ≤ r.e - r.s then splitInto r (Src.binCount avg r) else [] := by
  rw [splitRow_eq_binCount]
  split
  · split
    · rename_i h1; rw [beq_iff_eq.mp h1, splitInto_one]
    · rfl
  · rfl

theorem splitRow_fields (avg : Rat) (minSize : Int) (r : Row) :
    ∀ x ∈ splitRow avg minSize r, { x with s := r.s, e := r.e } = r := by
  intro x hx
  rw [splitRow_eq_splitInto] at hx
  split at hx
  · exact cutRows_fields r _ _ x hx
  · cases hx

/-- the bins of a region tile it; a region below the minimum size yields nothing, which tiles the empty stretch at its
    start.  Cover, position and order of the bins are read off this. -/
theorem splitRow_tiles (avg : Rat) (havg : 0 < avg) (minSize : Int) (r : Row) (hr : r.s ≤ r.e) :
    Tiles (splitRow avg minSize r) r.s (if minSize ≤ r.e - r.s then r.e else r.s) := by
  have hb := binCount_eq_max avg r (roundHalfEven_nonneg _ (span_div_nonneg avg havg r hr))
  rw [splitRow_eq_splitInto]
  split
  · exact splitInto_tiles r _ (by omega) hr
  · exact rfl

theorem splitRow_cov (avg : Rat) (havg : 0 < avg) (minSize : Int) (r : Row) (hlen : 0 ≤ r.e - r.s) (p : Int) :
    cov (splitRow avg minSize r) p ↔ minSize ≤ r.e - r.s ∧ r.s ≤ p ∧ p < r.e := by
  rw [(splitRow_tiles avg havg minSize r (by omega)).cov]
  split <;> omega

/-- whatever `splitRow` returns lies inside the row (also when the row is too short: nothing) -/
theorem splitRow_within (avg : Rat) (havg : 0 < avg) (minSize : Int) (r : Row) (hr : r.s ≤ r.e) :
    ∀ x ∈ splitRow avg minSize r, r.s ≤ x.s ∧ x.s ≤ x.e ∧ x.e ≤ r.e := by
  intro x hx
  have := (splitRow_tiles avg havg minSize r hr).within x hx
  split at this <;> omega

theorem flatMap_splitRow_pairwise (avg : Rat) (havg : 0 < avg) (minSize : Int) (M : List Row)
    (hM : Canon M) :
    (M.flatMap (splitRow avg minSize)).Pairwise (fun x y => x.e ≤ y.s) :=
  pairwise_flatMap_within Row.s Row.e 0 _ (fun x y h => by omega) _ hM.apart _ fun m hm =>
    have hr := Int.le_of_lt (hM.1 m hm)
    ⟨(splitRow_tiles avg havg minSize m hr).pairwise, fun x hx =>
      have := splitRow_within avg havg minSize m hr x hx; ⟨this.1, this.2.2⟩⟩

theorem flatMap_splitRow_cov (avg : Rat) (havg : 0 < avg) (minSize : Int) (M : List Row)
    (hM : ∀ m ∈ M, m.s ≤ m.e) (p : Int) :
    cov (M.flatMap (splitRow avg minSize)) p ↔
      ∃ m ∈ M, minSize ≤ m.e - m.s ∧ m.s ≤ p ∧ p < m.e := by
  rw [cov_flatMap_iff]
  exact exists_congr fun m => and_congr_right fun hm =>
    splitRow_cov avg havg minSize m (by have := hM m hm; omega) p

theorem rowsOf_subdivideTable (avg : Rat) (minSize : Int) (t : Table) (c : String) :
    rowsOf (subdivideTable avg minSize t) c = (rowsOf (mergeTable 0 t) c).flatMap (splitRow avg minSize) :=
  rowsOf_flatMap Row.chrom (splitRow avg minSize)
    (fun r b hb => (Row.other_fields_eq (splitRow_fields avg minSize r b hb)).1) (mergeTable 0 t) c

end CnvVerif
