/-
  The tiling clauses of C03, proved once for the most general unit `transfer_fields` is handed: on the HMM path
  `_do_segmentation` gets the WHOLE table (all chromosomes at once), so the unit holds any number of chromosomes
  (`WFGenome`); the partition of the survivors may be any one none of whose runs crosses a chromosome boundary
  (`RunsOnOneChrom` — what `squash_by_groups(..., by_arm=True)` returns for any state sequence, see
  `hmmRuns_onOneChrom` in Lemmas/TileRuns.lean).  The invariant `TilesTable` (its core: the covering `Cov`, run by
  run) holds of the raw run segments (`rawSegs_tiles`) and is carried through the three edits of the glue (`TilesTable.setFirst`, `.setLast`, `.map`);
  `assembleGenome_tiles` is the one theorem the clauses of Props/C03Hmm.lean are read off, and those of Props/C03.lean
  are their one-chromosome instances (`WFUnit.toGenome`, `WFUnit.runsOnOneChrom`).
-/
import CnvVerif.Lemmas.Tile
namespace CnvVerif
open C03Baf (rawSegs stretchEnds)

/-- one arm's input bins: positive length, in order, non-overlapping, one chromosome -/
def WFUnit (u : List Bin) : Prop :=
  (∀ b ∈ u, b.s < b.e) ∧ u.Pairwise (fun a b => a.chrom = b.chrom ∧ a.e ≤ b.s)

/-- a table of bins of any number of chromosomes: positive length; the bins of ONE chromosome in order and
    non-overlapping (nothing is asked of bins on different chromosomes) -/
def WFGenome (u : List Bin) : Prop :=
  (∀ b ∈ u, b.s < b.e) ∧ u.Pairwise (fun a b => a.chrom = b.chrom → a.e ≤ b.s)

/-- no run of the partition crosses a chromosome boundary -/
def RunsOnOneChrom (gs : List (List Bin)) : Prop :=
  ∀ grp ∈ gs, ∀ a ∈ grp, ∀ b ∈ grp, a.chrom = b.chrom

/-- sorted and disjoint within each chromosome -/
abbrev ChromSorted (segs : List SegO) : Prop := segs.Pairwise (fun a b => a.chrom = b.chrom → a.e ≤ b.s)

/-- both ends of the segment are bin boundaries of its own chromosome (so it lies within that chromosome's span) -/
def SegFrom (bins : List Bin) (g : SegO) : Prop :=
  (∃ b ∈ bins, b.chrom = g.chrom ∧ b.s = g.s) ∧ (∃ b ∈ bins, b.chrom = g.chrom ∧ b.e = g.e)

theorem containedIn_iff (b : Bin) (g : SegO) :
    containedIn b g = true ↔ b.chrom = g.chrom ∧ g.s ≤ b.s ∧ b.e ≤ g.e := by
  simp [containedIn, and_assoc]

/-- `g` is the segment of the group `grp` (possibly stretched) -/
def SegR (grp : List Bin) (g : SegO) : Prop :=
  grp ≠ [] ∧ g.probes = (grp.length : Int) ∧ ∀ b ∈ grp, b.chrom = g.chrom ∧ g.s ≤ b.s ∧ b.e ≤ g.e

/-- run by run, in order, `segs` are the segments of the runs `gs` (as many segments as runs) -/
def Cov : List (List Bin) → List SegO → Prop
  | [], [] => True
  | grp :: gs, g :: segs => SegR grp g ∧ Cov gs segs
  | _, _ => False

/-- the lockstep recursion of `Cov` as an induction principle (lists of different lengths are never related) -/
theorem Cov.induction {motive : (gs : List (List Bin)) → (segs : List SegO) → Cov gs segs → Prop}
    (nil : motive [] [] trivial)
    (cons : ∀ {grp gs g segs} (hr : SegR grp g) (hc : Cov gs segs), motive gs segs hc →
      motive (grp :: gs) (g :: segs) ⟨hr, hc⟩) :
    ∀ {gs segs} (hc : Cov gs segs), motive gs segs hc
  | [], [], _ => nil
  | _ :: _, _ :: _, ⟨hr, hc⟩ => cons hr hc (Cov.induction nil cons hc)
  | [], _ :: _, hc => hc.elim
  | _ :: _, [], hc => hc.elim

theorem Cov.mem {gs : List (List Bin)} {segs : List SegO} (hc : Cov gs segs) {b : Bin}
    (hb : b ∈ gs.flatten) : ∃ g ∈ segs, b.chrom = g.chrom ∧ g.s ≤ b.s ∧ b.e ≤ g.e := by
  induction hc using Cov.induction with
  | nil => simp at hb
  | cons hr _ ih =>
    rcases List.mem_append.mp (List.flatten_cons ▸ hb) with hb | hb
    · exact ⟨_, List.mem_cons_self .., hr.2.2 b hb⟩
    · obtain ⟨g', hg', h⟩ := ih hb
      exact ⟨g', List.mem_cons_of_mem _ hg', h⟩

theorem Cov.length_eq {gs : List (List Bin)} {segs : List SegO} (hc : Cov gs segs) :
    segs.length = gs.length := by
  induction hc using Cov.induction with
  | nil => rfl
  | cons _ _ ih => simp [ih]

theorem WFUnit.sublist {l₁ l₂ : List Bin} (h : l₁.Sublist l₂) (hw : WFUnit l₂) : WFUnit l₁ :=
  ⟨fun b hb => hw.1 b (h.subset hb), hw.2.sublist h⟩

theorem WFUnit.head_le {a : Bin} {t : List Bin} (hw : WFUnit (a :: t)) :
    ∀ b ∈ a :: t, a.chrom = b.chrom ∧ a.s ≤ b.s := by
  intro b hb
  rcases List.mem_cons.mp hb with rfl | hb
  · exact ⟨rfl, Int.le_refl _⟩
  · have h1 := (List.pairwise_cons.mp hw.2).1 b hb
    have h2 := hw.1 a (List.mem_cons_self ..)
    exact ⟨h1.1, by omega⟩

theorem WFUnit.chrom_all {u : List Bin} (hw : WFUnit u) {a b : Bin} (ha : a ∈ u) (hb : b ∈ u) :
    a.chrom = b.chrom := by
  cases u with
  | nil => simp at ha
  | cons f t => rw [← (hw.head_le a ha).1, ← (hw.head_le b hb).1]

theorem WFUnit.chrom_eq {u : List Bin} (hw : WFUnit u) {first : Bin} (hf : u.head? = some first) :
    ∀ b ∈ u, first.chrom = b.chrom ∧ first.s ≤ b.s := by
  cases u with
  | nil => simp at hf
  | cons a t => simp at hf; subst hf; exact hw.head_le

theorem WFUnit.toGenome {u : List Bin} (hw : WFUnit u) : WFGenome u :=
  ⟨hw.1, hw.2.imp (fun h _ => h.2)⟩

theorem WFGenome.sublist {l₁ l₂ : List Bin} (h : l₁.Sublist l₂) (hw : WFGenome l₂) : WFGenome l₁ :=
  ⟨fun b hb => hw.1 b (h.subset hb), hw.2.sublist h⟩

theorem WFGenome.toUnit {l : List Bin} (hw : WFGenome l) (h1 : ∀ a ∈ l, ∀ b ∈ l, a.chrom = b.chrom) : WFUnit l :=
  ⟨hw.1, hw.2.imp_of_mem (fun ha hb h => ⟨h1 _ ha _ hb, h (h1 _ ha _ hb)⟩)⟩

theorem runsOnOneChrom_of_unit {u : List Bin} (hw : WFUnit u) (gs : List (List Bin))
    (hfl : ∀ b ∈ gs.flatten, b ∈ u) : RunsOnOneChrom gs :=
  fun grp hg _ ha _ hb =>
    hw.chrom_all (hfl _ (List.mem_flatten.mpr ⟨grp, hg, ha⟩)) (hfl _ (List.mem_flatten.mpr ⟨grp, hg, hb⟩))

theorem WFGenome.head_le {a : Bin} {t : List Bin} (hw : WFGenome (a :: t)) :
    ∀ b ∈ a :: t, a.chrom = b.chrom → a.s ≤ b.s := by
  intro b hb hc
  rcases List.mem_cons.mp hb with rfl | hb
  · exact Int.le_refl _
  · have h1 := (List.pairwise_cons.mp hw.2).1 b hb hc
    have h2 := hw.1 a (List.mem_cons_self ..)
    omega

theorem WFGenome.le_last {u : List Bin} (hw : WFGenome u) {last : Bin} (hl : u.getLast? = some last) :
    ∀ b ∈ u, b.chrom = last.chrom → b.e ≤ last.e := by
  induction u with
  | nil => simp
  | cons a t ih =>
    cases t with
    | nil =>
      simp at hl; subst hl; simp
    | cons b t =>
      rw [List.getLast?_cons_cons] at hl
      have hw' : WFGenome (b :: t) := hw.sublist (List.sublist_cons_self ..)
      have ih' := ih hw' hl
      intro x hx hc
      rcases List.mem_cons.mp hx with rfl | hx
      · have hlm : last ∈ b :: t := List.mem_of_getLast? hl
        have h1 := (List.pairwise_cons.mp hw.2).1 last hlm hc
        have h2 := hw.1 last (List.mem_cons_of_mem _ hlm)
        omega
      · exact ih' x hx hc

theorem WFUnit.le_last {u : List Bin} (hw : WFUnit u) {last : Bin} (hl : u.getLast? = some last) :
    ∀ b ∈ u, b.e ≤ last.e :=
  fun b hb => hw.toGenome.le_last hl b hb (hw.chrom_all hb (List.mem_of_getLast? hl))

theorem not_inside_both {b : Bin} {g g' : SegO} (hpos : b.s < b.e)
    (h : b.chrom = g.chrom ∧ g.s ≤ b.s ∧ b.e ≤ g.e) (h' : b.chrom = g'.chrom ∧ g'.s ≤ b.s ∧ b.e ≤ g'.e)
    (hgg : g.chrom = g'.chrom → g.e ≤ g'.s) : False := by
  have := hgg (h.1.symm.trans h'.1)
  omega

theorem Cov.once {gs : List (List Bin)} {segs : List SegO} (hc : Cov gs segs)
    (hok : ChromSorted segs) (hpos : ∀ b ∈ gs.flatten, b.s < b.e) {b : Bin} (hb : b ∈ gs.flatten) :
    (segs.filter (containedIn b)).length = 1 := by
  induction hc using Cov.induction with
  | nil => simp at hb
  | cons hr hc' ih =>
    obtain ⟨hpw, hok'⟩ := List.pairwise_cons.mp hok
    have hbpos := hpos b hb
    rw [List.flatten_cons] at hb hpos
    rcases List.mem_append.mp hb with hb | hb
    · have h1 := (containedIn_iff b _).mpr (hr.2.2 b hb)
      have h2 : List.filter (containedIn b) _ = [] :=
        List.filter_eq_nil_iff.mpr fun g' hg' hcon =>
          not_inside_both hbpos (hr.2.2 b hb) ((containedIn_iff b g').mp hcon) (hpw g' hg')
      rw [List.filter_cons_of_pos h1, h2]; rfl
    · obtain ⟨g', hg', h⟩ := hc'.mem hb
      have h1 : ¬ containedIn b _ = true := fun hcon =>
        not_inside_both hbpos ((containedIn_iff b _).mp hcon) h (hpw g' hg')
      rw [List.filter_cons_of_neg h1]
      exact ih hok' (fun x hx => hpos x (List.mem_append_right _ hx)) hb

theorem Cov.count {gs : List (List Bin)} {segs : List SegO} (hc : Cov gs segs)
    (hok : ChromSorted segs) (hpos : ∀ b ∈ gs.flatten, b.s < b.e) {g : SegO} (hg : g ∈ segs) :
    g.probes = ((gs.flatten.filter (fun b => containedIn b g)).length : Int) := by
  induction hc using Cov.induction with
  | nil => cases hg
  | @cons grp gs g1 segs hr hc' ih =>
    obtain ⟨hpw, hok'⟩ := List.pairwise_cons.mp hok
    rw [List.flatten_cons] at hpos ⊢
    rw [List.filter_append, List.length_append]
    rcases List.mem_cons.mp hg with rfl | hg
    · have h1 : grp.filter (fun b => containedIn b g) = grp :=
        List.filter_eq_self.mpr fun b hb => (containedIn_iff b g).mpr (hr.2.2 b hb)
      have h2 : gs.flatten.filter (fun b => containedIn b g) = [] :=
        List.filter_eq_nil_iff.mpr fun b hb hcon => by
          obtain ⟨g', hg', h⟩ := hc'.mem hb
          exact not_inside_both (hpos b (List.mem_append_right _ hb)) ((containedIn_iff b g).mp hcon) h (hpw g' hg')
      rw [h1, h2, hr.2.1]; simp
    · have h1 : grp.filter (fun b => containedIn b g) = [] :=
        List.filter_eq_nil_iff.mpr fun b hb hcon =>
          not_inside_both (hpos b (List.mem_append_left _ hb)) (hr.2.2 b hb) ((containedIn_iff b g).mp hcon) (hpw g hg)
      rw [h1, ih hok' (fun x hx => hpos x (List.mem_append_right _ hx)) hg]; simp

theorem SegR.widen {grp : List Bin} {g g' : SegO} (hr : SegR grp g) (hc : g'.chrom = g.chrom)
    (hp : g'.probes = g.probes) (hs : g'.s ≤ g.s) (he : g.e ≤ g'.e) : SegR grp g' := by
  refine ⟨hr.1, hp.trans hr.2.1, fun b hb => ?_⟩
  have h := hr.2.2 b hb
  exact ⟨h.1.trans hc.symm, Int.le_trans hs h.2.1, Int.le_trans h.2.2 he⟩

theorem SegFrom.mono {l₁ l₂ : List Bin} (h : ∀ b ∈ l₁, b ∈ l₂) {g : SegO} (hf : SegFrom l₁ g) : SegFrom l₂ g := by
  obtain ⟨⟨a, ha, h1⟩, ⟨b, hb, h2⟩⟩ := hf
  exact ⟨⟨a, h a ha, h1⟩, ⟨b, h b hb, h2⟩⟩

theorem Cov.pos {gs : List (List Bin)} {segs : List SegO} (hc : Cov gs segs) (hpos : ∀ b ∈ gs.flatten, b.s < b.e) :
    ∀ g ∈ segs, g.s < g.e := by
  induction hc using Cov.induction with
  | nil => simp
  | cons hr _ ih =>
    obtain ⟨hne, _, hin⟩ := hr
    rw [List.flatten_cons] at hpos
    refine List.forall_mem_cons.mpr ⟨?_, ih fun b hb => hpos b (List.mem_append_right _ hb)⟩
    obtain ⟨b, t, rfl⟩ := List.exists_cons_of_ne_nil hne
    have := hin b (List.mem_cons_self ..)
    have := hpos b (List.mem_append_left _ (List.mem_cons_self ..))
    omega

/-- what the segments `segs` owe the runs `gs` of survivors of `u`: every run covered by its segment; the segments
    sorted and disjoint chromosome by chromosome; each from a bin boundary to a bin boundary of `u` -/
def TilesTable (u : List Bin) (gs : List (List Bin)) (segs : List SegO) : Prop :=
  Cov gs segs ∧ ChromSorted segs ∧ ∀ g ∈ segs, SegFrom u g

theorem TilesTable.mono {u u' : List Bin} (h : ∀ b ∈ u, b ∈ u') {gs segs} (ht : TilesTable u gs segs) : TilesTable u' gs segs :=
  ⟨ht.1, ht.2.1, fun g hg => (ht.2.2 g hg).mono h⟩

theorem filterMap_segOfRun_tiles (gs : List (List Bin)) (hne : ∀ grp ∈ gs, grp ≠ [])
    (hw : WFGenome gs.flatten) (h1c : RunsOnOneChrom gs) :
    TilesTable gs.flatten gs (gs.filterMap segOfRun) := by
  induction gs with
  | nil => simp [TilesTable, Cov]
  | cons grp gs ih =>
    have hgrp := hne grp (List.mem_cons_self ..)
    cases grp with
    | nil => exact absurd rfl hgrp
    | cons a t =>
      unfold TilesTable
      rw [List.flatten_cons] at hw ⊢
      obtain ⟨last, hl⟩ := exists_getLast_cons a t
      obtain ⟨g, hg, hgc, hgs, hge, hgp⟩ := segOfRun_spec a t last hl
      have hone := h1c (a :: t) (List.mem_cons_self ..)
      have hwg : WFUnit (a :: t) := (hw.sublist (List.sublist_append_left ..)).toUnit hone
      have hwr : WFGenome gs.flatten := hw.sublist (List.sublist_append_right ..)
      -- a bin of a later run on this run's chromosome starts no earlier than this run's last bin ends, so this run's
      -- segment lies before every later segment of the chromosome
      have hcross := (List.pairwise_append.mp hw.2).2.2
      have hlast_mem : last ∈ a :: t := List.mem_of_getLast? hl
      have hhead := hwg.head_le
      have hlast := hwg.le_last hl
      have hlpos := hwg.1 last hlast_mem
      have hal := hhead last hlast_mem
      obtain ⟨ihc, ihok, ihfrom⟩ := ih (fun x hx => hne x (List.mem_cons_of_mem _ hx)) hwr
        (fun x hx => h1c x (List.mem_cons_of_mem _ hx))
      rw [List.filterMap_cons_some hg]
      refine ⟨⟨⟨hgrp, hgp, ?_⟩, ihc⟩, ?_, ?_⟩
      · intro b hbm
        have h1 := hhead b hbm
        have h2 := hlast b hbm
        exact ⟨by rw [hgc]; exact h1.1.symm, by omega, by omega⟩
      · refine List.pairwise_cons.mpr ⟨?_, ihok⟩
        intro x hx hcx
        obtain ⟨⟨b, hb, hbc, hbs⟩, _⟩ := ihfrom x hx
        have := hcross last hlast_mem b hb (by rw [← hal.1, ← hgc, hcx, hbc])
        omega
      · intro x hx
        rcases List.mem_cons.mp hx with rfl | hx
        · exact ⟨⟨a, List.mem_append_left _ (List.mem_cons_self ..), hgc.symm, hgs.symm⟩,
            ⟨last, List.mem_append_left _ hlast_mem, by rw [hgc]; exact hal.1.symm, hge.symm⟩⟩
        · exact (ihfrom x hx).mono (fun b hb => List.mem_append_right _ hb)

theorem TilesTable.setFirst {u : List Bin} {gs : List (List Bin)} {segs : List SegO} (ht : TilesTable u gs segs)
    (first : Bin) (hfm : first ∈ u) (hle : ∀ b ∈ u, first.chrom = b.chrom → first.s ≤ b.s) :
    TilesTable u gs (setFirst (stretchS first) segs) := by
  obtain ⟨hc, hok, hfrom⟩ := ht
  cases segs with
  | nil => exact ⟨hc, hok, hfrom⟩
  | cons g segs =>
    cases gs with
    | nil => exact hc.elim
    | cons grp gs =>
      obtain ⟨hr, hc'⟩ := hc
      have hpw := List.pairwise_cons.mp hok
      have hgf := hfrom g (List.mem_cons_self ..)
      show TilesTable u (grp :: gs) ((if (g.chrom == first.chrom) = true then { g with s := first.s } else g) :: segs)
      by_cases hch : (g.chrom == first.chrom) = true
      · rw [if_pos hch]
        have hce : g.chrom = first.chrom := by simpa using hch
        obtain ⟨⟨b0, hb0, hb0c, hb0s⟩, hge⟩ := hgf
        have hlo : first.s ≤ g.s := by
          have := hle b0 hb0 (by rw [hb0c, hce]); omega
        refine ⟨⟨hr.widen rfl rfl hlo (Int.le_refl _), hc'⟩, List.pairwise_cons.mpr ⟨hpw.1, hpw.2⟩, ?_⟩
        · intro x hx
          rcases List.mem_cons.mp hx with rfl | hx
          · exact ⟨⟨first, hfm, hce.symm, rfl⟩, hge⟩
          · exact hfrom x (List.mem_cons_of_mem _ hx)
      · rw [if_neg hch]
        exact ⟨⟨hr, hc'⟩, hok, hfrom⟩

theorem TilesTable.setLast {u : List Bin} {gs : List (List Bin)} {segs : List SegO} (ht : TilesTable u gs segs)
    (last : Bin) (hlm : last ∈ u) (hle : ∀ b ∈ u, b.chrom = last.chrom → b.e ≤ last.e) :
    TilesTable u gs (setLast (stretchE last) segs) := by
  -- `setLast` recurses on the table alone; the runs follow it in lockstep, so they are generalised
  induction segs generalizing gs with
  | nil => exact ht
  | cons g segs ih =>
    obtain ⟨hc, hok, hfrom⟩ := ht
    cases gs with
    | nil => exact hc.elim
    | cons grp gs =>
      obtain ⟨hr, hc'⟩ := hc
      have hpw := List.pairwise_cons.mp hok
      have hgf := hfrom g (List.mem_cons_self ..)
      cases segs with
      | nil =>
        show TilesTable u (grp :: gs) [if (g.chrom == last.chrom) = true then { g with e := last.e } else g]
        by_cases hch : (g.chrom == last.chrom) = true
        · rw [if_pos hch]
          have hce : g.chrom = last.chrom := by simpa using hch
          obtain ⟨hgs, ⟨b0, hb0, hb0c, hb0e⟩⟩ := hgf
          have hhi : g.e ≤ last.e := by
            have := hle b0 hb0 (by rw [hb0c, hce]); omega
          refine ⟨⟨hr.widen rfl rfl (Int.le_refl _) hhi, hc'⟩, List.pairwise_singleton .., ?_⟩
          · intro x hx
            rw [List.mem_singleton] at hx
            subst hx
            exact ⟨hgs, ⟨last, hlm, hce.symm, rfl⟩⟩
        · rw [if_neg hch]
          exact ⟨⟨hr, hc'⟩, hok, hfrom⟩
      | cons g2 segs =>
        rw [setLast_cons_cons]
        obtain ⟨ihc, ihok, ihfrom⟩ := ih (gs := gs) ⟨hc', hpw.2, fun x hx => hfrom x (List.mem_cons_of_mem _ hx)⟩
        refine ⟨⟨hr, ihc⟩, ?_, ?_⟩
        · refine List.pairwise_cons.mpr ⟨?_, ihok⟩
          intro x hx hcx
          obtain ⟨x0, hx0, hsc⟩ := setLast_mem_inv _ (fun g : SegO => (g.chrom, g.s))
            (stretchE_blind (fun g : SegO => (g.chrom, g.s)) (fun _ _ => rfl) last) _ x hx
          have h1 : x0.chrom = x.chrom := congrArg Prod.fst hsc
          have h2 : x0.s = x.s := congrArg Prod.snd hsc
          have := hpw.1 x0 hx0 (by rw [h1]; exact hcx)
          omega
        · intro x hx
          rcases List.mem_cons.mp hx with rfl | hx
          · exact hgf
          · exact ihfrom x hx

theorem TilesTable.map {u : List Bin} {gs : List (List Bin)} {segs : List SegO} (ht : TilesTable u gs segs)
    (h : SegO → SegO)
    (hh : ∀ g, (h g).chrom = g.chrom ∧ (h g).s = g.s ∧ (h g).e = g.e ∧ (h g).probes = g.probes) :
    TilesTable u gs (segs.map h) := by
  obtain ⟨hc, hok, hfrom⟩ := ht
  refine ⟨?_, ?_, ?_⟩
  · clear hok hfrom
    induction hc using Cov.induction with
    | nil => trivial
    | cons hr _ ih =>
      obtain ⟨h1, h2, h3, h4⟩ := hh _
      exact ⟨hr.widen h1 h4 (Int.le_of_eq h2) (Int.le_of_eq h3.symm), ih⟩
  · refine List.pairwise_map.mpr (hok.imp ?_)
    intro a b hab
    rw [(hh a).1, (hh b).1, (hh a).2.2.1, (hh b).2.1]; exact hab
  · intro x hx
    obtain ⟨g, hg, rfl⟩ := List.mem_map.mp hx
    obtain ⟨h1, h2, h3, h4⟩ := hh g
    obtain ⟨⟨a, ha, hac, has⟩, ⟨b, hb, hbc, hbe⟩⟩ := hfrom g hg
    exact ⟨⟨a, ha, by rw [h1]; exact hac, by rw [h2]; exact has⟩, ⟨b, hb, by rw [h1]; exact hbc, by rw [h3]; exact hbe⟩⟩

theorem rawSegs_tiles (u : List Bin) (hw : WFGenome u) (runs : List Nat)
    (h1c : RunsOnOneChrom (splitLens (u.filter (·.keep)) runs)) :
    TilesTable u (splitLens (u.filter (·.keep)) runs) (rawSegs u runs) := by
  have hsub : (u.filter (·.keep)).Sublist u := List.filter_sublist
  unfold rawSegs
  generalize u.filter (·.keep) = sv at h1c hsub
  have hfl := splitLens_flatten sv runs
  exact (filterMap_segOfRun_tiles _ (splitLens_nonempty sv runs) (by rw [hfl]; exact hw.sublist hsub) h1c).mono
    (fun b hb => hsub.subset (hfl ▸ hb))

theorem assembleGenome_tiles (u : List Bin) (hw : WFGenome u) (runs : List Nat)
    (h1c : RunsOnOneChrom (splitLens (u.filter (·.keep)) runs)) :
    TilesTable u (splitLens (u.filter (·.keep)) runs) (assembleUnit u runs) := by
  have h0 := rawSegs_tiles u hw runs h1c
  rw [assembleUnit_eq]
  cases u with
  | nil => rwa [(rawSegs_eq_nil_iff [] runs).mpr rfl] at h0
  | cons first t =>
    obtain ⟨last, hl⟩ := exists_getLast_cons first t
    rw [stretchEnds_cons first t hl]
    exact ((h0.setFirst first (List.mem_cons_self ..) hw.head_le).setLast last (List.mem_of_getLast? hl)
      (hw.le_last hl)).map (aggregate (first :: t)) (aggregate_keeps (first :: t))

theorem survivors_pos {u : List Bin} (hw : WFGenome u) (runs : List Nat) :
    ∀ x ∈ (splitLens (u.filter (·.keep)) runs).flatten, x.s < x.e := by
  intro x hx
  rw [splitLens_flatten] at hx
  exact hw.1 x (List.mem_filter.mp hx).1

theorem WFUnit.runsOnOneChrom {u : List Bin} (hw : WFUnit u) (runs : List Nat) :
    RunsOnOneChrom (splitLens (u.filter (·.keep)) runs) :=
  runsOnOneChrom_of_unit hw _ fun b hb => by
    rw [splitLens_flatten] at hb; exact (List.mem_filter.mp hb).1

end CnvVerif
