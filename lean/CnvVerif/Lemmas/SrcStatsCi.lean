/-
  Arithmetic behind Props/C17SrcCi.lean.  The left sides of `ci_lo_level` / `ci_hi_level` are written exactly as the
  body of `ciBoot` (Model/Stats.lean) has them, so that rewriting with them from right to left turns the levels
  `confidence_interval_bootstrap` computes into the model's; Python's `int(np.ceil(·))` on a positive number.
  `Generated/ExprsStats.lean` is re-translated from /repo's Python on every run; a lemma here stops checking when an
  edit to the source changes the value of the expression (`ring` absorbs equivalent spellings).
-/
import CnvVerif.Generated.ExprsStats
import Mathlib.Tactic.Ring
import CnvVerif.Lemmas.SrcInt
namespace CnvVerif.Src
open CnvVerif.Generated

theorem ci_lo_level (alpha : Rat) : 100 * (alpha / 2) = src_ci_pct_lo alpha := by
  unfold src_ci_pct_lo
  ring

theorem ci_hi_level (alpha : Rat) : 100 * (1 - alpha / 2) = src_ci_pct_hi alpha := by
  unfold src_ci_pct_hi
  ring

theorem ceil_toNat_cast (q : Rat) (h : 0 < q) : ((q.ceil.toNat : Nat) : Rat) = ((q.ceil : Int) : Rat) := by
  have h0 : (0 : Int) ≤ q.ceil := by
    have : (0 : Rat) < (q.ceil : Rat) := lt_of_lt_of_le h Rat.le_ceil
    exact_mod_cast this.le
  rw [← Int.cast_natCast, Int.toNat_of_nonneg h0]

end CnvVerif.Src
