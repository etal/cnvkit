/-
  C16, tie to the source TEXT (cnvlib/cnary.py): what the statements of Props/C16SrcByGene.lean are written with --
  `posSlice` (the rows a yielded `(label, positions)` pair stands for) and `srcLoop` (the loop of `by_gene` run with the
  loop body and the telomere step the translator reads off the current source, Generated/ExprsByGene.lean; regenerated
  from /repo on every run).
-/
import CnvVerif.Generated.ExprsByGene
import CnvVerif.Model.Genes
namespace CnvVerif.Genes
open CnvVerif CnvVerif.Generated

/-- the rows a yielded `(label, positions)` pair of the generated loop body stands for:
    `table.iloc[a:b]` is `slice rs a b`, `table.iloc[a:]` is `rs.drop a` -/
def posSlice (rs : List Bin) (y : String × Nat × Option Nat) : String × List Bin :=
  (y.1, match y.2.2 with
    | some b => slice rs y.2.1 b
    | none => rs.drop y.2.1)

/-- the loop of `by_gene` over the gene map of one chromosome, run with the GENERATED loop body and telomere step -/
def srcLoop (rs : List Bin) (ign : List String) (T : List (Nat × String)) :
    Nat → List (Nat × String) → List (String × List Bin)
  | prev, [] => (src_by_gene_tail rs.length prev).map (posSlice rs)
  | prev, (_, g) :: ks =>
    (src_by_gene_step ign g (geneIdx T g) prev).1.map (posSlice rs) ++
      srcLoop rs ign T (src_by_gene_step ign g (geneIdx T g) prev).2 ks

end CnvVerif.Genes
