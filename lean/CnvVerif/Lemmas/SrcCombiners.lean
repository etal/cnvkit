/-
  What the codes in the translator's reading of skgenome/combiners.py (Generated/ExprsRanges.lean) stand for; the tie
  itself is Props/C07SrcCombiners.lean.
-/
import CnvVerif.Generated.ExprsRanges
import CnvVerif.Model.RangesExt
namespace CnvVerif.Src
open CnvVerif CnvVerif.Generated

/-- the element `first_of` / `last_of` (skgenome/combiners.py) return, by the code of the generated reading:
    0 = position 0 of a Series (`.iat[0]`),
    1 = its last position (`.iat[-1]`), 2 / 3 = index 0 / -1 of a plain sequence -/
def elemAt (code : Nat) (vs : List Val) : Val :=
  match code with
  | 0 => vs.headD .nan
  | 2 => vs.headD .nan
  | _ => vs.getLastD .nan

end CnvVerif.Src
