/-
  C16: what `by_gene` does when the property's hypothesis FAILS (interleaved genes, comma-joined multi-gene bins),
  stated for all tables -- and with it the converse of the partition theorem, by counting: the groups never hold fewer
  bins than there are rows, and exactly as many only when `prev_idx` never has to go backwards (`goSpans_length`).
  `Chain` says "`prev_idx` never goes backwards" on the raw key list of the gene map; `chain_iff_spans` ties it to
  `Fits` on the spans.  Core Lean only.
-/
import CnvVerif.Lemmas.Genes
namespace CnvVerif.Genes
open CnvVerif

/-- how many bins the groups hold together (a bin yielded twice counts twice) -/
def totalLen (gs : List (String × List Bin)) : Nat := ((gs.map (·.2)).flatten).length

theorem totalLen_nil : totalLen [] = 0 := rfl

theorem totalLen_cons (p : String × List Bin) (l : List (String × List Bin)) :
    totalLen (p :: l) = p.2.length + totalLen l := by
  simp [totalLen]

theorem totalLen_append (a b : List (String × List Bin)) : totalLen (a ++ b) = totalLen a + totalLen b := by
  simp [totalLen]

/-! ### the loop, for any spans -/

theorem le_totalLen_gap {rs : List Bin} {a b : Nat} (hb : b ≤ rs.length) : b ≤ totalLen (gap rs a b) + a := by
  unfold gap
  split
  · rw [totalLen_cons, totalLen_nil, length_slice, Nat.min_eq_left hb, Nat.add_zero,
      Nat.sub_add_cancel (Nat.le_of_lt ‹_›)]
    exact Nat.le_refl b
  · exact Nat.le_trans (Nat.le_of_not_lt ‹_›) (Nat.le_add_left _ _)

/-- one gene of the loop, in numbers: the stretch `G` from `p` to the gene's first row `f`, the gene's `L` rows up to
    `la`, the `C` rows yielded after it, in a table of `n` rows -/
theorem length_step {n G L C p f la : Nat} (hgap : f ≤ G + p) (hslice : L + f = la + 1)
    (hrest : n ≤ C + (la + 1)) :
    n ≤ G + (L + C) + p ∧ (G + (L + C) + p = n → p ≤ f ∧ C + (la + 1) = n) := by
  omega

/-- the groups never hold fewer bins than the rows from `prev` on, and hold exactly as many only if `prev_idx`
    never has to go backwards -/
theorem goSpans_length {rs : List Bin} :
    ∀ (S : List Span) (prev : Nat), (∀ s ∈ S, s.first ≤ s.last ∧ s.last < rs.length) →
      rs.length ≤ totalLen (goSpans rs prev S) + prev ∧
      (totalLen (goSpans rs prev S) + prev = rs.length → Fits prev S) := by
  intro S
  induction S with
  | nil =>
    intro prev _
    exact ⟨le_totalLen_gap (Nat.le_refl _), fun _ => trivial⟩
  | cons s S ih =>
    intro prev hw
    obtain ⟨h1, h2⟩ := hw s List.mem_cons_self
    obtain ⟨ih1, ih2⟩ := ih (s.last + 1) (fun t ht => hw t (List.mem_cons_of_mem _ ht))
    have hgap := le_totalLen_gap (a := prev) (Nat.le_of_lt (Nat.lt_of_le_of_lt h1 h2))
    have hslice : (slice rs s.first (s.last + 1)).length + s.first = s.last + 1 := by
      rw [length_slice, Nat.min_eq_left h2, Nat.sub_add_cancel (Nat.le_succ_of_le h1)]
    rw [goSpans, totalLen_append, totalLen_cons]
    dsimp only
    have key := length_step hgap hslice ih1
    exact ⟨key.1, fun heq => ⟨(key.2 heq).1, ih2 (key.2 heq).2⟩⟩

theorem goSpans_covers {rs : List Bin} :
    ∀ (S : List Span) (prev i : Nat) (b : Bin), prev ≤ i → rs[i]? = some b →
      ∃ p ∈ goSpans rs prev S, b ∈ p.2 := by
  intro S
  induction S with
  | nil =>
    intro prev i b hi hb
    have hlt : i < rs.length := (List.getElem?_eq_some_iff.mp hb).1
    exact ⟨_, mem_gap.mpr ⟨Nat.lt_of_le_of_lt hi hlt, rfl⟩, mem_slice_of_getElem? hi hlt hb⟩
  | cons s S ih =>
    intro prev i b hi hb
    rw [goSpans]
    by_cases h1 : i < s.first
    · exact ⟨_, List.mem_append_left _ (mem_gap.mpr ⟨Nat.lt_of_le_of_lt hi h1, rfl⟩),
        mem_slice_of_getElem? hi h1 hb⟩
    · by_cases h2 : i < s.last + 1
      · exact ⟨_, List.mem_append_right _ List.mem_cons_self,
          mem_slice_of_getElem? (Nat.le_of_not_lt h1) h2 hb⟩
      · obtain ⟨p, hp, hbp⟩ := ih (s.last + 1) i b (Nat.le_of_not_lt h2) hb
        exact ⟨p, List.mem_append_right _ (List.mem_cons_of_mem _ hp), hbp⟩

/-! ### `by_gene` on one chromosome, without any hypothesis -/

theorem byGeneChrom_length_ge (ignore : List String) (rs : List Bin) :
    rs.length ≤ totalLen (byGeneChrom ignore rs) := by
  have h := (goSpans_length _ 0 (geneSpans_spans (fullIgnore ignore) rs).wf).1
  rwa [Nat.add_zero, ← byGeneChrom_eq_goSpans] at h

theorem contiguous_of_length_eq (ignore : List String) (rs : List Bin)
    (h : totalLen (byGeneChrom ignore rs) = rs.length) : Contiguous (fullIgnore ignore) rs := by
  rw [byGeneChrom_eq_goSpans, ← Nat.add_zero (totalLen _)] at h
  have hS := geneSpans_spans (fullIgnore ignore) rs
  exact hS.fits_iff.mp ((goSpans_length _ 0 hS.wf).2 h)

theorem byGeneChrom_covers (ignore : List String) (rs : List Bin) :
    ∀ b ∈ rs, ∃ p ∈ byGeneChrom ignore rs, b ∈ p.2 := by
  intro b hb
  obtain ⟨i, hi⟩ := List.mem_iff_getElem?.mp hb
  rw [byGeneChrom_eq_goSpans]
  exact goSpans_covers _ 0 i b (Nat.zero_le _) hi

/-- a sum of terms bounded below meets the sum of the bounds only when every term meets its bound -/
theorem flatMap_tight {α} (L : List α) (F : α → List (String × List Bin)) (n : α → Nat)
    (h : ∀ x ∈ L, n x ≤ totalLen (F x)) :
    (L.map n).sum ≤ totalLen (L.flatMap F) ∧
      (totalLen (L.flatMap F) = (L.map n).sum → ∀ x ∈ L, totalLen (F x) = n x) := by
  induction L with
  | nil => exact ⟨Nat.le_refl _, fun _ _ hx => nomatch hx⟩
  | cons a L ih =>
    obtain ⟨ih1, ih2⟩ := ih fun x hx => h x (List.mem_cons_of_mem _ hx)
    have ha := h a List.mem_cons_self
    rw [List.flatMap_cons, totalLen_append, List.map_cons, List.sum_cons]
    exact ⟨Nat.add_le_add ha ih1, fun e => List.forall_mem_cons.mpr ⟨by omega, ih2 (by omega)⟩⟩

theorem byChrom_length (t : List Bin) : ((byChrom t).map (fun p => p.2.length)).sum = t.length := by
  simpa [byChrom, firstKeys_eq_eraseDups, Function.comp_def] using sum_groups (fun b : Bin => b.chrom) t

theorem byGene_length_ge (ignore : List String) (t : List Bin) : t.length ≤ totalLen (byGene ignore t) :=
  byChrom_length t ▸ (flatMap_tight (byChrom t) _ _ fun p _ => byGeneChrom_length_ge ignore p.2).1

theorem byGene_length_eq_iff (ignore : List String) (t : List Bin) :
    totalLen (byGene ignore t) = t.length ↔ TableContiguous (fullIgnore ignore) t :=
  ⟨fun h p hp => contiguous_of_length_eq ignore p.2
      ((flatMap_tight (byChrom t) _ _ fun p _ => byGeneChrom_length_ge ignore p.2).2 (h.trans (byChrom_length t).symm) p hp),
    fun h => (byGene_perm ignore t h).length_eq⟩

/-- `Fits` read on the keys of the gene map as the loop walks them (`chain_iff_spans`): each gene that is not ignored
    starts at or after the position `prev` reached -/
def Chain (ign : List String) (T : List (Nat × String)) : Nat → List (Nat × String) → Prop
  | _, [] => True
  | prev, (f, g) :: ks =>
    if ign.contains g then Chain ign T prev ks else prev ≤ f ∧ Chain ign T (lastOf T g + 1) ks

theorem chain_iff_spans {rs : List Bin} {ign : List String} (ks : List (Nat × String)) (prev : Nat) :
    Chain ign (taggedFrom 0 rs) prev ks ↔ Fits prev (spans ign rs ks) := by
  induction ks generalizing prev with
  | nil => rfl
  | cons k ks ih =>
    obtain ⟨f, g⟩ := k
    cases hc : ign.contains g
    · simp only [Chain, spans, hc, List.filter_cons, Bool.not_false, Bool.false_eq_true, ↓reduceIte, List.map_cons, Fits]
      rw [ih]; rfl
    · simp only [Chain, spans, hc, List.filter_cons, Bool.not_true, Bool.false_eq_true, ↓reduceIte]
      exact ih prev

/-- along a chain the genes that are not ignored occupy disjoint, increasing stretches -/
theorem Chain.pairwise {rs : List Bin} {ign : List String} :
    ∀ (ks : List (Nat × String)) (prev : Nat), (∀ x ∈ ks, x ∈ firstByName (taggedFrom 0 rs)) →
      Chain ign (taggedFrom 0 rs) prev ks →
      ks.Pairwise (fun x y => ign.contains x.2 = false → ign.contains y.2 = false →
        lastOf (taggedFrom 0 rs) x.2 + 1 ≤ y.1) :=
  fun ks prev hsub hch => by
    have hw : ∀ s ∈ spans ign rs ks, s.first ≤ s.last := fun s hs => by
      obtain ⟨hk, hc, hl⟩ := mem_spans.mp hs
      exact ((geneSpans_spans ign rs).exact s (mem_spans.mpr ⟨hsub _ hk, hc, hl⟩)).le
    simpa only [spans, List.pairwise_map, List.pairwise_filter, Bool.not_eq_eq_eq_not, Bool.not_true] using
      ((fits_iff_pairwise hw prev).mp ((chain_iff_spans ks prev).mp hch)).2

end CnvVerif.Genes
