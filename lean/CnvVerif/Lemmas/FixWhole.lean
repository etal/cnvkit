/-
  C04, the whole of `do_fix`: its body once the two classes of bins are loaded (`fixBody`, `fixCore`), what it reads
  of its inputs (`doFix_congr`), and what the body emits for rows and reference rows aligned by coordinate
  (`fixBody_final`).  Targets and antitargets are adjusted separately, concatenated and re-sorted on both sides; the
  two sides stay aligned because both sorts read only the coordinates (`sortR_keys_eq_sortS_keys`).
-/
import CnvVerif.Lemmas.FixAlign
import CnvVerif.Lemmas.FixWeights
namespace CnvVerif

/-- the body of `doFix` once the rows and the reference rows are fixed -/
def fixBody (rows : List SRow) (refs : List RRow) (cfg : FixCfg) (P : FixParams) : List FixOut :=
  let sub := (rows.zip refs).map fun p => { p.1 with log2 := p.1.log2 - p.2.log2 }
  let sq (r : SRow) : Rat := ((P.sqrtSize.find? (fun kv => kv.1 == sKey r)).map (·.2)).getD 1
  let ws := applyWeights ((sub.zip refs).map fun p => (p.1, p.2, sq p.1)) P.varT P.varA
  let final := centerS true cfg.par sub
  (final.zip ws).map fun p => { row := p.1, weight := p.2 }

/-- the body of `doFix` after the two classes are loaded -/
def fixCore (cnT cnA : List SRow) (rfT rfA : List RRow) (cfg : FixCfg) (P : FixParams) : List FixOut :=
  fixBody (if cnA.isEmpty then cnT else sortS (cnT ++ cnA)) (if cnA.isEmpty then rfT else sortR (rfT ++ rfA)) cfg P

theorem doFixCore_eq (tgt anti : List SRow) (ref : List RRow) (cfg : FixCfg) (P : FixParams) :
    doFixCore tgt anti ref cfg P =
      match loadAdjust tgt ref true cfg.gc cfg.edge false cfg.par P.permT P.wingT P.edgeKeysT with
      | .error e => .error e
      | .ok (cnT, rfT, _) =>
        match loadAdjust anti ref false cfg.gc false cfg.rmask cfg.par P.permA P.wingA with
        | .error e => .error e
        | .ok (cnA, rfA, _) => .ok (fixCore cnT cnA rfT rfA cfg P) := by
  unfold doFixCore
  cases loadAdjust tgt ref true cfg.gc cfg.edge false cfg.par P.permT P.wingT P.edgeKeysT with
  | error e => rfl
  | ok x =>
    obtain ⟨cnT, rfT, s1⟩ := x
    cases loadAdjust anti ref false cfg.gc false cfg.rmask cfg.par P.permA P.wingA with
    | error e => rfl
    | ok y =>
      obtain ⟨cnA, rfA, s2⟩ := y
      rfl

/-- `do_fix` reads its inputs and configuration only through the shared-bin guard, the two `load_adjust_coverages`
    calls and the PAR genome -/
theorem doFix_congr (tgt tgt' anti anti' : List SRow) (ref ref' : List RRow) (cfg cfg' : FixCfg) (P : FixParams)
    (hguard : (tgt'.map sKey).any (fun k => (anti'.map sKey).contains k) =
      (tgt.map sKey).any (fun k => (anti.map sKey).contains k))
    (hpar : cfg'.par = cfg.par)
    (hT : loadAdjust tgt' ref' true cfg'.gc cfg'.edge false cfg'.par P.permT P.wingT P.edgeKeysT =
      loadAdjust tgt ref true cfg.gc cfg.edge false cfg.par P.permT P.wingT P.edgeKeysT)
    (hA : loadAdjust anti' ref' false cfg'.gc false cfg'.rmask cfg'.par P.permA P.wingA =
      loadAdjust anti ref false cfg.gc false cfg.rmask cfg.par P.permA P.wingA) :
    doFix tgt' anti' ref' cfg' P = doFix tgt anti ref cfg P := by
  have hcore : ∀ cnT cnA rfT rfA, fixCore cnT cnA rfT rfA cfg' P = fixCore cnT cnA rfT rfA cfg P := by
    intro cnT cnA rfT rfA
    unfold fixCore fixBody
    rw [hpar]
  unfold doFix
  rw [hguard, doFixCore_eq, doFixCore_eq, hT, hA]
  simp only [hcore]

theorem sharedGuard_perm (tgt tgt' anti anti' : List SRow) (ht : tgt'.Perm tgt) (ha : anti'.Perm anti) :
    (tgt'.map sKey).any (fun k => (anti'.map sKey).contains k) =
      (tgt.map sKey).any (fun k => (anti.map sKey).contains k) := by
  rw [(ht.map sKey).any_eq]
  exact congrArg (List.any (tgt.map sKey)) (funext fun k => (ha.map sKey).contains_eq)

theorem fixBody_rows (rows : List SRow) (refs : List RRow) (cfg : FixCfg) (P : FixParams) :
    ∃ c : Rat, (fixBody rows refs cfg P).map (·.row) =
      (rows.zip refs).map (fun p => { p.1 with log2 := p.1.log2 - p.2.log2 + c }) := by
  refine ⟨centerShift medianR true true cfg.par
    (((rows.zip refs).map fun p => ({ p.1 with log2 := p.1.log2 - p.2.log2 } : SRow)).map toCBin), ?_⟩
  unfold fixBody
  rw [List.map_map]
  show ((centerS true cfg.par _).zip (applyWeights _ _ _)).map Prod.fst = _
  -- one weight per row, so zipping with the weights loses no row
  rw [List.map_fst_zip (by simp only [centerS, applyWeights_length, List.length_map, List.length_zip]; omega)]
  unfold centerS
  rw [List.map_map]
  rfl

/-- the four things `C04.fix_subtracts_bin_for_bin_by_coordinate` says about the output, for any rows / reference rows
    aligned by coordinate -/
theorem fixBody_final (cn : List SRow) (ref : List RRow) (cfg : FixCfg) (P : FixParams)
    (rows : List SRow) (refs : List RRow)
    (hperm : rows.Perm cn) (hs : rows.Pairwise (fun a b => sSortLe a b = true))
    (hgood : ∀ q ∈ refs, badBin q = false ∧ q ∈ ref)
    (hk : refs.map rKey = rows.map sKey) :
    ∃ c : Rat,
      (fixBody rows refs cfg P).length = cn.length ∧
      ((fixBody rows refs cfg P).map (fun o => sKey o.row)).Perm (cn.map sKey) ∧
      ((fixBody rows refs cfg P).map (·.row)).Pairwise (fun a b => sSortLe a b = true) ∧
      ∀ o ∈ fixBody rows refs cfg P, ∃ s ∈ cn, ∃ q ∈ ref, sKey s = sKey o.row ∧ rKey q = sKey o.row ∧
        badBin q = false ∧ o.row.log2 = s.log2 - q.log2 + c := by
  have hlen : refs.length = rows.length := by simpa using congrArg List.length hk
  obtain ⟨c, hc⟩ := fixBody_rows rows refs cfg P
  generalize fixBody rows refs cfg P = outs at hc
  have hkeys : (outs.map (·.row)).map sKey = rows.map sKey := by
    rw [hc, List.map_map]
    have : (sKey ∘ fun p : SRow × RRow => { p.1 with log2 := p.1.log2 - p.2.log2 + c }) = sKey ∘ Prod.fst := rfl
    rw [this, ← List.map_map, List.map_fst_zip (by omega)]
  refine ⟨c, ?_, ?_, ?_, ?_⟩
  · have := congrArg List.length hkeys
    simp only [List.length_map] at this
    rw [this]; exact hperm.length_eq
  · have : outs.map (fun o => sKey o.row) = (outs.map (·.row)).map sKey := by rw [List.map_map]; rfl
    rw [this, hkeys]; exact hperm.map sKey
  · exact sorted_of_keys_eq hkeys hs
  · intro o ho
    have : o.row ∈ outs.map (·.row) := List.mem_map_of_mem ho
    rw [hc] at this
    obtain ⟨p, hp, hpe⟩ := List.mem_map.mp this
    obtain ⟨hp1, hp2⟩ := List.of_mem_zip (a := p.1) (b := p.2) hp
    have hkk : sKey p.1 = rKey p.2 := List.forall₂_zip (map_eq_map_iff_forall₂.mp hk.symm) hp
    refine ⟨p.1, hperm.mem_iff.mp hp1, p.2, (hgood p.2 hp2).2, ?_, ?_, (hgood p.2 hp2).1, ?_⟩
    · rw [← hpe]; rfl
    · rw [← hpe, ← hkk]; rfl
    · rw [← hpe]

end CnvVerif
