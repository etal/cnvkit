/-
  The text side of `bedcov` (Model/CoverageExt5Cols.lean): what samtools prints is lines of TAB-joined fields.  The
  model's `splitOn` / `joinWith` are core's `List.splitOn` / `List.intercalate` (`splitOn_eq`, `joinWith_eq`), so by core's
  lemmas `splitOn` undoes `joinWith` on fields free of the separator; hence `read_csv` sees exactly the lines that were
  joined, the names come from the TAB count of the first of them, and every line splits back into its fields
  (`parse_text`).
-/
import CnvVerif.Model.CoverageExt5Cols
import CnvVerif.Lemmas.Basic
namespace CnvVerif.C09Cols

theorem splitOn_eq (c : Char) (l : List Char) : splitOn c l = l.splitOn c := by
  induction l with
  | nil => rfl
  | cons x xs ih =>
    rw [splitOn, List.splitOn_cons_eq_if_modifyHead, ih]
    by_cases h : x = c
    · simp [h]
    · rw [if_neg h, if_neg (by simpa using h)]
      cases hs : xs.splitOn c with
      | nil => exact absurd hs (List.splitOn_ne_nil c xs)
      | cons a t => rfl

theorem joinWith_eq (c : Char) (fs : List (List Char)) : joinWith c fs = [c].intercalate fs := by
  induction fs with
  | nil => rfl
  | cons f t ih =>
    cases t with
    | nil => simp [joinWith, List.intercalate_singleton]
    | cons g r => rw [joinWith, ih, List.intercalate_cons_cons]; simp

theorem splitOn_append {c : Char} {f : List Char} (h : c ∉ f) (r : List Char) :
    splitOn c (f ++ c :: r) = f :: splitOn c r := by
  rw [splitOn_eq, splitOn_eq]; exact List.splitOn_append_cons_self_of_not_mem h r

theorem splitOn_join {c : Char} (fs : List (List Char)) (hne : fs ≠ []) (h : ∀ f ∈ fs, c ∉ f) :
    splitOn c (joinWith c fs) = fs := by
  rw [splitOn_eq, joinWith_eq]; exact List.splitOn_intercalate c h hne

theorem length_splitOn (c : Char) (l : List Char) : (splitOn c l).length = l.count c + 1 := by
  induction l with
  | nil => simp [splitOn]
  | cons x xs ih =>
    simp only [splitOn]
    by_cases hx : x = c
    · subst hx; simp [ih]
    · rw [if_neg hx]
      rcases hs : splitOn c xs with _ | ⟨h, t⟩
      · exact absurd (splitOn_eq c xs ▸ hs) (List.splitOn_ne_nil c xs)
      · rw [hs] at ih
        simp only [List.length_cons] at ih ⊢
        rw [List.count_cons_of_ne hx]; omega

theorem mem_joinWith {c x : Char} : ∀ (fs : List (List Char)), x ∈ joinWith c fs → x = c ∨ ∃ f ∈ fs, x ∈ f
  | [], h => by simp [joinWith] at h
  | [f], h => by right; exact ⟨f, by simp, by simpa [joinWith] using h⟩
  | f :: g :: r, h => by
    simp only [joinWith, List.mem_append, List.mem_cons] at h
    rcases h with h | h | h
    · right; exact ⟨f, by simp, h⟩
    · left; exact h
    · rcases mem_joinWith (g :: r) h with h | ⟨f', hf', hx⟩
      · left; exact h
      · right; exact ⟨f', List.mem_cons_of_mem _ hf', hx⟩

theorem firstLine_append {l : List Char} (hl : '\n' ∉ l) (r : List Char) : firstLine (l ++ '\n' :: r) = some l := by
  unfold firstLine
  rw [if_pos (by simp),
    CnvVerif.takeWhile_append_stop (· ≠ '\n') l '\n' r (fun x hx => decide_eq_true fun e : x = '\n' => hl (e ▸ hx)) (by simp)]

/-- only the first line decides the names -/
theorem detect_append {l : List Char} (hl : '\n' ∉ l) (r : List Char) :
    detect (l ++ '\n' :: r) = columnsOf (l.count '\t') := by
  unfold detect; rw [firstLine_append hl]

theorem splitOn_lines {c : Char} : ∀ (ls : List (List Char)), (∀ l ∈ ls, c ∉ l) →
    splitOn c ((ls.map (· ++ [c])).flatten) = ls ++ [[]]
  | [], _ => by simp [splitOn]
  | l :: r, h => by
    have ih := splitOn_lines r (fun x hx => h x (List.mem_cons_of_mem _ hx))
    have : ((l :: r).map (· ++ [c])).flatten = l ++ c :: (r.map (· ++ [c])).flatten := by simp
    rw [this, splitOn_append (h l (by simp)), ih]; rfl

theorem rowOf_full (rd : Reader) {k : Nat} {fs : List (List Char)} (h : fs.length = k) :
    rowOf rd k fs = fs.map (cell rd) := by
  unfold rowOf
  have : (fs.map some ++ List.replicate (k - fs.length) none).take k = fs.map some := by
    rw [h, Nat.sub_self, ← h]
    simp only [List.replicate_zero, List.append_nil]
    conv => lhs; arg 1; rw [← List.length_map (f := some) (as := fs)]
    exact List.take_length
  rw [this, List.map_map]; rfl

theorem columnsOf_spec {n : Nat} (hn : 3 ≤ n) :
    ∃ cols, columnsOf n = .ok cols ∧ cols.length = n + 1 ∧ cols.contains "gene" = decide (4 ≤ n) := by
  unfold columnsOf
  by_cases h3 : n = 3
  · subst h3; exact ⟨_, rfl, rfl, by decide⟩
  by_cases h4 : n = 4
  · subst h4; exact ⟨_, rfl, rfl, by decide⟩
  rw [if_neg (by omega), if_neg h3, if_neg h4]
  refine ⟨_, rfl, ?_, ?_⟩
  · simp [fillers]; omega
  · simp [show 4 ≤ n by omega]

theorem join_getElem?_map_cell (rd : Reader) (l : List (List Char)) (k : Nat) :
    ((l.map (cell rd))[k]?).join = (l[k]?).bind (cell rd) := by
  rw [List.getElem?_map]; cases l[k]? <;> rfl

theorem recOf_line (rd : Reader) {n : Nat} (hn : 3 ≤ n) {cols : List String} (hl : cols.length = n + 1)
    (hg : cols.contains "gene" = decide (4 ≤ n)) (fs : List (List Char)) (c : List Char) (hlen : fs.length = n) :
    recOf cols ((fs ++ [c]).map (cell rd)) =
      { chrom := (fs[0]?).bind (cell rd), start := (fs[1]?).bind (cell rd), stop := (fs[2]?).bind (cell rd),
        gene := if 4 ≤ n then (fs[3]?).bind (cell rd) else none, basecount := cell rd c } := by
  subst hlen
  have hk : ∀ k, k < fs.length → (((fs ++ [c]).map (cell rd))[k]?).join = (fs[k]?).bind (cell rd) := fun k hk => by
    rw [join_getElem?_map_cell, List.getElem?_append_left hk]
  have hlast : (((fs ++ [c]).map (cell rd))[fs.length]?).join = cell rd c := by
    rw [join_getElem?_map_cell, List.getElem?_concat_length]; rfl
  have h4 : (if cols.contains "gene" = true then (((fs ++ [c]).map (cell rd))[3]?).join else none) =
      if 4 ≤ fs.length then (fs[3]?).bind (cell rd) else none := by
    rw [hg]
    by_cases h4 : 4 ≤ fs.length
    · rw [if_pos (decide_eq_true h4), if_pos h4, hk 3 h4]
    · rw [if_neg (by simpa using h4), if_neg h4]
  rw [recOf, Rec.mk.injEq, hl]
  exact ⟨hk 0 (Nat.lt_of_lt_of_le (by decide) hn), hk 1 (Nat.lt_of_lt_of_le (by decide) hn), hk 2 hn, h4, hlast⟩

/-- the text of a list of lines, each given by its fields -/
def text (ls : List (List (List Char))) : List Char := (ls.map (fun fs => joinWith '\t' fs ++ ['\n'])).flatten

/-- decidable well-formedness of a bedcov text given by its fields: at least one line, every line has `n + 1` fields,
    no field contains a TAB or a newline -/
def WF (n : Nat) (ls : List (List (List Char))) : Prop :=
  ls ≠ [] ∧ (∀ fs ∈ ls, fs.length = n + 1) ∧ (∀ fs ∈ ls, ∀ f ∈ fs, '\t' ∉ f ∧ '\n' ∉ f)

instance (n ls) : Decidable (WF n ls) := by unfold WF; infer_instance

theorem count_join {c : Char} {n : Nat} {fs : List (List Char)} (hl : fs.length = n + 1) (hc : ∀ f ∈ fs, c ∉ f) :
    (joinWith c fs).count c = n := by
  have h1 := length_splitOn c (joinWith c fs)
  rw [splitOn_join fs (by intro e; simp [e] at hl) hc] at h1
  omega

theorem parse_text (rd : Reader) {n : Nat} (hn : 3 ≤ n) {ls : List (List (List Char))} (hw : WF n ls) :
    ∃ cols, columnsOf n = .ok cols ∧ cols.length = n + 1 ∧
      parse rd (text ls) = .ok (cols, ls.map (fun fs => fs.map (cell rd))) := by
  obtain ⟨hne, hlen, hch⟩ := hw
  obtain ⟨cols, hcols, hclen, -⟩ := columnsOf_spec hn
  refine ⟨cols, hcols, hclen, ?_⟩
  have hnl : ∀ fs ∈ ls, '\n' ∉ joinWith '\t' fs := by
    intro fs hfs hm
    rcases mem_joinWith fs hm with h | ⟨f, hf, hx⟩
    · exact absurd h (by decide)
    · exact (hch fs hfs f hf).2 hx
  have hcnt : ∀ fs ∈ ls, (joinWith '\t' fs).count '\t' = n :=
    fun fs hfs => count_join (hlen fs hfs) (fun f hf => (hch fs hfs f hf).1)
  have hnonempty : ∀ fs ∈ ls, (joinWith '\t' fs).isEmpty = false := by
    intro fs hfs
    have := hcnt fs hfs
    cases hj : joinWith '\t' fs with
    | nil => rw [hj] at this; simp at this; omega
    | cons a b => rfl
  -- the lines `read_csv` sees are exactly the joined lines: none is empty (skipped) or holds a newline (cut)
  have htext : text ls = ((ls.map (joinWith '\t')).map (· ++ ['\n'])).flatten := by
    simp [text, List.map_map, Function.comp_def]
  have hlines : linesOf (text ls) = ls.map (joinWith '\t') := by
    unfold linesOf
    rw [htext, splitOn_lines _ (by
      intro l hl; rcases List.mem_map.1 hl with ⟨fs, hfs, rfl⟩; exact hnl fs hfs)]
    rw [List.filter_append]
    have : (ls.map (joinWith '\t')).filter (fun l => !l.isEmpty) = ls.map (joinWith '\t') := by
      apply List.filter_eq_self.2
      intro l hl; rcases List.mem_map.1 hl with ⟨fs, hfs, rfl⟩; simp [hnonempty fs hfs]
    rw [this]; simp
  cases ls with
  | nil => exact absurd rfl hne
  | cons l0 rest =>
    have hraw : text (l0 :: rest) = joinWith '\t' l0 ++ '\n' :: text rest := by simp [text]
    have hdet : detect (text (l0 :: rest)) = .ok cols := by
      rw [hraw, detect_append (hnl l0 (by simp)), hcnt l0 (by simp), hcols]
    have hemp : (text (l0 :: rest)).isEmpty = false := by rw [hraw]; cases joinWith '\t' l0 <;> rfl
    -- so the names come from the first joined line, and every joined line splits back into its fields
    unfold parse
    rw [hemp, hdet, hlines]
    simp only [Bool.false_eq_true, if_false, List.map_map]
    congr 2
    apply List.map_congr_left
    intro fs hfs
    simp only [Function.comp]
    rw [splitOn_join fs (by intro e; have := hlen fs hfs; simp [e] at this)
      (fun f hf => (hch fs hfs f hf).1), hclen]
    exact rowOf_full rd (hlen fs hfs)

end CnvVerif.C09Cols
