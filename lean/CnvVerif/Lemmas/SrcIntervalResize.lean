/-
  C06 tie to the source text -- resize_ranges: the clip expressions, `if bp < 0`, the keep-test.
  The generated pieces (Generated/ExprsInterval.lean) in normal form, proved as in Lemmas/SrcIntervalMerge.lean.
-/
import CnvVerif.Generated.ExprsInterval
import CnvVerif.Model.Interval
namespace CnvVerif.Src
open CnvVerif CnvVerif.Generated

theorem src_resize_drops_nf (bp : Int) : src_resize_drops bp = decide (bp < 0) := by
  unfold src_resize_drops
  first
  | rfl
  | (simp only [decide_eq_decide]; omega)

theorem src_resize_ok_size_nf (s e : Int) : src_resize_ok_size s e = decide (e - s > 0) := by
  unfold src_resize_ok_size
  first
  | rfl
  | (simp only [decide_eq_decide]; omega)

theorem src_resize_start_nf (s bp hi : Int) : src_resize_start s bp hi = clipInt 0 (some hi) (s - bp) := by
  unfold src_resize_start clipInt
  first
  | rfl
  | (simp only []; omega)

theorem src_resize_end_nf (e bp hi : Int) : src_resize_end e bp hi = clipInt 0 (some hi) (e + bp) := by
  unfold src_resize_end clipInt
  first
  | rfl
  | (simp only []; omega)

theorem src_resize_start_nosizes_nf (s bp : Int) : src_resize_start_nosizes s bp = clipInt 0 none (s - bp) := by
  unfold src_resize_start_nosizes clipInt
  first
  | rfl
  | (simp only []; omega)

theorem src_resize_end_nosizes_nf (e bp : Int) : src_resize_end_nosizes e bp = clipInt 0 none (e + bp) := by
  unfold src_resize_end_nosizes clipInt
  first
  | rfl
  | (simp only []; omega)

end CnvVerif.Src
