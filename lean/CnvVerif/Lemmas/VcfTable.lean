/-
  The table `tabio.read` returns for a VCF and what `load_het_snps` keeps of it (property C18): one row per biallelic
  record (`recRow`), the two row filters as membership statements, cnvkit's sort order on variant rows (`keyLe`,
  `SortedV`), the zygosity column as a function of the genotype (0.5 exactly for two different alleles, else 0 / 1 by
  the one allele named), the heterozygous subset with its everything-when-empty fallback, and `load_het_snps` after its
  reading step (`loadHetSnps_of_read`).  Also, for the tiling lemmas of C03, one BAF per range (`bafByRanges_length`,
  from `iterSlices_length` of Lemmas/Ranges.lean).  Core Lean only.
-/
import CnvVerif.Model.Vcf
import CnvVerif.Lemmas.Basic
import CnvVerif.Lemmas.Ranges
namespace CnvVerif.Vcf
open CnvVerif

/-- a biallelic site: exactly one ALT allele, and it is not the gVCF placeholder -/
def Biallelic (r : Rec) : Prop := ∃ a, r.alts = [a] ∧ a ≠ "<NON_REF>"

/-- the row the property describes for a biallelic record: 0-based start, the genotype columns
    of the chosen sample (and of the paired normal), the SOMATIC flag -/
def recRow (si : Nat) (ni : Option Nat) (r : Rec) : VRow :=
  { chrom := r.chrom, s := r.pos - 1, e := r.pos - 1 + ((r.alts.headD "").length : Nat), ref := r.ref,
    alt := r.alts.headD "", somatic := r.somatic,
    t := genoOf (r.smps[si]?.getD default) r,
    n := ni.map (fun j => genoOf (r.smps[j]?.getD default) r) }

theorem rowsOfRec_biallelic (si : Nat) (ni : Option Nat) (r : Rec) (h : Biallelic r) :
    rowsOfRec si ni r = [recRow si ni r] := by
  obtain ⟨a, ha, hne⟩ := h
  simp [rowsOfRec, recRow, endOf, ha, hne]

theorem mem_sortV (r : VRow) (rows : List VRow) : r ∈ sortV rows ↔ r ∈ rows := by
  unfold sortV
  exact List.mem_mergeSort

theorem sortV_perm (rows : List VRow) : (sortV rows).Perm rows := List.mergeSort_perm rows _

theorem sortV_length (rows : List VRow) : (sortV rows).length = rows.length := (sortV_perm rows).length_eq

theorem mem_somaticFilter (b : Bool) (rows : List VRow) (r : VRow) :
    r ∈ somaticFilter b rows ↔ r ∈ rows ∧ (b = true → r.somatic = false) := by
  unfold somaticFilter
  cases b <;> simp

theorem mem_depthFilter_none (rows : List VRow) (r : VRow) : r ∈ depthFilter none rows ↔ r ∈ rows := by
  simp [depthFilter]

theorem mem_depthFilter (m : Int) (hm : m ≠ 0) (rows : List VRow)
    (hany : ∃ x ∈ rows, x.t.depth ≠ 0) (r : VRow) :
    r ∈ depthFilter (some m) rows ↔ r ∈ rows ∧ filterDepth r ≥ (m : Rat) := by
  have h : rows.any (fun r => r.t.depth != 0) = true := by
    obtain ⟨x, hx, hd⟩ := hany
    exact List.any_eq_true.mpr ⟨x, hx, by simpa using hd⟩
  simp [depthFilter, hm, h]

theorem mem_depthFilter_sub (m : Option Int) (rows : List VRow) (r : VRow) (h : r ∈ depthFilter m rows) :
    r ∈ rows := by
  unfold depthFilter at h
  split at h
  · exact h
  · split at h
    · exact h
    · split at h
      · exact (List.mem_filter.mp h).1
      · exact h

/-- the comparison `sortV` sorts by (Model/Vcf.lean): cnvkit's `sortLe` on the rows' coordinates -/
def keyLe (a b : VRow) : Bool := sortLe a.key b.key

theorem keyLe_iff (a b : VRow) :
    keyLe a b = true ↔ chromKeyLt (sorterChrom a.chrom) (sorterChrom b.chrom) = true ∨
      (sorterChrom a.chrom = sorterChrom b.chrom ∧ (a.s < b.s ∨ (a.s = b.s ∧ a.e ≤ b.e))) :=
  sortLe_iff a.key b.key

/-- rows in cnvkit's order: chromosome key, then start, then end -/
abbrev SortedV (t : List VRow) : Prop := t.Pairwise (fun a b => keyLe a b = true)

theorem sortV_sorted (rows : List VRow) : SortedV (sortV rows) :=
  mergeSort_sorted_of_key (key := VRow.key) (fun _ _ => rfl) sortLe_trans sortLe_total rows

theorem sortedV_of_readVcf (samples : List String) (tags : List PedTag) (recs : List Rec) (o : ReadOpts)
    (tb : VTable) (h : readVcf samples tags recs o = .ok tb) : SortedV tb.rows := by
  unfold readVcf at h
  cases hc : chooseSamples samples tags o.sid o.nid with
  | error e => rw [hc] at h; cases h
  | ok p =>
    rw [hc] at h
    cases h
    exact sortV_sorted _

/-- with no depth (missing, or 0 with no alt reads) the frequency is reported as 0 -/
theorem genoOf_altFreq_nodepth (s : Smp) (r : Rec) (h : depthOf s r = none ∨ altCountOf s = none) :
    (genoOf s r).altFreq = .fin 0 := by
  unfold genoOf
  rcases h with h | h <;> simp [h, freqOf]

theorem length_gt_one_of_nodup {α : Type} (L : List α) (hnd : L.Nodup) :
    L.length > 1 ↔ ∃ a ∈ L, ∃ b ∈ L, a ≠ b := by
  match L, hnd with
  | [], _ => exact iff_of_false (Nat.not_lt_zero _) (fun ⟨_, ha, _⟩ => nomatch ha)
  | [a], _ =>
    exact iff_of_false (Nat.lt_irrefl 1) (fun ⟨x, hx, y, hy, hxy⟩ =>
      hxy ((List.mem_singleton.mp hx).trans (List.mem_singleton.mp hy).symm))
  | a :: b :: t, hnd =>
    exact iff_of_true (Nat.succ_lt_succ (Nat.succ_pos _))
      ⟨a, List.mem_cons_self, b, List.mem_cons_of_mem _ List.mem_cons_self,
        fun e => (List.nodup_cons.mp hnd).1 (e ▸ List.mem_cons_self)⟩

theorem eraseDups_length_gt_one {α : Type} [BEq α] [LawfulBEq α] (l : List α) :
    l.eraseDups.length > 1 ↔ ∃ a ∈ l, ∃ b ∈ l, a ≠ b := by
  rw [length_gt_one_of_nodup _ (nodup_eraseDups l)]
  simp only [List.mem_eraseDups]

theorem zygosityOf_values (gt : List (Option Int)) :
    zygosityOf gt = 0 ∨ zygosityOf gt = 1/2 ∨ zygosityOf gt = 1 := by
  unfold zygosityOf
  split
  · right; left; rfl
  · split
    · left; rfl
    · right; right; rfl

theorem zygosityOf_half (gt : List (Option Int)) :
    zygosityOf gt = 1/2 ↔ ∃ a ∈ gt, ∃ b ∈ gt, a ≠ b := by
  rw [← eraseDups_length_gt_one]
  unfold zygosityOf
  by_cases h : gt.eraseDups.length > 1
  · rw [if_pos h]
    exact iff_of_true rfl h
  · rw [if_neg h]
    refine iff_of_false ?_ h
    split <;> decide +kernel

theorem zygosityOf_uniform (gt : List (Option Int)) (hne : gt ≠ []) (x : Option Int) (h : ∀ a ∈ gt, a = x) :
    zygosityOf gt = if x = some 0 then 0 else 1 := by
  have hlen : ¬ gt.eraseDups.length > 1 := fun hl => by
    obtain ⟨a, ha, b, hb, hab⟩ := (eraseDups_length_gt_one gt).mp hl
    exact hab ((h a ha).trans (h b hb).symm)
  obtain ⟨y, t, rfl⟩ := List.exists_cons_of_ne_nil hne
  cases h y (by simp)
  unfold zygosityOf
  rw [if_neg hlen]
  by_cases hx : x = some 0 <;> simp [hx]

theorem zygosityOf_of_ne_half (gt : List (Option Int)) (hne : gt ≠ []) (h : zygosityOf gt ≠ 1/2) :
    ∃ x, (∀ a ∈ gt, a = x) ∧ zygosityOf gt = if x = some 0 then 0 else 1 := by
  obtain ⟨y, t, rfl⟩ := List.exists_cons_of_ne_nil hne
  have hu : ∀ a ∈ y :: t, a = y := fun a ha =>
    Decidable.byContradiction fun hay => h ((zygosityOf_half _).mpr ⟨a, ha, y, by simp, hay⟩)
  exact ⟨y, hu, zygosityOf_uniform _ hne y hu⟩

theorem zygosityOf_zero (gt : List (Option Int)) (hne : gt ≠ []) :
    zygosityOf gt = 0 ↔ ∀ a ∈ gt, a = some 0 := by
  constructor
  · intro hz
    obtain ⟨x, hu, e⟩ := zygosityOf_of_ne_half gt hne (by rw [hz]; decide +kernel)
    rw [e] at hz
    split at hz
    · intro a ha
      rw [hu a ha]
      assumption
    · exact absurd hz (by decide +kernel)
  · intro hall
    rw [zygosityOf_uniform gt hne (some 0) hall, if_pos rfl]

theorem zygosityOf_one (gt : List (Option Int)) (hne : gt ≠ []) :
    zygosityOf gt = 1 ↔ (∀ a ∈ gt, ∀ b ∈ gt, a = b) ∧ ∃ a ∈ gt, a ≠ some 0 := by
  constructor
  · intro h1
    obtain ⟨x, hu, e⟩ := zygosityOf_of_ne_half gt hne (by rw [h1]; decide +kernel)
    rw [e] at h1
    split at h1
    · exact absurd h1 (by decide +kernel)
    · obtain ⟨a, ha⟩ := List.exists_mem_of_ne_nil gt hne
      exact ⟨fun a ha b hb => (hu a ha).trans (hu b hb).symm, a, ha, hu a ha ▸ ‹_›⟩
  · rintro ⟨hu, a, ha, ha0⟩
    rw [zygosityOf_uniform gt hne a (fun b hb => hu b hb a ha), if_neg ha0]

theorem isHet_iff (r : VRow) : isHet r = true ↔ germZyg r ≠ 0 ∧ germZyg r ≠ 1 := by
  simp [isHet]

theorem heterozygous_eq_filter (rows : List VRow) (h : ∃ r ∈ rows, isHet r = true) :
    heterozygous rows = rows.filter isHet := by
  have : rows.any isHet = true := List.any_eq_true.mpr h
  simp [heterozygous, this]

theorem heterozygous_sublist (rows : List VRow) : (heterozygous rows).Sublist rows := by
  unfold heterozygous
  split
  · exact List.filter_sublist
  · exact List.Sublist.refl _

theorem hetStage_sublist (paired : Bool) (rows : List VRow) : (hetStage paired rows).Sublist rows := by
  refine (heterozygous_sublist _).trans ?_
  split
  · exact List.filter_sublist
  · exact List.Sublist.refl _

theorem keepTN_of_isHet (r : VRow) (h : isHet r = true) : keepTN r = true := by
  rw [isHet_iff] at h
  unfold keepTN
  cases hn : r.n with
  | none => simp
  | some g =>
    have : germZyg r = g.zyg := by simp [germZyg, hn]
    rw [this] at h
    simp [h.1]

theorem hetStage_eq (paired : Bool) (rows : List VRow) (h : ∃ r ∈ rows, isHet r = true) :
    hetStage paired rows = rows.filter isHet := by
  cases paired
  · exact heterozygous_eq_filter rows h
  · obtain ⟨r, hr, hh⟩ := h
    show heterozygous (rows.filter keepTN) = _
    rw [heterozygous_eq_filter _ ⟨r, List.mem_filter.mpr ⟨hr, keepTN_of_isHet r hh⟩, hh⟩, List.filter_filter]
    refine List.filter_congr (fun x _ => ?_)
    cases hx : isHet x
    · rfl
    · exact (Bool.true_and _).trans (keepTN_of_isHet x hx)

theorem effectiveZygFreq_none (o : HetOpts) (tb : VTable) (hz : o.zygFreq = none)
    (hn : tb.paired = true → ∃ r ∈ tb.rows, ∃ g, r.n = some g ∧ g.zyg ≠ 0) :
    effectiveZygFreq o tb = none := by
  unfold effectiveZygFreq
  rw [hz]
  cases hp : tb.paired
  · simp
  · obtain ⟨r, hr', g, hg, hg0⟩ := hn hp
    have : normalUntyped tb.rows = false := by
      unfold normalUntyped
      have : tb.rows.any (fun r => (r.n.map (fun g => g.zyg != 0)).getD false) = true :=
        List.any_eq_true.mpr ⟨r, hr', by simp [hg, hg0]⟩
      simp [this]
    simp [this]

theorem loadHetSnps_of_read (samples : List String) (tags : List PedTag) (recs : List Rec)
    (o : HetOpts) (tb : VTable)
    (hr : readVcf samples tags recs
            { sid := o.sid, nid := o.nid, minDepth := o.minDepth,
              skipReject := false, skipSomatic := true } = .ok tb) :
    loadHetSnps samples tags recs o = (do
      let rows ← retype (effectiveZygFreq o tb) tb.rows
      let rows ← boostStage o.tumorBoost tb.paired (hetStage tb.paired rows)
      pure { paired := tb.paired, rows := rows }) := by
  unfold loadHetSnps
  rw [hr]
  rfl

/-- `baf_by_ranges` answers one value per range, whatever the two tables (`iterSlices_length`); stated in this core-only
    module so that the tiling lemmas (Lemmas/TileFields.lean) can use it -/
theorem bafByRanges_length (tb : VTable) (segs : List (String × Int × Int)) (above : Option Bool) (boost : Bool) :
    (bafByRanges tb segs above boost).length = segs.length := by
  show (if _ then _ else _ : List (Option Rat)).length = _
  split
  · rw [List.length_map, List.length_map]
  · rw [List.length_map, iterSlices_length, List.length_map]

end CnvVerif.Vcf
