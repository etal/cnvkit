/-
  pandas `groupby(key, sort=False)` (`groupByKey`, CnvVerif/Basic.lean; cnvkit's `by_chromosome` is the instance with the
  chromosome as key: `groupByChrom_groups`, `groupByChrom_keys` for `Table`): the groups in order of the first appearance of their key, each group the rows of its key in table
  order.  Three facts carry every use.  It recurses on the table (`groupByKey_cons`).  The groups laid end to end
  rearrange the table (`flatMap_filter_key_perm`, for any duplicate-free list of keys that has every key;
  `groupByKey_flatten_perm`; `groups_flatMap_perm` in the spelling with `flatMap` over the distinct keys; `sum_groups`:
  their sizes add up).  And on a table whose keys are contiguous the groups are the maximal runs of
  equal key, so the table comes back in its own order (`runs_groupByKey`, `groupByKey_flatten_of_contig`).

  `KeysContig key l` is the notion of contiguity: between two rows of one key every row has that key.  `ChromContig`
  (Lemmas/SegFilter.lean) is `KeysContig` of the chromosome, word for word; it, `Genes.ChromGrouped` and
  `Vcf.ChromGrouped` come to the notion by their `keysContig`.  `KeyRuns P ks t` is the form the run theorem
  is proved in: a column of keys `ks` beside the rows `t`, equal between neighbours exactly when `P` relates the rows,
  and never coming back to a key it has left; `runs_groupByKey_zip` serves a key column computed apart from the rows
  (`squash_by_groups`), `runs_groupByKey` a key read off the row.  Core Lean only.
-/
import CnvVerif.Lemmas.Basic
import CnvVerif.Lemmas.Runs
namespace CnvVerif

theorem groupByKey_cons {α κ} [BEq κ] [LawfulBEq κ] (key : α → κ) (y : α) (l : List α) :
    groupByKey key (y :: l) =
      (y :: l.filter (fun x => key x == key y)) :: groupByKey key (l.filter (fun x => !(key x == key y))) := by
  unfold groupByKey
  rw [List.map_cons, List.eraseDups_cons, List.map_cons, List.filter_cons_of_pos (by simp), List.filter_map]
  refine congrArg _ (List.map_congr_left fun k hk => ?_)
  obtain ⟨z, hz, rfl⟩ := List.mem_map.mp (List.mem_eraseDups.mp hk)
  have hzy : (key z == key y) = false := by simpa using (List.mem_filter.mp hz).2
  have hyz : (key y == key z) = false := by rw [beq_eq_false_iff_ne] at hzy ⊢; exact fun h => hzy h.symm
  rw [List.filter_cons_of_neg (by simp [hyz]), List.filter_filter]
  refine List.filter_congr fun x _ => ?_
  by_cases hx : key x = key z
  · simp [hx, hzy]
  · simp [hx]

theorem groupByKey_cons_new {α κ} [BEq κ] [LawfulBEq κ] (key : α → κ) (x : α) (l : List α)
    (h : key x ∉ l.map key) : groupByKey key (x :: l) = [x] :: groupByKey key l := by
  have hne : ∀ z ∈ l, (key z == key x) = false := fun z hz => by
    rw [beq_eq_false_iff_ne]
    exact fun hzx => h (hzx ▸ List.mem_map_of_mem hz)
  rw [groupByKey_cons, List.filter_eq_nil_iff.mpr (fun z hz => by simp [hne z hz]),
    List.filter_eq_self.mpr (fun z hz => by simp [hne z hz])]

theorem groupByKey_cons_same {α κ} [BEq κ] [LawfulBEq κ] (key : α → κ) (x y : α) (l : List α)
    (h : key x = key y) :
    groupByKey key (x :: y :: l) =
      (x :: y :: l.filter (fun z => key z == key y)) :: groupByKey key (l.filter (fun z => !(key z == key y))) := by
  rw [groupByKey_cons, h, List.filter_cons_of_pos (by simp), List.filter_cons_of_neg (by simp)]

/-- the rows of each key of a duplicate-free list that has every key, laid end to end, rearrange the table -/
theorem flatMap_filter_key_perm {α κ} [BEq κ] [LawfulBEq κ] (key : α → κ) :
    ∀ (ks : List κ) (l : List α), ks.Nodup → (∀ x ∈ l, key x ∈ ks) →
      (ks.flatMap fun c => l.filter fun x => key x == c).Perm l
  | [], l, _, h => by
    cases l with
    | nil => exact List.Perm.refl _
    | cons x _ => exact absurd (h x List.mem_cons_self) List.not_mem_nil
  | k :: ks, l, hks, h => by
    obtain ⟨hk, hks'⟩ := List.nodup_cons.mp hks
    rw [List.flatMap_cons]
    -- the other keys see only the rows whose key is not `k`
    have e : ∀ c ∈ ks, (l.filter fun x => key x == c) = (l.filter fun x => !(key x == k)).filter fun x => key x == c := by
      intro c hc
      rw [List.filter_filter]
      refine List.filter_congr fun x _ => ?_
      by_cases hx : key x = c
      · have : ¬ c = k := fun e => hk (e ▸ hc)
        simp [hx, this]
      · simp [hx]
    rw [flatMap_congr e]
    refine ((List.Perm.refl _).append (flatMap_filter_key_perm key ks _ hks' fun x hx => ?_)).trans
      (List.filter_append_perm _ l)
    obtain ⟨hx, hne⟩ := List.mem_filter.mp hx
    exact (List.mem_cons.mp (h x hx)).resolve_left (by simpa using hne)

theorem groupByKey_flatten_perm {α κ} [BEq κ] [LawfulBEq κ] (key : α → κ) (l : List α) :
    (groupByKey key l).flatten.Perm l :=
  flatMap_filter_key_perm key _ l (nodup_eraseDups _) fun _ hx => List.mem_eraseDups.mpr (List.mem_map_of_mem hx)

theorem groupByKey_nonempty {α κ} [BEq κ] [LawfulBEq κ] (key : α → κ) (l : List α) :
    ∀ g ∈ groupByKey key l, g ≠ [] := by
  intro g hg
  unfold groupByKey at hg
  obtain ⟨k, hk, rfl⟩ := List.mem_map.mp hg
  obtain ⟨x, hx, rfl⟩ := List.mem_map.mp (List.mem_eraseDups.mp hk)
  intro h
  have : x ∈ l.filter (fun z => key z == key x) := List.mem_filter.mpr ⟨hx, by simp⟩
  rw [h] at this
  exact absurd this (by simp)

/-- the same in the spelling with `flatMap` over the distinct keys (`for c in chroms: rows of c`), which by definition
    is the groups laid end to end -/
theorem groups_flatMap_perm {α κ} [BEq κ] [LawfulBEq κ] (key : α → κ) (l : List α) :
    (((l.map key).eraseDups).flatMap (fun c => l.filter (fun x => key x == c))).Perm l :=
  groupByKey_flatten_perm key l

theorem sum_groups {α κ} [BEq κ] [LawfulBEq κ] (key : α → κ) (l : List α) :
    (((l.map key).eraseDups).map (fun c => (l.filter (fun x => key x == c)).length)).sum = l.length := by
  rw [← (groups_flatMap_perm key l).length_eq, List.length_flatMap]

/-- `ks` is a column of keys over the rows `t` whose neighbouring entries are equal exactly when the neighbouring
    rows are related by `P`, and a key once left does not come back: what makes `groupby` form runs -/
inductive KeyRuns {α κ} (P : α → α → Prop) : List κ → List α → Prop
  | nil : KeyRuns P [] []
  | one (k : κ) (x : α) : KeyRuns P [k] [x]
  | cons {k k' : κ} {ks : List κ} {x y : α} {t : List α} :
      (k = k' ↔ P x y) → (k ≠ k' → k ∉ k' :: ks) → KeyRuns P (k' :: ks) (y :: t) →
      KeyRuns P (k :: k' :: ks) (x :: y :: t)

theorem KeyRuns.zip {α κ κ'} {P Q : α → α → Prop} {ks : List κ} {ks' : List κ'} {t} (h : KeyRuns P ks t) (h' : KeyRuns Q ks' t) :
    KeyRuns (fun a b => P a b ∧ Q a b) (ks.zip ks') t := by
  induction h generalizing ks' with
  | nil => cases h'; exact .nil
  | one k x => cases h'; exact .one _ x
  | @cons k k' ks x y t h1 h2 _ ih =>
    cases h' with
    | @cons l l' ls _ _ _ g1 g2 g3 =>
      refine .cons ?_ (fun hne hmem => ?_) (ih g3)
      · rw [Prod.mk.injEq, h1, g1]
      · have hm := List.of_mem_zip (show (k, l) ∈ (k' :: ks).zip (l' :: ls) from hmem)
        by_cases hk : k = k'
        · exact g2 (fun hl => hne (by rw [hk, hl])) hm.2
        · exact h2 hk hm.1

theorem KeyRuns.congr {α κ} {P Q : α → α → Prop} {ks : List κ} {t : List α} (h : KeyRuns P ks t)
    (hpq : ∀ a ∈ t, ∀ b ∈ t, (P a b ↔ Q a b)) : KeyRuns Q ks t := by
  induction h with
  | nil => exact .nil
  | one k x => exact .one k x
  | cons h1 h2 _ ih =>
    refine .cons (h1.trans (hpq _ (by simp) _ (by simp))) h2 (ih fun a ha b hb => hpq a ?_ b ?_)
    · exact List.mem_cons_of_mem _ ha
    · exact List.mem_cons_of_mem _ hb

/-- keys that form runs make `groupby` return the maximal runs, in order -/
theorem runs_groupByKey_zip {α κ} [BEq κ] [LawfulBEq κ] (same : α → α → Bool) {ks : List κ} {t : List α}
    (h : KeyRuns (fun a b => same a b = true) ks t) :
    Runs same t ((groupByKey (·.1) (ks.zip t)).map (fun g => g.map (·.2))) := by
  induction h with
  | nil => exact .nil
  | one k x =>
    rw [List.zip_cons_cons, List.zip_nil_right, groupByKey_cons]
    exact .one x
  | @cons k k' ks x y t h1 h2 h3 ih =>
    -- `x` joins the first group of the rest exactly when its key is that group's key
    rw [List.zip_cons_cons, groupByKey_cons, List.map_cons, List.map_cons] at ih
    rw [List.zip_cons_cons, List.zip_cons_cons]
    by_cases hk : k = k'
    · subst hk
      rw [groupByKey_cons_same (fun p : κ × α => p.1) (k, x) (k, y) _ rfl]
      exact .join (h1.mp rfl) ih
    · rw [groupByKey_cons_new, groupByKey_cons]
      · exact .cut (Bool.eq_false_iff.mpr (mt h1.mpr hk)) ih
      · intro hmem
        obtain ⟨p, hp, hpk⟩ := List.mem_map.mp hmem
        rw [← List.zip_cons_cons] at hp
        exact h2 hk ((show p.1 = k from hpk) ▸ (List.of_mem_zip hp).1)

theorem groupByKey_map {α β κ} [BEq κ] (key : β → κ) (f : α → β) (l : List α) :
    groupByKey key (l.map f) = (groupByKey (key ∘ f) l).map (·.map f) := by
  unfold groupByKey
  rw [List.map_map, List.map_map]
  exact List.map_congr_left fun k _ => List.filter_map

/-- grouping the rows by `key` is grouping the rows tagged with their keys by the tag -/
theorem groupByKey_zip_map {α κ} [BEq κ] (key : α → κ) (l : List α) :
    (groupByKey (·.1) ((l.map key).zip l)).map (fun g => g.map (·.2)) = groupByKey key l := by
  rw [← List.map_prod_right_eq_zip, groupByKey_map, List.map_map]
  simp only [Function.comp_def, List.map_map, List.map_id']

/-- `by_chromosome()` on a `Table` (`groupByChrom`, CnvVerif/Basic.lean) is `groupby` on the chromosome -/
theorem groupByChrom_groups (t : Table) : (groupByChrom t).map (·.2) = groupByKey (·.chrom) t := by
  rw [groupByChrom, chromsInOrder, List.map_map]
  rfl

theorem groupByChrom_keys (t : Table) : (groupByChrom t).map (·.1) = chromsInOrder t := by
  rw [groupByChrom, List.map_map]
  exact List.map_id' _

/-- the keys of `l` are contiguous: between two rows of one key every row has that key (a table sorted by chromosome) -/
def KeysContig {α κ} (key : α → κ) (l : List α) : Prop :=
  ∀ (l1 l2 l3 : List α) (x y z : α), l = l1 ++ [x] ++ l2 ++ [y] ++ l3 → z ∈ l2 → key x = key y → key z = key x

theorem KeysContig.of_const {α κ} {key : α → κ} {l : List α} (k : κ) (h : ∀ x ∈ l, key x = k) : KeysContig key l := by
  intro l1 l2 l3 x y z hl _ _
  subst hl
  rw [h z (by simp [*]), h x (by simp)]

theorem KeysContig.noReturn {α κ} {key : α → κ} {l p q : List α} {x y : α} (h : KeysContig key l)
    (hl : l = p ++ x :: y :: q) (hne : key x ≠ key y) : ∀ z ∈ q, key z ≠ key x := by
  intro z hz e
  obtain ⟨q1, q2, rfl⟩ := List.append_of_mem hz
  exact hne (h p (y :: q1) q2 x z y (by simp [hl]) List.mem_cons_self e.symm).symm

/-- a row whose key differs from the row above opens a key not seen before -/
theorem KeysContig.new {α κ} {key : α → κ} {l p q : List α} {x y : α} (h : KeysContig key l)
    (hl : l = p ++ x :: y :: q) (hne : key y ≠ key x) : key y ∉ p.map key ++ [key x] := by
  intro hmem
  rcases List.mem_append.mp hmem with hmem | hmem
  · obtain ⟨z, hz, hzk⟩ := List.mem_map.mp hmem
    obtain ⟨p1, p2, rfl⟩ := List.append_of_mem hz
    exact hne (hzk ▸ (h p1 (p2 ++ [x]) q z y x (by simp [hl]) (by simp) hzk).symm)
  · exact hne (List.mem_singleton.mp hmem)

theorem KeysContig.keyRuns {α κ} [BEq κ] [LawfulBEq κ] {key : α → κ} {l : List α} (h : KeysContig key l) :
    KeyRuns (fun a b => (key a == key b) = true) (l.map key) l := by
  suffices ∀ s p, l = p ++ s → KeyRuns (fun a b => (key a == key b) = true) (s.map key) s from this l [] rfl
  intro s
  induction s with
  | nil => intro _ _; exact .nil
  | cons x s ih =>
    intro p hp
    cases s with
    | nil => exact .one _ x
    | cons y q =>
      refine .cons beq_iff_eq.symm (fun hne hmem => ?_) (ih (p ++ [x]) (by simpa using hp))
      rcases List.mem_cons.mp hmem with e | hm
      · exact hne e
      · obtain ⟨z, hz, e⟩ := List.mem_map.mp hm
        exact h.noReturn hp hne z hz e

/-- `groupby` of a table whose keys are contiguous: the groups are the maximal runs of equal key -/
theorem runs_groupByKey {α κ} [BEq κ] [LawfulBEq κ] (key : α → κ) (l : List α) (h : KeysContig key l) :
    Runs (fun a b => key a == key b) l (groupByKey key l) :=
  groupByKey_zip_map key l ▸ runs_groupByKey_zip _ h.keyRuns

theorem groupByKey_flatten_of_contig {α κ} [BEq κ] [LawfulBEq κ] (key : α → κ) (l : List α) (h : KeysContig key l) :
    (groupByKey key l).flatten = l :=
  (runs_groupByKey key l h).flatten

end CnvVerif
