/-
  C04, the edge-density covariate: the one-tile formulas of `edge_losses` and `edge_gains` on each side of their case
  split, the sign of a gain, and `get_edge_bias` (resp. the supplied doubles, `C04x.edgeKeysOf` of Model/FixExt5.lean)
  giving one sort key per bin.
-/
import CnvVerif.Model.FixExt5
import CnvVerif.Lemmas.GroupBy
import Mathlib.Tactic.Linarith
import Mathlib.Tactic.Ring
import Mathlib.Tactic.Positivity
namespace CnvVerif

theorem edgeLoss_large (t i : Rat) (h : ¬ t < i) : edgeLoss t i = i / (2 * t) := by
  unfold edgeLoss
  rw [if_neg h]

theorem edgeLoss_small (t i : Rat) (h : t < i) : edgeLoss t i = i / (2 * t) - (i - t) ^ 2 / (2 * i * t) := by
  unfold edgeLoss
  rw [if_pos h]

theorem edgeGain_far (t g i : Rat) (hg : 0 ≤ g) (h : ¬ t + g < i) : edgeGain t g i = (i - g) ^ 2 / (4 * i * t) := by
  unfold edgeGain
  rw [max_eq_right hg, if_neg h]

theorem edgeGain_near (t g i : Rat) (hg : 0 ≤ g) (h : t + g < i) :
    edgeGain t g i = (i - g) ^ 2 / (4 * i * t) - (i - t - g) ^ 2 / (4 * i * t) := by
  unfold edgeGain
  rw [max_eq_right hg, if_pos h]

/-- an overlapping neighbour counts as adjacent -/
theorem edgeGain_overlap (t g i : Rat) (hg : g < 0) : edgeGain t g i = edgeGain t 0 i := by
  unfold edgeGain
  rw [max_eq_left (le_of_lt hg), max_self]

/-- a neighbour within the insert size never lowers coverage -/
theorem edgeGain_nonneg (t g i : Rat) (ht : 0 < t) (hi : 0 < i) (hgi : g < i) : 0 ≤ edgeGain t g i := by
  have hmax : edgeGain t g i = edgeGain t (max 0 g) i := by
    unfold edgeGain
    rw [max_eq_right (le_max_left 0 g)]
  have hg0 : 0 ≤ max 0 g := le_max_left _ _
  have hgi' : max 0 g < i := max_lt hi hgi
  rw [hmax]
  generalize max 0 g = g' at hg0 hgi'
  have hpos : 0 ≤ 4 * i * t := by positivity
  by_cases h : t + g' < i
  · -- the difference of the two squares is `t · (2(i − g') − t)`, and `t < i − g'`
    rw [edgeGain_near t g' i hg0 h, ← sub_div]
    refine div_nonneg ?_ hpos
    have : (i - g') ^ 2 - (i - t - g') ^ 2 = t * (2 * (i - g') - t) := by ring
    rw [this]
    exact mul_nonneg ht.le (by linarith)
  · rw [edgeGain_far t g' i hg0 h]
    exact div_nonneg (sq_nonneg _) hpos

theorem edgeBiasChrom_length (tiles : List (Int × Int)) (m : Int) :
    (edgeBiasChrom tiles m).length = tiles.length := by
  unfold edgeBiasChrom
  rw [List.length_map, List.length_range]

theorem edgeBias_length (t : List SRow) (m : Int) : (edgeBias t m).length = t.length := by
  unfold edgeBias
  rw [List.length_flatMap]
  -- each chromosome contributes one key per row of its group, and the groups partition the table
  refine Eq.trans (congrArg List.sum (List.map_congr_left fun c _ => ?_))
    (sum_groups (fun r : SRow => r.chrom) t)
  rw [edgeBiasChrom_length, List.length_map]

theorem edgeKeysOf_length (ek : Option (List Rat)) (cn : List SRow) : (C04x.edgeKeysOf ek cn).length = cn.length := by
  unfold C04x.edgeKeysOf
  split
  · split
    · rename_i h; simpa using h
    · exact edgeBias_length _ _
  · exact edgeBias_length _ _

end CnvVerif
