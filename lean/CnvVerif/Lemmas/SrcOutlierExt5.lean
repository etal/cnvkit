/-
  The generated `abs` of the outlier rule (Generated/ExprsOutlier.lean) is the model's `absQ`: the one lemma the ties of
  Props/C03SrcOutlier.lean share; it stands here because a Props module holds its obligations only.
-/
import CnvVerif.Generated.ExprsOutlier
import CnvVerif.Lemmas.TileOutlierExt5
namespace CnvVerif.C03Outl
open CnvVerif CnvVerif.Generated

theorem src_abs_eq (e : Rat) : src_outl_abs e = absQ e := rfl

end CnvVerif.C03Outl
