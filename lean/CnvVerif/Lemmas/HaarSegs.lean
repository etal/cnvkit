/-
  `SegmentByPeaks`: with breakpoints strictly increasing inside `(0, n)` the fold writes each segment once, so the
  result is the concatenation of constant stretches, each holding the (weighted) mean of its slice.
-/
import CnvVerif.Model.Haar
import Mathlib.Tactic.Ring
import Mathlib.Tactic.FieldSimp
namespace CnvVerif.Haar

/-- breakpoints strictly increasing, strictly inside `(0, n)` -/
def StrictInside (peaks : List Nat) (n : Nat) : Prop :=
  peaks.Pairwise (· < ·) ∧ ∀ p ∈ peaks, 0 < p ∧ p < n

theorem assign_length (segs : List Rat) (s e : Nat) (v : Rat) (h : s < e) (hs : s < segs.length) :
    (assign segs s e v).length = segs.length := by
  unfold assign
  simp only [List.length_append, List.length_take, List.length_replicate, List.length_drop]
  omega

/-- value written over the segment `se` -/
def segV (data : List Rat) (wt : Option (List Rat)) (se : Nat × Nat) : Rat :=
  segValue (slice data se.1 se.2) (wt.map fun w => slice w se.1 se.2)

/-- one iteration of the `SegmentByPeaks` fold: `segs[s:e] = value`, nothing for an empty slice -/
def segStep (data : List Rat) (wt : Option (List Rat)) (segs : List Rat) (se : Nat × Nat) : List Rat :=
  if se.1 < se.2 ∧ se.1 < data.length then assign segs se.1 se.2 (segV data wt se) else segs

theorem segmentByPeaks_def (data : List Rat) (peaks : List Nat) (wt : Option (List Rat)) :
    segmentByPeaks data peaks wt
      = (bounds peaks data.length).foldl (segStep data wt) (List.replicate data.length 0) := rfl

theorem assign_pre (pre : List Rat) (s0 p n : Nat) (v : Rat) (hl : pre.length = s0) (h1 : s0 < p)
    (h2 : p ≤ n) :
    assign (pre ++ List.replicate (n - s0) 0) s0 p v
      = (pre ++ List.replicate (p - s0) v) ++ List.replicate (n - p) 0 := by
  subst hl
  unfold assign
  have hlen : (pre ++ List.replicate (n - pre.length) (0 : Rat)).length = n := by
    simp only [List.length_append, List.length_replicate]; omega
  rw [hlen, Nat.min_eq_left h2, List.take_left', List.drop_append, List.drop_replicate,
    List.drop_eq_nil_of_le (by omega), List.nil_append]
  have : n - pre.length - (p - pre.length) = n - p := by omega
  rw [this]
  rfl

/-- the fold, started after `s0` with `pre` already written and zeros behind: each step overwrites the next stretch
of zeros and nothing written before, because the breakpoints increase -/
theorem fold_segStep_eq (data : List Rat) (wt : Option (List Rat)) :
    ∀ (peaks : List Nat) (s0 : Nat) (pre : List Rat), pre.length = s0 → s0 ≤ data.length →
      peaks.Pairwise (· < ·) → (∀ p ∈ peaks, s0 < p ∧ p < data.length) →
      ((s0 :: peaks).zip (peaks ++ [data.length])).foldl (segStep data wt)
          (pre ++ List.replicate (data.length - s0) 0)
        = pre ++ ((s0 :: peaks).zip (peaks ++ [data.length])).flatMap
            (fun se => List.replicate (se.2 - se.1) (segV data wt se)) := by
  intro peaks
  induction peaks with
  | nil =>
    intro s0 pre hl hle _ _
    simp only [List.nil_append, List.zip_cons_cons, List.zip_nil_right, List.foldl_cons,
      List.foldl_nil, List.flatMap_cons, List.flatMap_nil, List.append_nil]
    unfold segStep
    by_cases hlt : s0 < data.length
    · rw [if_pos ⟨hlt, hlt⟩]
      show assign _ s0 data.length _ = _
      rw [assign_pre pre s0 data.length data.length _ hl hlt (Nat.le_refl _)]
      simp
    · have : s0 = data.length := by omega
      rw [if_neg (by simp only [not_and]; intro h; exact absurd h hlt)]
      simp [this]
  | cons p ps ih =>
    intro s0 pre hl hle hpw hin
    have hp := hin p (List.mem_cons_self)
    have hpw' := List.pairwise_cons.mp hpw
    rw [List.cons_append, List.zip_cons_cons, List.foldl_cons, List.flatMap_cons]
    have hstep : segStep data wt (pre ++ List.replicate (data.length - s0) 0) (s0, p)
        = (pre ++ List.replicate (p - s0) (segV data wt (s0, p)))
            ++ List.replicate (data.length - p) 0 := by
      unfold segStep
      rw [if_pos ⟨hp.1, by show s0 < data.length; omega⟩]
      exact assign_pre pre s0 p data.length _ hl hp.1 (Nat.le_of_lt hp.2)
    rw [hstep, ih p (pre ++ List.replicate (p - s0) (segV data wt (s0, p)))
      (by simp only [List.length_append, List.length_replicate]; omega) (Nat.le_of_lt hp.2) hpw'.2
      (fun q hq => ⟨hpw'.1 q hq, (hin q (List.mem_cons_of_mem _ hq)).2⟩)]
    rw [List.append_assoc]

theorem segmentByPeaks_length (data : List Rat) (peaks : List Nat) (wt : Option (List Rat)) :
    (segmentByPeaks data peaks wt).length = data.length := by
  rw [segmentByPeaks_def]
  generalize bounds peaks data.length = bs
  suffices ∀ acc : List Rat, acc.length = data.length → (bs.foldl (segStep data wt) acc).length = data.length from
    this _ (List.length_replicate ..)
  induction bs with
  | nil => exact fun _ h => h
  | cons se bs ih =>
    intro acc h
    refine ih _ ?_
    unfold segStep
    split
    next hg => rw [assign_length _ _ _ _ hg.1 (h ▸ hg.2), h]
    next => exact h

theorem segmentByPeaks_eq (data : List Rat) (peaks : List Nat) (wt : Option (List Rat))
    (hp : StrictInside peaks data.length) :
    segmentByPeaks data peaks wt
      = (bounds peaks data.length).flatMap (fun se =>
          List.replicate (se.2 - se.1)
            (segValue (slice data se.1 se.2) (wt.map fun w => slice w se.1 se.2))) := by
  have h := fold_segStep_eq data wt peaks 0 [] rfl (Nat.zero_le _) hp.1 hp.2
  simp only [List.nil_append, Nat.sub_zero] at h
  rw [segmentByPeaks_def]
  exact h

theorem sum_map_mul_left (c : Rat) (ws : List Rat) : (ws.map (c * ·)).sum = c * ws.sum := by
  induction ws <;> simp [*, mul_add]

/-- the (weighted) mean of a constant slice is the constant, whatever the weights -/
theorem segValue_replicate (c : Rat) (m : Nat) (hm : 0 < m) (w : Option (List Rat))
    (hw : ∀ ws, w = some ws → ws.length = m) : segValue (List.replicate m c) w = c := by
  have hm' : (m : Rat) ≠ 0 := Nat.cast_ne_zero.mpr (by omega)
  have mean : (List.replicate m c).sum / ((List.replicate m c).length : Rat) = c := by
    rw [List.sum_replicate, List.length_replicate, nsmul_eq_mul]; field_simp
  unfold segValue
  cases w with
  | none => exact mean
  | some ws =>
    show (if 0 < ws.sum then _ else _) = c
    split
    next hpos =>
      -- against a constant the weighted sum is `c * ws.sum`
      rw [← hw ws rfl, show ((List.replicate ws.length c).zip ws).map (fun p => p.1 * p.2) = ws.map (c * ·) from
        List.ext_getElem (by simp) fun i _ _ => by simp,
        sum_map_mul_left]
      field_simp [ne_of_gt hpos]
    next => exact mean

theorem segValue_const (c : Rat) (d : List Rat) (w : Option (List Rat)) (hd : d ≠ [])
    (hc : ∀ x ∈ d, x = c) (hw : ∀ ws, w = some ws → ws.length = d.length) : segValue d w = c := by
  rw [List.eq_replicate_of_mem hc]
  exact segValue_replicate c _ (List.length_pos_iff.mpr hd) w hw

theorem slice_weights_length (wt : Option (List Rat)) (n s e : Nat) (hw : ∀ ws, wt = some ws → ws.length = n)
    (he : e ≤ n) : ∀ ws, wt.map (fun w => slice w s e) = some ws → ws.length = e - s := by
  intro ws hws
  cases wt with
  | none => nomatch hws
  | some w0 =>
    obtain rfl := Option.some.inj hws
    simp [slice, hw w0 rfl]
    omega

end CnvVerif.Haar
