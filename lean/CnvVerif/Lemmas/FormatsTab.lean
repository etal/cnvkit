/-
  C08 (table formats): what the interval-list and tab readers return on the lines their writers print.  The tab
  reader is stated once for any spelling of the cells and any way a column is typed back (`readTab_linesG`); tables
  without float cells (`WFTab`) are the case in which every column comes back as it was.
-/
import CnvVerif.Lemmas.FormatsCols
namespace CnvVerif.Fmt
open CnvVerif CnvVerif.Generated

theorem toString_no_at (i : Int) : (toString i).toList.contains '@' = false :=
  Bool.eq_false_iff.mpr fun h =>
    toString_not_mem i (by decide) (by decide) (List.contains_iff_mem.mp h)

theorem finish_strand_gene (rows : List FRow) :
    finish false { names := ["strand", "gene"], rows := rows } =
      .ok { names := ["gene", "strand"],
            rows := sortF (rows.map fun r => { r with cols := [r.cols.getD 1 .na, r.cols.getD 0 .na] }) } := by
  rw [finish_false, show sortNames ["strand", "gene"] = ["gene", "strand"] by decide,
    show (["gene", "strand"].map fun n => (["strand", "gene"] : List String).idxOf n) = [1, 0] by decide]
  rfl

theorem readInterval_lines {α} (rows : List α) (c : α → String) (s e : α → Int) (st g : α → String)
    (hc : ∀ r ∈ rows, ChromName (c r) ∧ (c r).toList.contains '@' = false)
    (hst : ∀ r ∈ rows, PlainLabel (st r) ∧ (st r).toList.contains '@' = false)
    (hg : ∀ r ∈ rows, PlainLabel (g r) ∧ (g r).toList.contains '@' = false) :
    readInterval (rows.map fun r => [c r, toString (s r), toString (e r), st r, g r]) =
      .ok { names := ["strand", "gene"],
            rows := rows.map fun r => ⟨c r, s r + READ_SHIFT_interval, e r, [.str (st r), .str (g r)]⟩ } := by
  suffices key : ∀ line : α → Line, (∀ r, line r = [c r, toString (s r), toString (e r), st r, g r]) →
      readInterval (rows.map line) = .ok ⟨["strand", "gene"],
        rows.map fun r => ⟨c r, s r + READ_SHIFT_interval, e r, [.str (st r), .str (g r)]⟩⟩ from
    key _ fun _ => rfl
  -- each check of `read_interval` on the body is a fact about `rows.map line`, stated below; `hline` is used
  -- only to look inside a single line
  intro line hline
  cases hrows : rows with
  | nil => rfl
  | cons r0 rest =>
    rw [← hrows]
    obtain ⟨hbody, hany1⟩ := comment_lines "@" '@' (by decide) [] rows line (fun _ h => absurd h List.not_mem_nil)
      (fun r _ => by simp [hline]) fun r hr => by
        rw [hline]
        simp only [List.forall_mem_cons, List.not_mem_nil, false_imp_iff, implies_true, and_true]
        exact ⟨(hc r hr).2, toString_no_at _, toString_no_at _, (hst r hr).2, (hg r hr).2⟩
    rw [List.nil_append] at hbody
    have hany2 := any_length_ne rows line 5 fun r => by rw [hline]; rfl
    have hne : (rows.map line).isEmpty = false := by rw [hrows]; rfl
    have hcc : chromColumn (rows.map c) = .ok (rows.map c) :=
      chromColumn_ok _ (List.forall_mem_map.mpr fun r hr => (hc r hr).1)
    have hts : typeColumn (rows.map st) = rows.map (fun r => Cell.str (st r)) := by
      rw [typeColumn_plain _ (List.forall_mem_map.mpr fun r hr => (hst r hr).1), List.map_map]; rfl
    have htg : typeColumn (rows.map g) = rows.map (fun r => Cell.str (g r)) := by
      rw [typeColumn_plain _ (List.forall_mem_map.mpr fun r hr => (hg r hr).1), List.map_map]; rfl
    have hmk := mkRows_map rows c (fun r => s r + READ_SHIFT_interval) e
      [fun r => Cell.str (st r), fun r => Cell.str (g r)]
    unfold readInterval
    simp only [hbody, hany1, hany2, hne, column_map, hline, List.getD_cons_zero, List.getD_cons_succ, hcc,
      intColumn_toString, hts, htg, bind, Except.bind, pure, Except.pure, Bool.false_eq_true, ↓reduceIte,
      List.map_map, Function.comp_def]
    simp only [List.map_cons, List.map_nil] at hmk
    rw [hmk]

/-- the strand of a row as `write_interval` prints it (`+` when there is no strand column) -/
def strandStr (t : FTab) (r : FRow) : String :=
  match (colCell t "strand" r).getD (.str "+") with
  | .str g => g
  | _ => ""

theorem strandStr_of {t : FTab} {r : FRow} {g : String}
    (h : (colCell t "strand" r).getD (.str "+") = .str g) : strandStr t r = g := by
  simp [strandStr, h]

/-- interval lists that `read_interval` reads back unchanged: chromosome names, strand and gene labels survive
    pandas' dtype inference and hold no `@`, the comment character of the header -/
def WFInterval (t : FTab) : Prop :=
  (∀ r ∈ t.rows, ChromName r.chrom ∧ r.chrom.toList.contains '@' = false) ∧
  (∀ r ∈ t.rows, ∃ g, (colCell t "gene" r).getD (.str "-") = .str g ∧ PlainLabel g ∧ g.toList.contains '@' = false) ∧
  (∀ r ∈ t.rows, ∃ g, (colCell t "strand" r).getD (.str "+") = .str g ∧ PlainLabel g ∧ g.toList.contains '@' = false)

theorem renderLines_writeInterval (t : FTab)
    (hg : ∀ r ∈ t.rows, ∃ g, (colCell t "gene" r).getD (.str "-") = .str g)
    (hst : ∀ r ∈ t.rows, ∃ s, (colCell t "strand" r).getD (.str "+") = .str s) :
    renderLines (writeInterval t) =
      t.rows.map (fun r => [r.chrom, toString (r.s + WRITE_SHIFT_interval), toString r.e,
        strandStr t r, geneStr t r]) := by
  simp only [renderLines, writeInterval, List.map_map]
  apply List.map_congr_left
  intro r hr
  obtain ⟨g, hg⟩ := hg r hr
  obtain ⟨st, hst⟩ := hst r hr
  simp [renderCellD, renderCell, cellOut, hg, hst, geneStr_of hg, strandStr_of hst]

theorem readInterval_writeInterval (t : FTab) (h : WFInterval t) :
    readInterval (renderLines (writeInterval t)) =
      .ok { names := ["strand", "gene"],
            rows := t.rows.map fun r => ⟨r.chrom, r.s, r.e, [.str (strandStr t r), .str (geneStr t r)]⟩ } := by
  have hread := readInterval_lines t.rows (fun r => r.chrom) (fun r => r.s + WRITE_SHIFT_interval) (fun r => r.e)
    (strandStr t) (geneStr t) h.1
    (by
      intro r hr
      obtain ⟨st, hst, h1, h2⟩ := h.2.2 r hr
      rw [strandStr_of hst]; exact ⟨h1, h2⟩)
    (by
      intro r hr
      obtain ⟨g, hg, h1, h2⟩ := h.2.1 r hr
      rw [geneStr_of hg]; exact ⟨h1, h2⟩)
  simp only [add_shifts shift_cancel.2.2.2.1] at hread
  rw [renderLines_writeInterval t (fun r hr => (h.2.1 r hr).imp fun _ h => h.1)
    (fun r hr => (h.2.2 r hr).imp fun _ h => h.1), hread]

theorem getD_three {α} (a b c : α) (l : List α) (k : Nat) (d : α) :
    (a :: b :: c :: l).getD (3 + k) d = l.getD k d := by
  rw [Nat.add_comm]; rfl

theorem getD_of_getElem? {l : List Cell} {k : Nat} {c : Cell} (h : l[k]? = some c) : l.getD k .na = c := by
  rw [List.getD_eq_getElem?_getD, h]; rfl

/-- the line `write_tab` + `to_csv` print for a row, every cell spelled by `ren` -/
def lineG (ren : Cell → String) (r : FRow) : Line :=
  r.chrom :: toString (r.s + WRITE_SHIFT_tab) :: toString r.e :: r.cols.map ren

theorem renderLines_writeTab (t : FTab) :
    renderLines (writeTab t) = ("chromosome" :: "start" :: "end" :: t.names) ::
      t.rows.map (lineG fun c => renderCellD (cellOut c)) := by
  simp [renderLines, writeTab, renderCellD, renderCell, lineG, Function.comp_def]

theorem tabHeader (names : List String) (hnames : ∀ n ∈ names, n ≠ "chromosome" ∧ n ≠ "start" ∧ n ≠ "end") :
    let hdr := "chromosome" :: "start" :: "end" :: names
    (["chromosome", "start", "end"].all hdr.contains) = true ∧
    hdr.idxOf "chromosome" = 0 ∧ hdr.idxOf "start" = 1 ∧ hdr.idxOf "end" = 2 ∧
    (List.range hdr.length).filter (fun j => !["chromosome", "start", "end"].contains (hdr.getD j "")) =
      (List.range names.length).map (3 + ·) := by
  refine ⟨by simp, by simp, by simp [List.idxOf_cons], by simp [List.idxOf_cons], ?_⟩
  have hlen : ("chromosome" :: "start" :: "end" :: names).length = 3 + names.length := by
    simp only [List.length_cons]; omega
  have hA : (List.range 3).filter (fun j => !["chromosome", "start", "end"].contains
      (("chromosome" :: "start" :: "end" :: names).getD j "")) = [] := by
    rw [show List.range 3 = [0, 1, 2] from rfl]
    simp only [List.filter_cons, List.filter_nil, List.getD_cons_zero, List.getD_cons_succ, List.contains_cons,
      String.reduceBEq, Bool.true_or, Bool.or_true, Bool.not_true, Bool.false_eq_true, ↓reduceIte, BEq.rfl]
  have hB : ((List.range names.length).map (3 + ·)).filter (fun j => !["chromosome", "start", "end"].contains
      (("chromosome" :: "start" :: "end" :: names).getD j "")) = (List.range names.length).map (3 + ·) := by
    refine List.filter_eq_self.mpr (List.forall_mem_map.mpr fun k hk => ?_)
    have hk' : k < names.length := List.mem_range.mp hk
    rw [getD_three, List.getD_eq_getElem?_getD, List.getElem?_eq_getElem hk']
    have hm := hnames names[k] (List.getElem_mem hk')
    simp [hm.1, hm.2.1, hm.2.2]
  rw [hlen, List.range_add, List.filter_append, hA, hB, List.nil_append]

/-- `read_tab` on a header and the lines of a table: whatever the spelling `ren` of the cells, if every
    column of the body is typed back (by pandas' inference, or as text for the gene column) to `back k` of
    its cells, the file is read to the table with these cells -/
theorem readTab_linesG (names : List String) (rows : List FRow) (ren : Cell → String) (back : Nat → Cell → Cell)
    (hnames : ∀ n ∈ names, n ≠ "chromosome" ∧ n ≠ "start" ∧ n ≠ "end")
    (hrows : ∀ r ∈ rows, isNA r.chrom = false ∧ r.cols.length = names.length)
    (hcol : ∀ k, k < names.length →
      (if (TAB_GENE_AS_TEXT && names.getD k "" == "gene") = true
        then strColumn ((rows.map fun r => r.cols.getD k .na).map ren)
        else typeColumn ((rows.map fun r => r.cols.getD k .na).map ren)) =
      rows.map fun r => back k (r.cols.getD k .na))
    (hlog : names.contains "log2" = true →
      ∀ r ∈ rows, back (names.idxOf "log2") (r.cols.getD (names.idxOf "log2") .na) ≠ .na) :
    readTab (("chromosome" :: "start" :: "end" :: names) :: rows.map (lineG ren)) =
      .ok { names := names,
            rows := rows.map fun r => ⟨r.chrom, r.s + WRITE_SHIFT_tab + READ_SHIFT_tab, r.e,
              (List.range names.length).map fun k => back k (r.cols.getD k .na)⟩ } := by
  obtain ⟨hreq, hi0, hi1, hi2, hidx⟩ := tabHeader names hnames
  -- from here on the header is an opaque `hdr` known only through the five facts of `tabHeader`: each test of
  -- `read_tab` on the header is then one rewrite, and nothing recomputes on the literal list
  generalize hhdr : ("chromosome" :: "start" :: "end" :: names) = hdr at hreq hi0 hi1 hi2 hidx
  have hlen : hdr.length = 3 + names.length := by rw [← hhdr]; simp only [List.length_cons]; omega
  have hdb : dropBlank (hdr :: rows.map (lineG ren)) = hdr :: rows.map (lineG ren) :=
    dropBlank_eq_self _ (List.forall_mem_cons.mpr ⟨by omega, List.forall_mem_map.mpr fun r _ => by
      simp only [lineG, List.length_cons]; omega⟩)
  have hrag : (rows.map (lineG ren)).any (fun l => l.length != hdr.length) = false := by
    rw [List.any_map, List.any_eq_false]
    intro r hr
    simp only [Function.comp, lineG, List.length_cons, List.length_map, (hrows r hr).2, hlen, bne_iff_ne, ne_eq]
    omega
  have hc0 : column 0 (rows.map (lineG ren)) = rows.map (fun r => r.chrom) := column_map ..
  have hc1 : column 1 (rows.map (lineG ren)) = rows.map (fun r => toString (r.s + WRITE_SHIFT_tab)) :=
    column_map ..
  have hc2 : column 2 (rows.map (lineG ren)) = rows.map (fun r => toString r.e) := column_map ..
  have hna : (rows.map (fun r => r.chrom)).any isNA = false := by
    rw [List.any_map, List.any_eq_false]
    intro r hr
    simp only [Function.comp, (hrows r hr).1, Bool.false_eq_true, not_false_eq_true]
  have hnm : ((List.range names.length).map (3 + ·)).map (fun j => hdr.getD j "") = names := by
    rw [List.map_map, ← hhdr]
    simp only [Function.comp_def, getD_three]
    exact range_map_getD names "" _ rfl
  have hextra : ((List.range names.length).map (3 + ·)).map (fun j =>
        if (TAB_GENE_AS_TEXT && hdr.getD j "" == "gene") = true then strColumn (column j (rows.map (lineG ren)))
        else typeColumn (column j (rows.map (lineG ren)))) =
      ((List.range names.length).map (fun k => fun r : FRow => back k (r.cols.getD k .na))).map (fun f => rows.map f) := by
    rw [List.map_map, List.map_map]
    refine List.map_congr_left fun k hk => ?_
    have hk' : k < names.length := List.mem_range.mp hk
    have hcolumn : column (3 + k) (rows.map (lineG ren)) = (rows.map fun r => r.cols.getD k .na).map ren := by
      rw [column_map, List.map_map]
      refine List.map_congr_left fun r hr => ?_
      have hkr : k < r.cols.length := by rw [(hrows r hr).2]; exact hk'
      simp only [Function.comp, lineG, getD_three]
      simp only [List.getD_eq_getElem?_getD, List.getElem?_map, List.getElem?_eq_getElem hkr]
      rfl
    simp only [Function.comp_def]
    rw [show hdr.getD (3 + k) "" = names.getD k "" by rw [← hhdr, getD_three], hcolumn]
    exact hcol k hk'
  have hmk := mkRows_map rows (fun r => r.chrom) (fun r => r.s + WRITE_SHIFT_tab + READ_SHIFT_tab) (fun r => r.e)
    ((List.range names.length).map (fun k => fun r : FRow => back k (r.cols.getD k .na)))
  -- every row has a log2 value, so the filter on log2 keeps every row
  have hfilt : names.contains "log2" = true →
      (rows.map fun r => (⟨r.chrom, r.s + WRITE_SHIFT_tab + READ_SHIFT_tab, r.e,
        (List.range names.length).map fun k => back k (r.cols.getD k .na)⟩ : FRow)).filter
      (fun r => r.cols.getD (names.idxOf "log2") .na != .na) =
      (rows.map fun r => (⟨r.chrom, r.s + WRITE_SHIFT_tab + READ_SHIFT_tab, r.e,
        (List.range names.length).map fun k => back k (r.cols.getD k .na)⟩ : FRow)) := by
    intro hct
    have hli : names.idxOf "log2" < names.length :=
      List.idxOf_lt_length_of_mem (List.contains_iff_mem.mp hct)
    refine List.filter_eq_self.mpr (List.forall_mem_map.mpr fun r hr => ?_)
    simp only [List.getD_eq_getElem?_getD, List.getElem?_map, List.getElem?_range hli, Option.map_some,
      Option.getD_some, bne_iff_ne, ne_eq]
    simpa [List.getD_eq_getElem?_getD] using hlog hct r hr
  unfold readTab
  simp only [hdb, hreq, hrag, hi0, hi1, hi2, hc0, hc1, hc2, hna, intColumn_toString, hidx, hnm, hextra, bind,
    Except.bind, pure, Except.pure, Bool.false_eq_true, ↓reduceIte, Bool.not_true, List.map_map,
    Function.comp_def]
  simp only [List.map_map, Function.comp_def] at hmk
  rw [hmk]
  cases hct : names.contains "log2" with
  | false => rfl
  | true => rw [hfilt hct]; rfl

theorem tabColumn_plain (ren : Cell → String) (hi : ∀ i, ren (.int i) = toString i) (hs : ∀ g, ren (.str g) = g)
    (names : List String) (rows : List FRow) (k : Nat) (hk : k < names.length)
    (h : (names[k]? ≠ some "gene" ∧ ∀ r ∈ rows, ∃ i, r.cols[k]? = some (Cell.int i)) ∨
      (∀ r ∈ rows, ∃ g, r.cols[k]? = some (Cell.str g) ∧ (PlainLabel g ∨ names[k]? = some "gene"))) :
    (if (TAB_GENE_AS_TEXT && names.getD k "" == "gene") = true
      then strColumn ((rows.map fun r => r.cols.getD k .na).map ren)
      else typeColumn ((rows.map fun r => r.cols.getD k .na).map ren)) =
    rows.map fun r => r.cols.getD k .na := by
  have hsome : names[k]? = some (names.getD k "") := by
    rw [List.getD_eq_getElem?_getD, List.getElem?_eq_getElem hk]; rfl
  rw [hsome] at h
  by_cases hgene : names.getD k "" = "gene"
  · rw [if_pos (by rw [hgene]; rfl)]
    refine strColumn_render_str ren hs _ (List.forall_mem_map.mpr fun r hr => ?_)
    rcases h with ⟨hng, _⟩ | hstr
    · exact absurd (congrArg some hgene) hng
    · obtain ⟨g, hg, _⟩ := hstr r hr
      exact ⟨g, getD_of_getElem? hg⟩
  · rw [if_neg (by simp only [TAB_GENE_AS_TEXT, Bool.true_and, beq_iff_eq]; exact hgene)]
    rcases h with ⟨_, hint⟩ | hstr
    · refine typeColumn_render_int ren hi _ (List.forall_mem_map.mpr fun r hr => ?_)
      obtain ⟨i, hi'⟩ := hint r hr
      exact ⟨i, getD_of_getElem? hi'⟩
    · refine typeColumn_render_str ren hs _ (List.forall_mem_map.mpr fun r hr => ?_)
      obtain ⟨g, hg, hp⟩ := hstr r hr
      exact ⟨g, getD_of_getElem? hg, hp.resolve_right fun he => hgene (Option.some.inj he)⟩

/-- tab-separated CNVkit tables whose extra columns hold integers or plain strings; the column
    named "gene" is read as text (`TAB_GENE_AS_TEXT`), so it may hold ANY strings, and it must not be
    an integer column (it would come back as strings) -/
def WFTab (t : FTab) : Prop :=
  t.names.Nodup ∧ sortNames t.names = t.names ∧
  (∀ n ∈ t.names, n ≠ "chromosome" ∧ n ≠ "start" ∧ n ≠ "end") ∧
  (∀ r ∈ t.rows, isNA r.chrom = false ∧ r.cols.length = t.names.length) ∧
  (∀ j, j < t.names.length →
      (t.names[j]? ≠ some "gene" ∧ ∀ r ∈ t.rows, ∃ i, r.cols[j]? = some (Cell.int i)) ∨
      (∀ r ∈ t.rows, ∃ g, r.cols[j]? = some (Cell.str g) ∧ (PlainLabel g ∨ t.names[j]? = some "gene")))

theorem readTab_writeTab (t : FTab) (h : WFTab t) : readTab (renderLines (writeTab t)) = .ok t := by
  obtain ⟨-, -, hnames, hrows, hcols⟩ := h
  have hread := readTab_linesG t.names t.rows (fun c => renderCellD (cellOut c)) (fun _ c => c) hnames hrows
    (fun k hk => tabColumn_plain _ (fun _ => rfl) (fun _ => rfl) t.names t.rows k hk (hcols k hk))
    (by
      intro hct r hr
      rcases hcols _ (List.idxOf_lt_length_of_mem (List.contains_iff_mem.mp hct)) with ⟨_, h1⟩ | h1
      · obtain ⟨i, hi⟩ := h1 r hr
        rw [getD_of_getElem? hi]; exact Cell.noConfusion
      · obtain ⟨g, hg, _⟩ := h1 r hr
        rw [getD_of_getElem? hg]; exact Cell.noConfusion)
  have hid : (t.rows.map fun r => (⟨r.chrom, r.s + WRITE_SHIFT_tab + READ_SHIFT_tab, r.e,
      (List.range t.names.length).map fun k => r.cols.getD k .na⟩ : FRow)) = t.rows :=
    map_eq_self _ _ fun r hr => by
      rw [range_map_getD _ _ _ (hrows r hr).2, add_shifts shift_cancel.1]
  rw [renderLines_writeTab, hread, hid]

end CnvVerif.Fmt
