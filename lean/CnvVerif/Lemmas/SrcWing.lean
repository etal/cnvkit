/-
  `_width2wing`: what the tie of the model (Model/Smoothing.lean) to the expression the translator reads off the
  current source (Generated/ExprsWing.lean) needs besides Lemmas/SrcInt.lean: the final clipping step.  The tie itself is `C19.width2wing_is_the_source` (Props/C19Src.lean).
-/
import CnvVerif.Generated.ExprsWing
import CnvVerif.Model.Smoothing
import CnvVerif.Lemmas.SrcInt
namespace CnvVerif.Src
open CnvVerif CnvVerif.Generated

/-- the last step of `_width2wing` on an integer half-width `z`: clip to `[min_wing, n − 1]`, then assert `≥ 1`.
    Stated in the three-armed shape of `C19.width2wing_is_the_source`, whose goal it closes in both branches that reach
    the clipping; the ValueError arm cannot occur here. -/
theorem width2wing_clip_is_source (z : Int) (n : Nat) :
    match (if min (max z (MIN_WING : Int)) ((n : Int) - 1) ≥ 1 then
        (Except.ok (min (max z (MIN_WING : Int)) ((n : Int) - 1)).toNat : Except Smooth.WingErr Nat)
        else .error .assertionError) with
    | Except.ok w => (min (max (z : Rat) ((MIN_WING : Nat) : Rat)) ((n : Rat) - 1)) = (w : Rat) ∧ 1 ≤ w
    | Except.error Smooth.WingErr.valueError => (min (max (z : Rat) ((MIN_WING : Nat) : Rat)) ((n : Rat) - 1)) = -1
    | Except.error Smooth.WingErr.assertionError => (min (max (z : Rat) ((MIN_WING : Nat) : Rat)) ((n : Rat) - 1)) < 1 := by
  have key : (min (max (z : Rat) ((MIN_WING : Nat) : Rat)) ((n : Rat) - 1)) =
      ((min (max z (MIN_WING : Int)) ((n : Int) - 1) : Int) : Rat) := by
    push_cast; rfl
  rw [key]
  generalize min (max z (MIN_WING : Int)) ((n : Int) - 1) = w
  by_cases hw : w ≥ 1
  · rw [if_pos hw]
    refine ⟨?_, by omega⟩
    rw [← Int.cast_natCast, Int.toNat_of_nonneg (by omega)]
  · rw [if_neg hw]
    show ((w : Int) : Rat) < 1
    exact_mod_cast Int.not_le.mp hw

end CnvVerif.Src
