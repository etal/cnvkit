/-
  C06 tie to the source text -- subdivide, the loop structure of `_split_targets` (Generated/ExprsSplitLoop.lean, read by
  harness/splitloop.py): the generator loop over `range(1, n)` that carries `bin_start`, with the yield after it, gives
  the (start, end) pairs of `splitInto r n` for every `n ≥ 1` (`splitLoop_eq_splitInto`), so the source's branch
  `nbins == 1` is no case; Props/C06SrcSplitLoop.lean compares the loop to the model's `splitRow` with it.
-/
import CnvVerif.Generated.ExprsSplitLoop
import CnvVerif.Lemmas.SrcIntervalSubdivide
namespace CnvVerif.Src
open CnvVerif CnvVerif.Generated

/-- a generator loop `for i in range(a+1, a+1+k): yield (cur, g i); cur = g i` followed by `yield (cur, e)`, started
    with `cur = g a`, yields the consecutive pairs `(g i, g (i+1))`, `a ≤ i < a+k`, and then `(g (a+k), e)` -/
theorem splitLoop_genLoop_chain (g : Nat → Rat) (e : Rat)
    (step : Rat → Nat → List (Rat × Rat) × Rat) (final : Rat → List (Rat × Rat))
    (hstep : ∀ b i, step b i = ([(b, g i)], g i)) (hfinal : ∀ b, final b = [(b, e)]) :
    ∀ (k a : Nat), Py.genLoop step final (g a) (List.range' (a + 1) k) =
      (List.range' a k).map (fun i => (g i, g (i + 1))) ++ [(g (a + k), e)]
  | 0, a => by simp [Py.genLoop, hfinal]
  | k + 1, a => by
    rw [List.range'_succ, List.range'_succ]
    simp only [Py.genLoop, hstep, List.map_cons, List.cons_append, List.nil_append]
    rw [splitLoop_genLoop_chain g e step final hstep hfinal k (a + 1)]
    have : a + 1 + k = a + (k + 1) := by omega
    rw [this]

theorem splitInto_pairs (r : Row) (n : Nat) :
    (splitInto r n).map (fun x => ((x.s : Rat), (x.e : Rat))) =
      (List.range n).map (fun i => ((cutAt r n i : Rat), (cutAt r n (i + 1) : Rat))) := by
  rw [splitInto_eq_cutRows, cutRows, List.map_map]
  rfl

/-- the inner loop of `_split_targets` over `range(1, n)` with the yield after it, started at `row.start`, walks the cut
    positions of `splitInto r n` -- for `n = 1` too, where the loop is empty and the last yield gives the row -/
theorem splitLoop_eq_splitInto (r : Row) (n : Nat) (hn : 1 ≤ n)
    (step : Rat → Nat → List (Rat × Rat) × Rat) (final : Rat → List (Rat × Rat))
    (hstep : ∀ b i, step b i = ([(b, (cutAt r n i : Rat))], (cutAt r n i : Rat)))
    (hfinal : ∀ b, final b = [(b, (r.e : Rat))]) :
    Py.genLoop step final (r.s : Rat) (List.range' 1 (n - 1)) =
      (splitInto r n).map (fun x => ((x.s : Rat), (x.e : Rat))) := by
  have h0 := splitLoop_genLoop_chain (fun i => (cutAt r n i : Rat)) (r.e : Rat) step final hstep hfinal (n - 1) 0
  obtain ⟨m, rfl⟩ : ∃ m, n = m + 1 := ⟨n - 1, by omega⟩
  simp only [cutAt_zero, Nat.zero_add, Nat.add_sub_cancel] at h0 ⊢
  rw [h0, splitInto_pairs, List.range_succ, List.map_append, List.map_singleton, cutAt_last r (m + 1) hn,
    List.range_eq_range']

end CnvVerif.Src
