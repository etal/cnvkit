/-
  Source tie of skgenome/intersect.py, the mask path `_irange_nested`: the mask the translator reads off the current
  source (Generated/ExprsRanges.lean, regenerated from /repo on every run) marks exactly the rows the property names,
  as the model's does.  By case analysis on the query and `simp` on one mask entry, so that spellings that leave
  the meaning alone keep the proof green.
-/
import CnvVerif.Generated.ExprsRanges
import CnvVerif.Lemmas.RangesQuery
-- some facts given to `simp` below serve only the `is not None` spelling of the source
set_option linter.unusedSimpArgs false
namespace CnvVerif.Src
open CnvVerif CnvVerif.Generated

/-- the table rows with their positions, as the elementwise reading of a row mask sees them -/
def enumRows (t : Table) : List (Nat × Row) := (List.range t.length).zip t

/-- the mask `_irange_nested` yields for one query, entry by entry from the generated term -/
def srcNestedMask (t : Table) (inner : Bool) (qs qe : Option Int) : List Bool :=
  (enumRows t).map (fun p => src_irange_nested_mask t inner qs qe p.1 p.2)

/-- The generated mask marks the rows the property names: at position `i` of a start-sorted table, `i` against a
    `searchsorted` position on the starts is a comparison of the row's own start.  On a well-formed table
    (coordinates ≥ 0, start < end) a start bound of 0 excludes no row, so the test `if start_val:` and the test
    `if start_val is not None:` read the same. -/
theorem srcNestedMask_eq (t : Table) (h : WFTable t) (qs qe : Option Int) (inner : Bool) :
    srcNestedMask t inner qs qe = t.map (selFilter qs qe inner) := by
  apply List.ext_getElem
  · simp [srcNestedMask, enumRows]
  · intro i _ h2
    have hi : i < t.length := List.length_map (selFilter qs qe inner) ▸ h2
    have hw := h.2 t[i] (List.getElem_mem hi)
    have h0 : 0 < t[i].e := Int.lt_of_le_of_lt hw.1 hw.2
    have hlt : ∀ v, i < ssLeft (t.map (·.s)) v ↔ t[i].s < v := fun v => by
      rw [ssLeft_starts]
      exact (decide_eq_decide.mp ((prefixClosed_s_lt t h.1 v).getElem hi)).symm
    have hge : ∀ v, ssLeft (t.map (·.s)) v ≤ i ↔ v ≤ t[i].s :=
      fun v => Nat.not_lt.symm.trans ((not_congr (hlt v)).trans Int.not_lt)
    rw [show (srcNestedMask t inner qs qe)[i] = src_irange_nested_mask t inner qs qe i t[i] by
      simp [srcNestedMask, enumRows], List.getElem_map]
    generalize t[i] = r at hw h0 hlt hge ⊢
    rcases qs with _ | s
    · cases qe <;> cases inner <;> simp [src_irange_nested_mask, selFilter, hlt]
    · by_cases hs : s = 0
      · cases qe <;> cases inner <;> simp [src_irange_nested_mask, selFilter, hlt, hge, hs, hw.1, h0]
      · cases qe <;> cases inner <;> simp [src_irange_nested_mask, selFilter, hlt, hge, hs]

end CnvVerif.Src
