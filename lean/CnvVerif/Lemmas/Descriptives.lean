/-
  Lemmas behind Props/C19.lean, on top of Lemmas/OrderStat.lean and Lemmas/Quantile.lean: the four invariants of the
  MAD (`madCore_*`), and for IQR, gapper and Qn the facts their invariants in Props/C19.lean are composed of (the
  levels, how gaps and pairwise distances behave under a map, the sign of `Cn`).  First, arithmetic of `absR`, `sq`
  and sums that the biweight and weighted modules share.
-/
import Mathlib.Tactic.Positivity
import Mathlib.Tactic.FieldSimp
import Mathlib.Algebra.Order.BigOperators.Group.List
import CnvVerif.Lemmas.Quantile
namespace CnvVerif.Desc

theorem absR_mul (k x : Rat) (hk : 0 ≤ k) : absR (k * x) = k * absR x := by
  rw [absR_eq_abs, absR_eq_abs, abs_mul, abs_of_nonneg hk]

theorem sq_nonneg' (x : Rat) : 0 ≤ sq x := mul_self_nonneg x

theorem sum_map_mul_left {α : Type} (k : Rat) (f : α → Rat) (l : List α) :
    (l.map (fun x => k * f x)).sum = k * (l.map f).sum := by
  induction l with
  | nil => simp
  | cons a t ih => rw [List.map_cons, List.sum_cons, List.map_cons, List.sum_cons, ih, mul_add]

theorem sum_map_mul (k : Rat) (l : List Rat) : (l.map (k * ·)).sum = k * l.sum :=
  (sum_map_mul_left k id l).trans (by rw [List.map_id])

theorem sum_replicate (n : Nat) (c : Rat) : (List.replicate n c).sum = (n : Rat) * c := by
  rw [List.sum_replicate, nsmul_eq_mul]

theorem filterMap_id_map_some (l : List Rat) : (l.map some).filterMap id = l := by
  simp [List.filterMap_map]

theorem mul_ite_scale (b : Bool) (k x s : Rat) :
    (if b = true then k * x * s else k * x) = k * (if b = true then x * s else x) := by
  split
  · exact mul_assoc _ _ _
  · rfl

theorem MAD_SCALE_pos : 0 < Generated.MAD_SCALE := by unfold Generated.MAD_SCALE; norm_num

theorem madCore_def (a : List Rat) (b : Bool) : madCore a b =
    if b = true then median (a.map (fun x => absR (x - median a))) * Generated.MAD_SCALE
    else median (a.map (fun x => absR (x - median a))) := rfl

theorem madCore_nonneg (a : List Rat) (b : Bool) : 0 ≤ madCore a b := by
  have h : 0 ≤ median (a.map (fun x => absR (x - median a))) :=
    median_nonneg _ (List.forall_mem_map.mpr (fun _ _ => absR_nonneg _))
  rw [madCore_def]
  split
  · exact mul_nonneg h (le_of_lt MAD_SCALE_pos)
  · exact h

theorem madCore_const (a : List Rat) (c : Rat) (h : ∀ x ∈ a, x = c) (b : Bool) : madCore a b = 0 := by
  have hz : median (a.map (fun x => absR (x - median a))) = 0 := by
    by_cases hl : a = []
    · subst hl; exact median_nil
    · rw [median_const a hl c h]
      exact median_const _ (mt List.map_eq_nil_iff.mp hl) 0
        (List.forall_mem_map.mpr (fun y hy => by rw [h y hy, absR_sub_self]))
  rw [madCore_def, hz, zero_mul, ite_self]

theorem madCore_shift (a : List Rat) (c : Rat) (b : Bool) : madCore (a.map (· + c)) b = madCore a b := by
  by_cases hl : a = []
  · subst hl; rfl
  have : ((fun x => absR (x - (median a + c))) ∘ fun x => x + c) = fun x => absR (x - median a) :=
    funext fun x => congrArg absR (add_sub_add_right_eq_sub x (median a) c)
  rw [madCore_def, madCore_def, median_map_add c a hl, List.map_map, this]

theorem madCore_scale (a : List Rat) (k : Rat) (hk : 0 ≤ k) (b : Bool) :
    madCore (a.map (k * ·)) b = k * madCore a b := by
  have : ((fun x => absR (x - k * median a)) ∘ fun x => k * x) = (fun x => k * x) ∘ fun x => absR (x - median a) :=
    funext fun x => by rw [Function.comp_apply, Function.comp_apply, ← mul_sub, absR_mul _ _ hk]
  rw [madCore_def, madCore_def, median_map_mul k hk a, List.map_map, this, ← List.map_map, median_map_mul k hk]
  exact mul_ite_scale b k _ _

theorem iqr_levels : (0 : Rat) ≤ (Generated.IQR_Q_LO : Rat) / 100 ∧ (Generated.IQR_Q_LO : Rat) / 100 ≤ (Generated.IQR_Q_HI : Rat) / 100 ∧
    (Generated.IQR_Q_HI : Rat) / 100 ≤ 1 := by
  unfold Generated.IQR_Q_LO Generated.IQR_Q_HI; norm_num

theorem iqrCore_shift (a : List Rat) (ha : a ≠ []) (c : Rat) : iqrCore (a.map (· + c)) = iqrCore a := by
  obtain ⟨h0, h12, h1⟩ := iqr_levels
  unfold iqrCore
  rw [quantile_map_add c a _ ha (le_trans h0 h12) h1, quantile_map_add c a _ ha h0 (le_trans h12 h1),
    add_sub_add_right_eq_sub]

theorem diffs_nil : diffs [] = [] := rfl
theorem diffs_single (a : Rat) : diffs [a] = [] := rfl
theorem diffs_cons_cons (a b : Rat) (t : List Rat) : diffs (a :: b :: t) = (b - a) :: diffs (b :: t) := rfl

theorem mem_diffs {R : Rat → Rat → Prop} {s : List Rat} (hs : s.Pairwise R) {d : Rat} (hd : d ∈ diffs s) :
    ∃ a b, R a b ∧ d = b - a := by
  induction s with
  | nil => cases hd
  | cons a t ih =>
    cases t with
    | nil => cases hd
    | cons b t' =>
      obtain ⟨h1, h2⟩ := List.pairwise_cons.mp hs
      rcases List.mem_cons.mp hd with rfl | hd
      · exact ⟨a, b, h1 b List.mem_cons_self, rfl⟩
      · exact ih h2 hd

theorem diffs_length (s : List Rat) : (diffs s).length = s.length - 1 := by
  unfold diffs; simp

theorem diffs_of_const {s : List Rat} {c : Rat} (h : ∀ x ∈ s, x = c) : ∀ d ∈ diffs s, d = 0 := by
  intro d hd
  obtain ⟨a, b, hab, rfl⟩ := mem_diffs (R := fun a b => a = b)
    (List.pairwise_of_forall_mem_list (fun a ha b hb => (h a ha).trans (h b hb).symm)) hd
  rw [hab, sub_self]

theorem diffs_map (f g : Rat → Rat) (h : ∀ a b, f b - f a = g (b - a)) (s : List Rat) :
    diffs (s.map f) = (diffs s).map g := by
  induction s with
  | nil => rfl
  | cons a t ih =>
    cases t with
    | nil => rfl
    | cons b t' =>
      rw [List.map_cons, List.map_cons, diffs_cons_cons, ← List.map_cons, ih, diffs_cons_cons, List.map_cons, h]

/-- the weighted gaps `gapᵢ·i·(n−i)` -/
def gapTerms (g : List Rat) (n : Nat) : List Rat :=
  (g.zip (List.range g.length)).map (fun p => p.1 * (((p.2 + 1) * (n - (p.2 + 1)) : Nat) : Rat))

theorem gapperCore_def (a : List Rat) : gapperCore a =
    (gapTerms (diffs (sortR a)) (sortR a).length).sum / (((sortR a).length * ((sortR a).length - 1) : Nat) : Rat) := rfl

theorem gapTerms_map_mul (k : Rat) (g : List Rat) (n : Nat) : gapTerms (g.map (k * ·)) n = (gapTerms g n).map (k * ·) := by
  unfold gapTerms
  rw [List.length_map, List.zip_map_left, List.map_map, List.map_map]
  exact List.map_congr_left (fun p _ => mul_assoc k _ _)

theorem mem_gapTerms {g : List Rat} {n : Nat} {t : Rat} (ht : t ∈ gapTerms g n) : ∃ d ∈ g, ∃ m : Nat, t = d * m := by
  obtain ⟨p, hp, rfl⟩ := List.mem_map.mp ht
  exact ⟨p.1, (List.of_mem_zip hp).1, _, rfl⟩

theorem pairDiffs_cons (x : Rat) (xs : List Rat) :
    pairDiffs (x :: xs) = xs.map (fun y => absR (x - y)) ++ pairDiffs xs := rfl

theorem mem_pairDiffs {a : List Rat} {d : Rat} (hd : d ∈ pairDiffs a) : ∃ x ∈ a, ∃ y ∈ a, d = absR (x - y) := by
  induction a with
  | nil => cases hd
  | cons x xs ih =>
    rcases List.mem_append.mp hd with h | h
    · obtain ⟨y, hy, rfl⟩ := List.mem_map.mp h
      exact ⟨x, List.mem_cons_self, y, List.mem_cons_of_mem _ hy, rfl⟩
    · obtain ⟨u, hu, v, hv, e⟩ := ih h
      exact ⟨u, List.mem_cons_of_mem _ hu, v, List.mem_cons_of_mem _ hv, e⟩

theorem pairDiffs_map (f g : Rat → Rat) (h : ∀ x y, absR (f x - f y) = g (absR (x - y))) (a : List Rat) :
    pairDiffs (a.map f) = (pairDiffs a).map g := by
  induction a with
  | nil => rfl
  | cons x xs ih =>
    rw [List.map_cons, pairDiffs_cons, pairDiffs_cons, ih, List.map_map, List.map_append, List.map_map]
    exact congrArg (· ++ _) (List.map_congr_left (fun y _ => h x y))

theorem pairDiffs_ne_nil (a : List Rat) (h : 2 ≤ a.length) : pairDiffs a ≠ [] := by
  match a, h with
  | x :: y :: t, _ => rw [pairDiffs_cons]; simp

theorem qnScale_pos (n : Nat) : 0 < qnScale n := by
  unfold qnScale
  split
  · unfold Generated.QN_SCALE_SMALL; norm_num
  · split
    · exact add_pos_of_pos_of_nonneg one_pos (div_nonneg (Nat.cast_nonneg _) (Nat.cast_nonneg _))
    · exact one_pos

theorem qn_level : (0 : Rat) ≤ (Generated.QN_Q : Rat) / 100 ∧ (Generated.QN_Q : Rat) / 100 ≤ 1 := by
  unfold Generated.QN_Q; norm_num

end CnvVerif.Desc
