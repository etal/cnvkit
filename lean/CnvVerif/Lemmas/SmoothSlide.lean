/-
  The list layer under the smoothers (core Lean only): the mirrored padding `padArray`, cutting it off again (`unpad`),
  and the sliding pass `slide f m l`, `f` on every window of `m + 1` consecutive entries.  Every value of a sliding
  pass is `f` of entries of the list (`mem_slide`), a constant list slides to a constant (`slide_replicate`), and
  passes are repeated with the model's `iterate`.
-/
import CnvVerif.Model.Smoothing
namespace CnvVerif.Smooth

theorem length_padArray {α} (x : List α) (wing : Nat) (h : wing ≤ x.length) :
    (padArray x wing).length = x.length + 2 * wing := by
  simp only [padArray, List.length_append, List.length_reverse, List.length_take]
  omega

theorem mem_padArray {α} (x : List α) (wing : Nat) : ∀ v ∈ padArray x wing, v ∈ x := by
  intro v hv
  unfold padArray at hv
  rcases List.mem_append.mp hv with h | h
  · rcases List.mem_append.mp h with h | h
    · exact List.mem_of_mem_take (List.mem_reverse.mp h)
    · exact h
  · exact List.mem_reverse.mp (List.mem_of_mem_take h)

theorem padArray_replicate {α} (n wing : Nat) (c : α) (h : wing ≤ n) :
    padArray (List.replicate n c) wing = List.replicate (n + 2 * wing) c := by
  unfold padArray
  rw [List.take_replicate, List.reverse_replicate, List.reverse_replicate, List.take_replicate, Nat.min_eq_left h,
    List.replicate_append_replicate, List.replicate_append_replicate]
  congr 1; omega

theorem length_unpad {α} (l : List α) (wing : Nat) : (unpad l wing).length = l.length - 2 * wing := by
  rw [unpad, List.length_take, List.length_drop, Nat.two_mul, Nat.sub_add_eq]
  exact Nat.min_eq_left (Nat.sub_le _ _)

theorem getElem?_unpad {α} (l : List α) (wing j : Nat) :
    (unpad l wing)[j]? = if j + 2 * wing < l.length then l[wing + j]? else none := by
  rw [unpad, List.getElem?_take, List.getElem?_drop]
  simp only [Nat.lt_sub_iff_add_lt]

theorem mem_unpad_iff {α} {l : List α} {wing : Nat} {v : α} :
    v ∈ unpad l wing ↔ ∃ j, j + 2 * wing < l.length ∧ l[wing + j]? = some v := by
  simp only [List.mem_iff_getElem?, getElem?_unpad]
  refine exists_congr fun j => ⟨fun h => ?_, fun h => by rw [if_pos h.1, h.2]⟩
  split at h
  · exact ⟨‹_›, h⟩
  · cases h

theorem unpad_zero {α} (l : List α) : unpad l 0 = l := by
  rw [unpad, List.drop_zero, Nat.mul_zero, Nat.sub_zero, List.take_length]

theorem unpad_map {α β} (g : α → β) (l : List α) (wing : Nat) : unpad (l.map g) wing = (unpad l wing).map g := by
  rw [unpad, unpad, List.length_map, List.map_take, List.map_drop]

theorem unpad_replicate {α} (n wing : Nat) (c : α) :
    unpad (List.replicate n c) wing = List.replicate (n - 2 * wing) c := by
  rw [unpad, List.drop_replicate, List.take_replicate, List.length_replicate,
    Nat.min_eq_left (Nat.sub_le_sub_left (Nat.le_mul_of_pos_left wing Nat.two_pos) n)]

theorem take_drop_unpad {α} (l : List α) (wing j m : Nat) (h : j + m + 2 * wing ≤ l.length) :
    ((unpad l wing).drop j).take m = (l.drop (wing + j)).take m := by
  rw [unpad, List.drop_take, List.take_take, List.drop_drop,
    Nat.min_eq_left (Nat.le_sub_of_add_le (Nat.le_sub_of_add_le (by omega)))]

/-- `f` applied to every window of `m + 1` consecutive entries of `l` (a "valid"-mode pass: `m` values shorter) -/
def slide {α β} (f : List α → β) (m : Nat) (l : List α) : List β :=
  (List.range (l.length - m)).map fun i => f ((l.drop i).take (m + 1))

theorem length_slide {α β} (f : List α → β) (m : Nat) (l : List α) : (slide f m l).length = l.length - m := by
  rw [slide, List.length_map, List.length_range]

theorem getElem?_slide {α β} (f : List α → β) (m : Nat) (l : List α) (i : Nat) :
    (slide f m l)[i]? = if i + m < l.length then some (f ((l.drop i).take (m + 1))) else none := by
  rw [slide, List.getElem?_map]
  split
  · rw [List.getElem?_range (Nat.lt_sub_of_add_lt ‹_›)]; rfl
  · rw [List.getElem?_eq_none (by rw [List.length_range]; exact Nat.not_lt.mp (mt Nat.add_lt_of_lt_sub ‹_›))]; rfl

theorem mem_slide {α β} {f : List α → β} {m : Nat} {l : List α} {v : β} (h : v ∈ slide f m l) :
    ∃ s, s.length = m + 1 ∧ (∀ u ∈ s, u ∈ l) ∧ v = f s := by
  obtain ⟨i, hi, rfl⟩ := List.mem_map.mp h
  have := Nat.add_lt_of_lt_sub (List.mem_range.mp hi)
  exact ⟨_, List.length_take_of_le (by rw [List.length_drop]; omega),
    fun u hu => List.mem_of_mem_drop (List.mem_of_mem_take hu), rfl⟩

theorem slide_replicate {α β} (f : List α → β) (m n : Nat) (c : α) :
    slide f m (List.replicate (n + m) c) = List.replicate n (f (List.replicate (m + 1) c)) := by
  rw [slide, List.length_replicate, Nat.add_sub_cancel]
  refine List.eq_replicate_iff.mpr ⟨by rw [List.length_map, List.length_range], fun b hb => ?_⟩
  obtain ⟨i, hi, rfl⟩ := List.mem_map.mp hb
  have := List.mem_range.mp hi
  rw [List.drop_replicate, List.take_replicate, Nat.min_eq_left (by omega)]

theorem iterate_succ_last {α} (f : α → α) (k : Nat) (x : α) : iterate f (k + 1) x = f (iterate f k x) := by
  induction k generalizing x with
  | zero => rfl
  | succ n ih => exact ih (f x)

theorem iterate_one {α} (f : α → α) (x : α) : iterate f 1 x = f x := rfl

theorem iterate_length {α} (f : List α → List α) (hf : ∀ l, (f l).length = l.length) (k : Nat) (l : List α) :
    (iterate f k l).length = l.length := by
  induction k generalizing l with
  | zero => rfl
  | succ n ih => exact (ih (f l)).trans (hf l)

theorem iterate_slide_replicate {α} (f : List α → α) (m : Nat) (c : α) (hf : f (List.replicate (m + 1) c) = c)
    (k n : Nat) : iterate (slide f m) k (List.replicate (n + k * m) c) = List.replicate n c := by
  induction k generalizing n with
  | zero => rw [Nat.zero_mul]; rfl
  | succ j ih => rw [iterate_succ_last, Nat.succ_mul, Nat.add_comm (j * m), ← Nat.add_assoc, ih, slide_replicate, hf]

end CnvVerif.Smooth
