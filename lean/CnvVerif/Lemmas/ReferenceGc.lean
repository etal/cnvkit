/-
  `calculate_gc_lo`: the three letter classes the model counts are disjoint unions of single letters, so gc and rmask
  are quotients of sums of `List.count`s — the form in which the source computes them (`str.count`).
-/
import CnvVerif.Model.Reference
import Mathlib.Tactic.Linarith
import Mathlib.Algebra.Order.Field.Basic
namespace CnvVerif.Ref
open CnvVerif

theorem countP_or_disj {α : Type} (p q : α → Bool) (l : List α) (h : ∀ x, p x = true → q x = true → False) :
    l.countP (fun x => p x || q x) = l.countP p + l.countP q := by
  induction l with
  | nil => rfl
  | cons a t ih =>
    rw [List.countP_cons, List.countP_cons, List.countP_cons, ih]
    cases hp : p a <;> cases hq : q a
    · rfl
    · simp only [Bool.false_or, if_true, Bool.false_eq_true, if_false]; omega
    · simp only [Bool.true_or, if_true, Bool.false_eq_true, if_false]; omega
    · exact (h a hp hq).elim

theorem count_four (seq : List Char) (a b c d : Char) (hab : a ≠ b) (hac : a ≠ c) (had : a ≠ d) (hbc : b ≠ c)
    (hbd : b ≠ d) (hcd : c ≠ d) :
    seq.countP (fun x => x == a || x == b || x == c || x == d)
      = seq.count a + seq.count b + seq.count c + seq.count d := by
  rw [countP_or_disj (fun x => x == a || x == b || x == c) (· == d),
    countP_or_disj (fun x => x == a || x == b) (· == c), countP_or_disj (· == a) (· == b)]
  · rfl
  · intro x h1 h2
    rw [beq_iff_eq] at h1 h2
    exact hab (h1.symm.trans h2)
  · intro x h1 h2
    simp only [beq_iff_eq, Bool.or_eq_true] at h1 h2
    rcases h1 with h1 | h1
    · exact hac (h1.symm.trans h2)
    · exact hbc (h1.symm.trans h2)
  · intro x h1 h2
    simp only [beq_iff_eq, Bool.or_eq_true] at h1 h2
    rcases h1 with (h1 | h1) | h1
    · exact had (h1.symm.trans h2)
    · exact hbd (h1.symm.trans h2)
    · exact hcd (h1.symm.trans h2)

theorem gcRmask_counts (seq : List Char) :
    gcRmask seq =
      (let gc := seq.count 'G' + seq.count 'C' + seq.count 'g' + seq.count 'c'
       let at_ := seq.count 'A' + seq.count 'T' + seq.count 'a' + seq.count 't'
       let lo := seq.count 'a' + seq.count 'c' + seq.count 'g' + seq.count 't'
       (if gc + at_ = 0 then 0 else (gc : Rat) / ((gc + at_ : Nat) : Rat),
        if gc + at_ = 0 then 0 else (lo : Rat) / ((gc + at_ : Nat) : Rat))) := by
  unfold gcRmask
  simp only [count_four seq 'G' 'C' 'g' 'c' (by decide) (by decide) (by decide) (by decide) (by decide) (by decide),
    count_four seq 'A' 'T' 'a' 't' (by decide) (by decide) (by decide) (by decide) (by decide) (by decide),
    count_four seq 'a' 'c' 'g' 't' (by decide) (by decide) (by decide) (by decide) (by decide) (by decide)]

theorem frac_mem_unit (n t : Nat) (h : n ≤ t) :
    0 ≤ (if t = 0 then (0 : Rat) else (n : Rat) / (t : Rat)) ∧ (if t = 0 then (0 : Rat) else (n : Rat) / (t : Rat)) ≤ 1 := by
  split
  · exact ⟨le_refl _, zero_le_one⟩
  · rename_i ht
    have hpos : (0 : Rat) < (t : Rat) := by exact_mod_cast Nat.pos_of_ne_zero ht
    exact ⟨div_nonneg (Nat.cast_nonneg _) hpos.le, (div_le_one hpos).mpr (by exact_mod_cast h)⟩

end CnvVerif.Ref
