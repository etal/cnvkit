/-
  C01: the rescaled ratio for every ploidy (what the purity path writes into log2, also when the ploidy is odd), against
  the copies the reference table assigns.
-/
import CnvVerif.Lemmas.Call
namespace CnvVerif

/-- the copies the rescaling ASSUMES the reference carries: exactly half the ploidy (a rational, `ploidy/2`) on Y
    and on X under a haploid-X reference, the ploidy elsewhere -/
def assumedRefCopies (ploidy : Nat) (hapX : Bool) (cls : CClass) : Rat :=
  if cls = .y ∨ (hapX = true ∧ cls = .x) then (ploidy : Rat) / 2 else (ploidy : Rat)

theorem rescaledRatio_eq_mul (ploidy : Nat) (hapX : Bool) (cls : CClass) (a M : Rat) :
    rescaledRatio ploidy hapX cls a M =
      max (a / (ploidy : Rat)) M * (if cls = .y ∨ (hapX = true ∧ cls = .x) then 2 else 1) := by
  unfold rescaledRatio
  simp only [mul_assoc]
  congr 1
  cases cls <;> cases hapX <;> decide +kernel

theorem assumedRefCopies_eq_div (ploidy : Nat) (hapX : Bool) (cls : CClass) :
    assumedRefCopies ploidy hapX cls = (ploidy : Rat) / (if cls = .y ∨ (hapX = true ∧ cls = .x) then 2 else 1) := by
  unfold assumedRefCopies
  split
  · rfl
  · rw [div_one]

/-- multiplying the floored ratio by `k` is dividing the reference copies by `k` -/
theorem max_mul_scale (P a M k : Rat) (hP : 0 < P) (hk : 0 < k) :
    max (a / P) M * k = max (a / (P / k)) (M * P / (P / k)) := by
  rw [max_mul_of_nonneg _ _ hk.le, div_div_eq_mul_div, div_div_eq_mul_div, div_mul_eq_mul_div, mul_right_comm M,
    mul_div_cancel_right₀ _ hP.ne']

theorem rescaledRatio_eq_assumed (ploidy : Nat) (hpl : 0 < ploidy) (hapX : Bool) (cls : CClass) (a M : Rat) :
    rescaledRatio ploidy hapX cls a M =
      max (a / assumedRefCopies ploidy hapX cls) (M * (ploidy : Rat) / assumedRefCopies ploidy hapX cls) := by
  rw [rescaledRatio_eq_mul, assumedRefCopies_eq_div]
  exact max_mul_scale _ _ _ _ (by exact_mod_cast hpl) (by split <;> norm_num)

theorem callRow_rescaled_ratio_any (cfg : CallCfg) (p : Rat) (hcfg : cfg.purity = some p)
    (hp0 : 0 < p) (hp1 : p < 1) (hpl : 0 < cfg.ploidy)
    (m : Method) (thr : List Rat) (first : String) (hasBaf : Bool) (row : SegRow) (n : Nat)
    (hr : 0 < (refExpect cfg.ploidy cfg.hapX cfg.female (classOf first cfg.par row.chrom row.s row.e)).1)
    (ht : row.t = (p * (n : Rat) +
            (1 - p) * ((refExpect cfg.ploidy cfg.hapX cfg.female (classOf first cfg.par row.chrom row.s row.e)).2 : Rat)) /
          ((refExpect cfg.ploidy cfg.hapX cfg.female (classOf first cfg.par row.chrom row.s row.e)).1 : Rat)) :
    (callRow cfg m thr first hasBaf row).ratio =
      some (max ((n : Rat) / assumedRefCopies cfg.ploidy cfg.hapX (classOf first cfg.par row.chrom row.s row.e))
                (Generated.MIN_ABS_VAL * (cfg.ploidy : Rat) /
                  assumedRefCopies cfg.ploidy cfg.hapX (classOf first cfg.par row.chrom row.s row.e))) := by
  have hpa := purityActive_some hcfg hp0 hp1
  rw [callRow_ratio, hpa, Option.map_some, hcfg, ht, absoluteOf_inverts _ _ n p hp0 hp1 hr, rescaledRatio_eq_assumed _ hpl]

theorem refExpect_fst (ploidy : Nat) (hapX female : Bool) (cls : CClass) (hcls : cls ≠ .pary) :
    (refExpect ploidy hapX female cls).1 = if cls = .y ∨ (hapX = true ∧ cls = .x) then ploidy / 2 else ploidy := by
  cases cls <;> cases hapX <;> first | rfl | exact absurd rfl hcls

theorem natHalf_add (k : Nat) : ((k / 2 : Nat) : Rat) + (if k % 2 = 1 then 1/2 else 0) = (k : Rat) / 2 := by
  have h : (k : Rat) = 2 * ((k / 2 : Nat) : Rat) + ((k % 2 : Nat) : Rat) := by exact_mod_cast (Nat.div_add_mod k 2).symm
  rcases Nat.mod_two_eq_zero_or_one k with h0 | h1
  · rw [h0] at h; rw [h, h0, if_neg (by decide)]; ring
  · rw [h1] at h; rw [h, h1, if_pos rfl]; ring

theorem assumedRefCopies_vs_table (ploidy : Nat) (hapX female : Bool) (cls : CClass) (hcls : cls ≠ .pary) :
    assumedRefCopies ploidy hapX cls =
      ((refExpect ploidy hapX female cls).1 : Rat) +
        (if ploidy % 2 = 1 ∧ (cls = .y ∨ (hapX = true ∧ cls = .x)) then 1/2 else 0) := by
  rw [refExpect_fst ploidy hapX female cls hcls]
  unfold assumedRefCopies
  by_cases hh : cls = .y ∨ (hapX = true ∧ cls = .x)
  · simp only [hh, and_true, if_true]
    exact (natHalf_add ploidy).symm
  · simp only [hh, and_false, if_false, add_zero]

end CnvVerif
