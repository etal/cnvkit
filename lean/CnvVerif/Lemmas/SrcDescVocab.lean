/-
  The ties of the C19 models to the source text.  The bodies of the functions of cnvlib/descriptives.py are re-translated
  from /repo on every run by harness/vectrans.py (typed reading of the numpy vector subset) into Generated/ExprsDesc.lean;
  each `Props/C19Src<Function>.lean` proves that the hand-written model IS that expression, for all arguments.  One
  module per function, and nothing in this file depends on the generated expressions, so an edited formula breaks the
  obligation of that function only.
  Here: the numpy vocabulary of the translator (`Np.sel`, `Np.take`, `Np.cumsum`, `Np.searchLeft/Right`, `Np.average`,
  position-wise products) related to the list functions the models of Model/Descriptives.lean are written with; and the
  tail of `biweight_midvariance` in that vocabulary (`bivarTailSrc`), proved equal to the model's (`bivarTail_eq`).
-/
import CnvVerif.Model.NpVec
import CnvVerif.Lemmas.DescBiweight
import CnvVerif.Lemmas.Basic
namespace CnvVerif.Src
open CnvVerif CnvVerif.Desc


/-- `f(d)[p(d)]` keeps the entries of `d` that satisfy `p`, then applies `f` -/
theorem sel_map_map (d : List Rat) (f : Rat → Rat) (p : Rat → Bool) :
    Np.sel (d.map f) (d.map p) = (d.filter p).map f := by
  unfold Np.sel
  induction d with
  | nil => rfl
  | cons x t ih =>
    simp only [List.map_cons, List.zip_cons_cons, List.filter_cons]
    cases p x <;> simp [ih]

/-- the Boolean mask `|d/s| < 1` of the biweight functions is the model's cut-off test, entry by entry -/
theorem cutoff_mask (d : List Rat) (s : Rat) :
    ((d.map (fun v => v / s)).map absR).map (fun v => decide (v < (1 : Rat))) =
      d.map (fun x => decide (absR (x / s) < 1)) := by
  rw [List.map_map, List.map_map]; rfl

theorem sel_self_map (d : List Rat) (p : Rat → Bool) : Np.sel d (d.map p) = d.filter p := by
  have := sel_map_map d id p
  simpa using this

theorem count_true_map (d : List Rat) (p : Rat → Bool) : List.count true (d.map p) = (d.filter p).length := by
  rw [List.count_eq_countP, List.countP_map, List.countP_eq_length_filter]
  congr 1
  apply List.filter_congr
  intro x _
  simp

theorem zipWith_eq_zip_map {α β γ : Type} (f : α → β → γ) (a : List α) (b : List β) :
    List.zipWith f a b = (a.zip b).map (fun p => f p.1 p.2) :=
  (List.map_zip_eq_zipWith (f := fun p => f p.1 p.2)).symm

theorem permute_zip (order : List Nat) (a w : List Rat) (h : a.length = w.length) :
    permute order (a.zip w) = (Np.take a order).zip (Np.take w order) := by
  unfold permute Np.take
  rw [List.zip_map']
  apply List.map_congr_left
  intro i _
  by_cases hi : i < a.length
  · have hi' : i < w.length := h ▸ hi
    simp [List.getD, hi, hi']
  · have hi' : ¬ i < w.length := h ▸ hi
    simp [List.getD, hi, hi']
    rfl

theorem permute_zip_fst (order : List Nat) (a w : List Rat) (h : a.length = w.length) :
    (permute order (a.zip w)).map (·.1) = Np.take a order := by
  rw [permute_zip order a w h]; exact List.map_fst_zip (by simp [Np.take])

theorem permute_zip_snd (order : List Nat) (a w : List Rat) (h : a.length = w.length) :
    (permute order (a.zip w)).map (·.2) = Np.take w order := by
  rw [permute_zip order a w h]; exact List.map_snd_zip (by simp [Np.take])

theorem searchLeft_cumsum (w : List Rat) (v : Rat) :
    Np.searchLeft (Np.cumsum w) v = firstIdx (fun i => decide (v ≤ cumAt w i)) w.length := by
  unfold Np.searchLeft Np.cumsum firstIdx
  rw [List.findIdx_map]; rfl

theorem searchRight_cumsum (w : List Rat) (v : Rat) :
    Np.searchRight (Np.cumsum w) v = firstIdx (fun i => decide (v < cumAt w i)) w.length := by
  unfold Np.searchRight Np.cumsum firstIdx
  rw [List.findIdx_map]; rfl

theorem wavg_zip (a w : List Rat) (h : a.length = w.length) (v : Rat) (hv : wavg (a.zip w) = some v) :
    Np.average a w = v := by
  unfold wavg at hv
  unfold Np.average
  rw [show (a.zip w).map (·.2) = w from List.map_snd_zip (le_of_eq h.symm)] at hv
  simp only [] at hv
  split at hv
  · exact absurd hv (by simp)
  · rw [zipWith_eq_zip_map]
    exact Option.some.inj hv

/-- a hand copy of `Generated.src_biweight_midvariance` from the line `w = d / s` on, with the deviations `d`, the scale `s`
    and the fall-back value `fb` as parameters; the `rfl` in Props/C19SrcBivar.lean is what ties it to the generated text -/
def bivarTailSrc (d : List Rat) (s fb : Rat) : ScaleOut :=
  let w : List Rat := (d.map (fun v => v / s))
  let mask : List Bool := ((w.map Desc.absR).map (fun v => decide (v < (1 : Rat))))
  if (((Np.sel w mask)).sum = (0 : Rat)) then
    Desc.ScaleOut.direct fb
  else
    let n : Nat := (List.count true mask)
    let d_ : List Rat := (Np.sel d mask)
    let w_ : List Rat := (Np.sel (w.map (fun v => v ^ 2)) mask)
    Desc.ScaleOut.root ((((n : Nat) : Rat) * ((List.zipWith (fun u v => u * v) (d_.map (fun v => v ^ 2)) ((w_.map (fun v => (1 : Rat) - v)).map (fun v => v ^ 4)))).sum) / (((List.zipWith (fun u v => u * v) (w_.map (fun v => (1 : Rat) - v)) ((w_.map (fun v => (5 : Rat) * v)).map (fun v => (1 : Rat) - v)))).sum ^ 2))

theorem bivarTail_eq (d : List Rat) (s fb : Rat) :
    bivarTailModel d s fb = ScaleOut.undefined ∨ bivarTailModel d s fb = bivarTailSrc d s fb := by
  unfold bivarTailModel bivarTailSrc biwKept
  simp only []
  have hw2 : (d.map (fun v => v / s)).map (fun v => v ^ 2) = d.map (fun x => (x / s) ^ 2) := by
    rw [List.map_map]; rfl
  -- every masked selection `f(d)[mask]` becomes `(kept).map f` for the model's list `kept` of deviations inside the cut-off
  rw [cutoff_mask, hw2, sel_map_map, sel_map_map, sel_self_map, count_true_map]
  generalize d.filter (fun x => decide (absR (x / s) < 1)) = kept
  by_cases h0 : (kept.map (fun v => v / s)).sum = 0
  · right; rw [if_pos h0, if_pos h0]
  · rw [if_neg h0, if_neg h0]
    -- numerator and denominator: position-wise products of columns of `kept` are maps over `kept`
    have hnum : (List.zipWith (fun u v => u * v) (kept.map (fun v => v ^ 2))
        (((kept.map (fun x => (x / s) ^ 2)).map (fun v => (1 : Rat) - v)).map (fun v => v ^ 4))) =
        kept.map (fun x => Desc.sq x * Desc.sq (Desc.sq (1 - Desc.sq (x / s)))) := by
      rw [List.map_map, List.map_map, zipWith_map_same]
      apply List.map_congr_left; intro x _; simp only [Function.comp, Desc.sq]; ring
    have hden : (List.zipWith (fun u v => u * v) ((kept.map (fun x => (x / s) ^ 2)).map (fun v => (1 : Rat) - v))
        (((kept.map (fun x => (x / s) ^ 2)).map (fun v => (5 : Rat) * v)).map (fun v => (1 : Rat) - v))) =
        kept.map (fun x => (1 - Desc.sq (x / s)) * (1 - 5 * Desc.sq (x / s))) := by
      rw [List.map_map, List.map_map, List.map_map, zipWith_map_same]
      apply List.map_congr_left; intro x _; simp only [Function.comp, Desc.sq]; ring
    rw [hnum, hden]
    -- the source divides without a test; the model answers `.undefined` where the denominator vanishes
    by_cases hden0 : (kept.map (fun x => (1 - Desc.sq (x / s)) * (1 - 5 * Desc.sq (x / s)))).sum = 0
    · left; rw [if_pos hden0]
    · right; rw [if_neg hden0]; simp only [Desc.sq, pow_two]

end CnvVerif.Src
