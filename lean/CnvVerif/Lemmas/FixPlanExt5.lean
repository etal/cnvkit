/-
  C04: a class of bins reads its tables through `prepare` and its three switches through the plan of Model/FixExt5.lean
  (`loadAdjust_congr`, by the normal form `loadAdjust_eq` of Lemmas/FixAlign.lean); `loadAdjustPlanned` and `decisions` in
  terms of `prepare`; a correction that is switched on but whose column the reference lacks gives the result with the
  switch off.
  `C04x` is the namespace of Model/FixExt5.lean (the decisions of `fix.py` as a model of their own).
  (The equalities with the source text are in Props/C04SrcPlan.lean and Lemmas/SrcFixPlan.lean.)
-/
import CnvVerif.Lemmas.FixAlign
namespace CnvVerif.C04x
open CnvVerif CnvVerif.Generated

theorem decisions_eq (samp : List SRow) (ref : List RRow) (skipLow g e r : Bool) (par : Option String) :
    decisions samp ref skipLow g e r par =
      if samp.isEmpty then .ok (false, [])
      else (prepare samp ref skipLow par).map fun p => (skipCorrections (p.1.map (·.log2)), planOf g e r p) := by
  unfold decisions prepare
  cases matchRef ref (sortS samp) <;> rfl

theorem loadAdjustPlanned_eq (samp : List SRow) (ref : List RRow) (skipLow g e r : Bool)
    (par : Option String) (perm : List Nat) (wing : Nat) (ek : Option (List Rat)) :
    loadAdjustPlanned samp ref skipLow g e r par perm wing ek =
      if samp.isEmpty then .ok ([], [])
      else (prepare samp ref skipLow par).map fun p => (runPlan perm wing p.2 ek (planOf g e r p) p.1, p.2) := by
  unfold loadAdjustPlanned prepare
  cases matchRef ref (sortS samp) <;> rfl

/-- a class of bins reads its tables through `prepare` (and whether the sample is empty), its switches through the plan -/
theorem loadAdjust_congr {samp samp' : List SRow} {ref ref' : List RRow} {skipLow g e r g' e' r' : Bool}
    {par : Option String} (perm : List Nat) (wing : Nat) (ek : Option (List Rat))
    (hE : samp'.isEmpty = samp.isEmpty) (hP : prepare samp' ref' skipLow par = prepare samp ref skipLow par)
    (h : samp.isEmpty = false → ∀ p, prepare samp ref skipLow par = .ok p → planOf g' e' r' p = planOf g e r p) :
    loadAdjust samp' ref' skipLow g' e' r' par perm wing ek = loadAdjust samp ref skipLow g e r par perm wing ek := by
  rw [loadAdjust_eq, loadAdjust_eq, hE, hP]
  split
  · rfl
  cases hp : prepare samp ref skipLow par with
  | error e => rfl
  | ok p => simp only [Except.map, h (Bool.eq_false_iff.mpr ‹_›) p hp]

theorem colTest_false_of_all_none (rf : List RRow) (col : RRow → Option Rat) (h : ∀ r ∈ rf, col r = none) :
    (rf.all (fun r => (col r).isSome) && !rf.isEmpty) = false := by
  cases rf with
  | nil => rfl
  | cons a t =>
    have := h a List.mem_cons_self
    simp [this]

theorem loadAdjust_gc_skipped (samp : List SRow) (ref : List RRow) (skipLow fixEdge fixRmask : Bool)
    (par : Option String) (perm : List Nat) (wing : Nat) (ek : Option (List Rat)) (h : ∀ r ∈ ref, r.gc = none) :
    loadAdjust samp ref skipLow true fixEdge fixRmask par perm wing ek =
      loadAdjust samp ref skipLow false fixEdge fixRmask par perm wing ek :=
  loadAdjust_congr perm wing ek rfl rfl fun _ p hp => by
    -- the column test is false, and then the plan does not depend on the switch
    unfold planOf
    rw [show hasGcCol p.2 = false from
      colTest_false_of_all_none p.2 (·.gc) fun q hq => h q ((prepare_ok hp).2.2 q hq).2]
    rfl

theorem loadAdjust_rmask_skipped (samp : List SRow) (ref : List RRow) (skipLow fixGc fixEdge : Bool)
    (par : Option String) (perm : List Nat) (wing : Nat) (ek : Option (List Rat)) (h : ∀ r ∈ ref, r.rmask = none) :
    loadAdjust samp ref skipLow fixGc fixEdge true par perm wing ek =
      loadAdjust samp ref skipLow fixGc fixEdge false par perm wing ek :=
  loadAdjust_congr perm wing ek rfl rfl fun _ p hp => by
    unfold planOf
    rw [show hasRmaskCol p.2 = false from
      colTest_false_of_all_none p.2 (·.rmask) fun q hq => h q ((prepare_ok hp).2.2 q hq).2]
    rfl

/-- when most kept bins have no coverage the plan is empty, whatever the switches -/
theorem skip_empties_plan (g e r a b : Bool) : correctionPlan true g e r a b = [] := rfl

theorem decisions_skip (samp : List SRow) (ref : List RRow) (skipLow g e r g' e' r' : Bool) (par : Option String)
    (p : List String) (h : decisions samp ref skipLow g e r par = .ok (true, p)) :
    decisions samp ref skipLow g' e' r' par = .ok (true, p) := by
  rw [decisions_eq] at h ⊢
  split at h
  · cases h
  rw [if_neg ‹_›]
  cases hp : prepare samp ref skipLow par with
  | error err => rw [hp] at h; cases h
  | ok q =>
    rw [hp] at h
    obtain ⟨h1, h2⟩ := Prod.mk.inj (Except.ok.inj h)
    unfold planOf at h2
    show Except.ok (_, correctionPlan _ _ _ _ _ _) = _
    rw [h1] at h2 ⊢
    rw [← h2]
    rfl

end CnvVerif.C04x
