/-
  C16, tie to the source TEXT (cnvlib/reports.py, cnvlib/segmetrics.py): what the statements of
  Props/C16SrcReports.lean are written with (`toBrk`, `keptRows`, `rowTuple`) and the lemmas their proofs share.
  The generated side is Generated/ExprsGeneMetrics.lean (regenerated from /repo on every run).
-/
import CnvVerif.Generated.ExprsGeneMetrics
import CnvVerif.Model.Genes
import CnvVerif.Lemmas.Basic
namespace CnvVerif.Genes
open CnvVerif CnvVerif.Generated

/-- a row of `breaks` from the tuple the generated loop body appends -/
def toBrk (x : String × String × Int × Rat × Nat × Nat) : Brk :=
  { gene := x.1, chrom := x.2.1, loc := x.2.2.1, change := x.2.2.2.1, left := x.2.2.2.2.1, right := x.2.2.2.2.2 }

/-- the test `abs(row.log2) >= threshold and row.gene` of `gene_metrics_by_gene`, on a row whose mean is a number -/
theorem reaches_src (v thr : Rat) (gene : String) :
    (reaches (some v) thr && gene != "") = src_gene_metrics_by_gene_keep thr gene v := by
  unfold reaches src_gene_metrics_by_gene_keep ratAbs
  by_cases h1 : (if v < 0 then -v else v) ≥ thr <;> by_cases h2 : gene = "" <;> simp [h1, h2]

theorem segment_reaches_src (v thr : Rat) :
    decide (ratAbs v ≥ thr) = src_gene_metrics_by_segment_keep thr v := by
  unfold src_gene_metrics_by_segment_keep ratAbs
  rfl

theorem filterMap_eq_flatMap_toList {α β} (f : α → Option β) (l : List α) :
    l.filterMap f = l.flatMap (fun a => (f a).toList) := by
  induction l with
  | nil => rfl
  | cons a l ih =>
    rw [List.flatMap_cons, ← ih]
    cases h : f a <;> simp [h]

/-! ### segmetrics.segment_mean -/

theorem sumRat_eq_sum (l : List Rat) : sumRat l = l.sum := rfl

/-- the rows `segment_mean` averages: all of them, or with `skip_low` those `drop_low_coverage` keeps -/
def keptRows (rows : List Bin) (skip : Bool) : List Bin := if skip then rows.filter keptLow else rows

/-- the three branches of `segment_mean` on the rows it keeps, against `src_segment_mean` on their columns -/
theorem segmentMean_core (kept : List Bin) :
    (if kept.isEmpty = true then none
      else if (kept.any fun b => b.weight != 0) = true then
        some (sumRat (kept.map (fun b => b.log2 * b.weight)) / sumRat (kept.map (·.weight)))
      else some (sumRat (kept.map (·.log2)) / (kept.length : Rat))) =
    src_segment_mean kept.length (kept.map (·.log2)) (kept.map (·.weight)) := by
  unfold src_segment_mean
  rw [zipWith_map_same, ← sumRat_eq_sum, ← sumRat_eq_sum, ← sumRat_eq_sum, List.length_map]
  cases kept with
  | nil => rfl
  | cons a l => simp [bne_iff_ne]

/-! ### reports.group_by_genes: the row of a group -/

/-- the tuple (chromosome, start, end, gene, log2, depth, weight, probes) of a genemetrics row with depth `d` -/
def rowTuple (r : GRow) (d : Rat) : String × Int × Int × String × Option Rat × Rat × Rat × Nat :=
  (r.chrom, r.s, r.e, r.gene, r.log2, d, r.weight, r.probes)

end CnvVerif.Genes
