/-
  `convolve_weighted` with any number of passes.  The loop body is the one-pass map `cwStep`; `k` passes are
  `iterate (cwStep win) k`.  The weights after `k` passes are the `k`-fold convolution of the weights, whatever the
  values; a constant signal is reproduced by every number of passes as long as no window sum of any pass vanishes;
  conversely a vanishing window sum in a pass leaves a non-finite value in that pass, so that hypothesis is what is
  needed pass by pass.
-/
import CnvVerif.Lemmas.Smoothing
import CnvVerif.Model.SmoothIterExt5b
namespace CnvVerif.Smooth

theorem iterate_cwStep_weights (win : List Rat) (k : Nat) (st : List (Option Rat) × List Rat) :
    (iterate (cwStep win) k st).2 = iterate (convSame win) k st.2 := by
  induction k generalizing st with
  | zero => rfl
  | succ n ih =>
    show (iterate (cwStep win) n (cwStep win st)).2 = iterate (convSame win) n (convSame win st.2)
    rw [ih, cwStep_weights]

theorem cw5b_iter_convSame_length (win : List Rat) (k : Nat) (w : List Rat) :
    (iterate (convSame win) k w).length = w.length :=
  iterate_length (convSame win) (convSame_length win) k w

theorem cwStep_const_of_ne_zero (win w : List Rat) (c : Rat) (h : ∀ N ∈ convSame win w, N ≠ 0) :
    cwStep win (List.replicate w.length (some c), w) = (List.replicate w.length (some c), convSame win w) :=
  Prod.ext (by rw [cwStep_const, map_defined_of_ne_zero h, convSame_length]) rfl

theorem iterate_cwStep_const (win : List Rat) (c : Rat) (k : Nat) (w : List Rat)
    (h : ∀ j, j < k → ∀ N ∈ iterate (convSame win) (j + 1) w, N ≠ 0) :
    iterate (cwStep win) k (List.replicate w.length (some c), w) =
      (List.replicate w.length (some c), iterate (convSame win) k w) := by
  induction k generalizing w with
  | zero => rfl
  | succ n ih =>
    show iterate (cwStep win) n (cwStep win (List.replicate w.length (some c), w)) =
      (List.replicate w.length (some c), iterate (convSame win) n (convSame win w))
    rw [cwStep_const_of_ne_zero win w c (h 0 (Nat.succ_pos n))]
    have := ih (convSame win w) (fun j hj N hN => h (j + 1) (Nat.succ_lt_succ hj) N hN)
    rw [convSame_length] at this
    exact this

theorem cwStep_zero_none (win : List Rat) (y : List (Option Rat)) (w : List Rat) (i : Nat)
    (hi : i < (cwStep win (y, w)).1.length) (hN : (convSame win w)[i]? = some 0) :
    (cwStep win (y, w)).1[i] = none := by
  obtain ⟨hlt, h0⟩ := List.getElem?_eq_some_iff.mp hN
  unfold cwStep at hi ⊢
  simp only [] at hi ⊢
  simp only [List.getElem_map, List.getElem_zip]
  exact if_pos h0

theorem convolveWeighted_of_length {window y w : List Rat} (h : w.length = y.length) (k : Nat) :
    C19Iter.convolveWeighted window y w k = .ok (iterate (cwStep (normalise window)) k (y.map some, w)) :=
  if_neg (not_not.mpr h)

theorem convolveWeighted_ok {window y w : List Rat} {k : Nat} {st : List (Option Rat) × List Rat}
    (h : C19Iter.convolveWeighted window y w k = .ok st) :
    w.length = y.length ∧ st = iterate (cwStep (normalise window)) k (y.map some, w) := by
  unfold C19Iter.convolveWeighted at h
  split at h
  · cases h
  · exact ⟨not_not.mp ‹_›, (Except.ok.inj h).symm⟩

theorem densNonzero_spec {window w : List Rat} {k : Nat} (h : C19Iter.densNonzero window w k = true) :
    ∀ j, j < k → ∀ N ∈ iterate (convSame (normalise window)) (j + 1) w, N ≠ 0 := by
  intro j hj N hN
  unfold C19Iter.densNonzero C19Iter.denominators at h
  have h1 := List.all_eq_true.mp h _ (List.mem_map.mpr ⟨j, List.mem_range.mpr hj, rfl⟩)
  simpa using List.all_eq_true.mp h1 N hN

end CnvVerif.Smooth
