/-
  C08 (table formats), what every reader shares: columns of a body of lines, the sort order is a total preorder,
  what `tabio.read` adds after a reader (`finish`: sorted, coordinates kept; `coordsT` compares two reads by their
  coordinates), the shifts cancel; and what the two line-by-line readers (BED, text) return on the lines their
  writers print.  The character-level facts are in Lemmas/FormatsChars.lean.
-/
import CnvVerif.Lemmas.FormatsChars
namespace CnvVerif.Fmt
open CnvVerif CnvVerif.Generated

theorem intColumn_toString {α} (what : String) (rows : List α) (f : α → Int) :
    intColumn what (rows.map fun r => toString (f r)) = .ok (rows.map f) :=
  mapM_map_ok _ _ f rows fun r _ => by rw [parseInt_toString]

theorem column_map {α} (j : Nat) (rows : List α) (line : α → Line) :
    column j (rows.map line) = rows.map fun r => (line r).getD j "" := by
  unfold column; rw [List.map_map]; rfl

theorem dropBlank_eq_self (lines : List Line) (h : ∀ l ∈ lines, 2 ≤ l.length) : dropBlank lines = lines := by
  unfold dropBlank
  refine List.filter_eq_self.mpr fun l hl => ?_
  have := h l hl
  rw [Bool.and_eq_true, bne_iff_ne, bne_iff_ne]
  constructor <;> intro he <;> rw [he] at this <;> exact absurd this (by decide)

/-- `p` is the comment literal and `ch` its character (`hp`): `sw` tests a string, `contains` a character -/
theorem comment_lines {α} (p : String) (ch : Char) (hp : p.toList.head? = some ch) (hdr : List Line)
    (items : List α) (line : α → Line) (hh : ∀ l ∈ hdr, sw p (l.headD "") = true)
    (hlen : ∀ x ∈ items, 2 ≤ (line x).length) (hc : ∀ x ∈ items, ∀ f ∈ line x, f.toList.contains ch = false) :
    (dropBlank (hdr ++ items.map line)).filter (fun l => !sw p (l.headD "")) = items.map line ∧
    (items.map line).any (fun l => l.any (fun f => f.toList.contains ch)) = false := by
  constructor
  · have h1 : (hdr.filter (fun l => l != [""] && l != [])).filter (fun l => !sw p (l.headD "")) = [] := by
      rw [List.filter_eq_nil_iff]
      intro l hl
      rw [hh l (List.mem_filter.mp hl).1]
      decide
    have h2 := dropBlank_eq_self (items.map line) (List.forall_mem_map.mpr hlen)
    have h3 : (items.map line).filter (fun l => !sw p (l.headD "")) = items.map line := by
      refine List.filter_eq_self.mpr (List.forall_mem_map.mpr fun x hx => ?_)
      rw [sw_false_of_not_mem p _ ch hp (hc x hx _ ?_)]
      · rfl
      · cases hl : line x with
        | nil => have := hlen x hx; rw [hl] at this; exact absurd this (by decide)
        | cons a t => exact List.mem_cons_self
    unfold dropBlank at h2 ⊢
    rw [List.filter_append, List.filter_append, h1, h2, h3, List.nil_append]
  · rw [List.any_map, List.any_eq_false]
    intro x hx
    rw [Bool.not_eq_true, Function.comp, List.any_eq_false]
    intro f hf
    rw [Bool.not_eq_true]
    exact hc x hx f hf

theorem any_length_ne {α} (items : List α) (line : α → Line) (n : Nat) (h : ∀ p, (line p).length = n) :
    (items.map line).any (fun l => l.length != n) = false := by
  rw [List.any_map, List.any_eq_false]
  intro p _
  simp only [Function.comp, h p, bne_self_eq_false, Bool.false_eq_true, not_false_eq_true]

/-- the order of `GenomicArray.sort` (`gary.py`): the `sorter_chrom` key (`chromsort.py`), then start, then end -/
def rowLe (a b : FRow) : Bool := sortLe a.toRow b.toRow

theorem sortF_eq (t : List FRow) : sortF t = t.mergeSort rowLe := rfl

theorem rowLe_iff (a b : FRow) :
    rowLe a b = true ↔ chromKeyLt (sorterChrom a.chrom) (sorterChrom b.chrom) = true ∨
      (sorterChrom a.chrom = sorterChrom b.chrom ∧ (a.s < b.s ∨ (a.s = b.s ∧ a.e ≤ b.e))) :=
  sortLe_iff a.toRow b.toRow

theorem rowLe_total (a b : FRow) : (rowLe a b || rowLe b a) = true := sortLe_total a.toRow b.toRow

theorem rowLe_trans (a b c : FRow) (h1 : rowLe a b = true) (h2 : rowLe b c = true) : rowLe a c = true :=
  sortLe_trans a.toRow b.toRow c.toRow h1 h2

abbrev SortedRows (t : List FRow) : Prop := t.Pairwise (fun a b => rowLe a b = true)

theorem sortF_sorted (t : List FRow) : SortedRows (sortF t) :=
  List.pairwise_mergeSort rowLe_trans rowLe_total t

theorem sortF_perm (t : List FRow) : (sortF t).Perm t := List.mergeSort_perm t _

theorem sortF_of_sorted (t : List FRow) (h : SortedRows t) : sortF t = t := List.mergeSort_of_pairwise h

theorem sortF_idem (t : List FRow) : sortF (sortF t) = sortF t := sortF_of_sorted _ (sortF_sorted t)

theorem sorted_same_chrom (t : List FRow) (h : SortedRows t) :
    t.Pairwise (fun a b => a.chrom = b.chrom → a.s < b.s ∨ (a.s = b.s ∧ a.e ≤ b.e)) := by
  refine h.imp ?_
  intro a b hab hc
  rw [rowLe_iff, hc, chromKeyLt_irrefl] at hab
  rcases hab with hab | ⟨_, hab⟩
  · exact absurd hab (by simp)
  · exact hab

theorem sorted_keys_monotone (t : List FRow) (h : SortedRows t) :
    t.Pairwise (fun a b => chromKeyLt (sorterChrom b.chrom) (sorterChrom a.chrom) = false) := by
  refine h.imp ?_
  intro a b hab
  rw [rowLe_iff] at hab
  rcases hab with hab | ⟨hk, _⟩
  · exact chromKeyLt_asymm hab
  · rw [hk]; exact chromKeyLt_irrefl _

theorem idxOf_map_nodup (names : List String) (h : names.Nodup) :
    names.map (fun n => names.idxOf n) = List.range names.length := by
  apply List.ext_getElem
  · simp
  · intro i h1 h2
    rw [List.getElem_map, List.getElem_range]
    exact h.idxOf_getElem i (by simpa using h1)

theorem range_map_getD {α} (cols : List α) (d : α) (n : Nat) (h : cols.length = n) :
    (List.range n).map (fun j => cols.getD j d) = cols := by
  subst h
  exact map_getD_range cols d

/-- what `tabio.read` adds after the reader of a `GenomicArray`: `sort_columns` (no required columns, so all
    columns in name order; never fails), then `sort` -/
theorem finish_false (t : FTab) : finish false t =
    .ok { names := sortNames t.names,
          rows := sortF (t.rows.map fun r => { r with cols :=
            ((sortNames t.names).map fun n => t.names.idxOf n).map fun j => r.cols.getD j .na }) } := by
  have hfilt : t.names.filter (fun n => !([] : List String).contains n) = t.names :=
    List.filter_eq_self.mpr fun _ _ => rfl
  unfold finish sortColumns
  simp only [Bool.false_eq_true, ↓reduceIte, List.all_nil, Bool.not_true, hfilt, List.nil_append, bind, Except.bind,
    pure, Except.pure]

theorem finish_ga_id (t : FTab) (hnd : t.names.Nodup) (hs : sortNames t.names = t.names)
    (hrect : ∀ r ∈ t.rows, r.cols.length = t.names.length) :
    finish false t = .ok { names := t.names, rows := sortF t.rows } := by
  have hmap : t.rows.map (fun r => ({ r with cols := (List.range t.names.length).map (fun j => r.cols.getD j .na) } : FRow))
      = t.rows :=
    map_eq_self _ _ fun r hr => by rw [range_map_getD _ _ _ (hrect r hr)]
  rw [finish_false, hs, idxOf_map_nodup _ hnd, hmap]

/-! `tabio.read` is the format's reader followed by `finish`.  Unfolding `readFmt` at a literal format name decides
  string equalities in the elaborator, at every use; for the names several theorems read with, the equations below
  do it once. -/

theorem readFmt_bed (cna : Bool) (sel : SampleSel) (lines : List Line) :
    readFmt "bed" cna sel lines = readBed 5 lines >>= finish cna := by
  unfold readFmt; simp only []

theorem readFmt_bed3 (cna : Bool) (sel : SampleSel) (lines : List Line) :
    readFmt "bed3" cna sel lines = readBed 3 lines >>= finish cna := by
  unfold readFmt; simp only []

theorem readFmt_bed4 (cna : Bool) (sel : SampleSel) (lines : List Line) :
    readFmt "bed4" cna sel lines = readBed 4 lines >>= finish cna := by
  unfold readFmt; simp only []

theorem readFmt_tab (cna : Bool) (sel : SampleSel) (lines : List Line) :
    readFmt "tab" cna sel lines = readTab lines >>= finish cna := by
  unfold readFmt; simp only []

/-- a chromosome name the BED reader does not mistake for a `track` / `browser` line -/
def NoTrackName (c : String) : Prop := sw "track" c = false ∧ sw "browser " c = false

theorem track2track_id (lines : List Line)
    (h : ∀ l ∈ lines, NoTrackName (l.headD "")) : track2track lines = lines := by
  cases lines with
  | nil => rfl
  | cons l rest =>
    have hl := h l (by simp)
    have hrest : rest.takeWhile (fun l => !sw "track" (l.headD "")) = rest :=
      takeWhile_eq_self_of_all _ _ (fun x hx => by
        have := (h x (by simp [hx])).1
        simp only [this, Bool.not_false])
    have h1 := hl.1
    have h2 := hl.2
    simp only [track2track]
    simp only [List.headD_eq_head?_getD] at h1 h2 hrest ⊢
    simp [h1, h2, hrest]

/-- a row without its payload columns: chromosome, start, end -/
def coordsOnly (r : FRow) : FRow := { r with cols := [] }

theorem parseBedLine_three (c : String) (s e : Int) :
    parseBedLine [c, toString s, toString e] = .ok ⟨c, s + READ_SHIFT_bed, e, [.str "-", .str "."]⟩ := by
  simp only [parseBedLine, parseInt_rstrip_toString]

theorem parseBedLine_four (c : String) (s e : Int) (g : String) :
    parseBedLine [c, toString s, toString e, g] =
      .ok ⟨c, s + READ_SHIFT_bed, e, [.str (rstrip g), .str "."]⟩ := by
  simp only [parseBedLine, parseInt_rstrip_toString]

theorem readBed_lines {α} (ncol : Nat) (rows : List α) (line : α → Line) (row : α → FRow)
    (hn : ∀ r ∈ rows, NoTrackName ((line r).headD ""))
    (hp : ∀ r ∈ rows, parseBedLine (line r) = .ok (row r)) :
    readBed ncol (rows.map line) =
      .ok { names := ["gene", "strand"].take (ncol - 3),
            rows := rows.map fun r => { row r with cols := (row r).cols.take (ncol - 3) } } := by
  unfold readBed
  rw [track2track_id _ (List.forall_mem_map.mpr hn), mapM_map_ok _ _ row rows hp]
  simp only [bind, Except.bind, pure, Except.pure, List.map_map, Function.comp_def]

/-- every writer undoes its reader's shift (the text writer is `write_text` followed by `to_label`): the one fact
    about the shift constants that the write-then-read lemmas use -/
theorem shift_cancel :
    WRITE_SHIFT_tab + READ_SHIFT_tab = 0 ∧ WRITE_SHIFT_bed3 + READ_SHIFT_bed = 0 ∧
    WRITE_SHIFT_bed4 + READ_SHIFT_bed = 0 ∧ WRITE_SHIFT_interval + READ_SHIFT_interval = 0 ∧
    WRITE_SHIFT_seg + READ_SHIFT_seg = 0 ∧ WRITE_SHIFT_picardhs + READ_SHIFT_picardhs = 0 ∧
    TEXT_WRITER_USES_to_label = true ∧
    WRITE_SHIFT_text_writer + WRITE_SHIFT_to_label + READ_SHIFT_from_label + READ_SHIFT_text_reader = 0 := by
  decide

theorem add_shifts {w k : Int} (h : w + k = 0) (x : Int) : x + w + k = x := by omega

theorem renderLines_writeBed3 (t : FTab) :
    renderLines (writeBed3 t) =
      t.rows.map (fun r => [r.chrom, toString (r.s + WRITE_SHIFT_bed3), toString r.e]) := by
  simp [renderLines, writeBed3, renderCellD, renderCell, List.map_map, Function.comp_def]

theorem readBed_writeBed3 (ncol : Nat) (t : FTab) (hn : ∀ r ∈ t.rows, NoTrackName r.chrom) :
    readBed ncol (renderLines (writeBed3 t)) =
      .ok { names := ["gene", "strand"].take (ncol - 3),
            rows := t.rows.map fun r => ⟨r.chrom, r.s, r.e, [.str "-", .str "."].take (ncol - 3)⟩ } := by
  rw [renderLines_writeBed3]
  refine readBed_lines ncol t.rows _ (fun r => ⟨r.chrom, r.s, r.e, [.str "-", .str "."]⟩) hn fun r _ => ?_
  rw [parseBedLine_three, add_shifts shift_cancel.2.1]

/-- the gene label of a row as `write_bed4` / `write_interval` print it (`-` when there is no gene column) -/
def geneStr (t : FTab) (r : FRow) : String :=
  match (colCell t "gene" r).getD (.str "-") with
  | .str g => g
  | _ => ""

/-- gene labels are strings without trailing white space -/
def WFGene (t : FTab) : Prop :=
  ∀ r ∈ t.rows, ∃ g, (colCell t "gene" r).getD (.str "-") = .str g ∧ rstrip g = g

theorem geneStr_of {t : FTab} {r : FRow} {g : String}
    (h : (colCell t "gene" r).getD (.str "-") = .str g) : geneStr t r = g := by
  simp [geneStr, h]

theorem renderLines_writeBed4 (t : FTab) (h : WFGene t) :
    renderLines (writeBed4 t) =
      t.rows.map (fun r => [r.chrom, toString (r.s + WRITE_SHIFT_bed4), toString r.e, geneStr t r]) := by
  simp only [renderLines, writeBed4, List.map_map]
  apply List.map_congr_left
  intro r hr
  obtain ⟨g, hg, _⟩ := h r hr
  simp [renderCellD, renderCell, cellOut, hg, geneStr_of hg]

theorem readBed_writeBed4 (ncol : Nat) (t : FTab) (hn : ∀ r ∈ t.rows, NoTrackName r.chrom) (hg : WFGene t) :
    readBed ncol (renderLines (writeBed4 t)) =
      .ok { names := ["gene", "strand"].take (ncol - 3),
            rows := t.rows.map fun r => ⟨r.chrom, r.s, r.e, [.str (geneStr t r), .str "."].take (ncol - 3)⟩ } := by
  rw [renderLines_writeBed4 t hg]
  refine readBed_lines ncol t.rows _ (fun r => ⟨r.chrom, r.s, r.e, [.str (geneStr t r), .str "."]⟩) hn
    fun r hr => ?_
  obtain ⟨g, hg1, hg2⟩ := hg r hr
  rw [parseBedLine_four, geneStr_of hg1, hg2, add_shifts shift_cancel.2.2.1]

theorem parseTextLine_toLabel (c : String) (a b : Int) (hc : LabelName c)
    (ha : 0 ≤ a + WRITE_SHIFT_to_label) (hb : 0 ≤ b) :
    parseTextLine (toLabel c a b) =
      .ok ⟨c, a + WRITE_SHIFT_to_label + READ_SHIFT_from_label + READ_SHIFT_text_reader, b, [.str "-"]⟩ := by
  obtain ⟨⟨c0, rest, hc0, hw⟩, hall⟩ := hc
  have hfl := fromLabel_parts c.toList (toString (a + WRITE_SHIFT_to_label)).toList (toString b).toList
    c0 rest hc0 hw hall (toString_digits _ ha).2 (toString_digits _ hb).2
  unfold parseTextLine
  rw [toLabel_toList, hfl]
  have hne : c.toList.isEmpty = false := by rw [hc0]; rfl
  simp only [bind, Except.bind, hne, Bool.false_eq_true, ↓reduceIte, String.ofList_toList, parseInt_toString,
    List.isEmpty_nil, pure, Except.pure]

theorem renderLines_writeText (t : FTab) :
    renderLines (writeText t) = t.rows.map (fun r => [toLabel r.chrom (r.s + WRITE_SHIFT_text_writer) r.e]) := by
  simp [renderLines, writeText, renderCellD, renderCell, List.map_map, Function.comp_def]

theorem readText_writeText (t : FTab) (hn : ∀ r ∈ t.rows, LabelName r.chrom)
    (hpos : ∀ r ∈ t.rows, 0 ≤ r.s ∧ 0 ≤ r.e) :
    readText (renderLines (writeText t)) =
      .ok { names := ["gene"], rows := t.rows.map fun r => ⟨r.chrom, r.s, r.e, [.str "-"]⟩ } := by
  unfold readText
  rw [renderLines_writeText, mapM_map_ok _ _ (fun r => (⟨r.chrom, r.s, r.e, [.str "-"]⟩ : FRow))]
  · rfl
  · intro r hr
    have hnn : 0 ≤ r.s + WRITE_SHIFT_text_writer + WRITE_SHIFT_to_label := by
      simp only [WRITE_SHIFT_text_writer, WRITE_SHIFT_to_label]; have := (hpos r hr).1; omega
    rw [joinTab, parseTextLine_toLabel _ _ _ (hn r hr) hnn (hpos r hr).2,
      show r.s + WRITE_SHIFT_text_writer + WRITE_SHIFT_to_label + READ_SHIFT_from_label + READ_SHIFT_text_reader
        = r.s by have := shift_cancel.2.2.2.2.2.2.2; omega]

/-- sorting commutes with any map that keeps the coordinates -/
theorem sortF_map_of_coords (f : FRow → FRow) (hf : ∀ r, (f r).toRow = r.toRow) (rows : List FRow) :
    (sortF rows).map f = sortF (rows.map f) := by
  unfold sortF
  exact List.map_mergeSort (fun a _ b _ => by rw [hf a, hf b])

theorem sortF_map_coords (rows : List FRow) :
    (sortF rows).map coordsOnly = sortF (rows.map coordsOnly) :=
  sortF_map_of_coords coordsOnly (fun _ => rfl) rows

theorem bind_ok {α β} {x : Except String α} {f : α → Except String β} {y : β}
    (h : (x >>= f) = .ok y) : ∃ u, x = .ok u ∧ f u = .ok y := by
  cases x with
  | error e => exact absurd h (by simp [bind, Except.bind])
  | ok u => exact ⟨u, rfl, h⟩

theorem finish_sorted (cna : Bool) (t t' : FTab) (h : finish cna t = .ok t') : SortedRows t'.rows := by
  unfold finish at h
  dsimp only at h
  have key : ∀ u : FTab, (pure { names := u.names, rows := sortF u.rows } : Except String FTab) = .ok t' →
      SortedRows t'.rows := by
    intro u hu
    simp only [pure, Except.pure] at hu
    injection hu with hu
    subst hu
    exact sortF_sorted _
  split at h
  · obtain ⟨u, _, hu⟩ := bind_ok h
    exact key u hu
  · obtain ⟨u, _, hu⟩ := bind_ok h
    exact key u hu

theorem sortedRows_map_coords (rows : List FRow) (f : FRow → FRow) (hf : ∀ r, (f r).toRow = r.toRow) :
    SortedRows (rows.map f) ↔ SortedRows rows := by
  unfold SortedRows
  rw [List.pairwise_map]
  constructor <;> intro h <;> refine h.imp ?_ <;> intro a b hab
  · simpa [rowLe, hf] using hab
  · simpa [rowLe, hf] using hab

theorem perm_forall {α} {p : α → Prop} {l l' : List α} (hp : l'.Perm l) (h : ∀ x ∈ l, p x) :
    ∀ x ∈ l', p x := fun x hx => h x (hp.mem_iff.mp hx)

theorem writeBed3_coords (names : List String) (rows : List FRow) :
    writeBed3 { names := names, rows := rows.map coordsOnly } = writeBed3 { names := [], rows := rows } := by
  simp [writeBed3, List.map_map, Function.comp_def, coordsOnly]

/-- the coordinate projection of a read -/
def coordsT (x : Except String FTab) : Except String (List FRow) := x.map (fun t => t.rows.map coordsOnly)

theorem coordsT_ok (names : List String) (rows : List FRow) :
    coordsT (.ok { names := names, rows := sortF rows }) = .ok (sortF (rows.map coordsOnly)) := by
  simp only [coordsT, Except.map]
  rw [sortF_map_coords]

theorem coordsT_bind_finish (x : Except String FTab) :
    coordsT (x >>= finish false) = x.map fun t => sortF (t.rows.map coordsOnly) := by
  cases x with
  | error e => rfl
  | ok t =>
    show coordsT (finish false t) = _
    rw [finish_false, coordsT_ok, List.map_map]
    rfl

/-- the coordinates the BED reader returns do not depend on how many columns it keeps -/
theorem coordsT_readBed (ncol : Nat) (lines : List Line) :
    coordsT (readBed ncol lines >>= finish false) =
      ((track2track lines).mapM parseBedLine).map fun rows => sortF (rows.map coordsOnly) := by
  rw [coordsT_bind_finish]
  unfold readBed
  cases (track2track lines).mapM parseBedLine with
  | error e => rfl
  | ok rows =>
    simp only [bind, Except.bind, pure, Except.pure, Except.map, List.map_map]
    rfl

end CnvVerif.Fmt
