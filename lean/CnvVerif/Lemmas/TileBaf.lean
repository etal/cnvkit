/-
  The `variants=` branch of `_do_segmentation` (Model/TileBafExt5b.lean) over the tiling model: a `baf` column computed on
  the raw ranges stays beside its rows through `transfer_fields`.
-/
import CnvVerif.Lemmas.Tile
import CnvVerif.Lemmas.VcfTable
namespace CnvVerif
open C03Baf Vcf

theorem unitWithBaf_keepWhole (tb : VTable) (unit : List Bin) (runs : List Nat) :
    unitWithBaf tb keepWhole unit runs =
      (assembleUnit unit runs).zip (bafByRanges tb ((rawSegs unit runs).map rangeOf) none false) := by
  have hlen : (bafByRanges tb ((rawSegs unit runs).map rangeOf) none false).length = (rawSegs unit runs).length := by
    rw [bafByRanges_length, List.length_map]
  unfold unitWithBaf
  split
  · rename_i h
    rw [(assembleUnit_eq_nil_iff unit runs).mpr (List.isEmpty_iff.mp h)]; rfl
  · unfold transferB variantsBranch
    simp only [show (rawSegs unit runs).flatMap keepWhole = rawSegs unit runs from List.flatMap_singleton' _]
    rw [List.map_fst_zip (Nat.le_of_eq hlen.symm), List.map_snd_zip (Nat.le_of_eq hlen), assembleUnit_eq]

end CnvVerif
