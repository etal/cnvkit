/-
  Lemmas behind Props/C05.lean.  The biweight half: a value held by a strict majority of a bin's column
  is its consensus with spread 0 (so >= 2 samples that differ only in depth reproduce their profile), a
  single sample is pulled half-way to the neutral pseudo-sample; both go through the step of
  Lemmas/DescBiweight.lean (`biwStep` on the kept deviations).  The depth scale of a sample cancels in
  the centring.  The block half: `blockBy` is the acceptance logic of `load_sample_block` with what is
  computed from an accepted block as a parameter (`refBlock`, `refBlockOn`, the cluster path's `blockLogr`
  are instances by `rfl`), so exact bins, rejection and acceptance are proved once for all three.
  `rawX` / `flatX` are the ideal chrX levels the sex-level table of Props/C05.lean is stated with.
-/
import CnvVerif.Model.Reference
import CnvVerif.Lemmas.Center
import CnvVerif.Lemmas.DescBiweight
import CnvVerif.Lemmas.ReferenceGc
namespace CnvVerif.Ref
open CnvVerif

theorem BILOC_EPS_pos : 0 < Generated.BILOC_EPS := by unfold Generated.BILOC_EPS; norm_num
theorem BIVAR_EPS_pos : 0 < Generated.BIVAR_EPS := by unfold Generated.BIVAR_EPS; norm_num

theorem median_pair (a b : Rat) : Desc.median [a, b] = (a + b) / 2 := by
  obtain ⟨x, y, hs⟩ := List.length_eq_two.mp (Desc.sortR_length [a, b])
  have hp := (Desc.sortR_perm [a, b]).sum_eq
  rw [hs] at hp
  simp only [List.sum_cons, List.sum_nil, add_zero] at hp
  rw [Desc.median_eq_mid, hs, ← hp]
  simp [Desc.nth]

/-- one sample only: the location of [pseudo-sample, sample] is their midpoint (open finding E): the two deviations from
    it are opposite and the weight is even, so they cancel -/
theorem single_sample_halves (f v : Rat) : locOf [f, v] = (f + v) / 2 := by
  show Desc.biweightLocationCore false [f, v] none = _
  rw [← median_pair]
  apply Desc.biweightLocationCore_of_fixed _ BILOC_EPS_pos.le
  rw [Desc.bilocIter_eq_step, median_pair]
  apply Desc.biwStep_of_num_zero
  have hd : [f, v].map (· - (f + v) / 2) = [(f - v) / 2, -((f - v) / 2)] := by
    simp only [List.map_cons, List.map_nil]
    congr 1
    · ring
    · congr 1; ring
  rw [hd]
  generalize (f - v) / 2 = δ
  generalize max _ Generated.BILOC_EPS = s
  have hneg : Desc.absR (-δ / s) = Desc.absR (δ / s) := by rw [neg_div, Desc.absR_eq_abs, Desc.absR_eq_abs, abs_neg]
  have hbiw : Desc.biw s (-δ) = Desc.biw s δ := by unfold Desc.biw Desc.sq; ring
  unfold Desc.biwKept
  by_cases hk : Desc.absR (δ / s) < 1
  · simp [hneg, hk, hbiw]
  · simp [hneg, hk]

/-- More than half of a column sits at `v` and the rest is at least `eps` away: the MAD about `v` is 0, so the scale
    is the floor `eps`, and the only deviations from `v` inside the cut-off are 0. -/
theorem kept_zero_of_majority (col : List Rat) (v C eps : Rat) (heps : 0 < eps) (hmaj : col.length < 2 * col.count v)
    (hout : ∀ x ∈ col, x = v ∨ eps ≤ Desc.absR (x - v)) :
    Desc.median ((col.map (· - v)).map Desc.absR) = 0 ∧
    ∀ x ∈ Desc.biwKept (max (C * Desc.median ((col.map (· - v)).map Desc.absR)) eps) (col.map (· - v)), x = 0 := by
  have hmad : Desc.median ((col.map (· - v)).map Desc.absR) = 0 := by
    apply Desc.median_of_majority
    have := List.count_le_count_map (l := col) (f := fun x => Desc.absR (x - v)) (x := v)
    rw [Desc.absR_sub_self] at this
    rw [List.map_map, List.length_map]
    exact lt_of_lt_of_le hmaj (Nat.mul_le_mul_left 2 this)
  refine ⟨hmad, fun x hx => ?_⟩
  rw [hmad, mul_zero, max_eq_right heps.le] at hx
  obtain ⟨hmem, hcut⟩ := (Desc.mem_biwKept heps).mp hx
  obtain ⟨y, hy, rfl⟩ := List.mem_map.mp hmem
  rcases hout y hy with rfl | hge
  · exact sub_self _
  · exact absurd hcut (not_lt.mpr hge)

/-- A value held by a strict majority of a bin's column, every other entry (the pseudo-sample, a stray sample, several)
    at least the two floors away from it: the biweight location is that value and the spread is 0. -/
theorem majority_is_the_consensus (col : List Rat) (v : Rat) (hmaj : col.length < 2 * col.count v)
    (hout : ∀ x ∈ col, x = v ∨ (Generated.BILOC_EPS ≤ Desc.absR (x - v) ∧ Generated.BIVAR_EPS ≤ Desc.absR (x - v))) :
    locOf col = v ∧ spreadOf col v = .direct 0 := by
  have hmed : Desc.median col = v := Desc.median_of_majority col v hmaj
  match col, hmaj, hout, hmed with
  | [], hmaj, _, _ => simp at hmaj
  | [x], _, _, hmed =>
    have : x = v := by rw [← hmed, Desc.median_const [x] (by simp) x (by simp)]
    exact ⟨this, rfl⟩
  | a :: b :: t, hmaj, hout, hmed =>
    constructor
    · show Desc.biweightLocationCore false (a :: b :: t) none = v
      rw [← hmed]
      apply Desc.biweightLocationCore_of_fixed _ BILOC_EPS_pos.le
      rw [Desc.bilocIter_eq_step, hmed]
      exact Desc.biwStep_of_kept_zero
        (kept_zero_of_majority _ v _ _ BILOC_EPS_pos hmaj fun x hx => (hout x hx).imp id And.left).2 v
    · show Desc.bivarCore false (a :: b :: t) (some v) = .direct 0
      obtain ⟨hmad, hk⟩ := kept_zero_of_majority (a :: b :: t) v Generated.BIVAR_C _ BIVAR_EPS_pos hmaj
        fun x hx => (hout x hx).imp id And.right
      rw [Desc.bivarCore_eq_tail]
      simp only [Option.getD_some]
      rw [Desc.bivarTail_of_kept_zero _ _ _ hk, hmad, zero_mul]

/-- k ≥ 2 samples with the same (centred, sex-adjusted) value `v` in a bin, next to the neutral
    pseudo-sample value `f`: the biweight location is `v` and the spread is 0 — the pseudo-sample is
    an outlier the estimator rejects (or coincides with the samples) -/
theorem identical_samples_reproduce (k : Nat) (hk : 2 ≤ k) (f v : Rat)
    (hfv : f = v ∨ (Generated.BILOC_EPS ≤ Desc.absR (f - v) ∧ Generated.BIVAR_EPS ≤ Desc.absR (f - v))) :
    locOf (f :: List.replicate k v) = v ∧
    spreadOf (f :: List.replicate k v) v = .direct 0 := by
  apply majority_is_the_consensus
  · have : k ≤ (f :: List.replicate k v).count v := by rw [List.count_cons, List.count_replicate_self]; omega
    rw [List.length_cons, List.length_replicate]; omega
  · intro x hx
    rcases List.mem_cons.mp hx with rfl | hx
    · exact hfv
    · exact .inl (List.eq_of_mem_replicate hx)

/-- idealised level of chrX in a noise-free sample of the given sex, relative to its autosomes (after centring);
    mirrors no cnvkit function -/
def rawX (isXX : Bool) : Rat := if isXX then 0 else -1
/-- the level `expect_flat_log2` gives chrX for the chosen reference sex, as a number -/
def flatX (hapX : Bool) : Rat := if hapX then -1 else 0

/-- a sample's contribution does not depend on its depth scale: adding a constant to all its log2 values leaves it
    unchanged, as long as some bin is selected and no bin changes sides of the null-coverage cut-off (with
    `skipLow = false`, the antitarget block, no bin can) -/
theorem sampleLogr_depth_scale (hapX : Bool) (par : Option String) (sl : Bool) (isXX : Option Bool)
    (flat : List Rat) (rows : List CovRow) (c : Rat) (hsel : centerSel sl par (rows.map toC) ≠ [])
    (hlow : sl = true → ∀ r ∈ rows, lowC (toC { r with log2 := r.log2 + c }) = lowC (toC r)) :
    sampleLogr hapX par sl isXX flat (rows.map (fun r => { r with log2 := r.log2 + c }))
      = sampleLogr hapX par sl isXX flat rows := by
  unfold sampleLogr
  have hfirst : (((rows.map (fun r : CovRow => { r with log2 := r.log2 + c })).head?.map (·.chrom)).getD "")
      = (rows.head?.map (·.chrom)).getD "" := by
    cases rows <;> rfl
  have htab : (rows.map (fun r : CovRow => { r with log2 := r.log2 + c })).map toC =
      (rows.map toC).map (fun b => { b with log2 := b.log2 + c }) := by
    rw [List.map_map, List.map_map]; rfl
  simp only [hfirst, htab]
  rw [centerShift_map_add medianR medianR_transEquiv true sl par _ c hsel fun hs b hb => by
    obtain ⟨r, hr, rfl⟩ := List.mem_map.mp hb
    exact hlow hs r hr]
  rw [List.zip_map_left, List.map_map]
  apply List.map_congr_left
  intro p _
  obtain ⟨r, f⟩ := p
  simp only [Function.comp, Prod.map, id]
  congr 1
  ring

theorem columns_length (n : Nat) (mat : List (List Rat)) : (columns n mat).length = n := by
  simp [columns]

theorem map_zip_zip_fst {α β γ δ : Type} (k : α → δ) (l : List α) (l₁ : List β) (l₂ : List γ)
    (h₁ : l₁.length = l.length) (h₂ : l₂.length = l.length) :
    ((l.zip l₁).zip l₂).map (fun p => k p.1.1) = l.map k := by
  have : (fun p : (α × β) × γ => k p.1.1) = k ∘ Prod.fst ∘ Prod.fst := rfl
  rw [this, ← List.map_map, ← List.map_map, List.map_fst_zip (by simp; omega), List.map_fst_zip (by omega)]

theorem map_zip_zip_mid {α β γ δ : Type} (k : β → δ) (l : List α) (l₁ : List β) (l₂ : List γ)
    (h₁ : l₁.length = l.length) (h₂ : l₂.length = l.length) :
    ((l.zip l₁).zip l₂).map (fun p => k p.1.2) = l₁.map k := by
  have : (fun p : (α × β) × γ => k p.1.2) = k ∘ Prod.snd ∘ Prod.fst := rfl
  rw [this, ← List.map_map, ← List.map_map, List.map_fst_zip (by simp; omega), List.map_snd_zip (by omega)]

/-- what `load_sample_block` makes of the file list, whatever is then computed from it: without a file, or with a
    first file (in name order) that has no rows, the result is `empty`; a later file whose bins differ is an error;
    otherwise the result is `full first rest`.  `refBlock`, `refBlockOn` and the cluster path's `blockLogr` are
    instances. -/
def blockBy {β : Type} (empty : List Sample → β) (full : Sample → List Sample → β) (samples : List Sample) :
    Except RefErr β :=
  match sortSamples samples with
  | [] => .ok (empty [])
  | first :: rest =>
    if first.rows.isEmpty then .ok (empty (first :: rest)) else
    match rest.find? (fun s => s.rows.map binKey != first.rows.map binKey) with
    | some bad => .error (.binsDiffer bad.name)
    | none => .ok (full first rest)

/-- `summarize_info` on an accepted block, `logrOf` being what `bias_correct_logr` makes of one sample -/
def blockRows (logrOf : Option Bool → List Rat → List CovRow → List Rat) (hapX : Bool) (par : Option String)
    (sexes : List (String × Bool)) (first : Sample) (rest : List Sample) : List RefOut :=
  let flat := expectFlat hapX par (first.rows.map toC)
  let logr := (first :: rest).map fun s => logrOf ((sexes.find? (·.1 == s.name)).map (·.2)) flat s.rows
  let n := first.rows.length
  ((first.rows.zip (columns n (flat :: logr))).zip
      (columns n ((first :: rest).map (fun s => s.rows.map (·.depth))))).map fun p =>
    { chrom := p.1.1.chrom, s := p.1.1.s, e := p.1.1.e, gene := p.1.1.gene, log2 := locOf p.1.2,
      depth := locOf p.2, spread := spreadOf p.1.2 (locOf p.1.2) }

theorem refBlock_eq (hapX : Bool) (par : Option String) (skipLow : Bool) (sexes : List (String × Bool))
    (samples : List Sample) :
    refBlock hapX par skipLow sexes samples =
      blockBy (fun _ => []) (blockRows (sampleLogr hapX par skipLow) hapX par sexes) samples := rfl

theorem blockBy_nil {β : Type} (e : List Sample → β) (f : Sample → List Sample → β) (samples : List Sample)
    (hs : sortSamples samples = []) : blockBy e f samples = .ok (e []) := by
  unfold blockBy; rw [hs]

theorem blockBy_empty {β : Type} (e : List Sample → β) (f : Sample → List Sample → β) (samples : List Sample)
    (first : Sample) (rest : List Sample) (hs : sortSamples samples = first :: rest) (he : first.rows = []) :
    blockBy e f samples = .ok (e (first :: rest)) := by
  unfold blockBy; rw [hs]; simp only [he, List.isEmpty_nil, if_true]

theorem blockBy_full {β : Type} (e : List Sample → β) (f : Sample → List Sample → β) (samples : List Sample)
    (first : Sample) (rest : List Sample) (hs : sortSamples samples = first :: rest) (hne : first.rows ≠ [])
    (hall : ∀ s ∈ rest, s.rows.map binKey = first.rows.map binKey) : blockBy e f samples = .ok (f first rest) := by
  have hf : rest.find? (fun s => s.rows.map binKey != first.rows.map binKey) = none :=
    List.find?_eq_none.mpr fun s hs => by simp [hall s hs]
  unfold blockBy; rw [hs]; simp only [List.isEmpty_iff, hne, if_false, hf]

theorem blockBy_error {β : Type} (e : List Sample → β) (f : Sample → List Sample → β) (samples : List Sample)
    (first : Sample) (rest : List Sample) (bad : Sample) (hs : sortSamples samples = first :: rest)
    (hne : first.rows ≠ []) (hb : bad ∈ rest) (hd : bad.rows.map binKey ≠ first.rows.map binKey) :
    ∃ err, blockBy e f samples = .error err := by
  unfold blockBy; rw [hs]; simp only [List.isEmpty_iff, hne, if_false]
  cases hf : rest.find? (fun s => s.rows.map binKey != first.rows.map binKey) with
  | some b => exact ⟨_, rfl⟩
  | none => exact absurd (by simpa using List.find?_eq_none.mp hf bad hb) hd

theorem blockBy_ok {β : Type} (e : List Sample → β) (f : Sample → List Sample → β) (samples : List Sample)
    (first : Sample) (rest : List Sample) (x : β) (hs : sortSamples samples = first :: rest)
    (h : blockBy e f samples = .ok x) :
    (first.rows = [] ∧ x = e (first :: rest)) ∨
    (first.rows ≠ [] ∧ (∀ s ∈ rest, s.rows.map binKey = first.rows.map binKey) ∧ x = f first rest) := by
  by_cases he : first.rows = []
  · rw [blockBy_empty e f samples first rest hs he] at h
    exact .inl ⟨he, (Except.ok.inj h).symm⟩
  · by_cases hall : ∀ s ∈ rest, s.rows.map binKey = first.rows.map binKey
    · rw [blockBy_full e f samples first rest hs he hall] at h
      exact .inr ⟨he, hall, (Except.ok.inj h).symm⟩
    · obtain ⟨bad, hb, hd⟩ : ∃ bad ∈ rest, bad.rows.map binKey ≠ first.rows.map binKey := by simpa using hall
      obtain ⟨err, herr⟩ := blockBy_error e f samples first rest bad hs he hb hd
      rw [herr] at h; cases h

theorem blockBy_ok_iff {β γ : Type} (e : List Sample → β) (f : Sample → List Sample → β) (e' : List Sample → γ)
    (f' : Sample → List Sample → γ) (samples : List Sample) :
    (∃ x, blockBy e f samples = .ok x) ↔ (∃ y, blockBy e' f' samples = .ok y) := by
  have one : ∀ {β γ : Type} (e : List Sample → β) (f : Sample → List Sample → β) (e' : List Sample → γ)
      (f' : Sample → List Sample → γ), (∃ x, blockBy e f samples = .ok x) → ∃ y, blockBy e' f' samples = .ok y := by
    intro β γ e f e' f' ⟨x, h⟩
    cases hs : sortSamples samples with
    | nil => exact ⟨_, blockBy_nil e' f' samples hs⟩
    | cons first rest =>
      rcases blockBy_ok e f samples first rest x hs h with ⟨he, -⟩ | ⟨hne, hall, -⟩
      · exact ⟨_, blockBy_empty e' f' samples first rest hs he⟩
      · exact ⟨_, blockBy_full e' f' samples first rest hs hne hall⟩
  exact ⟨one e f e' f', one e' f' e f⟩

theorem blockRows_keys (logrOf : Option Bool → List Rat → List CovRow → List Rat) (hapX : Bool) (par : Option String)
    (sexes : List (String × Bool)) (first : Sample) (rest : List Sample) :
    (blockRows logrOf hapX par sexes first rest).map (fun o => (o.chrom, o.s, o.e, o.gene)) = first.rows.map binKey := by
  unfold blockRows
  rw [List.map_map]
  exact map_zip_zip_fst binKey first.rows _ _ (columns_length _ _) (columns_length _ _)

theorem blockBy_rows_bins (logrOf : Option Bool → List Rat → List CovRow → List Rat) (hapX : Bool)
    (par : Option String) (sexes : List (String × Bool)) (samples : List Sample) (out : List RefOut) (first : Sample)
    (rest : List Sample) (hs : sortSamples samples = first :: rest)
    (h : blockBy (fun _ => []) (blockRows logrOf hapX par sexes) samples = .ok out) :
    out.map (fun o => (o.chrom, o.s, o.e, o.gene)) = first.rows.map binKey := by
  rcases blockBy_ok _ _ samples first rest out hs h with ⟨he, rfl⟩ | ⟨-, -, rfl⟩
  · rw [he]; rfl
  · exact blockRows_keys logrOf hapX par sexes first rest

end CnvVerif.Ref
