/-
  C16: the dict loop of `_get_gene_map` (Model/GeneExt.lean) builds the closed form the model of `by_gene` iterates
  (`closedForm`, over `firstByName` / `geneIdx` of Model/Genes.lean).  The loop is a left fold of single visits (`fold`).
  A dict with distinct keys is its keys paired with their lookups (`items_of_nodup`), so the dict the fold builds is known
  once its keys (`keys_fold`) and its lookups (`get_fold`) are, from any start dict: `fold_eq_closedForm`.  The primitives
  of Model/PyDictExt5.lean are those of the column store `Stats.Frame` (`set_eq_assign`, `get_eq`), so reading after
  writing comes from Lemmas/Frame.lean, for any dict, repeated keys included (`get_set`, `keys_set`).  Core Lean only.
-/
import CnvVerif.Model.GeneExt
import CnvVerif.Lemmas.Genes
import CnvVerif.Lemmas.Frame
namespace CnvVerif.GeneExt
open CnvVerif CnvVerif.Genes CnvVerif.PyDict16

theorem has_iff {d : Dict} {g : String} : has d g = true ↔ g ∈ keys d := by
  simp only [has, keys, List.any_eq_true, List.mem_map, beq_iff_eq]

theorem has_eq_contains (d : Dict) (g : String) : has d g = (keys d).contains g :=
  Bool.eq_iff_iff.mpr (by rw [has_iff, List.contains_iff_mem])

theorem has_cons (p : String × List Nat) (d : Dict) (h : String) : has (p :: d) h = (p.1 == h || has d h) := rfl

theorem get_cons (p : String × List Nat) (d : Dict) (h : String) :
    get (p :: d) h = if p.1 == h then p.2 else get d h := by
  unfold PyDict16.get
  rw [List.find?_cons]
  cases p.1 == h <;> rfl

theorem get_of_not_has {d : Dict} {g : String} (h : has d g = false) : get d g = [] := by
  induction d with
  | nil => rfl
  | cons p d ih =>
    obtain ⟨hp, hd⟩ := Bool.or_eq_false_iff.mp (show (p.1 == g || has d g) = false from h)
    rw [get_cons, hp]
    exact ih hd

theorem get_append (d e : Dict) (h : String) : get (d ++ e) h = if has d h then get d h else get e h := by
  induction d with
  | nil => rfl
  | cons p d ih =>
    rw [List.cons_append, get_cons, get_cons, has_cons, ih]
    cases p.1 == h <;> rfl

/-- Python's `d[k] = v` is pandas' `frame[k] = v`: the dict is a `Stats.Frame`, read through Lemmas/Frame -/
theorem set_eq_assign (d : Dict) (k : String) (v : List Nat) : set d k v = Stats.Frame.assign d k v := by
  unfold PyDict16.set Stats.Frame.assign has
  split
  · exact List.map_congr_left fun p _ => by
      by_cases h : (p.1 == k) = true
      · rw [if_pos h, if_pos h, eq_of_beq h]
      · rw [if_neg h, if_neg h]
  · rfl

theorem get_eq (d : Dict) (k : String) : get d k = (Stats.Frame.get? d k).getD [] := by
  unfold PyDict16.get Stats.Frame.get?
  cases d.find? (fun p => p.1 == k) <;> rfl

theorem get_set (d : Dict) (k h : String) (v : List Nat) :
    get (set d k v) h = if k == h then v else get d h := by
  rw [get_eq, set_eq_assign, Stats.Frame.get?_assign, get_eq]
  cases hkh : k == h
  · have hne : ¬ h = k := fun e => by rw [e, beq_self_eq_true] at hkh; cases hkh
    rw [if_neg hne]; rfl
  · rw [if_pos (eq_of_beq hkh).symm]; rfl

theorem keys_set (d : Dict) (k : String) (v : List Nat) :
    keys (set d k v) = if has d k then keys d else keys d ++ [k] := by
  rw [set_eq_assign, has_eq_contains]
  exact Stats.Frame.names_assign d k v

/-- a visit is the assignment `genes[gene] = genes[gene] + [idx]`, a missing key reading as `[]` -/
theorem insert_eq_set (d : Dict) (i : Nat) (g : String) : insert d i g = set d g (get d g ++ [i]) := by
  unfold insert PyDict16.set
  cases hd : has d g
  · rw [get_of_not_has hd]
    rfl
  · rfl

theorem get_insert (d : Dict) (i : Nat) (g h : String) :
    get (insert d i g) h = get d h ++ (if g == h then [i] else []) := by
  rw [insert_eq_set, get_set]
  cases hgh : g == h
  · exact (List.append_nil _).symm
  · cases eq_of_beq hgh
    rfl

theorem keys_insert (d : Dict) (i : Nat) (g : String) :
    keys (insert d i g) = if has d g then keys d else keys d ++ [g] := by
  rw [insert_eq_set, keys_set]

theorem map_noop {d : Dict} {g : String} (f : String × List Nat → String × List Nat) (h : has d g = false) :
    d.map (fun p => if p.1 == g then f p else p) = d := by
  induction d with
  | nil => rfl
  | cons p d ih =>
    obtain ⟨hp, hd⟩ := Bool.or_eq_false_iff.mp (show (p.1 == g || has d g) = false from h)
    rw [List.map_cons, ih hd, hp]
    rfl

theorem splitOn_comma (acc cs : List Char) : splitOn ',' acc cs = splitComma acc cs := by
  induction cs generalizing acc with
  | nil => rfl
  | cons c cs ih => simp only [splitOn, splitComma, ih]

/-! ### the loop is a fold of `insert` over the visit list -/

def fold (T : List (Nat × String)) (d : Dict) : Dict := T.foldl (fun d p => insert d p.1 p.2) d

theorem fold_cons (i : Nat) (g : String) (T : List (Nat × String)) (d : Dict) :
    fold ((i, g) :: T) d = fold T (insert d i g) := rfl

theorem fold_append (T U : List (Nat × String)) (d : Dict) : fold (T ++ U) d = fold U (fold T d) := by
  simp [fold, List.foldl_append]

theorem rowStep_fold (d : Dict) (k : Nat) (s : String) :
    rowStep d k (some s) = fold ((splitComma [] s.toList).map (fun g => (k, g))) d := by
  simp [rowStep, fold, List.foldl_map]

theorem loopFrom_fold (k : Nat) (d : Dict) (gs : List (Option String)) : loopFrom k d gs = fold (taggedOpt k gs) d := by
  induction gs generalizing k d with
  | nil => rfl
  | cons s rest ih =>
    cases s with
    | none => simp only [loopFrom, taggedOpt, rowStep, ih]
    | some s => simp only [loopFrom, taggedOpt, fold_append, ih, rowStep_fold]

theorem taggedOpt_bins (k : Nat) (rs : List Bin) : taggedOpt k (rs.map (fun b => some b.gene)) = taggedFrom k rs := by
  induction rs generalizing k with
  | nil => rfl
  | cons b rs ih => simp only [List.map_cons, taggedOpt, taggedFrom, names, ih]

theorem geneIdx_cons (i : Nat) (g : String) (T : List (Nat × String)) (h : String) :
    geneIdx ((i, g) :: T) h = (if g == h then [i] else []) ++ geneIdx T h := by
  unfold geneIdx
  by_cases hgh : (g == h) = true <;> simp [hgh]

theorem get_fold (T : List (Nat × String)) (d : Dict) (h : String) : get (fold T d) h = get d h ++ geneIdx T h := by
  induction T generalizing d with
  | nil => simp [fold, geneIdx]
  | cons a T ih =>
    obtain ⟨i, g⟩ := a
    rw [fold_cons, ih, get_insert, geneIdx_cons, List.append_assoc]

/-- the keys: what the dict had, then the new names in order of first appearance -/
theorem keys_fold (T : List (Nat × String)) (d : Dict) :
    keys (fold T d) = keys d ++ firstKeys ((T.map (·.2)).filter (fun k => !(keys d).contains k)) := by
  induction T generalizing d with
  | nil => exact (List.append_nil _).symm
  | cons a T ih =>
    obtain ⟨i, g⟩ := a
    rw [fold_cons, ih, keys_insert, has_eq_contains, List.map_cons,
      List.filter_cons]
    cases hg : (keys d).contains g
    · -- a new name goes to the end of the keys and is the first of the new names; after it, "not among
      -- `keys d ++ [g]`" is "not `g` and not among `keys d`"
      simp only [Bool.false_eq_true, if_false, Bool.not_false, if_true, firstKeys, firstKeys_filter, List.filter_filter,
        List.append_assoc, List.singleton_append]
      congr 3
      refine List.filter_congr fun k _ => ?_
      simp only [List.contains_append, List.contains_cons, List.contains_nil, Bool.or_false, Bool.not_or, Bool.and_comm]
      rfl
    · rfl

theorem keys_fold_nil (T : List (Nat × String)) : keys (fold T []) = (firstByName T).map (·.2) := by
  rw [keys_fold, firstByName_keys]
  exact congrArg firstKeys (List.filter_eq_self.mpr fun _ _ => rfl)

/-- a dict with distinct keys is its keys paired with their lookups -/
theorem items_of_nodup (d : Dict) (hn : (keys d).Nodup) : d = (keys d).map (fun k => (k, get d k)) := by
  induction d with
  | nil => rfl
  | cons a d ih =>
    obtain ⟨hk, hn'⟩ := List.nodup_cons.mp (show (a.1 :: keys d).Nodup from hn)
    rw [show keys (a :: d) = a.1 :: keys d from rfl, List.map_cons, get_cons, if_pos (beq_self_eq_true _)]
    refine congrArg (a :: ·) ((ih hn').trans (List.map_congr_left (fun k hk' => ?_)))
    -- a later key is not the head's: its lookup skips the head
    rw [get_cons, if_neg (fun e : (a.1 == k) = true => hk (eq_of_beq e ▸ hk'))]

/-- **the dict the loop builds is `closedForm` (Model/GeneExt.lean)** -/
theorem fold_eq_closedForm (T : List (Nat × String)) : fold T [] = closedForm T := by
  have hk := keys_fold_nil T
  have hn : (keys (fold T [])).Nodup := by rw [hk]; exact firstByName_keys_nodup T
  rw [items_of_nodup _ hn, hk, closedForm, List.map_map]
  apply List.map_congr_left
  intro p _
  show (p.2, PyDict16.get (fold T []) p.2) = (p.2, geneIdx T p.2)
  rw [get_fold]; simp [PyDict16.get]

/-- the loop of `by_gene` over the items of the closed-form dict is `goPos` over its keys -/
theorem goItems_closed (rs : List Bin) (ign : List String) (T : List (Nat × String)) :
    ∀ (ks : List (Nat × String)) (prev : Nat),
      goItems rs ign prev (ks.map (fun p => (p.2, geneIdx T p.2))) = goPos rs ign T prev ks := by
  intro ks
  induction ks with
  | nil => intro prev; rfl
  | cons k ks ih =>
    intro prev
    obtain ⟨i, g⟩ := k
    simp only [List.map_cons, goItems, goPos, ih]
    -- the two loops use different (equal) case distinctions on first and last index
    cases ign.contains g
    · cases (geneIdx T g).head? <;> cases (geneIdx T g).getLast? <;> rfl
    · rfl

end CnvVerif.GeneExt
