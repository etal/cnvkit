/-
  `join_regions` tied to the source text (Props/C13SrcJoin.lean): how a row of the model reads as a triple the source's
  loop yields.  Apart from Lemmas/SrcAccess.lean, whose definitions are typed by the generated loop body of `get_regions`,
  so that an edit to that loop does not break the obligations about this one.
-/
import CnvVerif.Model.Access
namespace CnvVerif.Src
open CnvVerif

/-- a yielded triple of `join_regions` -/
def triple (r : Row) : String × Int × Int := (r.chrom, r.s, r.e)

end CnvVerif.Src
