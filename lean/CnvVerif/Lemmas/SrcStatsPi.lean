/-
  Arithmetic behind Props/C17SrcPi.lean.  The left sides are written exactly as the body of `piFunc` (Model/Stats.lean)
  has them (`100 * alpha / 2`, not `100 * (alpha / 2)`), so that rewriting with them from right to left turns the
  levels `make_pi_func` computes into the model's.
  `Generated/ExprsStats.lean` is re-translated from /repo's Python on every run; a lemma here stops checking when an
  edit to the source changes the value of the expression (`ring` absorbs equivalent spellings).
-/
import CnvVerif.Generated.ExprsStats
import Mathlib.Tactic.Ring
namespace CnvVerif.Src
open CnvVerif.Generated

theorem pi_lo_level (alpha : Rat) : 100 * alpha / 2 = src_pi_pct_lo alpha := by
  unfold src_pi_pct_lo
  ring

theorem pi_hi_level (alpha : Rat) : 100 * (1 - alpha / 2) = src_pi_pct_hi alpha := by
  unfold src_pi_pct_hi
  ring

end CnvVerif.Src
