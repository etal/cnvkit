/-
  C04, `center_by_window` (shuffle, stable sort by the covariate, subtract the rolling median, genomic re-sort): under any
  projection that does not read log2 its output is a permutation of its input (`centerByWindow_map_perm`), in genomic
  order; the rolling median gives one value per bin.  Core Lean only.
-/
import CnvVerif.Lemmas.FixOrder
namespace CnvVerif

theorem rollingMedian_length (x : List Rat) (wing : Nat) : (rollingMedian x wing).length = x.length := by
  simp [rollingMedian]

theorem padMirror_map (x : List Rat) (wing : Nat) (f : Rat → Rat) :
    padMirror (x.map f) wing = (padMirror x wing).map f := by
  simp [padMirror, List.map_take, List.map_reverse]

theorem length_le_padMirror (x : List Rat) (wing : Nat) : x.length ≤ (padMirror x wing).length := by
  unfold padMirror
  rw [List.length_append, List.length_append]
  omega

/-- what numpy's seeded `permutation(n)` hands `center_by_window`: the indices `0..n-1` in some order -/
def IsPerm (p : List Nat) (n : Nat) : Prop := p.Perm (List.range n)

theorem filterMap_range_getElem? {α} (l : List α) :
    (List.range l.length).filterMap (fun i => l[i]?) = l := by
  induction l with
  | nil => rfl
  | cons a t ih =>
    rw [List.length_cons, List.range_succ_eq_map, List.filterMap_cons]
    simp only [List.getElem?_cons_zero, List.filterMap_map]
    congr 1

theorem centerByWindow_map_perm {β} (f : SRow → β) (hf : ∀ (r : SRow) (x : Rat), f { r with log2 := x } = f r)
    (perm : List Nat) (wing : Nat) (t : List SRow) (keys : List Rat)
    (hp : IsPerm perm t.length) (hk : keys.length = t.length) :
    ((centerByWindow perm wing t keys).map f).Perm (t.map f) := by
  unfold centerByWindow
  simp only []
  have hlen : (t.zip keys).length = t.length := by simp [hk]
  -- the shuffle and the stable sort by key permute the tagged rows
  have hord : (sortByKey (·.2) (perm.filterMap (fun i => (t.zip keys)[i]?))).Perm (t.zip keys) := by
    have hsh := List.Perm.filterMap (fun i => (t.zip keys)[i]?) (hlen ▸ hp : perm.Perm (List.range (t.zip keys).length))
    rw [filterMap_range_getElem?] at hsh
    exact (List.mergeSort_perm _ _).trans hsh
  generalize sortByKey (·.2) (perm.filterMap (fun i => (t.zip keys)[i]?)) = ordered at hord
  -- the genomic sort permutes, and subtracting a bias from log2 leaves the projection alone
  refine ((List.mergeSort_perm _ _).map f).trans ?_
  have hproj : (f ∘ fun p : (SRow × Rat) × Rat => { p.1.1 with log2 := p.1.1.log2 - p.2 }) = (f ∘ Prod.fst) ∘ Prod.fst :=
    funext fun p => hf _ _
  rw [List.map_map, hproj, ← List.map_map, List.map_fst_zip (by rw [rollingMedian_length, List.length_map]; exact Nat.le_refl _)]
  refine (hord.map _).trans ?_
  rw [← List.map_map, List.map_fst_zip (by omega)]

theorem centerByWindow_length (perm : List Nat) (wing : Nat) (t : List SRow) (keys : List Rat)
    (hp : IsPerm perm t.length) (hk : keys.length = t.length) :
    (centerByWindow perm wing t keys).length = t.length := by
  have := (centerByWindow_map_perm sKey (fun _ _ => rfl) perm wing t keys hp hk).length_eq
  simpa using this

theorem centerByWindow_sorted (perm : List Nat) (wing : Nat) (t : List SRow) (keys : List Rat) :
    (centerByWindow perm wing t keys).Pairwise (fun a b => sSortLe a b = true) :=
  sortS_sorted _

end CnvVerif
