/-
  C08 (table formats): how pandas types a column and how rows are assembled from columns.  Labels and chromosome
  names that survive the dtype inference (`PlainLabel`, `ChromName`), columns of printed cells typed back to their
  cells, a chromosome column turned back into strings, a float column, and `mkRows` on columns of mapped records.
-/
import CnvVerif.Lemmas.Formats
namespace CnvVerif.Fmt
open CnvVerif CnvVerif.Generated

/-- a label pandas keeps as a plain string when it infers a column's dtype -/
def PlainLabel (g : String) : Prop :=
  isIntLit g.toList = false ∧ parseDec g.toList = none ∧ isNA g = false

theorem typeColumn_plain (vals : List String) (h : ∀ v ∈ vals, PlainLabel v) :
    typeColumn vals = vals.map Cell.str := by
  cases vals with
  | nil => rfl
  | cons a t =>
    have ha := h a (by simp)
    have h1 : (a :: t).all (fun v => isIntLit v.toList) = false := by
      rw [List.all_cons, ha.1, Bool.false_and]
    have h2 : (a :: t).all (fun v => isNA v || (parseDec v.toList).isSome) = false := by
      rw [List.all_cons, ha.2.1, ha.2.2]; rfl
    unfold typeColumn
    rw [h1, h2]
    simp only [Bool.false_eq_true, ↓reduceIte]
    apply List.map_congr_left
    intro v hv
    rw [(h v hv).2.2]
    rfl

/-! ### columns of printed cells

  `ren` is the spelling of a cell in the file; all that matters here is that integers are printed by
  `toString` and strings as they are (true of `renderCellD` and of `renderCellF`). -/

theorem typeColumn_render_int (ren : Cell → String) (hi : ∀ i, ren (.int i) = toString i) (cells : List Cell)
    (h : ∀ c ∈ cells, ∃ i, c = Cell.int i) : typeColumn (cells.map ren) = cells := by
  have hall : (cells.map ren).all (fun v => isIntLit v.toList) = true := by
    rw [List.all_map, List.all_eq_true]
    intro c hc
    obtain ⟨i, rfl⟩ := h c hc
    simp only [Function.comp, hi, isIntLit_toString]
  unfold typeColumn
  rw [if_pos hall, List.map_map]
  refine map_eq_self _ _ fun c hc => ?_
  obtain ⟨i, rfl⟩ := h c hc
  simp only [Function.comp, hi, parseInt_toString]

theorem typeColumn_render_str (ren : Cell → String) (hs : ∀ g, ren (.str g) = g) (cells : List Cell)
    (h : ∀ c ∈ cells, ∃ g, c = Cell.str g ∧ PlainLabel g) : typeColumn (cells.map ren) = cells := by
  rw [typeColumn_plain, List.map_map]
  · refine map_eq_self _ _ fun c hc => ?_
    obtain ⟨g, rfl, _⟩ := h c hc
    simp only [Function.comp, hs]
  · refine List.forall_mem_map.mpr fun c hc => ?_
    obtain ⟨g, rfl, hp⟩ := h c hc
    rw [hs]; exact hp

/-- a column of string cells read as text (`converters={"gene": str}`): any strings come back -/
theorem strColumn_render_str (ren : Cell → String) (hs : ∀ g, ren (.str g) = g) (cells : List Cell)
    (h : ∀ c ∈ cells, ∃ g, c = Cell.str g) : strColumn (cells.map ren) = cells := by
  unfold strColumn
  rw [List.map_map]
  refine map_eq_self _ _ fun c hc => ?_
  obtain ⟨g, rfl⟩ := h c hc
  simp only [Function.comp, hs]

theorem NA_not_digits : NA_STRINGS.all (fun m => !isDigits m) = true := by decide +kernel

theorem isNA_of_isDigits (v : String) (h : isDigits v = true) : isNA v = false := by
  refine Bool.eq_false_iff.mpr fun hc => ?_
  have := List.all_eq_true.mp NA_not_digits v (List.contains_iff_mem.mp hc)
  rw [h] at this
  exact absurd this (by decide)

/-- a chromosome name that survives pandas' dtype inference followed by `astype(str)` -/
def ChromName (c : String) : Prop := (∃ n : Nat, c = toString n) ∨ PlainLabel c

theorem chromName_notNA (c : String) (h : ChromName c) : isNA c = false := by
  rcases h with ⟨n, rfl⟩ | h
  · exact isNA_of_isDigits _ (isDigits_toString_nat n)
  · exact h.2.2

theorem chromName_of_allInt (cs : List String) (h : ∀ c ∈ cs, ChromName c)
    (hall : cs.all (fun c => isIntLit c.toList) = true) : ∀ c ∈ cs, ∃ n : Nat, c = toString n := by
  intro c hc
  rcases h c hc with hn | hp
  · exact hn
  · have := List.all_eq_true.mp hall c hc
    rw [hp.1] at this
    exact absurd this (by decide)

theorem chromName_not_allDec (cs : List String) (h : ∀ c ∈ cs, ChromName c)
    (hall : ¬ cs.all (fun c => isIntLit c.toList) = true) :
    cs.all (fun c => isNA c || (parseDec c.toList).isSome) = false := by
  refine Bool.eq_false_iff.mpr fun hd => hall (List.all_eq_true.mpr fun c hc => ?_)
  rcases h c hc with ⟨n, rfl⟩ | hp
  · exact isIntLit_toString_nat n
  · have := List.all_eq_true.mp hd c hc
    rw [hp.2.1, hp.2.2] at this
    exact absurd this (by decide)

theorem chromColumn_ok (cs : List String) (h : ∀ c ∈ cs, ChromName c) : chromColumn cs = .ok cs := by
  unfold chromColumn
  by_cases hall : cs.all (fun c => isIntLit c.toList) = true
  · rw [if_pos hall]
    congr 1
    refine map_eq_self _ _ fun c hc => ?_
    obtain ⟨n, rfl⟩ := chromName_of_allInt cs h hall c hc
    rw [← toString_natCast, parseInt_toString]; rfl
  · rw [if_neg hall]
    have hna : cs.any isNA = false :=
      List.any_eq_false.mpr fun c hc => by rw [chromName_notNA c (h c hc)]; decide
    have hdec : cs.all (fun c => (parseDec c.toList).isSome) = false := by
      have := chromName_not_allDec cs h hall
      simp only [List.all_eq_false, Bool.or_eq_true, not_or] at this ⊢
      obtain ⟨c, hc, _, h2⟩ := this
      exact ⟨c, hc, h2⟩
    rw [hna, hdec]
    rfl

theorem asStr_plain (f : Cell → Except String String) (hs : ∀ s, f (.str s) = .ok s)
    (vals : List String) (h : ∀ v ∈ vals, PlainLabel v) : (typeColumn vals).mapM f = .ok vals := by
  rw [typeColumn_plain vals h]
  exact mapM_map_ok_self Cell.str f vals fun x _ => hs x

/-- a chromosome column, typed and turned back into strings (`astype(str)`), is unchanged -/
theorem asStr_chrom (f : Cell → Except String String) (hi : ∀ i, f (.int i) = .ok (toString i))
    (hs : ∀ s, f (.str s) = .ok s) (cs : List String) (h : ∀ c ∈ cs, ChromName c) :
    (typeColumn cs).mapM f = .ok cs := by
  unfold typeColumn
  by_cases hall : cs.all (fun c => isIntLit c.toList) = true
  · rw [if_pos hall]
    refine mapM_map_ok_self _ f cs fun c hc => ?_
    obtain ⟨n, rfl⟩ := chromName_of_allInt cs h hall c hc
    rw [← toString_natCast, parseInt_toString]
    exact hi _
  · rw [if_neg hall, chromName_not_allDec cs h hall, if_neg Bool.false_ne_true]
    refine mapM_map_ok_self _ f cs fun c hc => ?_
    rw [chromName_notNA c (h c hc)]
    exact hs c

theorem fltColumn_ok {α} (items : List α) (f : α → String) (h : ∀ p ∈ items, (parseDec (f p).toList).isSome) :
    ∃ cells, fltColumn (items.map f) = .ok cells := by
  refine ⟨items.map (fun p => Cell.flt ((parseDec (f p).toList).getD 0)), mapM_map_ok _ _ _ _ fun p hp => ?_⟩
  obtain ⟨q, hq⟩ := Option.isSome_iff_exists.mp (h p hp)
  rw [hq]
  rfl

theorem mkRows_map {α} (rows : List α) (c : α → String) (s e : α → Int) (fs : List (α → Cell)) :
    mkRows (rows.map c) (rows.map s) (rows.map e) (fs.map fun f => rows.map f) =
      rows.map fun r => ⟨c r, s r, e r, fs.map (· r)⟩ := by
  induction rows with
  | nil =>
    cases fs <;> rfl
  | cons a t ih =>
    simp only [List.map_cons, mkRows, List.headD_cons, List.tail_cons, List.map_map, Function.comp_def]
    rw [ih]

theorem mkRows_coords {α} (rows : List α) (c : α → String) (s e : α → Int) (extra : List (List Cell)) :
    (mkRows (rows.map c) (rows.map s) (rows.map e) extra).map coordsOnly =
      rows.map fun r => (⟨c r, s r, e r, []⟩ : FRow) := by
  induction rows generalizing extra with
  | nil => rfl
  | cons a t ih =>
    simp only [List.map_cons, mkRows, List.headD_cons, List.tail_cons]
    rw [ih]
    rfl

theorem mkRows_length (cs : List String) (ss es : List Int) (extra : List (List Cell)) :
    (mkRows cs ss es extra).length = cs.length := by
  induction cs generalizing ss es extra with
  | nil => rfl
  | cons a t ih => simp only [mkRows, List.length_cons, ih]

end CnvVerif.Fmt
