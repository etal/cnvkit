/-
  C06 tie to the source text -- subtract: the edge tests and the keep-test of `_subtraction`.
  The generated pieces (Generated/ExprsInterval.lean) in normal form, proved as in Lemmas/SrcIntervalMerge.lean.
-/
import CnvVerif.Generated.ExprsInterval
import CnvVerif.Model.Interval
namespace CnvVerif.Src
open CnvVerif CnvVerif.Generated

theorem src_subtract_keep_left_nf (a b : Int) : src_subtract_keep_left a b = decide (a < b) := by
  unfold src_subtract_keep_left
  first
  | rfl
  | (simp only [decide_eq_decide]; omega)

theorem src_subtract_keep_right_nf (a b : Int) : src_subtract_keep_right a b = decide (a > b) := by
  unfold src_subtract_keep_right
  first
  | rfl
  | (simp only [decide_eq_decide]; omega)

theorem src_subtract_keep_piece_nf (s e : Int) : src_subtract_keep_piece s e = decide (e > s) := by
  unfold src_subtract_keep_piece
  first
  | rfl
  | (simp only [decide_eq_decide]; omega)

end CnvVerif.Src
