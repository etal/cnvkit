/-
  Behind Props/C20Src.lean, the ties of the C20 model to the row functions the translator reads off the current source
  (Generated/ExprsExport.lean; reading rules: harness/exprtrans.py, class RowFn): the decision chain of one VCF row for any
  stated and expected copy number (`vcfRow_core`), the two spellings of the source (`cn` column / rounded absolute value)
  as that one chain, and the INFO text.
-/
import CnvVerif.Generated.ExprsExport
import CnvVerif.Model.ExportExt
import CnvVerif.Lemmas.Export
namespace CnvVerif.Src
open CnvVerif CnvVerif.Export CnvVerif.Generated

theorem ic4 (a b : String) : ":".intercalate ["0/1", "0", a, b] = "0/1:0:" ++ a ++ ":" ++ b := by
  show ((("0/1" ++ ":" ++ "0") ++ ":" ++ a) ++ ":" ++ b) = _
  simp [String.append_assoc]

theorem ic2 (a b : String) : ":".intercalate [a, b] = a ++ ":" ++ b := by
  show (a ++ ":" ++ b) = _
  rfl

theorem lit01 (x : String) : "0/1:" ++ ("0:" ++ x) = "0/1:0:" ++ x := by
  rw [← String.append_assoc]; rfl

theorem icGain : ":".intercalate ["GT", "GQ", "CN", "CNQ"] = "GT:GQ:CN:CNQ" := by decide
theorem icLoss : ":".intercalate ["GT", "GQ"] = "GT:GQ" := by decide

/-- the INFO text of a record with the seven keys of `segments2vcf` -/
theorem infoText_eq (fmt : Rat → String) (v : VcfRec) (h : v.infoKeys = infoKeys) :
    infoText fmt v = ";".intercalate ["IMPRECISE", "SVTYPE=" ++ v.svtype, "END=" ++ toString v.endp,
      "SVLEN=" ++ toString v.svlen, "FOLD_CHANGE=" ++ fmt v.fold, "FOLD_CHANGE_LOG=" ++ fmt v.foldLog,
      "PROBES=" ++ toString v.probes] := by
  simp [infoText, infoValues, h, infoKeys]

/-- the decision chain of one row, for any stated copy number `nc` and expected copy number `ex` -/
theorem vcfRow_core (cfg : Cfg) (r : Seg) (fmt : Rat → String) (nc ex : Int) :
    (vcfEmit cfg
      { seg := r
        start' := if r.s == VCF_POS_REPLACE_FROM then VCF_POS_REPLACE_TO else r.s
        ncopies := nc
        expect := ex
        loss := decide (nc < ex)
        svlen := if decide (nc < ex) then (r.e - r.s) * VCF_SVLEN_LOSS_FACTOR else r.e - r.s
        svtype := if decide (nc < ex) then VCF_SVTYPE_LOSS else VCF_SVTYPE_GAIN
        format := if decide (nc < ex) then VCF_FORMAT_LOSS else VCF_FORMAT_GAIN }).map (vcfCells fmt) =
      src_segments2vcf_row true r.chrom r.s r.e r.v r.t r.probes (probesDigit cfg r) nc ex 0 0 fmt := by
  unfold src_segments2vcf_row vcfEmit
  simp only [if_true, VCF_POS_REPLACE_FROM, VCF_POS_REPLACE_TO, VCF_SVTYPE_LOSS, VCF_SVTYPE_GAIN,
    VCF_SVLEN_LOSS_FACTOR, VCF_FORMAT_LOSS, VCF_FORMAT_GAIN]
  by_cases hp : probesDigit cfg r = true
  · by_cases heq : nc = ex
    · simp [heq, hp]
    · rcases Int.lt_or_gt_of_ne heq with hlt | hgt
      · have hng : ¬ nc > ex := by omega
        -- a loss to 0 copies is written as genotype 1/1, any other loss as 0/1
        by_cases h0 : nc = 0
        · subst h0
          simp [vcfCells, infoText_eq, heq, hp, hlt, hng]
        · simp [vcfCells, infoText_eq, heq, hp, hlt, hng, h0]
      · have hnl : ¬ nc < ex := by omega
        have hgt' : ex < nc := hgt
        simp [vcfCells, infoText_eq, heq, hp, hnl, hgt']
        simp only [String.append_assoc, lit01]
  · simp [hp]

/-- the two spellings of the source (`cn` column / rounded absolute value) are one decision chain -/
theorem src_vcf_branches (c : String) (s e : Int) (v t : Rat) (p : Int) (pd : Bool) (cn ae : Int) (ab : Rat) (ex : Int)
    (fmt : Rat → String) :
    src_segments2vcf_row false c s e v t p pd cn ae ab ex fmt =
      src_segments2vcf_row true c s e v t p pd (roundHE ab) ex 0 0 fmt := by
  unfold src_segments2vcf_row
  simp only [if_true, if_false, Bool.false_eq_true]

theorem src_vcf_cn_ignores (c : String) (s e : Int) (v t : Rat) (p : Int) (pd : Bool) (cn ae : Int) (ab : Rat) (ex : Int)
    (fmt : Rat → String) :
    src_segments2vcf_row true c s e v t p pd cn ae ab ex fmt =
      src_segments2vcf_row true c s e v t p pd cn ae 0 0 fmt := by
  unfold src_segments2vcf_row
  simp only [if_true]

end CnvVerif.Src
