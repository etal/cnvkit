/-
  C08 (table formats): the readers of 1-based formats (GFF, SEG, Picard per-target coverage, VCF)
  return 0-based half-open regions.
-/
import CnvVerif.Lemmas.FormatsCols
namespace CnvVerif.Fmt
open CnvVerif CnvVerif.Generated

/-- a region in 0-based half-open coordinates -/
abbrev Region := String × Int × Int
def regRow (g : Region) : FRow := ⟨g.1, g.2.1, g.2.2, []⟩

/-- reading `lines` as format `fmt` gives exactly the regions `regs` (0-based, half-open), sorted -/
def ReadsAs (fmt : String) (sel : SampleSel) (lines : List Line) (regs : List Region) : Prop :=
  ∃ t, readFmt fmt false sel lines = .ok t ∧ (t.rows.map coordsOnly).Perm (regs.map regRow) ∧ SortedRows t.rows

/-- the field `s` does not contain the character `ch` -/
def noChar (ch : Char) (s : String) : Prop := s.toList.contains ch = false

theorem mkRows_regions {α} (items : List α) (reg : α → Region) (k : Int) (hk : 1 + k = 0) (extra : List (List Cell)) :
    (mkRows (items.map fun p => (reg p).1) (items.map fun p => (reg p).2.1 + 1 + k)
      (items.map fun p => (reg p).2.2) extra).map coordsOnly = items.map fun p => regRow (reg p) := by
  rw [mkRows_coords]
  refine List.map_congr_left fun p _ => ?_
  rw [show (reg p).2.1 + 1 + k = (reg p).2.1 by omega]
  rfl

theorem ReadsAs.of_reader {fmt : String} {sel : SampleSel} {lines : List Line} {regs : List Region}
    (reader : Except String FTab) (t : FTab) (h : readFmt fmt false sel lines = reader >>= finish false)
    (hr : reader = .ok t) (hp : (t.rows.map coordsOnly).Perm (regs.map regRow)) :
    ReadsAs fmt sel lines regs := by
  refine ⟨_, by rw [h, hr]; exact finish_false t, ?_, sortF_sorted _⟩
  refine ((sortF_perm _).map coordsOnly).trans ?_
  rw [List.map_map]
  exact hp

/-- GFF: columns 4-5 are 1-based inclusive; `x` = (source, type, score, strand, phase, attribute) -/
def gffLine (g : Region) (x : String × String × String × String × String × String) : Line :=
  [g.1, x.1, x.2.1, toString (g.2.1 + 1), toString g.2.2, x.2.2.1, x.2.2.2.1, x.2.2.2.2.1, x.2.2.2.2.2]

theorem readGff_lines (items : List (Region × (String × String × String × String × String × String)))
    (hdr : List Line) (hh : ∀ l ∈ hdr, sw "#" (l.headD "") = true)
    (hc : ∀ p ∈ items, ∀ f ∈ gffLine p.1 p.2, noChar '#' f) :
    ∃ rows, readGff (hdr ++ items.map (fun p => gffLine p.1 p.2)) = .ok ⟨["strand", "type"], rows⟩ ∧
      (rows.map coordsOnly).Perm ((items.map (·.1)).map regRow) := by
  obtain ⟨hbody, hany1⟩ := comment_lines "#" '#' (by decide) hdr items (fun p => gffLine p.1 p.2) hh (fun _ _ => by simp [gffLine]) hc
  have hany2 := any_length_ne items (fun p => gffLine p.1 p.2) 9 fun _ => rfl
  unfold readGff
  simp only [hbody, hany1, hany2, column_map, Bool.false_eq_true, ↓reduceIte]
  simp only [gffLine, List.getD_cons_zero, List.getD_cons_succ, intColumn_toString, bind, Except.bind, pure,
    Except.pure, List.map_map, Function.comp_def]
  refine ⟨_, rfl, ((List.mergeSort_perm _ _).map coordsOnly).trans (List.Perm.of_eq ?_)⟩
  exact mkRows_regions items (·.1) READ_SHIFT_gff (by decide) _

/-- SEG, one sample, 5 columns (ID chrom loc.start loc.end seg.mean), 1-based start; leading
    lines without a tab are skipped -/
def segLine (sid : String) (g : Region) (mean : String) : Line :=
  [sid, g.1, toString (g.2.1 + 1), toString g.2.2, mean]

theorem groupBySample_const (sid : String) (n : Nat) (rows : List FRow) (hn : 0 < n) (hl : rows.length = n) :
    groupBySample (List.replicate n sid) rows = [(sid, rows)] := by
  have hed : (List.replicate n sid).eraseDups = [sid] := by
    obtain ⟨m, rfl⟩ : ∃ m, n = m + 1 := ⟨n - 1, by omega⟩
    rw [List.replicate_succ, List.eraseDups_cons, List.filter_replicate]
    simp
  have hfilt : ((List.replicate n sid).zip rows).filter (fun p => p.1 == sid) = (List.replicate n sid).zip rows := by
    rw [List.filter_eq_self]
    intro p hp
    have := (List.of_mem_zip (a := p.1) (b := p.2) hp).1
    rw [(List.mem_replicate.mp this).2]
    exact beq_self_eq_true _
  unfold groupBySample
  simp only [hed, List.map_cons, List.map_nil, hfilt]
  have : ((List.replicate n sid).zip rows).map (·.2) = rows := by
    apply List.map_snd_zip
    rw [List.length_replicate]; omega
  rw [this]

theorem parseSeg_lines (sid : String) (hs : PlainLabel sid) (items : List (Region × String))
    (hne : items ≠ []) (junk : List Line) (hj : ∀ l ∈ junk, l.length ≤ 1) (hdr : Line) (hh : hdr.length = 5)
    (hc : ∀ p ∈ items, ChromName p.1.1) :
    ∃ rows, parseSeg (junk ++ hdr :: items.map (fun p => segLine sid p.1 p.2)) [] none =
        .ok (["log2", "gene"], [(sid, rows)]) ∧
      rows.map coordsOnly = (items.map (·.1)).map regRow := by
  have hdb := dropBlank_eq_self (items.map fun p => segLine sid p.1 p.2)
    (List.forall_mem_map.mpr fun _ _ => by simp [segLine])
  -- the body is an opaque `L`; what `parse_seg` tests on it (skipped junk, blank lines, ragged lines, emptiness,
  -- its four leading columns) is stated below and rewritten in one pass after `unfold`
  generalize hL : (items.map fun p => segLine sid p.1 p.2) = L at hdb
  have hdw : (junk ++ hdr :: L).dropWhile (fun l => decide (l.length ≤ 1)) = hdr :: L :=
    dropWhile_append_stop _ _ _ _ (fun l hl => decide_eq_true (hj l hl)) (by rw [hh]; rfl)
  have hrag : L.any (fun l => l.length != 5) = false := hL ▸ any_length_ne items _ 5 fun _ => rfl
  have hempty : L.isEmpty = false := by
    rw [← hL]
    cases items with
    | nil => exact absurd rfl hne
    | cons a t => rfl
  have hc0 : column 0 L = items.map (fun _ => sid) := hL ▸ column_map ..
  have hc1 : column 1 L = items.map (fun p => p.1.1) := hL ▸ column_map ..
  have hc2 : column 2 L = items.map (fun p => toString (p.1.2.1 + 1)) := hL ▸ column_map ..
  have hc3 : column 3 L = items.map (fun p => toString p.1.2.2) := hL ▸ column_map ..
  unfold parseSeg
  simp only [hdw, hh, hdb, hrag, hempty, hc0, hc1, hc2, hc3, intColumn_toString, bind, Except.bind, pure,
    Except.pure, Bool.false_eq_true, ↓reduceIte, List.map_map, Function.comp_def]
  rw [asStr_plain _ (fun _ => rfl) _ (List.forall_mem_map.mpr fun _ _ => hs),
    asStr_chrom _ (fun _ => rfl) (fun _ => rfl) _ (List.forall_mem_map.mpr hc)]
  have h56 : ((5 : Nat) == 6) = false := rfl
  have h55 : ((5 : Nat) == 5) = true := rfl
  simp only [h56, h55, Bool.false_eq_true, ↓reduceIte, List.lookup_nil, List.map_id', List.nil_append,
    List.map_const']
  refine ⟨mkRows (items.map (fun p => p.1.1)) (items.map (fun p => p.1.2.1 + 1 + READ_SHIFT_seg))
    (items.map (fun p => p.1.2.2)) [typeColumn (column (5 - 1) L), List.replicate L.length (Cell.str "-")], ?_, ?_⟩
  · rw [groupBySample_const sid items.length _ (List.length_pos_iff.mpr hne)]
    rw [mkRows_length, List.length_map]
  · exact mkRows_regions items (·.1) READ_SHIFT_seg (by decide) _

theorem toString_no_semicolon (i : Int) : ∀ c ∈ (toString i).toList, (c != ';') = true :=
  toString_chars i _ (fun _ hc => bne_iff_ne.mpr (digit_ne hc (by decide))) (by decide)

theorem parseEndFromInfo_END (e : Int) : parseEndFromInfo ("END=" ++ toString e) = .ok (some e) := by
  have h1 : "END=".toList = ['E', 'N', 'D', '='] := by decide
  have hfind : findSub ['E', 'N', 'D', '='] ('E' :: 'N' :: 'D' :: '=' :: (toString e).toList) =
      some (toString e).toList := by
    simp only [findSub, List.isPrefixOf, beq_self_eq_true, Bool.and_self, ↓reduceIte, List.length_cons,
      List.length_nil, List.drop_succ_cons, List.drop_zero]
  unfold parseEndFromInfo
  rw [String.toList_append, h1]
  simp only [List.cons_append, List.nil_append, hfind]
  rw [takeWhile_eq_self_of_all _ _ (toString_no_semicolon e), String.ofList_toList, parseInt_toString]

/-- VCF sites: POS is 1-based, INFO/END is the (1-based inclusive = 0-based exclusive) end;
    `x` = (id, ref, alt, qual, filter) -/
def vcfLine (g : Region) (x : String × String × String × String × String) : Line :=
  [g.1, toString (g.2.1 + 1), x.1, x.2.1, x.2.2.1, x.2.2.2.1, x.2.2.2.2, "END=" ++ toString g.2.2]

theorem readVcf_lines (items : List (Region × (String × String × String × String × String)))
    (hdr : List Line) (hh : ∀ l ∈ hdr, sw "#" (l.headD "") = true)
    (hc : ∀ p ∈ items, ∀ f ∈ vcfLine p.1 p.2, noChar '#' f)
    (he : ∀ p ∈ items, p.1.2.2 ≠ -1) :
    ∃ rows, readVcf false (hdr ++ items.map (fun p => vcfLine p.1 p.2)) = .ok ⟨["alt", "ref"], rows⟩ ∧
      rows.map coordsOnly = (items.map (·.1)).map regRow := by
  obtain ⟨hbody, hany1⟩ := comment_lines "#" '#' (by decide) hdr items (fun p => vcfLine p.1 p.2) hh (fun _ _ => by simp [vcfLine]) hc
  have hany2 : (items.map fun p => vcfLine p.1 p.2).any (fun l => decide (l.length < 8)) = false := by
    rw [List.any_map, List.any_eq_false]
    intro p _
    simp [vcfLine]
  have hc1 : column 1 (items.map fun p => vcfLine p.1 p.2) = items.map (fun p => toString (p.1.2.1 + 1)) :=
    column_map ..
  unfold readVcf
  simp only [hbody, hany1, hany2, hc1, intColumn_toString, bind, Except.bind, pure, Except.pure,
    Bool.false_eq_true, ↓reduceIte, Bool.not_false, Bool.and_false]
  -- the rows are made line by line from (line, POS): pair each item with itself, then show what one line gives
  rw [List.zip_map']
  rw [mapM_map_ok _ _ (fun p : Region × (String × String × String × String × String) =>
    (⟨p.1.1, p.1.2.1 + 1 + READ_SHIFT_vcf_sites, p.1.2.2, [.str p.2.2.2.1, .str p.2.2.1]⟩ : FRow)) items]
  · refine ⟨_, rfl, ?_⟩
    rw [List.map_map, List.map_map]
    refine List.map_congr_left fun p _ => ?_
    have : p.1.2.1 + 1 + READ_SHIFT_vcf_sites = p.1.2.1 := by simp only [READ_SHIFT_vcf_sites]; omega
    simp only [Function.comp_def, coordsOnly, regRow, this]
  · intro p hp
    have hne : (p.1.2.2 == -1) = false := by
      rw [beq_eq_false_iff_ne]; exact he p hp
    have h7 : List.getD (vcfLine p.1 p.2, p.1.2.1 + 1).fst 7 "" = "END=" ++ toString p.1.2.2 := rfl
    simp only [h7, parseEndFromInfo_END, hne, Bool.false_eq_true, ↓reduceIte]
    rfl

/-- Picard per-target coverage: header row, 1-based start; `x` = (length, name, %gc, mean, normalized) -/
def picardLine (g : Region) (x : Int × String × String × String × String) : Line :=
  [g.1, toString (g.2.1 + 1), toString g.2.2, toString x.1, x.2.1, x.2.2.1, x.2.2.2.1, x.2.2.2.2]

theorem readPicard_lines (items : List (Region × (Int × String × String × String × String)))
    (hdr : Line) (hh : hdr.length = 8)
    (hnum : ∀ p ∈ items, (parseDec p.2.2.2.1.toList).isSome ∧ (parseDec p.2.2.2.2.1.toList).isSome ∧
                          (parseDec p.2.2.2.2.2.toList).isSome) :
    ∃ rows, readPicard (hdr :: items.map (fun p => picardLine p.1 p.2)) =
        .ok ⟨["gene", "gc", "depth", "ratio"], rows⟩ ∧
      rows.map coordsOnly = (items.map (·.1)).map regRow := by
  have hdb := dropBlank_eq_self (hdr :: items.map fun p => picardLine p.1 p.2)
    (List.forall_mem_cons.mpr ⟨by omega, List.forall_mem_map.mpr fun _ _ => by simp [picardLine]⟩)
  have hrag := any_length_ne items (fun p => picardLine p.1 p.2) 8 fun _ => rfl
  have h88 : (hdr.length != 8) = false := by rw [hh]; rfl
  obtain ⟨gc, hgc⟩ := fltColumn_ok items (fun p => p.2.2.2.1) fun p hp => (hnum p hp).1
  obtain ⟨dp, hdp⟩ := fltColumn_ok items (fun p => p.2.2.2.2.1) fun p hp => (hnum p hp).2.1
  obtain ⟨ra, hra⟩ := fltColumn_ok items (fun p => p.2.2.2.2.2) fun p hp => (hnum p hp).2.2
  unfold readPicard
  simp only [hdb, h88, hrag, column_map, Bool.or_self, Bool.false_eq_true, ↓reduceIte]
  simp only [picardLine, List.getD_cons_zero, List.getD_cons_succ, intColumn_toString, hgc, hdp, hra, bind,
    Except.bind, pure, Except.pure, List.map_map, Function.comp_def]
  exact ⟨_, rfl, mkRows_regions items (·.1) READ_SHIFT_picardhs (by decide) _⟩

end CnvVerif.Fmt
