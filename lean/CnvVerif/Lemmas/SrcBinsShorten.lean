/-
  C12: `shorten_labels` -- the label split, one step of the loop and the loop from any state equal the definitions that
  harness/shortentrans.py reads off the current source (Generated/ExprsShorten.lean, regenerated from /repo on every
  run by harness/extractors/exprs_shorten.py); the ties of the whole function and of `shortest_name` are in
  Props/C12SrcShorten.lean.  Proofs go through `simp` / case analysis rather than `rfl` alone, so
  that equivalent spellings (renamed locals, reordered independent assignments, `a & b` for `a.intersection(b)`)
  still prove.
-/
import CnvVerif.Generated.ExprsShorten
import CnvVerif.Model.Bins
import CnvVerif.Model.PyPrims
import Mathlib.Tactic.SplitIfs
set_option linter.unusedSimpArgs false
set_option linter.unusedTactic false
namespace CnvVerif.Src
open CnvVerif CnvVerif.Generated

theorem c12n_splitGo_comma (cur l : List Char) : C12N.splitGo ',' cur l = splitCommaGo cur l := by
  induction l generalizing cur with
  | nil => rfl
  | cons c cs ih => simp [C12N.splitGo, splitCommaGo, ih]

/-- `set(label.rstrip().split(","))` -/
theorem c12n_labelNames_is_prims (label : String) :
    C12N.pySet (C12N.pySplit ',' (C12N.pyRstrip label)) = labelNames label := by
  unfold labelNames C12N.pySet C12N.pySplit C12N.pyRstrip
  rw [c12n_splitGo_comma]
  simp

/-- one iteration of `shorten_labels`, in the model's words -/
theorem c12n_step_is_source (cur : List String) (cnt : Nat) (l : String) :
    src_shorten_labels_step filterNames shortestNames cur cnt l =
      (if !(cur.filter (fun n => (labelNames l).contains n)).isEmpty then
        (([] : List (List String)), (filterNames (cur.filter (fun n => (labelNames l).contains n)), cnt + 1))
       else (List.replicate cnt (shortestNames cur), (labelNames l, 1))) := by
  simp only [src_shorten_labels_step, c12n_labelNames_is_prims, C12N.pyInter]
  all_goals first
  | (with_reducible rfl)
  | (generalize cur.filter (fun n => (labelNames l).contains n) = ov; cases ov <;> simp)

/-- the state machine of `shorten_labels`, from any state -/
theorem c12n_shortenGo_is_source (cur : List String) (cnt : Nat) (labels : List String) :
    shortenGo cur cnt labels =
      Py.genLoop (fun st l => src_shorten_labels_step filterNames shortestNames st.1 st.2 l)
        (fun st => src_shorten_labels_final filterNames shortestNames st.1 st.2) (cur, cnt) labels := by
  induction labels generalizing cur cnt with
  | nil => simp [shortenGo, Py.genLoop, src_shorten_labels_final]
  | cons l rest ih =>
    unfold shortenGo
    rw [Py.genLoop]
    dsimp only
    rw [c12n_step_is_source]
    split_ifs with h
    · simpa using ih _ _
    · simpa using ih _ _

end CnvVerif.Src
