/-
  Behind Props/C01Center.lean, `cnvkit.py call --center <estimator>` (Model/CallCmdCenterExt5c.lean): shifting every log2
  by `c` lowers the centring constant by `c`, hence a table shifted by its own constant has centring constant zero.
-/
import CnvVerif.Model.CallCmdCenterExt5c
import CnvVerif.Lemmas.Center
namespace CnvVerif.C01Ctr

def addLog2 (c : Rat) (b : CBin) : CBin := { b with log2 := b.log2 + c }

theorem binsOf_shiftRows (pow2 : Rat → Rat) (sh : Rat) (rows : List SegRow) (h : allPresent rows = true) :
    binsOf (shiftRows pow2 sh rows) = (binsOf rows).map (addLog2 sh) := by
  unfold binsOf shiftRows
  rw [List.map_map, List.map_map]
  apply List.map_congr_left
  intro r hr
  obtain ⟨x, hx⟩ := Option.isSome_iff_exists.mp (List.all_eq_true.mp h r hr)
  simp [addLog2, hx]

/-- without `--drop-low-coverage`: re-estimating the centre of the centred table gives 0 -/
theorem centerShift_of_centered (est : List Rat → Rat) (he : TransEquiv est) (par : Option String) (t : List CBin)
    (hsel : autosomesOf ((t.head?.map (·.chrom)).getD "") par t ≠ []) :
    centerShift est true false par (t.map (addLog2 (centerShift est true false par t))) = 0 := by
  exact (centerShift_map_add est he true false par t _ hsel nofun).trans (sub_self _)

end CnvVerif.C01Ctr
