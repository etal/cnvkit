/-
  What `shorten_labels` emits.  Every label of the output is built from a name of the very input label
  it replaces (a token of that label, `DB|` prefix trimmed), there is always at least one candidate (so
  `min(…, key=len)` never sees an empty set), and while the loop runs the carried set `curr_names` is a set of tokens
  COMMON to all the labels of the open group.
-/
import CnvVerif.Model.Bins
import CnvVerif.Lemmas.Basic
import Mathlib.Data.List.Forall2
namespace CnvVerif.C12N
open CnvVerif

theorem filterNames_subset (names : List String) : ∀ n ∈ filterNames names, n ∈ names := by
  intro n hn
  unfold filterNames at hn
  split at hn
  · dsimp only at hn
    split at hn
    · exact hn
    · exact (List.mem_filter.mp hn).1
  · exact hn

theorem filterNames_ne_nil (names : List String) (h : names ≠ []) : filterNames names ≠ [] := by
  unfold filterNames
  split
  · dsimp only
    split
    · exact h
    · rename_i _ h2
      intro h3
      simp [h3] at h2
  · exact h

theorem splitCommaGo_ne_nil (cur l : List Char) : splitCommaGo cur l ≠ [] := by
  induction l generalizing cur with
  | nil => simp [splitCommaGo]
  | cons c cs ih =>
    unfold splitCommaGo
    split
    · simp
    · exact ih _

theorem labelNames_ne_nil (label : String) : labelNames label ≠ [] := by
  unfold labelNames
  cases h : splitCommaGo [] (rstripChars label.toList) with
  | nil => exact absurd h (splitCommaGo_ne_nil _ _)
  | cons a as =>
    exact List.ne_nil_of_mem (a := String.ofList a) (List.mem_eraseDups.mpr (by simp))

theorem minsByLen_ne_nil (f : List String) (h : f ≠ []) :
    f.filter (fun n => n.length == (f.map String.length).foldl min (f.headD "").length) ≠ [] := by
  cases f with
  | nil => exact absurd rfl h
  | cons a as =>
    have hm := foldl_pick_mem min (fun _ _ => Std.min_eq_or) ((a :: as).map String.length)
      ((a :: as).headD "").length
    have : ∃ n ∈ (a :: as), n.length = ((a :: as).map String.length).foldl min ((a :: as).headD "").length := by
      rcases hm with h1 | h1
      · exact ⟨a, by simp, by rw [h1]; rfl⟩
      · obtain ⟨n, hn, hl⟩ := List.mem_map.mp h1
        exact ⟨n, hn, hl⟩
    obtain ⟨n, hn, hl⟩ := this
    exact List.ne_nil_of_mem (a := n) (List.mem_filter.mpr ⟨hn, by simp [hl]⟩)

theorem shortestNames_from (names : List String) :
    ∀ c ∈ shortestNames names, ∃ n ∈ names, c = pipeTrim n := by
  intro c hc
  unfold shortestNames at hc
  dsimp only at hc
  rw [List.mem_eraseDups, List.mem_map] at hc
  obtain ⟨n, hn, rfl⟩ := hc
  exact ⟨n, filterNames_subset names n (List.mem_filter.mp hn).1, rfl⟩

theorem shortestNames_ne_nil (names : List String) (h : names ≠ []) : shortestNames names ≠ [] := by
  unfold shortestNames
  dsimp only
  have h1 := minsByLen_ne_nil (filterNames names) (filterNames_ne_nil names h)
  cases h2 : (filterNames names).filter
      (fun n => n.length == ((filterNames names).map String.length).foldl min ((filterNames names).headD "").length) with
  | nil => exact absurd h2 h1
  | cons a as => exact List.ne_nil_of_mem (a := pipeTrim a) (List.mem_eraseDups.mpr (by simp))

/-- positional relation between the input labels and the emitted candidate lists -/
def Each (R : String → List String → Prop) : List String → List (List String) → Prop
  | [], [] => True
  | a :: as, b :: bs => R a b ∧ Each R as bs
  | _, _ => False

/-- `Each` is `List.Forall₂`, whose lemmas serve -/
theorem each_iff {R : String → List String → Prop} : ∀ {as : List String} {bs : List (List String)},
    Each R as bs ↔ List.Forall₂ R as bs
  | [], [] => by simp [Each]
  | [], _ :: _ => by simp [Each]
  | _ :: _, [] => by simp [Each]
  | a :: as, b :: bs => by simp [Each, each_iff (as := as)]

/-- what one emitted candidate list has to do with the label it replaces -/
def FromLabel (lab : String) (cands : List String) : Prop :=
  cands ≠ [] ∧ ∀ c ∈ cands, ∃ n ∈ labelNames lab, c = pipeTrim n

/-- the loop invariant of `shorten_labels`: `pre` = the labels of the open group, `cur` = `curr_names`, non-empty once a
    group is open and holding only tokens common to every label of the group -/
def OpenGroup (cur pre : List String) : Prop :=
  (pre ≠ [] → cur ≠ []) ∧ ∀ lab ∈ pre, ∀ n ∈ cur, n ∈ labelNames lab

theorem OpenGroup.nil : OpenGroup [] [] := ⟨fun h => absurd rfl h, nofun⟩

/-- a label sharing no token with the open group opens a new one -/
theorem OpenGroup.start (label : String) : OpenGroup (labelNames label) [label] :=
  ⟨fun _ => labelNames_ne_nil label, fun lab hl n hn => by rwa [List.mem_singleton.mp hl]⟩

/-- a label sharing a token with the open group joins it, and `cur` shrinks to the common tokens -/
theorem OpenGroup.join {cur pre : List String} (h : OpenGroup cur pre) (label : String)
    (hov : (cur.filter fun n => (labelNames label).contains n) ≠ []) :
    OpenGroup (filterNames (cur.filter fun n => (labelNames label).contains n)) (pre ++ [label]) := by
  refine ⟨fun _ => filterNames_ne_nil _ hov, fun lab hl n hn => ?_⟩
  obtain ⟨hc, hl'⟩ := List.mem_filter.mp (filterNames_subset _ n hn)
  rcases List.mem_append.mp hl with h1 | h1
  · exact h.2 lab h1 n hc
  · rw [List.mem_singleton.mp h1]; simpa using hl'

/-- emitting the open group: every label of it gets the candidates of the common tokens -/
theorem OpenGroup.emit {cur pre : List String} (h : OpenGroup cur pre) :
    Each FromLabel pre (List.replicate pre.length (shortestNames cur)) := by
  rw [each_iff, ← List.map_const', List.forall₂_map_right_iff, List.forall₂_same]
  refine fun lab hl => ⟨shortestNames_ne_nil cur (h.1 (List.ne_nil_of_mem hl)), fun c hc => ?_⟩
  obtain ⟨n, hn, rfl⟩ := shortestNames_from cur c hc
  exact ⟨n, h.2 lab hl n hn, rfl⟩

theorem shortenGo_each (rest : List String) : ∀ {cur pre : List String}, OpenGroup cur pre →
    Each FromLabel (pre ++ rest) (shortenGo cur pre.length rest) := by
  induction rest with
  | nil =>
    intro cur pre h
    simpa only [shortenGo, List.append_nil] using h.emit
  | cons label rest ih =>
    intro cur pre h
    unfold shortenGo
    dsimp only
    split
    · rename_i hov
      simpa [List.append_assoc] using ih (h.join label (by intro e; rw [e] at hov; simp at hov))
    · exact each_iff.mpr (List.rel_append (each_iff.mp h.emit)
        (each_iff.mp (by simpa using ih (OpenGroup.start label))))

theorem shortenLabels_each (labels : List String) : Each FromLabel labels (shortenLabels labels) := by
  simpa [shortenLabels] using shortenGo_each labels OpenGroup.nil

end CnvVerif.C12N

namespace CnvVerif

theorem shortenLabels_length (labels : List String) : (shortenLabels labels).length = labels.length :=
  (C12N.each_iff.mp (C12N.shortenLabels_each labels)).length_eq.symm

end CnvVerif
