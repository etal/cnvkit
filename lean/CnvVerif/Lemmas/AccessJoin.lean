/-
  `join_regions` of cnvlib/access.py on one chromosome's canonical rows: the rows come out non-empty and at least
  `max 1 g` apart and cover the input plus exactly the gaps shorter than `g`, first in terms of the list (`bridgedL`),
  then of the covered set alone (`InSmallGap`, `joinChrom_spec`).
-/
import CnvVerif.Model.Access
import CnvVerif.Lemmas.Interval
namespace CnvVerif

/-- `p` lies in a gap between two consecutive rows that is shorter than `g` -/
def bridgedL (g : Int) : List Row → Int → Prop
  | a :: b :: t, p => (a.e ≤ p ∧ p < b.s ∧ b.s - a.e < g) ∨ bridgedL g (b :: t) p
  | _, _ => False

theorem bridgedL_cons_cons (g : Int) (a b : Row) (t : List Row) (p : Int) :
    bridgedL g (a :: b :: t) p ↔ (a.e ≤ p ∧ p < b.s ∧ b.s - a.e < g) ∨ bridgedL g (b :: t) p := Iff.rfl

theorem bridgedL_head (g : Int) (a a' : Row) (t : List Row) (p : Int) (h : a.e = a'.e) :
    bridgedL g (a :: t) p ↔ bridgedL g (a' :: t) p := by
  cases t with
  | nil => exact Iff.rfl
  | cons b u => rw [bridgedL_cons_cons, bridgedL_cons_cons, h]

theorem ico_split3 {a b c d p : Int} (h1 : a ≤ b) (h2 : b ≤ c) (h3 : c ≤ d) :
    (a ≤ p ∧ p < d) ↔ (a ≤ p ∧ p < b) ∨ (b ≤ p ∧ p < c) ∨ (c ≤ p ∧ p < d) := by omega

theorem joinGo_cov (g : Int) (prev : Row) (l : List Row) (hc : Canon (prev :: l)) (p : Int) :
    cov (joinGo g prev l) p ↔ cov (prev :: l) p ∨ bridgedL g (prev :: l) p := by
  induction l generalizing prev with
  | nil => exact (or_iff_left id).symm
  | cons x xs ih =>
    obtain ⟨hp, hsep, hcx⟩ := canon_cons.mp hc
    obtain ⟨hxp, hxsep, hcxs⟩ := canon_cons.mp hcx
    have hpx := hsep x (List.mem_cons_self ..)
    rw [joinGo, bridgedL_cons_cons, cov_cons prev, cov_cons x]
    split
    · -- joined: the new row `[prev.s, x.e)` is `prev`, the gap and `x`
      rename_i hj
      rw [ih { prev with e := x.e } (canon_cons.mpr ⟨Int.lt_trans hp (Int.lt_trans hpx hxp), hxsep, hcxs⟩),
        bridgedL_head g { prev with e := x.e } x xs p rfl, cov_cons]
      show (_ ∨ cov xs p) ∨ bridgedL g (x :: xs) p ↔ _
      rw [ico_split3 (Int.le_of_lt hp) (Int.le_of_lt hpx) (Int.le_of_lt hxp)]
      -- the joined row is `prev` (P), the gap (G, small: `hj`) and `x` (X); the rest is reordering disjuncts
      have shuffle : ∀ {P G X C B : Prop}, ((P ∨ G ∨ X) ∨ C) ∨ B ↔ (P ∨ X ∨ C) ∨ (G ∧ x.s - prev.e < g) ∨ B := by
        intros; simp only [hj, and_true, or_assoc, or_left_comm]
      exact shuffle.trans (by simp only [and_assoc])
    · rename_i hj
      rw [cov_cons prev, ih x hcx, cov_cons x]
      simp only [hj, and_false, false_or, or_assoc]

theorem joinGo_canon (g : Int) (prev : Row) (l : List Row) (hc : Canon (prev :: l)) :
    (∀ r ∈ joinGo g prev l, r.s < r.e ∧ prev.s ≤ r.s) ∧
    (joinGo g prev l).Pairwise (fun a b => a.e + max 1 g ≤ b.s) := by
  induction l generalizing prev with
  | nil =>
    refine ⟨fun r hr => ?_, List.pairwise_singleton ..⟩
    rw [List.mem_singleton.mp hr]
    exact ⟨hc.head_pos, Int.le_refl _⟩
  | cons x xs ih =>
    obtain ⟨hp, hsep, hcx⟩ := canon_cons.mp hc
    obtain ⟨hxp, hxsep, hcxs⟩ := canon_cons.mp hcx
    have hpx := hsep x (List.mem_cons_self ..)
    rw [joinGo]
    split
    · exact ih { prev with e := x.e } (canon_cons.mpr ⟨Int.lt_trans hp (Int.lt_trans hpx hxp), hxsep, hcxs⟩)
    · rename_i hj
      obtain ⟨h1, h2⟩ := ih x hcx
      have hgap : prev.e + max 1 g ≤ x.s := by omega
      refine ⟨fun r hr => ?_, List.pairwise_cons.mpr ⟨fun r hr => Int.le_trans hgap (h1 r hr).2, h2⟩⟩
      rcases List.mem_cons.mp hr with rfl | h
      · exact ⟨hp, Int.le_refl _⟩
      · exact ⟨(h1 r h).1, Int.le_trans (Int.le_of_lt (Int.lt_trans hp hpx)) (h1 r h).2⟩

theorem joinChrom_cov (g : Int) (l : List Row) (hc : Canon l) (p : Int) :
    cov (joinChrom g l) p ↔ cov l p ∨ bridgedL g l p := by
  cases l with
  | nil => exact (or_iff_left id).symm
  | cons x xs => exact joinGo_cov g x xs hc p

theorem joinChrom_canon (g : Int) (l : List Row) (hc : Canon l) :
    (∀ r ∈ joinChrom g l, r.s < r.e) ∧ (joinChrom g l).Pairwise (fun a b => a.e + max 1 g ≤ b.s) := by
  cases l with
  | nil => exact ⟨fun _ h => (List.not_mem_nil h).elim, List.Pairwise.nil⟩
  | cons x xs =>
    have := joinGo_canon g x xs hc
    exact ⟨fun r hr => (this.1 r hr).1, this.2⟩

theorem joinGo_chrom (g : Int) (prev : Row) (l : List Row) (c : String) (hp : prev.chrom = c)
    (hl : ∀ r ∈ l, r.chrom = c) : ∀ r ∈ joinGo g prev l, r.chrom = c := by
  induction l generalizing prev with
  | nil => exact fun r hr => List.mem_singleton.mp hr ▸ hp
  | cons x xs ih =>
    obtain ⟨hx, hxs⟩ := List.forall_mem_cons.mp hl
    rw [joinGo]
    split
    · exact ih _ hp hxs
    · exact fun r hr => (List.mem_cons.mp hr).elim (fun h => h ▸ hp) (ih x hx hxs r)

theorem joinChrom_chrom (g : Int) (c : String) (l : List Row) (hl : ∀ r ∈ l, r.chrom = c) :
    ∀ r ∈ joinChrom g l, r.chrom = c := by
  cases l with
  | nil => exact fun r hr => (List.not_mem_nil hr).elim
  | cons x xs => exact joinGo_chrom g x xs c (List.forall_mem_cons.mp hl).1 (List.forall_mem_cons.mp hl).2

/-- the `assert gap > 0` of `join_regions` cannot fire on a canonical table -/
theorem gapsPositive_of_canon (l : List Row) (hc : Canon l) : gapsPositive l = true := by
  induction l with
  | nil => rfl
  | cons a t ih =>
    cases t with
    | nil => rfl
    | cons b u =>
      obtain ⟨_, hsep, hct⟩ := canon_cons.mp hc
      have := hsep b (List.mem_cons_self ..)
      simp only [gapsPositive, Bool.and_eq_true, decide_eq_true_eq]
      exact ⟨by omega, ih hct⟩

/-- `p` lies in a stretch `[g1, g2)` of inaccessible bases, shorter than `g`, with an accessible
    base immediately on either side -/
def InSmallGap (acc : Int → Prop) (g : Int) (p : Int) : Prop :=
  ∃ g1 g2, g1 ≤ p ∧ p < g2 ∧ g2 - g1 < g ∧ acc (g1 - 1) ∧ acc g2 ∧ ∀ q, g1 ≤ q → q < g2 → ¬ acc q

theorem inSmallGap_cons_cons (g : Int) (a b : Row) (u : List Row) (hc : Canon (a :: b :: u)) (p : Int) :
    InSmallGap (cov (a :: b :: u)) g p ↔
      (a.e ≤ p ∧ p < b.s ∧ b.s - a.e < g) ∨ InSmallGap (cov (b :: u)) g p := by
  obtain ⟨hap, hsep, hct⟩ := canon_cons.mp hc
  have hab := hsep b (List.mem_cons_self ..)
  have hb : cov (b :: u) b.s := hct.cov_head
  have hge : ∀ {q}, cov (b :: u) q → b.s ≤ q := fun h => hct.cov_ge h
  -- from `a.e` on only `b :: u` covers
  have htail : ∀ {q}, a.e ≤ q → (cov (a :: b :: u) q ↔ cov (b :: u) q) := fun hq =>
    (cov_cons ..).trans ⟨fun h => h.elim (fun h' => absurd h'.2 (Int.not_lt.mpr hq)) id, Or.inr⟩
  constructor
  · rintro ⟨g1, g2, h1, h2, h3, c1, c2, hno⟩
    have hlt : g1 < g2 := Int.lt_of_le_of_lt h1 h2
    rcases (cov_cons ..).mp c1 with ha | hr
    · -- `a` covers `g1 - 1`: the gap is the one between `a` and `b`
      have e1 : g1 = a.e := by
        apply Classical.byContradiction
        intro hne
        exact hno g1 (Int.le_refl _) hlt ((cov_cons ..).mpr (Or.inl (by omega)))
      subst e1
      have hg2 := hge ((htail (Int.le_of_lt hlt)).mp c2)
      have e2 : g2 = b.s := by
        apply Classical.byContradiction
        intro hne
        exact hno b.s (Int.le_of_lt hab) (by omega) ((htail (Int.le_of_lt hab)).mpr hb)
      subst e2
      exact Or.inl ⟨h1, h2, h3⟩
    · have hag : a.e ≤ g1 := by have := hge hr; omega
      exact Or.inr ⟨g1, g2, h1, h2, h3, hr, (htail (Int.le_trans hag (Int.le_of_lt hlt))).mp c2,
        fun q hq1 hq2 hq => hno q hq1 hq2 ((htail (Int.le_trans hag hq1)).mpr hq)⟩
  · rintro (⟨h1, h2, h3⟩ | ⟨g1, g2, h1, h2, h3, c1, c2, hno⟩)
    · exact ⟨a.e, b.s, h1, h2, h3, (cov_cons ..).mpr (Or.inl (by omega)),
        (htail (Int.le_of_lt hab)).mpr hb,
        fun q hq1 hq2 hq => absurd (hge ((htail hq1).mp hq)) (Int.not_le.mpr hq2)⟩
    · have hag : a.e ≤ g1 := by have := hge c1; omega
      exact ⟨g1, g2, h1, h2, h3, (cov_cons ..).mpr (Or.inr c1),
        (htail (Int.le_trans hag (Int.le_of_lt (Int.lt_of_le_of_lt h1 h2)))).mpr c2,
        fun q hq1 hq2 hq => hno q hq1 hq2 ((htail (Int.le_trans hag hq1)).mp hq)⟩

theorem bridgedL_iff_inSmallGap (acc : Int → Prop) (g : Int) (l : List Row) (hc : Canon l)
    (hagree : ∀ q, acc q ↔ cov l q) (p : Int) : bridgedL g l p ↔ InSmallGap acc g p := by
  obtain rfl : acc = cov l := funext fun q => propext (hagree q)
  clear hagree
  induction l with
  | nil => exact ⟨False.elim, fun ⟨_, _, _, _, _, h, _⟩ => (cov_nil _).mp h⟩
  | cons a t ih =>
    cases t with
    | nil =>
      -- both flanks lie in `a`, and so does `p`
      refine ⟨False.elim, fun ⟨g1, g2, h1, h2, _, c1, c2, hno⟩ => ?_⟩
      rcases (cov_cons ..).mp c1 with h | h
      · rcases (cov_cons ..).mp c2 with h' | h'
        · exact hno p h1 h2 ((cov_cons ..).mpr (Or.inl ⟨by omega, by omega⟩))
        · exact (cov_nil _).mp h'
      · exact (cov_nil _).mp h
    | cons b u => rw [bridgedL_cons_cons, inSmallGap_cons_cons g a b u hc, ih hc.tail]

theorem joinChrom_spec (acc : Int → Prop) (g : Int) (l : List Row) (hc : Canon l)
    (hagree : ∀ q, acc q ↔ cov l q) :
    (∀ r ∈ joinChrom g l, r.s < r.e) ∧ (joinChrom g l).Pairwise (fun a b => a.e + max 1 g ≤ b.s) ∧
    ∀ p, cov (joinChrom g l) p ↔ acc p ∨ InSmallGap acc g p :=
  ⟨(joinChrom_canon g l hc).1, (joinChrom_canon g l hc).2, fun p => by
    rw [joinChrom_cov g l hc p, ← hagree p, bridgedL_iff_inSmallGap acc g l hc hagree p]⟩

theorem not_reported_in_large_gap (acc : Int → Prop) (g g1 g2 p : Int)
    (hgap : ∀ q, g1 ≤ q → q < g2 → ¬ acc q) (hsize : g ≤ g2 - g1) (h1 : g1 ≤ p) (h2 : p < g2) :
    ¬ (acc p ∨ InSmallGap acc g p) := by
  rintro (h | ⟨a, b, ha, hb, hlt, hacc1, hacc2, _⟩)
  · exact hgap p h1 h2 h
  · -- the small gap `[a, b)` contains `p` and is flanked by accessible bases, so it contains `[g1, g2)`
    have ha' : a ≤ g1 := Int.not_lt.mp fun hn => hgap (a - 1) (by omega) (by omega) hacc1
    have hb' : g2 ≤ b := Int.not_lt.mp fun hn => hgap b (by omega) (by omega) hacc2
    omega

/-- where nothing is accessible nothing is bridged: a small gap has an accessible base on either side -/
theorem not_reported_of_not_acc {acc : Int → Prop} {g p : Int} (h : ∀ q, ¬ acc q) : ¬ (acc p ∨ InSmallGap acc g p) :=
  fun hp => hp.elim (h p) fun ⟨_, g2, _, _, _, _, h2, _⟩ => h g2 h2

theorem eq_nil_of_not_cov {l : List Row} (hp : ∀ r ∈ l, r.s < r.e) (h : ∀ p, ¬ cov l p) : l = [] :=
  List.eq_nil_iff_forall_not_mem.mpr fun r hr => h r.s ⟨r, hr, Int.le_refl _, hp r hr⟩

end CnvVerif
