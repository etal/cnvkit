/-
  Label assignment in `do_target` in normal form: at both of its calls (`--annotate`, `--short-names`) `setGenes` is
  handed one label per bin, so there it is `relabel`, which keeps the number and the coordinates of the bins, and the
  only failure left in `doTarget` is the clash of chromosome names (`doTarget_eq`).
-/
import CnvVerif.Model.Bins
import CnvVerif.Lemmas.Ranges
import CnvVerif.Lemmas.BinsNames
namespace CnvVerif

/-- chromosome, start and end of every row, in order: what label assignment must leave alone -/
def coordsOfRows (t : Table) : List (String × Int × Int) := t.map (fun r => (r.chrom, r.s, r.e))

/-- what `setGenes` returns when it returns -/
def relabel (t : Table) (genes : List String) : Table := (t.zip genes).map (fun p => { p.1 with gene := p.2 })

theorem setGenes_eq {t : Table} {genes : List String} (h : genes.length = t.length) :
    setGenes t genes = .ok (relabel t genes) := by
  unfold setGenes
  rw [if_pos (by simp [h])]
  rfl

theorem coords_relabel {t : Table} {genes : List String} (h : genes.length = t.length) :
    coordsOfRows (relabel t genes) = coordsOfRows t := by
  unfold coordsOfRows relabel
  rw [List.map_map]
  exact (List.map_map (f := Prod.fst) (g := fun r : Row => (r.chrom, r.s, r.e))).symm.trans
    (congrArg _ (List.map_fst_zip (Nat.le_of_eq h.symm)))

/-- `--annotate`: the labels `into_ranges` finds -/
def annotated (t0 a : Table) : Table := relabel t0 (intoRangesStr (sortTable a) t0 "-")

/-- `--short-names`: the rows carry the first candidate of `shorten_labels`, the candidates come along -/
def shortened (short : Bool) (t1 : Table) : Table × Option (List (List String)) :=
  if short then
    (relabel t1 ((shortenLabels (t1.map (·.gene))).map (fun c => c.headD "")), some (shortenLabels (t1.map (·.gene))))
  else (t1, none)

theorem coords_annotated (t0 a : Table) : coordsOfRows (annotated t0 a) = coordsOfRows t0 :=
  coords_relabel (intoRanges_length _ _ _)

theorem shortLabels_length (t1 : Table) :
    ((shortenLabels (t1.map (·.gene))).map (fun c => c.headD "")).length = t1.length := by
  rw [List.length_map, shortenLabels_length, List.length_map]

theorem coords_shortened (short : Bool) (t1 : Table) : coordsOfRows (shortened short t1).1 = coordsOfRows t1 := by
  cases short
  · rfl
  · exact coords_relabel (shortLabels_length t1)

/-- `do_target` after the bins are made: it fails only for want of a shared chromosome name, and otherwise relabels -/
theorem doTarget_eq (baits : Table) (annot : Option Table) (short split : Bool) (avg : Rat) :
    doTarget baits annot short split avg =
      match annot with
      | none => .ok (shortened short (doTargetCore baits split avg))
      | some a =>
        if chromNamesClash (doTargetCore baits split avg) a then .error "ValueError"
        else .ok (shortened short (annotated (doTargetCore baits split avg) a)) := by
  unfold doTarget shortened annotated
  cases annot with
  | none => cases short <;> simp only [setGenes_eq (shortLabels_length _)] <;> rfl
  | some a =>
    dsimp only
    cases chromNamesClash (doTargetCore baits split avg) a
    · simp only [setGenes_eq (intoRanges_length _ _ _)]
      cases short <;> simp only [setGenes_eq (shortLabels_length _)] <;> rfl
    · cases short <;> rfl

end CnvVerif
