/-
  When can the denominator `N_i = (w ⊛ win)_i` of the weighted convolution vanish?  A window with negative
  lobes tolerates weights whose max/min ratio stays below `winPos win / winNeg win` (Lemmas/SmoothWindow.lean); here
  that bound is carried from one weighted sum to the kept positions of the weighted Savitzky–Golay smoother.
-/
import CnvVerif.Lemmas.Smoothing
namespace CnvVerif.Smooth

/-- the denominators kept after cutting back by `wing` are positive as soon as the weights the kept windows see
    (`n + 2·hwd` values around the kept part) stay within the ratio the window tolerates -/
theorem unpad_convSame_pos_of_ratio (win wts : List Rat) (hwd wing n : Nat) (hwin : win.length = 2 * hwd + 1)
    (hle : hwd ≤ wing) (hl : wts.length = n + 2 * wing) (m M : Rat)
    (hb : ∀ u ∈ (wts.drop (wing - hwd)).take (n + 2 * hwd), m ≤ u ∧ u ≤ M)
    (hratio : M * winNeg win < m * winPos win) : ∀ N ∈ unpad (convSame win wts) wing, 0 < N := by
  rw [unpad_convSame win wts hwd wing hwin hle, unpad, hl,
    show n + 2 * wing - 2 * (wing - hwd) = n + 2 * hwd by omega]
  intro N hN
  obtain ⟨s, hs, hsub, rfl⟩ := mem_slide hN
  exact dot_pos_of_ratio win s.reverse (by rw [List.length_reverse, hwin, hs]) m M
    (fun u hu => hb u (hsub u (List.mem_reverse.mp hu))) hratio

theorem convSame_pos_of_ratio (win wts : List Rat) (hwd : Nat) (hwin : win.length = 2 * hwd + 1) (m M : Rat)
    (hb : ∀ u ∈ wts, m ≤ u ∧ u ≤ M) (hratio : M * winNeg win < m * winPos win)
    (k : Nat) (hk1 : hwd ≤ k) (hk2 : k + hwd < wts.length) (hk : k < (convSame win wts).length) :
    0 < (convSame win wts)[k] := by
  obtain ⟨j, rfl⟩ := Nat.exists_eq_add_of_le hk1
  obtain ⟨n, hn⟩ : ∃ n, wts.length = n + 2 * hwd := ⟨wts.length - 2 * hwd, by omega⟩
  exact unpad_convSame_pos_of_ratio win wts hwd hwd n hwin (le_refl _) hn m M
    (fun u hu => hb u (List.mem_of_mem_drop (List.mem_of_mem_take hu))) hratio _
    (mem_unpad_iff.mpr ⟨j, by rw [convSame_length]; omega, List.getElem?_eq_getElem hk⟩)

theorem unpad_cwStep_isSome (win sig wts : List Rat) (wing : Nat) (hN : ∀ N ∈ unpad (convSame win wts) wing, N ≠ 0) :
    ∀ v ∈ unpad (cwStep win (sig.map some, wts)).1 wing, v.isSome := by
  rw [cwStep_values win sig wts]
  intro v hv
  obtain ⟨j, hj, hv⟩ := mem_unpad_iff.mp hv
  obtain ⟨hlt, rfl⟩ := List.getElem?_eq_some_iff.mp hv
  simp only [List.length_map, List.length_zip] at hj hlt
  simp only [List.getElem_map, List.getElem_zip]
  rw [if_neg (hN _ (mem_unpad_iff.mpr ⟨j, by omega, List.getElem?_eq_getElem (by omega)⟩))]
  rfl

theorem unpad_cwStep_const (win w : List Rat) (c : Rat) (wing : Nat) (hN : ∀ N ∈ unpad (convSame win w) wing, N ≠ 0) :
    unpad (cwStep win (List.replicate w.length (some c), w)).1 wing = List.replicate (w.length - 2 * wing) (some c) := by
  rw [cwStep_const, unpad_map, map_defined_of_ne_zero hN, length_unpad, convSame_length]

section seen
/-! One pass of the weighted smoother (`hg`: the geometry picks one iteration) with an odd window no wider than the
    padding on both sides, over weights of which those the kept windows see (`hb`) respect the ratio the window
    tolerates (`hratio`). -/
variable {n : Nat} {w : List Rat} {tw : Option Rat} {ww ord nIter : Nat} {coeffs : List Rat} {wing ww' ord' : Nat}
  {m M : Rat} (hw : w.length = n) (hg : savgolGeometry n tw ww ord nIter = .ok (wing, ww', ord', 1))
  (hodd : ww' % 2 = 1) (hlen : coeffs.length = ww')
  (hb : ∀ u ∈ ((rollOff (padArray w wing) wing).drop (wing - (ww' - 1) / 2)).take (n + 2 * ((ww' - 1) / 2)),
    m ≤ u ∧ u ≤ M)
  (hratio : M * winNeg (normalise coeffs) < m * winPos (normalise coeffs))
include hw hg hodd hlen hb hratio

/-- the kept windows lie inside the padded array, so no kept denominator vanishes -/
theorem kept_denominators_ne_zero :
    ∀ N ∈ unpad (convSame (normalise coeffs) (rollOff (padArray w wing) wing)) wing, N ≠ 0 := by
  have hhalf : (ww' - 1) / 2 ≤ wing := (Nat.one_mul _).symm.trans_le (savgolGeometry_reach hg)
  have hww : ww' = 2 * ((ww' - 1) / 2) + 1 := by omega
  exact fun N hN => ne_of_gt (unpad_convSame_pos_of_ratio _ _ _ wing n (by rw [normalise_length, hlen]; exact hww) hhalf
    (length_weights_of_geometry hg hw) m M hb hratio N hN)

theorem savgolWeighted_finite_of_ratio_seen {x : List Rat} {y : List (Option Rat)} (hn : x.length = n)
    (h : savgolWeighted x w tw ww ord nIter coeffs = .ok y) : ∀ v ∈ y, v.isSome := by
  subst hn
  rw [savgolWeighted_of_geometry hg h, iterate_one]
  exact unpad_cwStep_isSome _ _ _ wing (kept_denominators_ne_zero hw hg hodd hlen hb hratio)

theorem savgolWeighted_constant_of_ratio_seen {c : Rat} {y : List (Option Rat)}
    (h : savgolWeighted (List.replicate n c) w tw ww ord nIter coeffs = .ok y) : y = List.replicate n (some c) := by
  have hn : (List.replicate n c).length = n := List.length_replicate
  have hwl : (rollOff (padArray w wing) wing).length = n + 2 * wing := length_weights_of_geometry hg hw
  rw [savgolWeighted_of_geometry (hn.symm ▸ hg) h, iterate_one,
    padArray_replicate n wing c (Nat.le_of_succ_le (savgolGeometry_wing hg).2), List.map_replicate, ← hwl,
    unpad_cwStep_const _ _ c wing (kept_denominators_ne_zero hw hg hodd hlen hb hratio), hwl, Nat.add_sub_cancel]

end seen

/-- with the ratio asked of every rolled-off padded weight, not only of those the kept windows see (likewise below) -/
theorem savgolWeighted_finite_of_ratio (x w : List Rat) (tw : Option Rat) (ww ord nIter : Nat) (coeffs : List Rat)
    (y : List (Option Rat)) (hw : w.length = x.length) (hx : 2 ≤ x.length)
    (wing ww' ord' : Nat) (hg : savgolGeometry x.length tw ww ord nIter = .ok (wing, ww', ord', 1))
    (hodd : ww' % 2 = 1) (hlen : coeffs.length = ww') (hsum : coeffs.sum ≠ 0)
    (m M : Rat) (hb : ∀ u ∈ rollOff (padArray w wing) wing, m ≤ u ∧ u ≤ M)
    (hratio : M * winNeg (normalise coeffs) < m * winPos (normalise coeffs))
    (h : savgolWeighted x w tw ww ord nIter coeffs = .ok y) : ∀ v ∈ y, v.isSome :=
  savgolWeighted_finite_of_ratio_seen hw hg hodd hlen
    (fun u hu => hb u (List.mem_of_mem_drop (List.mem_of_mem_take hu))) hratio rfl h

theorem savgolWeighted_constant_of_ratio (n : Nat) (c : Rat) (w : List Rat) (tw : Option Rat) (ww ord nIter : Nat)
    (coeffs : List Rat) (y : List (Option Rat)) (hw : w.length = n) (hx : 2 ≤ n)
    (wing ww' ord' : Nat) (hg : savgolGeometry n tw ww ord nIter = .ok (wing, ww', ord', 1))
    (hodd : ww' % 2 = 1) (hlen : coeffs.length = ww') (hsum : coeffs.sum ≠ 0)
    (m M : Rat) (hb : ∀ u ∈ rollOff (padArray w wing) wing, m ≤ u ∧ u ≤ M)
    (hratio : M * winNeg (normalise coeffs) < m * winPos (normalise coeffs))
    (h : savgolWeighted (List.replicate n c) w tw ww ord nIter coeffs = .ok y) :
    y = List.replicate n (some c) :=
  savgolWeighted_constant_of_ratio_seen hw hg hodd hlen
    (fun u hu => hb u (List.mem_of_mem_drop (List.mem_of_mem_take hu))) hratio h

/-! ### the hypotheses can be met: the default geometry on eight uniform weights -/

example : savgolGeometry 8 none 7 3 1 = .ok (3, 7, 3, 1) := by decide +kernel
example : ∀ u ∈ rollOff (padArray [1, 1, 1, 1, 1, 1, 1, 1] 3) 3, (1 / 3 : Rat) ≤ u ∧ u ≤ 1 := by decide +kernel
example : (1 : Rat) * winNeg (normalise [-2/21, 3/21, 6/21, 7/21, 6/21, 3/21, -2/21]) <
    (1 / 3) * winPos (normalise [-2/21, 3/21, 6/21, 7/21, 6/21, 3/21, -2/21]) := by decide +kernel

end CnvVerif.Smooth
