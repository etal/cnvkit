/-
  `GenomicArray.by_arm` re-assembled from the expressions the translator reads off the current source
  (Generated/ExprsByArm.lean, regenerated from /repo on every run): `srcCmereIdx`, whose control flow, like the reading of
  a Python slice (`pySlice`), is written by hand after skgenome/gary.py and is trusted, and the value of every generated
  fragment on the arguments `by_arm` feeds it.  That the model's `cmereIdx` is `srcCmereIdx` is Props/C03Src.lean.
  The fragment lemmas end in `first | done | omega` so that an equivalent spelling of a fragment in the source keeps
  them green; the branch the present text does not need is what the linters switched off below would report.
-/
import CnvVerif.Generated.ExprsByArm
import CnvVerif.Model.Tile
import Mathlib.Data.Rat.Floor
import Mathlib.Tactic.Linarith
namespace CnvVerif.Src
set_option linter.unusedTactic false
set_option linter.unreachableTactic false
open CnvVerif CnvVerif.Generated

/-- Python `l[lo:hi]` (step 1): a negative bound counts from the end; bounds are clipped to the list -/
def pySlice {α} (l : List α) (lo hi : Int) : List α :=
  let n : Int := l.length
  let norm (x : Int) : Int := if x < 0 then max (n + x) 0 else min x n
  (l.drop (norm lo).toNat).take ((norm hi) - (norm lo)).toNat

/-- the body of `by_arm` for one chromosome, given `margin`: control flow by hand, expressions generated.
    Returns the row position where the chromosome is split (`0` = emitted whole). -/
def srcCmereIdx (starts ends : List Int) (minGap : Int) (margin : Nat) : Nat :=
  let n : Int := starts.length
  let m : Int := margin
  if src_by_arm_candidate m n then
    let gaps := ((pySlice starts (src_by_arm_starts_lo m) (src_by_arm_starts_hi m)).zip
                 (pySlice ends (src_by_arm_ends_lo m) (src_by_arm_ends_hi m))).map (fun p => p.1 - p.2)
    let idx := src_by_arm_idx (argmax gaps) m
    let size := gaps.getD (src_by_arm_size_pos idx m).toNat 0
    if src_by_arm_accept idx size minGap then (src_by_arm_p_hi idx).toNat else 0
  else
    if src_by_arm_accept src_by_arm_idx_else 0 minGap then (src_by_arm_p_hi src_by_arm_idx_else).toNat else 0

theorem pySlice_pos_neg {α} (l : List α) (lo k : Nat) (hk : 0 < k) (h : lo + k ≤ l.length) :
    pySlice l (lo : Int) (-(k : Int)) = (l.drop lo).take (l.length - k - lo) := by
  unfold pySlice
  simp only []
  rw [if_neg (Int.not_lt.mpr (Int.natCast_nonneg lo)), if_pos (Int.neg_neg_of_pos (Int.natCast_pos.mpr hk))]
  rw [min_eq_left (Int.ofNat_le.mpr (Nat.le_trans (Nat.le_add_right lo k) h)), ← Int.sub_eq_add_neg,
    ← Int.ofNat_sub (Nat.le_trans (Nat.le_add_left k lo) h), max_eq_left (Int.natCast_nonneg _),
    Int.toNat_natCast, Int.toNat_sub]

theorem candidate_nat (m n : Nat) : src_by_arm_candidate (m : Int) (n : Int) = decide (n > 2 * m + 1) := by
  unfold src_by_arm_candidate; rw [decide_eq_decide]
  first | done | omega

theorem accept_found (i m : Nat) (size minGap : Int) :
    src_by_arm_accept (src_by_arm_idx (i : Int) (m : Int)) size minGap = decide (size ≥ minGap) := by
  unfold src_by_arm_accept src_by_arm_idx; rw [decide_eq_decide]
  first | done | omega

theorem accept_else (minGap : Int) : src_by_arm_accept src_by_arm_idx_else 0 minGap = false := by
  unfold src_by_arm_accept src_by_arm_idx_else; rw [decide_eq_false_iff_not]
  first | done | omega

theorem found_positions (i m : Nat) :
    (src_by_arm_size_pos (src_by_arm_idx (i : Int) (m : Int)) (m : Int)).toNat = i ∧
      (src_by_arm_p_hi (src_by_arm_idx (i : Int) (m : Int))).toNat = i + m + 1 := by
  unfold src_by_arm_size_pos src_by_arm_idx src_by_arm_p_hi
  first | done | omega

/-- the two slices of `gaps = …`, for a positive margin (for margin 0 the Python slice `[1 : -0]` is empty) -/
theorem by_arm_slices (starts ends : List Int) (hlen : ends.length = starts.length) (m : Nat) (hm : 0 < m)
    (h : starts.length > 2 * m + 1) :
    pySlice starts (src_by_arm_starts_lo m) (src_by_arm_starts_hi m) =
        (starts.drop (m + 1)).take (starts.length - m - (m + 1)) ∧
      pySlice ends (src_by_arm_ends_lo m) (src_by_arm_ends_hi m) =
        (ends.drop m).take (starts.length - m - 1 - m) := by
  have h' : m + 1 + m ≤ starts.length := by omega
  rw [show src_by_arm_starts_lo m = ((m + 1 : Nat) : Int) by unfold src_by_arm_starts_lo; first | done | omega,
    show src_by_arm_starts_hi m = -(m : Int) by unfold src_by_arm_starts_hi; first | done | omega,
    show src_by_arm_ends_lo m = (m : Int) by unfold src_by_arm_ends_lo; first | done | omega,
    show src_by_arm_ends_hi m = -((m + 1 : Nat) : Int) by unfold src_by_arm_ends_hi; first | done | omega]
  refine ⟨pySlice_pos_neg starts (m + 1) m hm h', ?_⟩
  rw [← hlen] at h' ⊢
  exact pySlice_pos_neg ends m (m + 1) (Nat.succ_pos m) (Nat.add_comm m (m + 1) ▸ h')

/-- the two arms meet at the chosen position: `index[:cmere_idx]` and `index[cmere_idx:]` -/
theorem arms_meet (idx : Int) : src_by_arm_p_hi idx = idx ∧ src_by_arm_q_lo idx = idx := by
  unfold src_by_arm_p_hi src_by_arm_q_lo
  exact ⟨by omega, by omega⟩

end CnvVerif.Src
