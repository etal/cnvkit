/-
  Soundness of the may-alias analysis of Model/Alias.lean: when `taint chk a T = some T'`, no run of `a` started
  in a state where only the names in `T` hold caller objects performs a checked use of a caller object, and
  afterwards only the names in `T'` hold caller objects.  `taint` asks of a taint list only which names are
  in it, so the same analysis on bit masks (`taintB`) accepts exactly the same skeletons; that is the one evaluated over the
  generated table.
-/
import CnvVerif.Model.Alias
namespace CnvVerif.Alias

theorem subset_iff {a b : Taint} : subset a b = true ↔ ∀ x, x ∈ a → x ∈ b := by
  simp [subset, List.all_eq_true]

/-- only the names in `T` hold an object of the caller (objects `< n`); objects not yet allocated are not the caller's -/
def Inv (n : Nat) (T : Taint) (s : St) : Prop := (∀ x, s.env x < n → x ∈ T) ∧ n ≤ s.next

theorem Inv.mono {n : Nat} {T I : Taint} {s : St} (h : Inv n T s) (hs : ∀ x, x ∈ T → x ∈ I) : Inv n I s :=
  ⟨fun x hx => hs x (h.1 x hx), h.2⟩

/-- the checked uses of caller objects recorded so far -/
def callerEvents (chk : Kind → Bool) (n : Nat) (s : St) : List (Kind × Nat) :=
  s.events.filter (fun e => chk e.1 && decide (e.2 < n))

theorem mem_callerEvents {chk : Kind → Bool} {n : Nat} {s : St} {e : Kind × Nat} :
    e ∈ callerEvents chk n s ↔ e ∈ s.events ∧ chk e.1 = true ∧ e.2 < n := by
  simp [callerEvents, List.mem_filter]

theorem callerEvents_push {chk : Kind → Bool} {n : Nat} {s : St} {k : Kind} {o : Nat}
    (h : (chk k && decide (o < n)) = false) :
    callerEvents chk n { s with events := (k, o) :: s.events } = callerEvents chk n s := by
  simp [callerEvents, h]

/-- the two equations of `starFix` as one: only the last resort depends on the fuel -/
theorem starFix_eq (f : Taint → Option Taint) (fuel : Nat) (T : Taint) :
    starFix f fuel T = match f T with
      | some I' => if subset I' T then some T else match fuel with
        | 0 => none
        | k + 1 => starFix f k (T ++ I')
      | none => none := by
  cases fuel <;> rfl

theorem starFix_spec (f : Taint → Option Taint) (fuel : Nat) (T I : Taint) (h : starFix f fuel T = some I) :
    (∀ x, x ∈ T → x ∈ I) ∧ ∃ I', f I = some I' ∧ subset I' I = true := by
  induction fuel using Nat.strongRecOn generalizing T with
  | _ fuel ih =>
    rw [starFix_eq] at h
    split at h
    · rename_i I' hf
      split at h
      · rename_i hsub
        cases h
        exact ⟨fun _ hx => hx, I', hf, hsub⟩
      · split at h
        · cases h
        · obtain ⟨h1, h2⟩ := ih _ (Nat.lt_succ_self _) _ h
          exact ⟨fun x hx => h1 x (List.mem_append_left _ hx), h2⟩
    · cases h

theorem taint_star {chk : Kind → Bool} {a : ASt} {T I : Taint} (h : taint chk (.star a) T = some I) :
    (∀ x, x ∈ T → x ∈ I) ∧ taint chk (.star a) I = some I ∧
      ∃ I', taint chk a I = some I' ∧ ∀ x, x ∈ I' → x ∈ I := by
  obtain ⟨hTI, I', hf, hsub⟩ := starFix_spec _ _ _ _ h
  refine ⟨hTI, ?_, I', hf, subset_iff.mp hsub⟩
  rw [taint, starFix_eq, hf]; simp only [hsub, if_true]

theorem mem_bind {n : Nat} {T : Taint} {s : St} (h : ∀ y, s.env y < n → y ∈ T) (x : Name) (ys : List Name) {v : Nat}
    (hv : v < n → ys.any (fun y => T.contains y) = true) (z : Name) (hz : (s.set x v).env z < n) :
    z ∈ (if ys.any (fun y => T.contains y) then x :: T else T.filter (fun y => y != x)) := by
  by_cases hzx : z = x
  · simp [St.set, hzx] at hz
    rw [if_pos (hv hz), hzx]; exact List.mem_cons_self
  · simp [St.set, hzx] at hz
    split
    · exact List.mem_cons_of_mem _ (h z hz)
    · simp [List.mem_filter, h z hz, hzx]

theorem taint_sound (chk : Kind → Bool) (n : Nat) {a : ASt} {s s' : St} (hx : Exec a s s') :
    ∀ T T', taint chk a T = some T' → Inv n T s → Inv n T' s' ∧ callerEvents chk n s' = callerEvents chk n s := by
  induction hx with
  | nop s => intro T T' h hi; cases h; exact ⟨hi, rfl⟩
  | bindFresh x ys s =>
    intro T T' h hi
    cases h
    -- the new object is not the caller's
    exact ⟨⟨mem_bind hi.1 x ys fun hv => absurd hv (Nat.not_lt.mpr hi.2), Nat.le_succ_of_le hi.2⟩, rfl⟩
  | bindAlias x ys y s hy =>
    intro T T' h hi
    cases h
    exact ⟨⟨mem_bind hi.1 x ys fun hv => List.any_eq_true.mpr ⟨y, hy, by simpa using hi.1 y hv⟩, hi.2⟩, rfl⟩
  | use k ys y s hy =>
    intro T T' h hi
    simp only [taint] at h
    split at h
    · cases h
    · rename_i hc
      cases h
      -- a checked use of a caller object would have been refused: the name holding it is tainted
      refine ⟨hi, callerEvents_push (Bool.eq_false_iff.mpr fun hck => hc ?_)⟩
      rw [Bool.and_eq_true, decide_eq_true_iff] at hck
      rw [Bool.and_eq_true, List.any_eq_true]
      exact ⟨hck.1, y, hy, by simpa using hi.1 y hck.2⟩
  | useOther k ys s =>
    intro T T' h hi
    simp only [taint] at h
    split at h
    · cases h
    · cases h; exact ⟨hi, rfl⟩
  | seq _ _ ih₁ ih₂ =>
    intro T T' h hi
    simp only [taint] at h
    split at h
    · cases h
    · rename_i T₁ h₁
      obtain ⟨hi₁, e₁⟩ := ih₁ T T₁ h₁ hi
      obtain ⟨hi₂, e₂⟩ := ih₂ T₁ T' h hi₁
      exact ⟨hi₂, e₂.trans e₁⟩
  | altL _ ih =>
    intro T T' h hi
    simp only [taint] at h
    split at h
    · rename_i T₁ T₂ h₁ h₂
      cases h
      exact (ih T T₁ h₁ hi).imp_left (·.mono fun x hx => List.mem_append_left _ hx)
    · cases h
  | altR _ ih =>
    intro T T' h hi
    simp only [taint] at h
    split at h
    · rename_i T₁ T₂ h₁ h₂
      cases h
      exact (ih T T₂ h₂ hi).imp_left (·.mono fun x hx => List.mem_append_right _ hx)
    · cases h
  | starNil => intro T T' h hi; exact ⟨hi.mono (taint_star h).1, rfl⟩
  | starCons _ _ ih₁ ih₂ =>
    intro T T' h hi
    -- `T'` is a post-fixpoint of the body and the analysis of the loop from `T'` is `T'` again, so one round from `T'`
    -- lands inside `T'` and the remaining rounds are covered by the second induction hypothesis
    obtain ⟨hTI, hstar, I', hf, hsub⟩ := taint_star h
    obtain ⟨hi₁, e₁⟩ := ih₁ T' I' hf (hi.mono hTI)
    obtain ⟨hi₃, e₃⟩ := ih₂ T' T' hstar (hi₁.mono hsub)
    exact ⟨hi₃, e₃.trans e₁⟩

/-- `taint_sound` for one kind of use, read on the event list alone -/
theorem no_caller_event_of_taint (chk : Kind → Bool) (k : Kind) (hk : chk k = true) {a : ASt} {T : Taint}
    (h : (taint chk a T).isSome = true) (n : Nat) {s s' : St} (hs : ∀ x, s.env x < n → x ∈ T) (hn : n ≤ s.next)
    (hx : Exec a s s') : ∀ o, o < n → (k, o) ∈ s'.events → (k, o) ∈ s.events := by
  intro o ho hmem
  obtain ⟨T', hT⟩ := Option.isSome_iff_exists.mp h
  have e := (taint_sound chk n hx T T' hT ⟨hs, hn⟩).2
  have : (k, o) ∈ callerEvents chk n s' := mem_callerEvents.mpr ⟨hmem, hk, ho⟩
  exact (mem_callerEvents.mp (e ▸ this)).1

/-! ### the same analysis on bit masks

`taint` joins the branches of an `alt` by `T₁ ++ T₂` and the rounds of a loop by `I ++ I'`: after `k` branches in a
row the list is `2^k` times as long as the set it stands for, and evaluating `taint` on the larger generated skeletons
takes minutes.  `taintB` keeps the set as a number (bit `x` = name `x`), so that every set operation is one step of the
kernel's arithmetic; the two agree on every skeleton (`taintB_agree`). -/

/-- the set of names as a number: bit `x` is set when `x` is in the list -/
def maskOf (ys : List Name) : Nat := ys.foldl (fun m y => m ||| 2 ^ y) 0

def starFixB (f : Nat → Option Nat) : Nat → Nat → Option Nat
  | 0, I => match f I with
    | some I' => if I' ||| I == I then some I else none
    | none => none
  | fuel + 1, I => match f I with
    | some I' => if I' ||| I == I then some I else starFixB f fuel (I ||| I')
    | none => none

def taintB (chk : Kind → Bool) : ASt → Nat → Option Nat
  | .nop, T => some T
  | .bind x ys, T => some (if ys.any T.testBit then T ||| 2 ^ x else T ^^^ (T &&& 2 ^ x))
  | .use k ys, T => if chk k && ys.any T.testBit then none else some T
  | .seq a b, T => match taintB chk a T with
    | none => none
    | some T₁ => taintB chk b T₁
  | .alt a b, T => match taintB chk a T, taintB chk b T with
    | some T₁, some T₂ => some (T₁ ||| T₂)
    | _, _ => none
  | .star a, T => starFixB (taintB chk a) (binds a + 1) T

/-- the mask `B` stands for the list `T` -/
def Rep (T : Taint) (B : Nat) : Prop := ∀ x, x ∈ T ↔ B.testBit x = true

theorem rep_maskOf (l : Taint) : Rep l (maskOf l) := by
  have : ∀ m x, (l.foldl (fun m y => m ||| 2 ^ y) m).testBit x = true ↔ m.testBit x = true ∨ x ∈ l := by
    induction l with
    | nil => simp
    | cons a t ih => intro m x; simp [ih, Nat.testBit_two_pow, or_assoc, eq_comm (a := a)]
  intro x; simp [maskOf, this]

theorem Rep.any {T : Taint} {B : Nat} (h : Rep T B) (ys : List Name) :
    ys.any (fun y => T.contains y) = ys.any B.testBit := by
  congr 1; funext y; rw [Bool.eq_iff_iff, List.contains_iff_mem]; exact h y

theorem Rep.subset {a b : Taint} {A B : Nat} (ha : Rep a A) (hb : Rep b B) : subset a b = (A ||| B == B) := by
  rw [Bool.eq_iff_iff, subset_iff, beq_iff_eq]
  constructor
  · intro h
    refine Nat.eq_of_testBit_eq fun i => ?_
    rw [Nat.testBit_or, Bool.or_eq_right_iff_imp]
    exact fun hi => (hb i).mp (h i ((ha i).mpr hi))
  · intro h x hx
    rw [hb x, ← h, Nat.testBit_or, (ha x).mp hx, Bool.true_or]

theorem Rep.or {a b : Taint} {A B : Nat} (ha : Rep a A) (hb : Rep b B) : Rep (a ++ b) (A ||| B) := fun x => by
  rw [List.mem_append, Nat.testBit_or, Bool.or_eq_true, ha x, hb x]

theorem starFixB_eq (f : Nat → Option Nat) (fuel : Nat) (T : Nat) :
    starFixB f fuel T = match f T with
      | some I' => if I' ||| T == T then some T else match fuel with
        | 0 => none
        | k + 1 => starFixB f k (T ||| I')
      | none => none := by
  cases fuel <;> rfl

theorem starFix_agree {f : Taint → Option Taint} {g : Nat → Option Nat}
    (hfg : ∀ T U, Rep T U → Option.Rel Rep (f T) (g U)) (fuel : Nat) :
    ∀ T U, Rep T U → Option.Rel Rep (starFix f fuel T) (starFixB g fuel U) := by
  induction fuel using Nat.strongRecOn with
  | _ fuel ih =>
    intro T U h
    have := hfg T U h
    rw [starFix_eq, starFixB_eq]
    generalize f T = o, g U = o' at this
    cases this with
    | none => exact .none
    | @some T' U' this =>
      simp only [this.subset h]
      split
      · exact .some h
      · cases fuel with
        | zero => exact .none
        | succ k => exact ih k (Nat.lt_succ_self k) _ _ (h.or this)

/-- every rule of `taint` reads its taint list through `contains` only and builds the new list from the old by
    `::`, `filter` and the join, all of which respect membership -/
theorem taintB_agree (chk : Kind → Bool) (a : ASt) :
    ∀ T U, Rep T U → Option.Rel Rep (taint chk a T) (taintB chk a U) := by
  induction a with
  | nop => exact fun T U h => .some h
  | bind x ys =>
    intro T U h
    simp only [taint, taintB, h.any]
    refine .some fun z => ?_
    split <;> simp [h z, Nat.testBit_two_pow, eq_comm (a := x), or_comm]
  | use k ys =>
    intro T U h
    simp only [taint, taintB, h.any]
    split
    · exact .none
    · exact .some h
  | seq a b iha ihb =>
    intro T U h
    have := iha T U h
    simp only [taint, taintB]
    generalize taint chk a T = o, taintB chk a U = o' at this
    cases this with
    | none => exact .none
    | some h₁ => exact ihb _ _ h₁
  | alt a b iha ihb =>
    intro T U h
    have h₁ := iha T U h
    have h₂ := ihb T U h
    simp only [taint, taintB]
    generalize taint chk a T = o₁, taintB chk a U = o₁', taint chk b T = o₂, taintB chk b U = o₂' at h₁ h₂
    cases h₁ with
    | none => exact .none
    | some r₁ =>
      cases h₂ with
      | none => exact .none
      | some r₂ => exact .some (r₁.or r₂)
  | star a ih => exact fun T U h => starFix_agree ih _ T U h

/-- `Fn.respectsSummary`, computed on bit masks -/
def Fn.respectsSummaryB (f : Fn) : Bool :=
  (taintB (fun k => k == .mut) f.body (maskOf (without f.params f.writes))).isSome &&
  (taintB (fun k => k == .ret) f.body (maskOf (without f.params f.returns))).isSome

theorem isSome_eq_of_rel {o : Option Taint} {o' : Option Nat} (h : Option.Rel Rep o o') : o.isSome = o'.isSome := by
  cases h <;> rfl

theorem respectsSummary_eq (f : Fn) : f.respectsSummary = f.respectsSummaryB := by
  simp only [Fn.respectsSummary, Fn.respectsSummaryB, isSome_eq_of_rel (taintB_agree _ f.body _ _ (rep_maskOf _))]

end CnvVerif.Alias
