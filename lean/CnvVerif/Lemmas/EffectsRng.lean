/-
  The RNG skeleton analysis of C10 (Model/Effects.lean (ii)).  A straight-line run is safe when every draw comes after a
  constant re-seeding, and then its draws do not depend on the generator state (`draws_of_safe`); `safeSk` is sound for
  every path through a skeleton (`safeSk_sound`) and exact: its value is the outcome of some complete path
  (`safeSk_attained`), so a rejection always comes with a path that draws first.  Last, the list fact by which the
  library-level RNG table covers the source-level one (`all_any_of_map_eq`).  Core Lean only.
-/
import CnvVerif.Model.Effects
namespace CnvVerif.Effects

/-- being seeded on entry can only help -/
theorem safe_le (l : List ROp) {b b' : Bool} (hb : b = true → b' = true) :
    (safeOps l b = true → safeOps l b' = true) ∧ (flagAfter l b = true → flagAfter l b' = true) := by
  induction l generalizing b b' with
  | nil => exact ⟨id, hb⟩
  | cons o r ih =>
    cases o with
    | seed c => cases c <;> exact ⟨id, id⟩
    | draw k =>
      simp only [safeOps, Bool.and_eq_true]
      exact ⟨fun ⟨h1, h2⟩ => ⟨hb h1, (ih hb).1 h2⟩, (ih hb).2⟩

theorem safeOps_append (l₁ l₂ : List ROp) (b : Bool) :
    safeOps (l₁ ++ l₂) b = (safeOps l₁ b && safeOps l₂ (flagAfter l₁ b)) := by
  induction l₁ generalizing b with
  | nil => simp [safeOps, flagAfter]
  | cons o r ih =>
    cases o with
    | seed c => cases c <;> simp [safeOps, flagAfter, ih]
    | draw k => simp [safeOps, flagAfter, ih, Bool.and_assoc]

theorem flagAfter_append (l₁ l₂ : List ROp) (b : Bool) : flagAfter (l₁ ++ l₂) b = flagAfter l₂ (flagAfter l₁ b) := by
  induction l₁ generalizing b with
  | nil => rfl
  | cons o r ih =>
    cases o with
    | seed c => cases c <;> simp [flagAfter, ih]
    | draw k => simp [flagAfter, ih]

/-- the soundness claim passes to a concatenation when the second part is analysed from a state the first part does
    not fall below -/
theorem safe_append {l₁ l₂ : List ROp} {b c b' : Bool} (s1 : safeOps l₁ b = true)
    (hle : c = true → flagAfter l₁ b = true) (h2 : safeOps l₂ c = true ∧ (b' = true → flagAfter l₂ c = true)) :
    safeOps (l₁ ++ l₂) b = true ∧ (b' = true → flagAfter (l₁ ++ l₂) b = true) := by
  rw [safeOps_append, flagAfter_append, s1, Bool.true_and]
  exact ⟨(safe_le l₂ hle).1 h2.1, fun hb' => (safe_le l₂ hle).2 (h2.2 hb')⟩

/-- a prefix of a safe sequence is safe (early return, exception) -/
theorem safeOps_prefix {t l : List ROp} (h : t <+: l) (b : Bool) : safeOps l b = true → safeOps t b = true := by
  obtain ⟨r, rfl⟩ := h
  rw [safeOps_append, Bool.and_eq_true]
  exact fun h => h.1

/-- once every draw happens after a constant re-seeding, the values drawn and (if the path ends seeded) the generator
    state left behind do not depend on the state before the call -/
theorem draws_of_safe {σ ν : Type} (g : Gen σ ν) (l : List ROp) (b : Bool) (s₁ s₂ : σ)
    (hs : b = true → s₁ = s₂) (h : safeOps l b = true) :
    draws g l s₁ = draws g l s₂ ∧ (flagAfter l b = true → finalState g l s₁ = finalState g l s₂) := by
  induction l generalizing b s₁ s₂ with
  | nil => exact ⟨rfl, fun hb => hs hb⟩
  | cons o r ih =>
    cases o with
    | seed c =>
      cases c with
      | none =>
        -- an unknown re-seeding drops the flag to false: nothing is asked of the two states
        exact ih false (g.other s₁) (g.other s₂) (fun hb => Bool.noConfusion hb) h
      | some c => exact ih true (g.reseed c) (g.reseed c) (fun _ => rfl) h
    | draw k =>
      rw [safeOps, Bool.and_eq_true] at h
      obtain rfl := hs h.1
      exact ⟨rfl, fun _ => rfl⟩

theorem safeSk_seq_inv {x y : Sk} {b b' : Bool} (h : safeSk (.seq x y) b = some b') :
    ∃ b1, safeSk x b = some b1 ∧ safeSk y b1 = some b' := by
  rw [safeSk] at h
  split at h
  · cases h
  · exact ⟨_, ‹_›, h⟩

theorem safeSk_alt_inv {x y : Sk} {b b' : Bool} (h : safeSk (.alt x y) b = some b') :
    ∃ b1 b2, safeSk x b = some b1 ∧ safeSk y b = some b2 ∧ b' = (b1 && b2) := by
  rw [safeSk] at h
  split at h
  · exact ⟨_, _, ‹_›, ‹_›, (Option.some.inj h).symm⟩
  · cases h

theorem safeSk_star_inv {x : Sk} {b b' : Bool} (h : safeSk (.star x) b = some b') :
    ∃ b1 b2, safeSk x b = some b1 ∧ safeSk x (b && b1) = some b2 ∧ b' = (b && b1) := by
  rw [safeSk] at h
  split at h
  · cases h
  · split at h
    · cases h
    · exact ⟨_, _, ‹_›, ‹_›, (Option.some.inj h).symm⟩

/-- the loop-head state `b && b1` is a fixed point of the analysis of the loop -/
theorem safeSk_star_fixed {x : Sk} {b b1 b2 : Bool} (h1 : safeSk x b = some b1) (h2 : safeSk x (b && b1) = some b2) :
    safeSk (.star x) (b && b1) = some (b && b1) := by
  cases hc : (b && b1) with
  | false => rw [hc] at h2; simp only [safeSk, h2, Bool.false_and]
  | true =>
    obtain ⟨rfl, rfl⟩ := Bool.and_eq_true_iff.mp hc
    simp only [safeSk, h1, Bool.and_self]

theorem safeSk_sound {sk : Sk} {l : List ROp} (hp : Path sk l) :
    ∀ b b', safeSk sk b = some b' → safeOps l b = true ∧ (b' = true → flagAfter l b = true) := by
  induction hp with
  | nop => intro b b' h; simp [safeSk] at h; subst h; exact ⟨rfl, fun h => h⟩
  | op o =>
    intro b b' h
    cases o with
    | seed c => cases c <;> simp [safeSk] at h <;> subst h <;> simp [safeOps, flagAfter]
    | draw k =>
      cases b <;> simp [safeSk] at h
      subst h; simp [safeOps, flagAfter]
  | @seq a c l₁ l₂ _ _ ih₁ ih₂ =>
    intro b b' h
    obtain ⟨b1, h1, h2⟩ := safeSk_seq_inv h
    obtain ⟨s1, f1⟩ := ih₁ b b1 h1
    exact safe_append s1 f1 (ih₂ b1 b' h2)
  | @altL a c l _ ih =>
    intro b b' h
    obtain ⟨b1, b2, h1, _, rfl⟩ := safeSk_alt_inv h
    obtain ⟨s1, f1⟩ := ih b b1 h1
    exact ⟨s1, fun hb' => f1 (Bool.and_eq_true_iff.mp hb').1⟩
  | @altR a c l _ ih =>
    intro b b' h
    obtain ⟨b1, b2, _, h2, rfl⟩ := safeSk_alt_inv h
    obtain ⟨s1, f1⟩ := ih b b2 h2
    exact ⟨s1, fun hb' => f1 (Bool.and_eq_true_iff.mp hb').2⟩
  | @starNil a =>
    intro b b' h
    obtain ⟨b1, _, _, _, rfl⟩ := safeSk_star_inv h
    exact ⟨rfl, fun hb' => (Bool.and_eq_true_iff.mp hb').1⟩
  | @starCons a l₁ l₂ _ _ ih₁ ih₂ =>
    intro b b' h
    obtain ⟨b1, b2, h1, h2, rfl⟩ := safeSk_star_inv h
    obtain ⟨s1, f1⟩ := ih₁ b b1 h1
    -- the rest of the loop is analysed from the loop-head state, which the first round does not fall below
    exact safe_append s1 (fun hc => f1 (Bool.and_eq_true_iff.mp hc).2)
      (ih₂ (b && b1) (b && b1) (safeSk_star_fixed h1 h2))

theorem draws_independent_of_state {σ ν : Type} (g : Gen σ ν) {sk : Sk} {b' : Bool}
    (hsafe : safeSk sk false = some b') {l t : List ROp} (hp : Path sk l) (ht : t <+: l) (s₁ s₂ : σ) :
    draws g t s₁ = draws g t s₂ :=
  (draws_of_safe g t false s₁ s₂ (by simp) (safeOps_prefix ht false (safeSk_sound hp false b' hsafe).1)).1

theorem draws_independent_of_table {σ ν : Type} (g : Gen σ ν) {T : List (String × Bool × Sk)}
    (hT : T.all (fun e => !e.2.1 || (safeSk e.2.2 false).isSome) = true) {e : String × Bool × Sk} (he : e ∈ T)
    (hpub : e.2.1 = true) {l t : List ROp} (hp : Path e.2.2 l) (ht : t <+: l) (s₁ s₂ : σ) :
    draws g t s₁ = draws g t s₂ := by
  have h := List.all_eq_true.mp hT e he
  rw [hpub] at h
  obtain ⟨b', hb'⟩ := Option.isSome_iff_exists.mp h
  exact draws_independent_of_state g hb' hp ht s₁ s₂

/-- what one straight-line run tells: `none` if it draws before a constant re-seeding, else whether it leaves the
    generator seeded (the analysis `safeSk` takes its values in the same type) -/
def outcome (l : List ROp) (b : Bool) : Option Bool := if safeOps l b then some (flagAfter l b) else none

theorem outcome_append (l₁ l₂ : List ROp) (b : Bool) :
    outcome (l₁ ++ l₂) b = (outcome l₁ b).bind (outcome l₂) := by
  unfold outcome
  rw [safeOps_append, flagAfter_append]
  cases safeOps l₁ b <;> rfl

theorem outcome_eq_none {l : List ROp} {b : Bool} : outcome l b = none ↔ safeOps l b = false := by
  unfold outcome
  cases safeOps l b <;> simp

theorem safeSk_attained (sk : Sk) : ∀ b, ∃ l, Path sk l ∧ outcome l b = safeSk sk b := by
  induction sk with
  | nop => exact fun b => ⟨[], .nop, rfl⟩
  | op o =>
    intro b
    refine ⟨[o], .op o, ?_⟩
    cases o with
    | seed c => cases c <;> rfl
    | draw k => cases b <;> rfl
  | seq x y ihx ihy =>
    intro b
    obtain ⟨l1, p1, h1⟩ := ihx b
    cases hx : safeSk x b with
    | none =>
      obtain ⟨l2, p2, _⟩ := ihy b
      exact ⟨l1 ++ l2, .seq p1 p2, by simp only [outcome_append, h1, safeSk, hx, Option.bind_none]⟩
    | some b1 =>
      obtain ⟨l2, p2, h2⟩ := ihy b1
      exact ⟨l1 ++ l2, .seq p1 p2, by simp only [outcome_append, h1, safeSk, hx, Option.bind_some, h2]⟩
  | alt x y ihx ihy =>
    intro b
    obtain ⟨l1, p1, h1⟩ := ihx b
    obtain ⟨l2, p2, h2⟩ := ihy b
    -- the branch with the smaller outcome gives the value
    cases hx : safeSk x b with
    | none => exact ⟨l1, .altL p1, by simp only [h1, safeSk, hx]⟩
    | some b1 =>
      cases hy : safeSk y b with
      | none => exact ⟨l2, .altR p2, by simp only [h2, safeSk, hx, hy]⟩
      | some b2 =>
        cases b1 with
        | false => exact ⟨l1, .altL p1, by simp only [h1, safeSk, hx, hy, Bool.false_and]⟩
        | true => exact ⟨l2, .altR p2, by simp only [h2, safeSk, hx, hy, Bool.true_and]⟩
  | star x ih =>
    intro b
    obtain ⟨l1, p1, h1⟩ := ih b
    cases hx : safeSk x b with
    | none => exact ⟨l1 ++ [], .starCons p1 .starNil, by simp only [List.append_nil, h1, safeSk, hx]⟩
    | some b1 =>
      cases b with
      | false =>
        -- from an unseeded state no round can do worse than none at all
        exact ⟨[], .starNil, by simp only [safeSk, hx, Bool.false_and]; rfl⟩
      | true =>
        -- one round leaves `b1`; a second round from `b1` is what the analysis looks at
        obtain ⟨l2, p2, h2⟩ := ih b1
        cases hx2 : safeSk x b1 with
        | none =>
          exact ⟨l1 ++ (l2 ++ []), .starCons p1 (.starCons p2 .starNil), by
            simp only [List.append_nil, outcome_append, h1, safeSk, hx, Bool.true_and, hx2, Option.bind_some, h2]⟩
        | some b2 =>
          exact ⟨l1 ++ [], .starCons p1 .starNil, by simp only [List.append_nil, h1, safeSk, hx, Bool.true_and, hx2]⟩

theorem safeSk_exact {sk : Sk} (h : safeSk sk false = none) : ∃ l, Path sk l ∧ safeOps l false = false := by
  obtain ⟨l, hp, hl⟩ := safeSk_attained sk false
  exact ⟨l, hp, outcome_eq_none.mp (hl.trans h)⟩

theorem all_any_of_map_eq {α κ : Type} [BEq κ] [ReflBEq κ] (k : α → κ) {l l' : List α} (h : l.map k = l'.map k) :
    l.all (fun e => l'.any (fun x => k x == k e)) = true := by
  rw [List.all_eq_true]
  intro e he
  obtain ⟨x, hx, hxe⟩ := List.mem_map.mp (h ▸ List.mem_map_of_mem he)
  exact List.any_eq_true.mpr ⟨x, hx, by rw [hxe]; exact BEq.rfl⟩

end CnvVerif.Effects
