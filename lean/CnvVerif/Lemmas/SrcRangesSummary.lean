/-
  What the arguments and codes of the translator's reading of the summary cascade of `into_ranges`
  (Generated/ExprsRanges.lean, regenerated from /repo on every run) stand for; the tie itself is
  Props/C07SrcSummary.lean.
-/
import CnvVerif.Generated.ExprsRanges
import CnvVerif.Model.RangesExt
namespace CnvVerif.Src
open CnvVerif CnvVerif.Generated

/-- `isinstance(elem, (str, np.string_))` on the first cell of the column (intersect.into_ranges) -/
def Val.isStr : Val → Bool
  | .str _ => true
  | _ => false
/-- `isinstance(elem, (float, np.float64))`: a finite float or NaN -/
def Val.isFloat : Val → Bool
  | .num _ => true
  | .nan => true
  | _ => false
/-- `summary_func is None` -/
def Summary.isNone : Summary → Bool
  | .auto => true
  | _ => false
/-- `callable(summary_func)` -/
def Summary.isCallable : Summary → Bool
  | .func _ => true
  | _ => false

/-- the function each code of the generated cascade stands for -/
def summaryOfCode (s : Summary) : Nat → List Val → Val
  | 0 => joinVals
  | 1 => nanMedian
  | 2 => firstOf
  | 3 => (match s with | .const v => makeConst v | _ => firstOf)
  | _ => (match s with | .func f => f | _ => firstOf)

end CnvVerif.Src
