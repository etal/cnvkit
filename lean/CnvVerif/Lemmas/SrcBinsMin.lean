/-
  C12: `do_antitarget`'s minimum size -- the hand-written model equals the expression the translators read off the current source
  (Generated/ExprsBins.lean, regenerated from /repo on every run by harness/extractors/exprs_bins.py): the minimum size
  handed on, and the default `2 * int(avg * 2**MIN_REF_COVERAGE)` in the translator's words.  The ties themselves are in
  Props/C12SrcMin.lean.
-/
import CnvVerif.Generated.ExprsBins
import CnvVerif.Model.Bins
import CnvVerif.Lemmas.SrcInt
import Mathlib.Tactic.Linarith
import Mathlib.Tactic.SplitIfs
import Mathlib.Tactic.Ring
namespace CnvVerif.Src
open CnvVerif CnvVerif.Generated

/-- the minimum size `do_antitarget` hands on to `get_antitargets` -/
def effectiveMinSize (avg : Rat) (mn : Option Int) : Int :=
  match mn with
  | some m => if m == 0 then defaultMinSize avg else m
  | none => defaultMinSize avg

/-- the model's `truncRat` is Python's `int(·)` -/
theorem truncRat_cast (q : Rat) : ((truncRat q : Int) : Rat) = pyInt q := by
  unfold truncRat pyInt
  by_cases h : q < 0
  · rw [if_pos h, if_neg (not_le.mpr h)]
  · rw [if_neg h, if_pos (not_lt.mp h)]

/-- `2 * int(avg * 2**MIN_REF_COVERAGE)` as the translator renders it -/
theorem defaultMinSize_cast (avg : Rat) :
    ((defaultMinSize avg : Int) : Rat) = (2 : Rat) * pyInt (avg * ((1 : Rat) / 32)) := by
  unfold defaultMinSize ANTI_MIN_FACTOR ANTI_MIN_SCALE
  rw [Int.cast_mul, truncRat_cast]
  rfl

end CnvVerif.Src
