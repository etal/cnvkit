/-
  The thresholds `load_het_snps` falls back to when the normal carries no genotype are the translator's constant
  `Generated.lhsFallbackZygFreq` (Generated/VcfConsts.lean); the other literals are compared in Props/C18Lits.lean.
  Apart from Lemmas/VcfTable.lean so that only the literal obligations rest on the generated file.
-/
import CnvVerif.Model.Vcf
import CnvVerif.Generated.VcfConsts
namespace CnvVerif.Vcf
open CnvVerif

theorem effectiveZygFreq_fallback (o : HetOpts) (tb : VTable) (hz : o.zygFreq = none)
    (hp : tb.paired = true) (hn : normalUntyped tb.rows = true) :
    effectiveZygFreq o tb = some (Generated.lhsFallbackZygFreq, 1 - Generated.lhsFallbackZygFreq) := by
  unfold effectiveZygFreq
  rw [hz]
  simp only [hp, hn, Bool.and_self, if_true]
  decide +kernel

end CnvVerif.Vcf
