/-
  The hand-written models of the chromosomal-sex code equal the expressions the translator reads off the current
  source (Generated/ExprsSex.lean, regenerated from /repo's cnvlib/cnary.py on every run).
-/
import CnvVerif.Generated.ExprsSex
import CnvVerif.Model.SexExt
import CnvVerif.Lemmas.Call
namespace CnvVerif.Src
open CnvVerif CnvVerif.Generated

/-- `chr_x_filter(diploid_parx_genome)`, with `parx_filter` = on X and inside PAR1X/PAR2X -/
def xFilterSrc (first : String) (par : Option String) (b : CBin) : Bool :=
  match par with
  | some g => src_sex_chr_x_filter_par (b.chrom == xLabel first)
                (b.chrom == xLabel first && inPar g "PAR1X" "PAR2X" b.s b.e)
  | none => src_sex_chr_x_filter (b.chrom == xLabel first)

/-- `chr_y_filter(diploid_parx_genome)`, with `pary_filter` = on Y and inside PAR1Y/PAR2Y -/
def yFilterSrc (first : String) (par : Option String) (b : CBin) : Bool :=
  match par with
  | some g => src_sex_chr_y_filter_par (b.chrom == yLabel first)
                (b.chrom == yLabel first && inPar g "PAR1Y" "PAR2Y" b.s b.e)
  | none => src_sex_chr_y_filter (b.chrom == yLabel first)

theorem classX_is_source (first : String) (par : Option String) (b : CBin) :
    (classOf first par b.chrom b.s b.e == .x) = xFilterSrc first par b := by
  unfold classOf xFilterSrc src_sex_chr_x_filter_par src_sex_chr_x_filter
  cases par with
  | none => cases (b.chrom == xLabel first) <;> cases (b.chrom == yLabel first) <;> rfl
  | some g =>
    dsimp only
    cases (b.chrom == xLabel first) <;> cases (b.chrom == yLabel first) <;>
      cases inPar g "PAR1X" "PAR2X" b.s b.e <;> cases inPar g "PAR1Y" "PAR2Y" b.s b.e <;> rfl

theorem classY_is_source (first : String) (par : Option String) (b : CBin) :
    (classOf first par b.chrom b.s b.e == .y) = yFilterSrc first par b := by
  unfold classOf yFilterSrc src_sex_chr_y_filter_par src_sex_chr_y_filter
  cases hX : (b.chrom == xLabel first)
  · cases par with
    | none => cases (b.chrom == yLabel first) <;> rfl
    | some g =>
      dsimp only
      cases (b.chrom == yLabel first) <;> cases inPar g "PAR1Y" "PAR2Y" b.s b.e <;> rfl
  · -- a bin on X is not on Y: the two labels differ
    have hne : (b.chrom == yLabel first) = false := by simpa [hX] using onX_and_onY_false first b.chrom
    rw [hne]
    cases par with
    | none => rfl
    | some g =>
      dsimp only
      cases inPar g "PAR1X" "PAR2X" b.s b.e <;> rfl

theorem xShifts_is_source (hapX : Bool) : xShifts hapX = src_x_shifts hapX := by
  cases hapX <;> rfl

theorem yShifts_is_source : yShifts = src_y_shifts := rfl

theorem sexScore_is_source (x : Rat) (y : Option Rat) : sexScore x y = src_combined_score x y := by
  cases y <;> rfl

theorem isMale_decision_is_source (score : Rat) : decide (score > 1) = true ↔ src_is_male score := by
  unfold src_is_male
  simp

end CnvVerif.Src
