/-
  flatten on one chromosome's rows: the overlap groups partition the sorted rows, every group lies in and covers one
  interval (its `Hull`, the invariant of the grouping walk) and the groups are apart; inside a group the pieces run
  between consecutive distinct boundaries.
-/
import CnvVerif.Model.Interval
import CnvVerif.Model.IntervalSpec
import CnvVerif.Lemmas.Interval
import CnvVerif.Lemmas.Basic
namespace CnvVerif

/-- the flattened rows of one chromosome (`_flatten_overlapping` on rows sorted by start) -/
def flattenChrom (l : List Row) : List Row := (overlapGroups l).flatMap flattenGroup

theorem fc_mem_sortDedupInts (l : List Int) (x : Int) : x ∈ sortDedupInts l ↔ x ∈ l := by
  unfold sortDedupInts
  rw [List.mem_eraseDups, List.mem_mergeSort]

theorem fc_sortDedupInts_strict (l : List Int) : (sortDedupInts l).Pairwise (fun a b => a < b) := by
  unfold sortDedupInts
  apply eraseDups_strict
  exact pairwise_mergeSort_key id l

/-- the pieces between consecutive, strictly increasing breaks tile `[min, max)` -/
theorem fc_pieces_cov (f : Int × Int → Row) (hf : ∀ q, (f q).s = q.1 ∧ (f q).e = q.2)
    (b : List Int) (hb : b.Pairwise (fun a b => a < b)) (p : Int) :
    cov ((b.zip (b.drop 1)).map f) p ↔ (∃ u ∈ b, u ≤ p) ∧ (∃ v ∈ b, p < v) := by
  cases b with
  | nil => simp [cov]
  | cons x rest =>
    have hle : (x :: rest).Pairwise (fun a b => a ≤ b) := hb.imp Int.le_of_lt
    rw [List.drop_one, List.tail_cons, (tiles_breaks f hf x rest hle).cov]
    -- the first break is the least, the last one the greatest
    constructor
    · rintro ⟨h1, h2⟩
      exact ⟨⟨x, List.mem_cons_self, h1⟩, ⟨_, List.getLast_mem _, h2⟩⟩
    · rintro ⟨⟨u, hu, h1⟩, ⟨v, hv, h2⟩⟩
      have h3 : x ≤ u := by
        rcases List.mem_cons.mp hu with rfl | hu
        · exact Int.le_refl _
        · exact (List.pairwise_cons.mp hle).1 u hu
      have h4 := rel_getLast_of_pairwise _ (List.cons_ne_nil x rest) hle v hv
      omega

/-- a piece runs between two consecutive breaks: nothing lies strictly inside it -/
theorem fc_pieces_mem (f : Int × Int → Row) (hf : ∀ q, (f q).s = q.1 ∧ (f q).e = q.2)
    (b : List Int) (hb : b.Pairwise (fun a b => a < b)) (z : Row)
    (hz : z ∈ (b.zip (b.drop 1)).map f) :
    z.s ∈ b ∧ z.e ∈ b ∧ z.s < z.e ∧ ∀ u ∈ b, u ≤ z.s ∨ z.e ≤ u := by
  -- along the breaks: the first piece is `(x, y)` with every other break at or after `y`; a later piece starts at or
  -- after `y`, so `x` lies before it
  induction b with
  | nil => simp at hz
  | cons x t ih =>
    cases t with
    | nil => simp at hz
    | cons y rest =>
      obtain ⟨hx, ht⟩ := List.pairwise_cons.mp hb
      have hxy := hx y (by simp)
      obtain ⟨hy, _⟩ := List.pairwise_cons.mp ht
      rw [List.drop_one, List.tail_cons, List.zip_cons_cons, List.map_cons] at hz
      rcases List.mem_cons.mp hz with h | h
      · subst h
        rw [(hf _).1, (hf _).2]
        refine ⟨by simp, by simp, hxy, ?_⟩
        intro u hu
        rcases List.mem_cons.mp hu with h | h
        · left; show u ≤ x; omega
        · right
          show y ≤ u
          rcases List.mem_cons.mp h with h' | h'
          · omega
          · have := hy u h'; omega
      · obtain ⟨h1, h2, h3, h4⟩ := ih ht h
        refine ⟨List.mem_cons_of_mem _ h1, List.mem_cons_of_mem _ h2, h3, ?_⟩
        intro u hu
        rcases List.mem_cons.mp hu with h' | h'
        · left
          subst h'
          rcases List.mem_cons.mp h1 with h'' | h''
          · omega
          · have := hy _ h''; omega
        · exact h4 u h'

theorem fc_pieces_pairwise (f : Int × Int → Row) (hf : ∀ q, (f q).s = q.1 ∧ (f q).e = q.2)
    (b : List Int) (hb : b.Pairwise (fun a b => a < b)) :
    ((b.zip (b.drop 1)).map f).Pairwise (fun a c => a.e ≤ c.s) := by
  cases b with
  | nil => exact List.Pairwise.nil
  | cons x rest => exact (tiles_breaks f hf x rest (hb.imp Int.le_of_lt)).pairwise

def fcBreaks (g : List Row) : List Int := sortDedupInts (g.flatMap (fun r => [r.s, r.e]))

theorem fc_mem_breaks (g : List Row) (u : Int) : u ∈ fcBreaks g ↔ ∃ r ∈ g, u = r.s ∨ u = r.e := by
  unfold fcBreaks
  rw [fc_mem_sortDedupInts, List.mem_flatMap]
  simp

theorem fc_breaks_strict (g : List Row) : (fcBreaks g).Pairwise (fun a b => a < b) :=
  fc_sortDedupInts_strict _

theorem fc_flattenGroup_cases (g : List Row) :
    (g = [] ∧ flattenGroup g = []) ∨ (∃ r, g = [r] ∧ flattenGroup g = [r]) ∨
    ∃ f : Int × Int → Row, (∀ q, (f q).s = q.1 ∧ (f q).e = q.2) ∧
      flattenGroup g = ((fcBreaks g).zip ((fcBreaks g).drop 1)).map f := by
  unfold flattenGroup
  split
  · left; exact ⟨rfl, rfl⟩
  · right; left; exact ⟨_, rfl, rfl⟩
  · right; right
    exact ⟨_, fun ⟨a, b⟩ => ⟨rfl, rfl⟩, rfl⟩

/-- the rows of `g` lie in `[lo, hi)` and cover all of it -/
def Hull (g : List Row) (lo hi : Int) : Prop :=
  (∀ r ∈ g, lo ≤ r.s ∧ r.e ≤ hi) ∧ ∀ p, cov g p ↔ lo ≤ p ∧ p < hi

theorem Hull.one (x : Row) : Hull [x] x.s x.e :=
  ⟨fun r hr => by rw [List.mem_singleton.mp hr]; omega, fun p => by rw [cov_cons, cov_nil, or_false]⟩

theorem Hull.push {cur : List Row} {lo mx : Int} (h : Hull cur lo mx) {x : Row} (h1 : lo ≤ x.s) (h2 : x.s ≤ mx) :
    Hull (x :: cur) lo (max mx x.e) := by
  refine ⟨fun r hr => ?_, fun p => ?_⟩
  · rcases List.mem_cons.mp hr with rfl | hr
    · omega
    · have := h.1 r hr; omega
  · rw [cov_cons, h.2 p]; omega

theorem Hull.reverse {cur : List Row} {lo mx : Int} (h : Hull cur lo mx) : Hull cur.reverse lo mx :=
  ⟨fun r hr => h.1 r (List.mem_reverse.mp hr), fun p => (cov_congr (fun _ => List.mem_reverse) p).trans (h.2 p)⟩

/-- every row of `g` ends before every row of `h` starts -/
def FcBefore (g h : List Row) : Prop := ∀ a ∈ g, ∀ b ∈ h, a.e < b.s

theorem fc_flattenGroup_mem (g : List Row) (hwf : ∀ r ∈ g, r.s < r.e) (z : Row)
    (hz : z ∈ flattenGroup g) :
    (∃ a ∈ g, a.s ≤ z.s) ∧ (∃ a ∈ g, z.e ≤ a.e) ∧ z.s < z.e ∧
    ∀ r ∈ g, (r.s ≤ z.s ∨ z.e ≤ r.s) ∧ (r.e ≤ z.s ∨ z.e ≤ r.e) := by
  rcases fc_flattenGroup_cases g with ⟨_, h⟩ | ⟨r, hg, h⟩ | ⟨f, hf, h⟩
  · rw [h] at hz; simp at hz
  · rw [h] at hz
    have hzr : z = r := by simpa using hz
    subst hzr
    subst hg
    have := hwf z (by simp)
    refine ⟨⟨z, by simp, Int.le_refl _⟩, ⟨z, by simp, Int.le_refl _⟩, this, ?_⟩
    intro r hr
    have : r = z := by simpa using hr
    subst this
    exact ⟨Or.inl (Int.le_refl _), Or.inr (Int.le_refl _)⟩
  · rw [h] at hz
    obtain ⟨h1, h2, h3, h4⟩ := fc_pieces_mem f hf _ (fc_breaks_strict g) z hz
    obtain ⟨a, ha, hsa⟩ := (fc_mem_breaks g _).mp h1
    obtain ⟨c, hc, hec⟩ := (fc_mem_breaks g _).mp h2
    have hawf := hwf a ha
    have hcwf := hwf c hc
    refine ⟨⟨a, ha, by omega⟩, ⟨c, hc, by omega⟩, h3, ?_⟩
    intro r hr
    exact ⟨h4 r.s ((fc_mem_breaks g _).mpr ⟨r, hr, Or.inl rfl⟩),
      h4 r.e ((fc_mem_breaks g _).mpr ⟨r, hr, Or.inr rfl⟩)⟩

theorem fc_flattenGroup_pairwise (g : List Row) :
    (flattenGroup g).Pairwise (fun a c => a.e ≤ c.s) := by
  rcases fc_flattenGroup_cases g with ⟨_, h⟩ | ⟨r, _, h⟩ | ⟨f, hf, h⟩
  · rw [h]; simp
  · rw [h]; simp
  · rw [h]; exact fc_pieces_pairwise f hf _ (fc_breaks_strict g)

theorem fc_flattenGroup_cov (g : List Row) (hwf : ∀ r ∈ g, r.s < r.e) {lo hi : Int} (hc : Hull g lo hi) (p : Int) :
    cov (flattenGroup g) p ↔ cov g p := by
  rcases fc_flattenGroup_cases g with ⟨hg, h⟩ | ⟨r, hg, h⟩ | ⟨f, hf, h⟩
  · rw [h, hg]
  · rw [h, hg]
  · rw [h, fc_pieces_cov f hf _ (fc_breaks_strict g)]
    constructor
    · rintro ⟨⟨u, hu, hup⟩, ⟨v, hv, hvp⟩⟩
      obtain ⟨a, ha, hua⟩ := (fc_mem_breaks g _).mp hu
      obtain ⟨c, hcm, hvc⟩ := (fc_mem_breaks g _).mp hv
      have := hwf a ha
      have := hwf c hcm
      have := hc.1 a ha
      have := hc.1 c hcm
      exact (hc.2 p).mpr (by omega)
    · rintro ⟨r, hr, h1, h2⟩
      exact ⟨⟨r.s, (fc_mem_breaks g _).mpr ⟨r, hr, Or.inl rfl⟩, h1⟩,
        ⟨r.e, (fc_mem_breaks g _).mpr ⟨r, hr, Or.inr rfl⟩, h2⟩⟩

theorem overlapGroupsGo_flatten (cur : List Row) (mx : Int) (xs : List Row) :
    (overlapGroupsGo cur mx xs).flatten = cur.reverse ++ xs := by
  induction xs generalizing cur mx with
  | nil => simp [overlapGroupsGo]
  | cons x xs ih =>
    unfold overlapGroupsGo
    split
    · rw [List.flatten_cons, ih]; simp
    · rw [ih]; simp

theorem overlapGroups_flatten (l : List Row) : (overlapGroups l).flatten = l := by
  cases l with
  | nil => rfl
  | cons x xs => simp [overlapGroups, overlapGroupsGo_flatten]

/-- the walk with open group `cur` and its hull `[lo, mx)`: every group has a hull, and each group ends before the next
    begins -/
theorem fc_go_spec (xs : List Row) :
    ∀ (cur : List Row) (lo mx : Int), Hull cur lo mx → (∀ x ∈ xs, lo ≤ x.s) → StartSorted xs →
      (∀ g ∈ overlapGroupsGo cur mx xs, ∃ lo hi, Hull g lo hi) ∧
      (overlapGroupsGo cur mx xs).Pairwise FcBefore := by
  induction xs with
  | nil =>
    intro cur lo mx h _ _
    simp only [overlapGroupsGo, List.mem_singleton, forall_eq, List.pairwise_cons, List.not_mem_nil, false_imp_iff,
      implies_true, List.Pairwise.nil, and_self, and_true]
    exact ⟨lo, mx, h.reverse⟩
  | cons x xs ih =>
    intro cur lo mx h hlo hs
    obtain ⟨hxle, hs'⟩ := List.pairwise_cons.mp hs
    have hlx := hlo x (by simp)
    unfold overlapGroupsGo
    split
    · rename_i hgap
      obtain ⟨ic, ip⟩ := ih [x] x.s x.e (Hull.one x) hxle hs'
      refine ⟨?_, List.pairwise_cons.mpr ⟨?_, ip⟩⟩
      · intro g hg
        rcases List.mem_cons.mp hg with rfl | hg
        · exact ⟨lo, mx, h.reverse⟩
        · exact ic g hg
      · intro h' hh a ha b hb'
        have ha' := (h.1 a (List.mem_reverse.mp ha)).2
        have hbm : b ∈ [x].reverse ++ xs := by
          rw [← overlapGroupsGo_flatten [x] x.e xs]
          exact List.mem_flatten.mpr ⟨h', hh, hb'⟩
        have : x.s ≤ b.s := by
          rcases List.mem_cons.mp hbm with rfl | h''
          · exact Int.le_refl _
          · exact hxle b h''
        omega
    · rename_i hgap
      exact ih (x :: cur) lo (max mx x.e) (h.push hlx (by omega)) (fun y hy => hlo y (List.mem_cons_of_mem _ hy)) hs'

theorem fc_groups_spec (l : List Row) (hs : StartSorted l) :
    (∀ r, (∃ g ∈ overlapGroups l, r ∈ g) ↔ r ∈ l) ∧
    (∀ g ∈ overlapGroups l, ∃ lo hi, Hull g lo hi) ∧
    (overlapGroups l).Pairwise FcBefore := by
  refine ⟨fun r => ?_, ?_⟩
  · rw [← List.mem_flatten, overlapGroups_flatten]
  · cases l with
    | nil => simp [overlapGroups]
    | cons x xs =>
      obtain ⟨hxle, hs'⟩ := List.pairwise_cons.mp hs
      exact fc_go_spec xs [x] x.s x.e (Hull.one x) hxle hs'

end CnvVerif
