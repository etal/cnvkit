/-
  C08 (table formats), the characters: what holds of a character that passes a test, the decimal numerals
  (`toString` of an integer is an optional `-` and digits; printing then parsing is the identity), `mapM` over lines
  that each parse, and the label `chrom:start-end` taken apart by `from_label` (a run of characters stops where the
  first character outside its class stands: `takeWhile_append_head` of Lemmas/Basic).  Core only.
-/
import CnvVerif.Model.Formats
import CnvVerif.Lemmas.Basic
import Std.Data.String.ToInt
namespace CnvVerif.Fmt
open CnvVerif CnvVerif.Generated

theorem ne_of_test {α} {p : α → Bool} {c x : α} (hc : p c = true) (hx : p x = false) : c ≠ x :=
  fun h => by rw [h, hx] at hc; exact Bool.false_ne_true hc

theorem digit_ne {c x : Char} (hc : c.isDigit = true) (hx : x.isDigit = false) : c ≠ x := ne_of_test hc hx

theorem digit_ne_minus {c : Char} (h : c.isDigit = true) : c ≠ '-' := digit_ne h (by decide)

theorem space_not_digit_word {c : Char} (h : isSpaceCh c = true) : c.isDigit = false ∧ isWordCh c = false := by
  simp only [isSpaceCh, Bool.or_eq_true, beq_iff_eq] at h
  rcases h with ((((rfl | rfl) | rfl) | rfl) | rfl) | rfl <;> decide

theorem digit_not_space {c : Char} (h : c.isDigit = true) : isSpaceCh c = false :=
  Bool.eq_false_iff.mpr fun hs => by rw [(space_not_digit_word hs).1] at h; exact absurd h (by decide)

theorem sw_false_of_head_ne (p s : String) (d : Char) (hp : p.toList.head? = some d)
    (hs : ∀ c ∈ s.toList.head?, c ≠ d) : sw p s = false := by
  unfold sw
  cases hpl : p.toList with
  | nil => rw [hpl] at hp; cases hp
  | cons a p' =>
    rw [hpl] at hp
    cases hp
    cases hsl : s.toList with
    | nil => rfl
    | cons x xs =>
      rw [hsl] at hs
      simp only [List.isPrefixOf, beq_eq_false_iff_ne.mpr (hs x rfl).symm, Bool.false_and]

theorem sw_false_of_not_mem (p s : String) (ch : Char) (hp : p.toList.head? = some ch)
    (h : s.toList.contains ch = false) : sw p s = false :=
  sw_false_of_head_ne p s ch hp fun c hc hcd => by
    have : ch ∈ s.toList := hcd ▸ List.mem_of_mem_head? hc
    rw [List.contains_iff_mem.mpr this] at h
    exact absurd h (by decide)

theorem isIntLit_minus (ds : List Char) : isIntLit ('-' :: ds) = (!ds.isEmpty && ds.all Char.isDigit) := rfl

theorem isIntLit_cons {c : Char} (hc : c ≠ '-') (t : List Char) :
    isIntLit (c :: t) = (c :: t).all Char.isDigit := by
  unfold isIntLit
  split
  · rename_i ds heq
    exact absurd (List.cons.inj heq).1 hc
  · rfl

theorem isIntLit_of_digits (l : List Char) (hne : l ≠ []) (h : ∀ c ∈ l, c.isDigit = true) :
    isIntLit l = true := by
  cases l with
  | nil => exact absurd rfl hne
  | cons c t => rw [isIntLit_cons (digit_ne_minus (h c (by simp)))]; exact List.all_eq_true.mpr h

theorem isIntLit_minus_digits (l : List Char) (hne : l ≠ []) (h : ∀ c ∈ l, c.isDigit = true) :
    isIntLit ('-' :: l) = true := by
  rw [isIntLit_minus, Bool.and_eq_true, Bool.not_eq_true', List.isEmpty_eq_false_iff, List.all_eq_true]
  exact ⟨hne, h⟩

theorem toDigits_digits (n : Nat) : ∀ c ∈ Nat.toDigits 10 n, c.isDigit = true :=
  fun _ hc => Nat.isDigit_of_mem_toDigits (by omega) (by omega) hc

theorem toString_toList_nonneg (i : Int) (h : 0 ≤ i) :
    (toString i).toList = Nat.toDigits 10 i.toNat := by
  rw [Int.toString_eq_repr, Int.repr_eq_if]
  simp [h, Nat.toList_repr]

theorem toString_toList_neg (i : Int) (h : i < 0) :
    (toString i).toList = '-' :: Nat.toDigits 10 (-i).toNat := by
  rw [Int.toString_eq_repr, Int.repr_eq_if]
  have : ¬ 0 ≤ i := by omega
  simp [this, Nat.toList_repr, String.toList_append]

/-- a printed integer is an optional `-` followed by digits: what holds of these holds of its characters -/
theorem toString_chars (i : Int) (P : Char → Prop) (hd : ∀ c, c.isDigit = true → P c) (hm : P '-') :
    ∀ c ∈ (toString i).toList, P c := by
  intro c hc
  by_cases h : 0 ≤ i
  · rw [toString_toList_nonneg i h] at hc
    exact hd c (toDigits_digits _ c hc)
  · rw [toString_toList_neg i (by omega)] at hc
    rcases List.mem_cons.mp hc with rfl | hc
    · exact hm
    · exact hd c (toDigits_digits _ c hc)

theorem toString_not_mem (i : Int) {x : Char} (hx : x.isDigit = false) (hm : x ≠ '-') :
    x ∉ (toString i).toList :=
  fun h => toString_chars i (· ≠ x) (fun _ hc => digit_ne hc hx) hm.symm x h rfl

theorem isIntLit_toString (i : Int) : isIntLit (toString i).toList = true := by
  by_cases h : 0 ≤ i
  · rw [toString_toList_nonneg i h]
    exact isIntLit_of_digits _ Nat.toDigits_ne_nil (toDigits_digits _)
  · rw [toString_toList_neg i (by omega)]
    exact isIntLit_minus_digits _ Nat.toDigits_ne_nil (toDigits_digits _)

theorem parseInt_toString (i : Int) : parseInt (toString i) = some i := by
  unfold parseInt
  rw [isIntLit_toString]
  simp [Int.toString_eq_repr, Int.toInt?_repr]

theorem toString_noSpace (i : Int) : ∀ c ∈ (toString i).toList, isSpaceCh c = false :=
  toString_chars i _ (fun _ => digit_not_space) (by decide)

theorem toString_digits (i : Int) (h : 0 ≤ i) :
    (toString i).toList ≠ [] ∧ ∀ c ∈ (toString i).toList, c.isDigit = true := by
  rw [toString_toList_nonneg i h]
  exact ⟨Nat.toDigits_ne_nil, toDigits_digits _⟩

theorem isDigits_iff (s : String) :
    isDigits s = true ↔ s.toList ≠ [] ∧ ∀ x ∈ s.toList, x.isDigit = true := by
  unfold isDigits
  simp only [Bool.and_eq_true, Bool.not_eq_true', List.isEmpty_eq_false_iff, List.all_eq_true]

theorem isDigits_toString (i : Int) (h : 0 ≤ i) : isDigits (toString i) = true :=
  (isDigits_iff _).mpr (toString_digits i h)

/-! a natural number prints as its cast to `Int` does (`rfl`), so the facts above serve `toString (n : Nat)` -/

theorem toString_natCast (n : Nat) : toString ((n : Nat) : Int) = toString n := rfl

theorem toList_toString_nat (n : Nat) : (toString n).toList = Nat.toDigits 10 n :=
  toString_toList_nonneg (n : Int) (Int.natCast_nonneg n)

theorem isDigits_toString_nat (n : Nat) : isDigits (toString n) = true :=
  isDigits_toString (n : Int) (Int.natCast_nonneg n)

theorem isIntLit_toString_nat (n : Nat) : isIntLit (toString n).toList = true := isIntLit_toString (n : Int)

theorem rstripL_of_noSpace (l : List Char) (h : ∀ c ∈ l, isSpaceCh c = false) : rstripL l = l := by
  have : l.reverse.dropWhile isSpaceCh = l.reverse := by
    cases hr : l.reverse with
    | nil => rfl
    | cons a t =>
      have ha : a ∈ l := List.mem_reverse.mp (hr ▸ List.mem_cons_self)
      exact List.dropWhile_cons_of_neg (by simp [h a ha])
  unfold rstripL
  rw [this, List.reverse_reverse]

theorem rstrip_of_noSpace (s : String) (h : ∀ c ∈ s.toList, isSpaceCh c = false) : rstrip s = s := by
  unfold rstrip
  rw [rstripL_of_noSpace _ h, String.ofList_toList]

theorem parseInt_rstrip_toString (i : Int) : parseInt (rstrip (toString i)) = some i := by
  rw [rstrip_of_noSpace _ (toString_noSpace i), parseInt_toString]

theorem map_eq_self {α} (f : α → α) (l : List α) (h : ∀ x ∈ l, f x = x) : l.map f = l :=
  (List.map_congr_left h).trans (List.map_id' l)

theorem mapM_ok {α β} (f : α → Except String β) (g : α → β) (l : List α)
    (h : ∀ x ∈ l, f x = .ok (g x)) : l.mapM f = .ok (l.map g) := by
  induction l with
  | nil => rfl
  | cons a t ih =>
    rw [List.mapM_cons, h a (by simp), ih (fun x hx => h x (by simp [hx]))]
    rfl

theorem mapM_map_ok {α β γ} (m : α → β) (f : β → Except String γ) (g : α → γ) (l : List α)
    (h : ∀ x ∈ l, f (m x) = .ok (g x)) : (l.map m).mapM f = .ok (l.map g) := by
  rw [List.mapM_map]; exact mapM_ok _ g l h

theorem mapM_map_ok_self {α β} (m : α → β) (f : β → Except String α) (l : List α)
    (h : ∀ x ∈ l, f (m x) = .ok x) : (l.map m).mapM f = .ok l := by
  have := mapM_map_ok m f id l h
  rwa [List.map_id] at this

/-- chromosome names the label pattern `\w[\w.]*` accepts -/
def LabelName (c : String) : Prop :=
  (∃ c0 rest, c.toList = c0 :: rest ∧ isWordCh c0 = true) ∧
  ∀ x ∈ c.toList, (isWordCh x || x == '.') = true

theorem fromLabel_parts (c ds de : List Char) (c0 : Char) (rest : List Char) (hc : c = c0 :: rest)
    (hw : isWordCh c0 = true) (hall : ∀ x ∈ c, (isWordCh x || x == '.') = true)
    (hds : ∀ x ∈ ds, x.isDigit = true) (hde : ∀ x ∈ de, x.isDigit = true) :
    fromLabel (c ++ ':' :: (ds ++ '-' :: de)) = .ok (c, ds, de, []) := by
  have hcolon : (isWordCh ':' || ':' == '.') = false := by decide
  have hminus : Char.isDigit '-' = false := by decide
  have h1 : (c ++ ':' :: (ds ++ '-' :: de)).takeWhile (fun c => isWordCh c || c == '.') = c :=
    takeWhile_append_stop _ c ':' _ hall hcolon
  have h2 : (c ++ ':' :: (ds ++ '-' :: de)).dropWhile (fun c => isWordCh c || c == '.') = ':' :: (ds ++ '-' :: de) :=
    dropWhile_append_stop _ c ':' _ hall hcolon
  have h3 : (ds ++ '-' :: de).takeWhile Char.isDigit = ds := takeWhile_append_stop _ ds '-' de hds hminus
  have h4 : (ds ++ '-' :: de).dropWhile Char.isDigit = '-' :: de := dropWhile_append_stop _ ds '-' de hds hminus
  have h5 : de.takeWhile Char.isDigit = de := takeWhile_eq_self_of_all _ _ hde
  have h6 : de.dropWhile Char.isDigit = [] := dropWhile_eq_nil_of_all _ _ hde
  unfold fromLabel
  rw [h1, h2]
  subst hc
  simp only [List.cons_append, hw, ↓reduceIte, h3, h4, h5, h6, List.dropWhile_nil, List.takeWhile_nil]

theorem toLabel_toList (c : String) (a b : Int) :
    (toLabel c a b).toList =
      c.toList ++ ':' :: ((toString (a + WRITE_SHIFT_to_label)).toList ++ '-' :: (toString b).toList) := by
  simp only [toLabel, String.toList_append]
  have h1 : ":".toList = [':'] := by decide
  have h2 : "-".toList = ['-'] := by decide
  rw [h1, h2]
  simp

end CnvVerif.Fmt
