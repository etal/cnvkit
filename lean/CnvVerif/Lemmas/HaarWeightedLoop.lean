/-
  The weighted `HaarConv` loop computes the window sums `lowWin` /
  `highWin` (Model/HaarExt.lean), for every signal and every weights.
-/
import CnvVerif.Lemmas.Haar
namespace CnvVerif.Haar

/-- the weights as a function of the bin index (0 beyond the end); `wfun` of Model/HaarExt.lean on the array the loop reads -/
def wOf (w : Array Rat) : Nat → Rat := fun i => nth w i
/-- the products `signal * weight` as a function of the bin index -/
def swOf (s w : Array Rat) : Nat → Rat := fun i => nth s i * nth w i

theorem wOf_toArray (wt : List Rat) : wOf wt.toArray = wfun wt := by
  funext i; simp [wOf, wfun, nth_toArray]

/-- the four running sums when the loop has finished position `k`: the window sums of `signal * weight` (the low
one negated, as the code keeps it) and of `weight` -/
def winAcc (s w : Array Rat) (n h k : Nat) : WAcc :=
  ⟨-(lowWin (swOf s w) h k), highWin (swOf s w) n h k, lowWin (wOf w) h k, highWin (wOf w) n h k⟩

/-- value the loop stores at `k`: `wValue` of the window sums, i.e.
`fac * (-(lowWin sw) / lowWin w + highWin sw / highWin w)` -/
def respW (s w : Array Rat) (n h : Nat) (fac : Rat) (k : Nat) : Rat := wValue fac (winAcc s w n h k)

/-- one round of the loop `haarWGo` is `wStep`, the zero-sum guard, then `wValue` -/
theorem haarWGo_succ (s w : Array Rat) (n h : Nat) (fac : Rat) (fuel k : Nat) (acc : WAcc) :
    haarWGo s w n h fac (fuel + 1) k acc
      = (let acc' := wStep acc (nth s (loIdx h k)) (nth w (loIdx h k)) (nth s (hiIdx n h k)) (nth w (hiIdx n h k))
                      (nth s (k - 1)) (nth w (k - 1))
         if acc'.lowW = 0 ∨ acc'.highW = 0 then none else
         match haarWGo s w n h fac fuel (k + 1) acc' with
         | none => none
         | some rest => some (wValue fac acc' :: rest)) := rfl

/-- one iteration (`wStep`, the source's four `+=`) takes the window sums at `k - 1` to those at `k` -/
theorem wStep_winAcc (s w : Array Rat) (n h k : Nat) (hh : h ≤ n) (hk : 1 ≤ k) (hkn : k < n) :
    wStep (winAcc s w n h (k - 1)) (nth s (loIdx h k)) (nth w (loIdx h k)) (nth s (hiIdx n h k))
      (nth w (hiIdx n h k)) (nth s (k - 1)) (nth w (k - 1)) = winAcc s w n h k := by
  simp only [wStep, winAcc, lowWin_step (swOf s w) h k hk, highWin_step (swOf s w) n h k hk hkn hh,
    lowWin_step (wOf w) h k hk, highWin_step (wOf w) n h k hk hkn hh, swOf, wOf, WAcc.mk.injEq]
  refine ⟨by ring, trivial, trivial, trivial⟩

/-- **loop invariant**: as long as no window's weight sum vanishes, the weighted loop stores
`sqrt(h/2) * (high-window mean - low-window mean)` at every position -/
theorem haarWGo_eq (s w : Array Rat) (n h : Nat) (fac : Rat) (hh : h ≤ n) :
    ∀ (fuel k0 : Nat), 1 ≤ k0 → k0 + fuel ≤ n →
      (∀ k, k0 ≤ k → k < k0 + fuel → lowWin (wOf w) h k ≠ 0 ∧ highWin (wOf w) n h k ≠ 0) →
      haarWGo s w n h fac fuel k0 (winAcc s w n h (k0 - 1))
        = some ((List.range' k0 fuel).map (respW s w n h fac)) := by
  intro fuel
  induction fuel with
  | zero => intro k0 _ _ _; rfl
  | succ fu ih =>
    intro k0 hk0 hend hnz
    obtain ⟨z1, z2⟩ := hnz k0 (le_refl _) (by omega)
    have hrec := ih (k0 + 1) (by omega) (by omega) (fun k hk1 hk2 => hnz k (by omega) (by omega))
    rw [Nat.add_sub_cancel] at hrec
    rw [haarWGo_succ, wStep_winAcc s w n h k0 hh hk0 (by omega)]
    simp only [hrec, List.range'_succ, List.map_cons]
    exact if_neg (not_or.mpr ⟨z1, z2⟩)

/-- the initial `highWeightSum = lowWeightSum = sum(weight[:h])` is a prefix sum -/
theorem take_sum_pre (l : List Rat) : ∀ h, (l.take h).sum = pre (wOf l.toArray) h
  | 0 => by simp [pre]
  | h + 1 => by
    rw [pre_succ, ← take_sum_pre l h, wOf, nth_toArray]
    by_cases c : h < l.length
    · rw [List.sum_take_succ l h c]; simp [c]
    · rw [List.take_of_length_le (by omega), List.take_of_length_le (by omega)]; simp [Nat.not_lt.mp c]

theorem wOf_zipWith_mul (wl sl : List Rat) : wOf (List.zipWith (· * ·) wl sl).toArray = swOf sl.toArray wl.toArray := by
  funext i
  simp only [wOf, swOf, nth_toArray, List.getD_eq_getElem?_getD, List.getElem?_zipWith]
  cases wl[i]? <;> cases sl[i]? <;> simp [mul_comm]

/-- so is the initial `highNonNormed`: that of the list of products -/
theorem zip_foldl_pre (wl sl : List Rat) (h : Nat) :
    ((wl.take h).zip (sl.take h)).foldl (fun acc p => acc + p.1 * p.2) 0 = pre (swOf sl.toArray wl.toArray) h := by
  rw [← wOf_zipWith_mul, ← take_sum_pre, List.take_zipWith, List.sum_eq_foldl, ← List.map_uncurry_zip_eq_zipWith,
    List.foldl_map]
  rfl

/-- `HaarConv(signal, weight, h)` in window sums, as long as no window's weight sum vanishes (the loop divides by them) -/
theorem haarConvW_eq (fac : Rat) (sig wt : List Rat) (h n : Nat) (hlen : sig.length = n) (h1 : 1 ≤ h) (hh : h ≤ n)
    (hnz : ∀ k, 1 ≤ k → k < n → lowWin (wOf wt.toArray) h k ≠ 0 ∧ highWin (wOf wt.toArray) n h k ≠ 0) :
    haarConvW fac sig wt h
      = some (0 :: (List.range' 1 (n - 1)).map (respW sig.toArray wt.toArray n h fac)) := by
  unfold haarConvW
  rw [hlen, if_neg (by omega)]
  obtain ⟨m, rfl⟩ : ∃ m, n = m + 1 := ⟨n - 1, by omega⟩
  simp only [take_sum_pre, zip_foldl_pre, Nat.add_sub_cancel]
  have hacc : (⟨-pre (swOf sig.toArray wt.toArray) h, pre (swOf sig.toArray wt.toArray) h,
      pre (wOf wt.toArray) h, pre (wOf wt.toArray) h⟩ : WAcc) = winAcc sig.toArray wt.toArray (m + 1) h (1 - 1) := by
    simp [winAcc, lowWin, highWin, pre, hh]
  rw [hacc, haarWGo_eq sig.toArray wt.toArray (m + 1) h fac hh m 1 (le_refl _) (by omega)
    (fun k hk1 hk2 => hnz k hk1 (by omega))]

end CnvVerif.Haar
