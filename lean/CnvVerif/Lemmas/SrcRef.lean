/-
  `reference.calculate_gc_lo`: how the letter counts the generated expression (Generated/ExprsRef.lean) takes as arguments
  are read on a sequence; the tie is Props/C05Src.lean.
-/
import CnvVerif.Generated.ExprsRef
import CnvVerif.Lemmas.ReferenceGc
import Mathlib.Tactic.Ring
namespace CnvVerif.Src
open CnvVerif CnvVerif.Generated CnvVerif.Ref

/-- Python's `s.count("c")` for a one-character string: the number of occurrences of that character -/
def cnt (seq : List Char) (c : Char) : Rat := ((seq.count c : Nat) : Rat)

end CnvVerif.Src
