/-
  The column store of Model/StatsGlue.lean (`Frame`: pandas `frame[name] = v` overwrites in place or appends) as a finite
  map with a stable key order: reading after one assignment, after a series (the last assignment to a name wins; values
  that are functions of the name make order and repetition irrelevant), and which names the result has, in which order.
  The same store is the insertion-ordered Python dict of C05 (sample sexes, Lemmas/ReferenceExt.lean) and C16 (the gene
  map, Lemmas/GeneMap.lean).
-/
import CnvVerif.Model.StatsGlue
import CnvVerif.Lemmas.Basic
namespace CnvVerif.Stats

variable {α : Type}

/-- overwriting column `k` in place changes no name … -/
theorem setCol_fst (k : String) (v : α) (c : String × α) : (if c.1 == k then (k, v) else c).1 = c.1 := by
  split
  · rename_i h
    exact (beq_iff_eq.mp h).symm
  · rfl

/-- … so a column is found where it was, with the overwrite applied to it -/
theorem find?_setCol (t : Frame α) (k k' : String) (v : α) :
    (t.map (fun c => if c.1 == k then (k, v) else c)).find? (fun c => c.1 == k') =
      (t.find? (fun c => c.1 == k')).map (fun c => if c.1 == k then (k, v) else c) := by
  rw [List.find?_map]
  congr 2
  funext c
  exact congrArg (· == k') (setCol_fst k v c)

theorem Frame.get?_assign_same (f : Frame α) (k : String) (v : α) : (f.assign k v).get? k = some v := by
  unfold Frame.assign Frame.get?
  split
  · rename_i h
    obtain ⟨c, hc⟩ := Option.isSome_iff_exists.mp (List.find?_isSome.mpr (List.any_eq_true.mp h))
    rw [find?_setCol, hc, Option.map_some, Option.map_some, if_pos (List.find?_some hc)]
  · rename_i h
    have hn : f.find? (fun c => c.1 == k) = none :=
      List.find?_eq_none.mpr (fun x hx hxe => h (List.any_eq_true.mpr ⟨x, hx, hxe⟩))
    rw [List.find?_append, hn, Option.none_or, List.find?_cons_of_pos (by exact beq_self_eq_true k)]
    rfl

theorem Frame.get?_assign_other (f : Frame α) (k k' : String) (v : α) (h : k' ≠ k) :
    (f.assign k v).get? k' = f.get? k' := by
  unfold Frame.assign Frame.get?
  split
  · rw [find?_setCol]
    cases hc : f.find? (fun c => c.1 == k') with
    | none => rfl
    | some c =>
      -- the entry found is called `k'`, not `k`: it is left as it was
      have hk' : (c.1 == k') = true := List.find?_some (p := fun c : String × α => c.1 == k') hc
      have hck : ¬ (c.1 == k) = true := fun hk => h ((beq_iff_eq.mp hk').symm.trans (beq_iff_eq.mp hk))
      rw [Option.map_some, if_neg hck]
  · rw [List.find?_append]
    cases f.find? (fun c => c.1 == k') with
    | some b => rfl
    | none =>
      have hk : ¬ ((k, v).1 == k') = true := fun hk => h (beq_iff_eq.mp hk).symm
      rw [Option.none_or, List.find?_cons_of_neg (p := fun c : String × α => c.1 == k') hk]
      rfl

theorem Frame.get?_assign (f : Frame α) (k k' : String) (v : α) :
    (f.assign k v).get? k' = if k' = k then some v else f.get? k' := by
  split
  · subst ‹k' = k›; exact Frame.get?_assign_same f k' v
  · exact Frame.get?_assign_other f k k' v ‹_›

theorem Frame.assignAll_nil (f : Frame α) : f.assignAll [] = f := rfl

theorem Frame.assignAll_cons (f : Frame α) (a : String × α) (t : List (String × α)) :
    f.assignAll (a :: t) = (f.assign a.1 a.2).assignAll t := rfl

theorem Frame.assignAll_append (f : Frame α) (as bs : List (String × α)) :
    f.assignAll (as ++ bs) = (f.assignAll as).assignAll bs := List.foldl_append

/-- reading column `k` after a series of assignments: the LAST assignment to `k` if there is one, otherwise what
    the frame held -/
theorem Frame.get?_assignAll (f : Frame α) (as : List (String × α)) (k : String) :
    (f.assignAll as).get? k =
      match as.reverse.find? (fun a => a.1 == k) with
      | some a => some a.2
      | none => f.get? k := by
  induction as generalizing f with
  | nil => rfl
  | cons a t ih =>
    rw [Frame.assignAll_cons, ih, List.reverse_cons, List.find?_append]
    cases ht : t.reverse.find? (fun a => a.1 == k) with
    | some b => rfl
    | none =>
      by_cases hak : a.1 = k
      · subst hak
        simp [Frame.get?_assign_same]
      · have : (a.1 == k) = false := by simpa using hak
        simp [this, Frame.get?_assign_other f a.1 k a.2 (Ne.symm hak)]

/-- a series of assignments none of whose names repeats overrides as a frame of its own (`Frame.get? as k` reads the
    assignment list as one) -/
theorem Frame.get?_assignAll_nodup (f : Frame α) (as : List (String × α)) (k : String) (h : (as.map (·.1)).Nodup) :
    (f.assignAll as).get? k = ((Frame.get? as k).or (f.get? k)) := by
  rw [Frame.get?_assignAll, find_perm_of_nodup_key (·.1) as as.reverse k (List.reverse_perm as).symm h]
  unfold Frame.get?
  cases as.find? (fun c => c.1 == k) <;> rfl

/-- when every value assigned is a function of the column's name, it does not matter in which order or how often
    the names come -/
theorem Frame.get?_assignAll_keyed (f : Frame α) (l : List String) (v : String → α) (k : String) :
    (f.assignAll (l.map (fun nm => (nm, v nm)))).get? k = if k ∈ l then some (v k) else f.get? k := by
  induction l generalizing f with
  | nil => rfl
  | cons a t ih =>
    rw [List.map_cons, Frame.assignAll_cons, ih]
    by_cases hk : k = a
    · subst hk
      rw [Frame.get?_assign_same, if_pos (List.mem_cons_self ..), ite_self]
    · rw [Frame.get?_assign_other _ _ _ _ hk]
      simp only [List.mem_cons, hk, false_or]

theorem Frame.names_assign (f : Frame α) (k : String) (v : α) :
    (f.assign k v).names = if f.names.contains k then f.names else f.names ++ [k] := by
  unfold Frame.assign Frame.names
  have hany : f.any (fun c => c.1 == k) = (f.map (·.1)).contains k := by
    rw [Bool.eq_iff_iff]
    simp only [List.any_eq_true, List.contains_iff_mem, List.mem_map, beq_iff_eq]
  rw [hany]
  split
  · rw [List.map_map]
    exact List.map_congr_left (fun c _ => setCol_fst k v c)
  · simp

theorem Frame.nodup_names_assignAll (f : Frame α) (as : List (String × α)) (h : f.names.Nodup) :
    (f.assignAll as).names.Nodup := by
  induction as generalizing f with
  | nil => exact h
  | cons a t ih =>
    refine ih _ ?_
    rw [Frame.names_assign]
    split
    · exact h
    · rename_i hc
      refine List.nodup_append.mpr ⟨h, List.pairwise_singleton _ _, fun x hx y hy e => hc ?_⟩
      exact List.contains_iff_mem.mpr ((List.mem_singleton.mp hy) ▸ e ▸ hx)

theorem Frame.names_assignAll_prefix (f : Frame α) (as : List (String × α)) :
    f.names <+: (f.assignAll as).names := by
  induction as generalizing f with
  | nil => exact List.prefix_refl _
  | cons a t ih =>
    show f.names <+: ((f.assign a.1 a.2).assignAll t).names
    refine List.IsPrefix.trans ?_ (ih (f.assign a.1 a.2))
    rw [Frame.names_assign]
    split
    · exact List.prefix_refl _
    · exact List.prefix_append _ _

theorem Frame.mem_names_iff (f : Frame α) (k : String) : k ∈ f.names ↔ (f.get? k).isSome := by
  simp [Frame.names, Frame.get?]

end CnvVerif.Stats
