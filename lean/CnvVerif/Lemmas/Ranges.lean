/-
  Whole tables (skgenome/intersect.py).  Two tables: `by_shared_chroms` pairs the rows of the queried table with the
  query rows chromosome by chromosome; its single-chromosome shortcut is the grouped path.  So `by_ranges`,
  `iter_slices`, `intersection` and `into_ranges` visit the query rows grouped by chromosome in order of first
  appearance (`queriesInOrder`, a permutation of the query table), each with a selection from the rows of its own
  chromosome: one equation per operation over `queriesInOrder`, which is all other modules need of `by_shared_chroms`.
  When every chromosome's rows are well formed (`WFGenomeQ`) a selection is the rows the property names; for C06,
  which rows `intersection(mode=trim)` returns on one chromosome (`mem_intersection_trim`).  One table and
  arrays of bounds: `in_ranges` is the concatenation, in the order the ranges were given, of the per-range selections.
  The one-query facts are in Lemmas/RangesQuery.lean.
-/
import CnvVerif.Model.RangesExt
import CnvVerif.Lemmas.RangesQuery
import CnvVerif.Lemmas.Basic
import CnvVerif.Lemmas.GroupBy
import CnvVerif.Lemmas.PerChrom
namespace CnvVerif

/-! ### `by_shared_chroms`: the shortcut is not observable -/

/-- the grouped path of `by_shared_chroms` alone (the `else` branch) -/
def bySharedGeneral (table other : Table) (keepEmpty : Bool) : List (String × Table × Option Table) :=
  (groupByChrom table).filterMap fun (c, ct) =>
    let ot := other.filter (fun r => r.chrom == c)
    if !ot.isEmpty then some (c, ct, some ot)
    else if keepEmpty then some (c, ct, none)
    else none

theorem bySharedChroms_eq_general (table other : Table) (ke : Bool) :
    bySharedChroms table other ke = bySharedGeneral table other ke := by
  by_cases hfast : ((chromsInOrder table).length == 1 && (chromsInOrder other).length == 1
      && chromsInOrder table == chromsInOrder other) = true
  · have hfast' := hfast
    simp only [Bool.and_eq_true, beq_iff_eq] at hfast'
    obtain ⟨⟨h1, _⟩, h3⟩ := hfast'
    obtain ⟨c, hc⟩ := List.length_eq_one_iff.mp h1
    obtain ⟨ht, _⟩ := chromsInOrder_eq_single hc
    obtain ⟨ho, hno⟩ := chromsInOrder_eq_single (h3 ▸ hc)
    have hemp : other.isEmpty = false := by cases other; exact absurd rfl hno; rfl
    unfold bySharedChroms bySharedGeneral groupByChrom
    simp only [hfast, if_true]
    rw [hc]
    simp only [List.headD_cons, List.map_cons, List.map_nil, List.filterMap_cons, List.filterMap_nil]
    rw [filter_chrom_self table c ht, filter_chrom_self other c ho]
    simp [hemp]
  · unfold bySharedChroms bySharedGeneral
    simp only [hfast, Bool.false_eq_true, if_false]

theorem flatMap_bySharedChroms {β : Type} (table other : Table) (ke : Bool)
    (H : String × Table × Option Table → List β) :
    (bySharedChroms table other ke).flatMap H =
      (chromsInOrder table).flatMap (fun c =>
        let ct := table.filter (fun r => r.chrom == c)
        let ot := other.filter (fun r => r.chrom == c)
        if !ot.isEmpty then H (c, ct, some ot) else if ke then H (c, ct, none) else []) := by
  rw [bySharedChroms_eq_general]
  unfold bySharedGeneral groupByChrom
  rw [flatMap_filterMap_map]
  apply flatMap_congr
  intro c _
  by_cases ho : (other.filter (fun r => r.chrom == c)).isEmpty = true
  · cases ke <;> simp [ho]
  · simp [ho]

theorem byRangesDf_per_chromosome (table other : Table) (mode : Mode) (ke : Bool) :
    byRangesDf table other mode ke =
      (chromsInOrder other).flatMap (fun c =>
        let src := table.filter (fun r => r.chrom == c)
        let qs := other.filter (fun r => r.chrom == c)
        if !src.isEmpty then qs.map (fun b => (b, selectRange src (some b.s) (some b.e) mode))
        else if ke then qs.map (fun b => (b, []))
        else []) := by
  unfold byRangesDf
  rw [flatMap_bySharedChroms]
  exact flatMap_congr fun c _ => by cases ke <;> rfl

theorem idxSelect_nil (qs qe : Option Int) (inner : Bool) : idxSelect [] qs qe inner = [] := rfl

theorem selectRange_nil (qs qe : Option Int) (mode : Mode) : selectRange [] qs qe mode = [] := by
  cases mode <;> rfl

/-- the query rows in the order `by_shared_chroms` visits them: grouped by chromosome in order of first
    appearance, i.e. pandas `groupby` laid end to end (`queriesInOrder_eq_groups`) -/
def queriesInOrder (dest : Table) : Table :=
  (chromsInOrder dest).flatMap (fun c => dest.filter (fun r => r.chrom == c))

/-- the rows of `source` one query row selects: the slice of the rows of ITS chromosome -/
def hitsOf (source : Table) (inner : Bool) (q : Row) : Table :=
  idxSelect (source.filter (fun r => r.chrom == q.chrom)) (some q.s) (some q.e) inner

theorem iterSlices_per_query (table other : Table) (mode : Mode) (ke : Bool) :
    iterSlices table other mode ke =
      ((queriesInOrder other).map (hitsOf table (mode == .inner))).filter (fun sel => ke || !sel.isEmpty) := by
  unfold iterSlices queriesInOrder
  rw [flatMap_bySharedChroms, List.map_flatMap, List.filter_flatMap]
  apply flatMap_congr
  intro c _
  have hcongr : (other.filter (fun r => r.chrom == c)).map (hitsOf table (mode == .inner)) =
      (other.filter (fun r => r.chrom == c)).map (fun b =>
        idxSelect (table.filter (fun r => r.chrom == c)) (some b.s) (some b.e) (mode == .inner)) :=
    -- `rowsOf t c` (Model/IntervalSpec.lean) is `t.filter (·.chrom == c)` by definition: the statements of this file
    -- spell the filter, as the model does, and take the `rowsOf` lemmas of Lemmas/PerChrom.lean through that unfolding
    List.map_congr_left fun b hb => by rw [hitsOf, rowsOf_chrom _ _ b hb]
  rw [hcongr]
  -- chromosome by chromosome: a chromosome the queried table lacks gives empty slices, which `keep_empty` alone keeps
  by_cases hsrc : (table.filter (fun r => r.chrom == c)).isEmpty = true
  · cases ke <;> simp [List.isEmpty_iff.mp hsrc, idxSelect_nil, List.filter_map, Function.comp_def]
  · simp [hsrc]

theorem iterSlices_keep (table other : Table) (mode : Mode) :
    iterSlices table other mode true = (queriesInOrder other).map (hitsOf table (mode == .inner)) :=
  (iterSlices_per_query table other mode true).trans (filter_const_true _)

theorem byRanges_per_query (table other : Table) (mode : Mode) (ke : Bool) :
    byRanges table other mode ke =
      ((queriesInOrder other).map (fun b =>
        (b, selectRange (table.filter (fun r => r.chrom == b.chrom)) (some b.s) (some b.e) mode))).filter
        (fun p => !p.2.isEmpty || ke) := by
  unfold byRanges queriesInOrder
  rw [byRangesDf_per_chromosome, List.map_flatMap, List.filter_flatMap, List.filter_flatMap]
  apply flatMap_congr
  intro c _
  have hR : (other.filter (fun r => r.chrom == c)).map (fun b =>
        (b, selectRange (table.filter (fun r => r.chrom == b.chrom)) (some b.s) (some b.e) mode)) =
      (other.filter (fun r => r.chrom == c)).map (fun b =>
        (b, selectRange (table.filter (fun r => r.chrom == c)) (some b.s) (some b.e) mode)) :=
    List.map_congr_left fun b hb => by rw [rowsOf_chrom _ _ b hb]
  rw [hR]
  -- as for `iter_slices`: a chromosome the queried table lacks gives pairs with an empty selection
  by_cases hsrc : (table.filter (fun r => r.chrom == c)).isEmpty = true
  · cases ke <;> simp [List.isEmpty_iff.mp hsrc, selectRange_nil, List.filter_map, Function.comp_def]
  · simp [hsrc]

theorem byRangesDf_keep (table other : Table) (mode : Mode) :
    byRangesDf table other mode true =
      (queriesInOrder other).map (fun b =>
        (b, selectRange (table.filter (fun r => r.chrom == b.chrom)) (some b.s) (some b.e) mode)) := by
  have h := byRanges_per_query table other mode true
  simp only [byRanges, Bool.or_true] at h
  rwa [filter_const_true, filter_const_true] at h

theorem intersection_per_query (table other : Table) (mode : Mode) :
    intersection table other mode =
      (queriesInOrder other).flatMap (fun b =>
        selectRange (table.filter (fun r => r.chrom == b.chrom)) (some b.s) (some b.e) mode) := by
  unfold intersection
  by_cases hm : mode = .trim
  · subst hm
    simp only [beq_self_eq_true, if_true, byRanges_per_query, Bool.or_false]
    have hs : ∀ L : List (Row × Table), (L.filter (fun p => !p.2.isEmpty)).map (·.2) =
        (L.map (·.2)).filter (fun sel => !sel.isEmpty) := fun L =>
      (List.filter_map (f := fun x : Row × Table => x.2) (p := fun sel => !sel.isEmpty) (l := L)).symm
    rw [hs, List.flatten_filter_not_isEmpty, List.map_map, ← List.flatMap_def]
    rfl
  · have hne := Mode.beq_trim_eq_false hm
    simp only [hne, Bool.false_eq_true, if_false]
    rw [iterSlices_per_query]
    simp only [Bool.false_or]
    rw [List.flatten_filter_not_isEmpty, ← List.flatMap_def]
    apply flatMap_congr
    intro b _
    unfold hitsOf selectRange
    rw [hne]
    rfl

theorem intoRanges_per_query (r0 : Row) (rest dest : Table) (col : Row → Val) (d : Val) (s : Summary) :
    intoRanges (r0 :: rest) dest col d s =
      (queriesInOrder dest).map (fun q =>
        seriesToValue d (pickSummary s (col r0)) ((hitsOf (r0 :: rest) false q).map col)) := by
  unfold intoRanges
  by_cases hd : dest.isEmpty = true
  · rw [List.isEmpty_iff.mp hd]
    rfl
  · simp only [hd, Bool.false_eq_true, if_false]
    rw [iterSlices_keep, List.map_map]
    rfl

/-- a slice needs only the rows of the query's own chromosome to be well formed -/
theorem hitsOf_filter (source : Table) (inner : Bool) (q : Row)
    (h : WFTable (source.filter (fun r => r.chrom == q.chrom))) :
    hitsOf source inner q =
      source.filter (fun r => r.chrom == q.chrom && selFilter (some q.s) (some q.e) inner r) := by
  unfold hitsOf
  rw [idxSelect_eq_filter _ h, List.filter_filter]
  exact List.filter_congr fun r _ => Bool.and_comm _ _

/-- a well-formed table of several chromosomes: within each chromosome sorted by start (the chromosomes may come
    in any order, even interleaved), non-negative coordinates, positive length -/
def WFGenomeQ (t : Table) : Prop :=
  t.Pairwise (fun a b => a.chrom = b.chrom → a.s ≤ b.s) ∧ ∀ r ∈ t, 0 ≤ r.s ∧ r.s < r.e

instance (t : Table) : Decidable (WFGenomeQ t) := by unfold WFGenomeQ; infer_instance

theorem WFGenomeQ.chrom {t : Table} (h : WFGenomeQ t) (c : String) :
    WFTable (t.filter (fun r => r.chrom == c)) :=
  ⟨pairwise_rowsOf h.1 c, fun r hr => h.2 r (List.mem_filter.mp hr).1⟩

/-- the slice of a query is what the driver's oracle `selectSpec` (the property's wording, evaluated on the REAL
    output) computes -/
theorem hitsOf_eq_selectSpec (source : Table) (h : WFGenomeQ source) (q : Row) :
    hitsOf source false q = selectSpec source q.chrom q.s q.e .outer :=
  idxSelect_eq_filter _ (h.chrom q.chrom) _ _ false

theorem queriesInOrder_eq (t : Table) : queriesInOrder t = (groupByKey (·.chrom) t).flatten :=
  List.flatMap_def ..

theorem queriesInOrder_of_contig (t : Table) (h : KeysContig (·.chrom) t) : queriesInOrder t = t :=
  (queriesInOrder_eq t).trans (groupByKey_flatten_of_contig _ t h)

theorem queriesInOrder_map {α} (f : α → Row) (l : List α) :
    queriesInOrder (l.map f) = ((groupByKey (fun a => (f a).chrom) l).flatten).map f := by
  rw [queriesInOrder_eq, groupByKey_map, List.map_flatten]
  rfl

theorem queriesInOrder_perm (dest : Table) : (queriesInOrder dest).Perm dest :=
  queriesInOrder_eq dest ▸ groupByKey_flatten_perm _ dest

theorem mem_queriesInOrder (dest : Table) (r : Row) : r ∈ queriesInOrder dest ↔ r ∈ dest :=
  (queriesInOrder_perm dest).mem_iff

theorem length_queriesInOrder (dest : Table) : (queriesInOrder dest).length = dest.length :=
  (queriesInOrder_perm dest).length_eq

theorem queriesInOrder_eq_groups (t : Table) : queriesInOrder t = (groupByChrom t).flatMap (·.2) := by
  unfold queriesInOrder groupByChrom
  rw [List.flatMap_map]

theorem mem_intersection_trim (c : String) (table other : Table)
    (ht : ∀ r ∈ table, r.chrom = c) (ho : ∀ r ∈ other, r.chrom = c)
    (hwf : WFTable table) (x : Row) :
    x ∈ intersection table other .trim ↔ ∃ r ∈ table, ∃ b ∈ other,
      r.e > b.s ∧ r.s < b.e ∧ x = { r with s := max r.s b.s, e := min r.e b.e } := by
  have hsel : ∀ b ∈ other, x ∈ selectRange (table.filter (fun r => r.chrom == b.chrom)) (some b.s) (some b.e) .trim ↔
      ∃ r ∈ table, r.e > b.s ∧ r.s < b.e ∧ x = { r with s := max r.s b.s, e := min r.e b.e } := fun b hb => by
    rw [ho b hb, filter_chrom_self table c ht, selectRange_trim table hwf]
    simp only [List.mem_map, List.mem_filter, Bool.and_eq_true, decide_eq_true_eq, and_assoc, eq_comm (b := x)]
  rw [intersection_per_query]
  simp only [List.mem_flatMap, mem_queriesInOrder]
  constructor
  · rintro ⟨b, hb, hx⟩
    obtain ⟨r, hr, h⟩ := (hsel b hb).mp hx
    exact ⟨r, hr, b, hb, h⟩
  · rintro ⟨r, hr, b, hb, h⟩
    exact ⟨b, hb, (hsel b hb).mpr ⟨r, hr, h⟩⟩

theorem iterSlices_length (source dest : Table) (mode : Mode) :
    (iterSlices source dest mode true).length = dest.length := by
  rw [iterSlices_keep, List.length_map, length_queriesInOrder]

/-- `into_ranges` returns exactly one value per query row -/
theorem intoRanges_length (source dest : Table) (d : String) :
    (intoRangesStr source dest d).length = dest.length := by
  unfold intoRangesStr
  split
  · simp
  · rw [List.length_map, iterSlices_length]

/-! `in_ranges` with either array of bounds possibly absent (Model/RangesExt.lean) -/

theorem rangeSpec_nil (qs qe : Option Int) (mode : Mode) : rangeSpec [] qs qe mode = [] := by
  cases mode <;> rfl

/-- the rows `in_ranges` works on -/
def chromRows (t : Table) (chrom : Option String) : Table :=
  match chrom with
  | some c => if c.isEmpty then t else t.filter (fun r => r.chrom == c)
  | none => t

theorem inRangesOpt_eq (t : Table) (chrom : Option String) (starts ends : Option (List Int)) (mode : Mode) :
    inRangesOpt t chrom starts ends mode =
      if (chromRows t chrom).isEmpty then chromRows t chrom
      else (zipBounds starts ends).flatMap (fun q => selectRange (chromRows t chrom) q.1 q.2 mode) := by
  rw [List.flatMap_def]
  rfl

theorem inRangesOpt_exact (t : Table) (chrom : Option String) (starts ends : Option (List Int)) (mode : Mode)
    (h : WFTable (chromRows t chrom)) :
    inRangesOpt t chrom starts ends mode =
      (zipBounds starts ends).flatMap (fun q => rangeSpec (chromRows t chrom) q.1 q.2 mode) := by
  rw [inRangesOpt_eq]
  split
  · rename_i he
    rw [List.isEmpty_iff.mp he]
    exact (List.flatMap_eq_nil_iff.mpr fun q _ => rangeSpec_nil q.1 q.2 mode).symm
  · exact flatMap_congr fun q _ => selectRange_exact _ h q.1 q.2 mode

end CnvVerif
