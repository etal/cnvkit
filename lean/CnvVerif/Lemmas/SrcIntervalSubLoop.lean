/-
  C06 tie to the source text -- subtract, the body of the keeper loop of `_subtraction` (Generated/ExprsSubLoop.lean, read
  by harness/subloop.py): the list fact (filter the pairs, then update the keeper = the loop over `zip(starts, ends)`) with
  which Props/C06SrcSubLoop.lean compares it to the model's `subtractRow`.
-/
import CnvVerif.Generated.ExprsSubLoop
import CnvVerif.Model.Interval
namespace CnvVerif.Src
open CnvVerif CnvVerif.Generated

/-- the model's "filter the pairs, then replace start / end of the keeper" is the source's loop over `zip(starts, ends)`
    that yields `keeper._replace(start=start, end=end)` when `end > start` -/
theorem subLoop_filter_pairs (k : Row) (l : List (Int × Int)) :
    ((l.filter (fun p => p.2 > p.1)).map (fun p => ({ k with s := p.1, e := p.2 } : Row))).map (fun x => (x.s, x.e)) =
      l.flatMap (fun p => if p.2 > p.1 then [(p.1, p.2)] else []) := by
  induction l with
  | nil => rfl
  | cons a l ih =>
    rw [List.flatMap_cons, ← ih]
    by_cases h : a.2 > a.1 <;> simp [h]

end CnvVerif.Src
