/-
  C16: the executable form `contiguousB` of the property's hypothesis decides `Contiguous` (`contiguousB_iff`).  The
  check walks the rows; for the head row and each of its names it inspects the rows up to the last one carrying that
  name (`lastIdxWith`, `uptoLast`).  Core Lean only.
-/
import CnvVerif.Model.Genes
namespace CnvVerif.Genes
open CnvVerif

theorem lastIdxWith_some {α} (p : α → Bool) (l : List α) (k : Nat) (h : lastIdxWith p l = some k) :
    ∃ x, l[k]? = some x ∧ p x = true := by
  induction l generalizing k with
  | nil => cases h
  | cons x xs ih =>
    rw [lastIdxWith] at h
    cases hk : lastIdxWith p xs with
    | some k' =>
      simp only [hk, Option.some.injEq] at h
      subst h
      exact ih k' hk
    | none =>
      cases hp : p x
      · simp [hk, hp] at h
      · simp only [hk, hp, ↓reduceIte, Option.some.injEq] at h
        subst h
        exact ⟨x, rfl, hp⟩

theorem lastIdxWith_ge {α} (p : α → Bool) (l : List α) (i : Nat) (x : α) (h : l[i]? = some x)
    (hp : p x = true) : ∃ k, lastIdxWith p l = some k ∧ i ≤ k := by
  induction l generalizing i with
  | nil => cases h
  | cons y ys ih =>
    rw [lastIdxWith]
    cases i with
    | zero =>
      obtain rfl : y = x := Option.some.inj h
      cases lastIdxWith p ys with
      | some k => exact ⟨k + 1, rfl, Nat.zero_le _⟩
      | none => exact ⟨0, by simp only [hp, ↓reduceIte], Nat.le_refl _⟩
    | succ i =>
      obtain ⟨k, hk, hik⟩ := ih i h
      exact ⟨k + 1, by rw [hk], Nat.succ_le_succ hik⟩

theorem lastIdxWith_none {α} (p : α → Bool) (l : List α) (h : lastIdxWith p l = none) :
    ∀ x ∈ l, p x = false := by
  intro x hx
  obtain ⟨i, hi⟩ := List.mem_iff_getElem?.mp hx
  cases hp : p x with
  | false => rfl
  | true =>
    obtain ⟨k, hk, _⟩ := lastIdxWith_ge p l i x hi hp
    rw [h] at hk
    cases hk

theorem Contiguous.tail {ign : List String} {b : Bin} {rest : List Bin}
    (h : Contiguous ign (b :: rest)) : Contiguous ign rest :=
  fun i j k bi bj bk hij hjk hi hj hk =>
    h (i + 1) (j + 1) (k + 1) bi bj bk (Nat.succ_le_succ hij) (Nat.succ_le_succ hjk) hi hj hk

/-- the bins the head clause of `contiguousB` inspects for the gene `g` -/
def uptoLast (ign : List String) (b : Bin) (rest : List Bin) (g : String) : List Bin :=
  match lastIdxWith (fun x => (named ign x).contains g) rest with
  | some k => b :: rest.take (k + 1)
  | none => [b]

theorem contiguousB_cons (ign : List String) (b : Bin) (rest : List Bin) :
    contiguousB ign (b :: rest) = true ↔
      (∀ g ∈ named ign b, ∀ y ∈ uptoLast ign b rest g, ∀ h ∈ named ign y, h = g) ∧
        contiguousB ign rest = true := by
  simp only [contiguousB, uptoLast, Bool.and_eq_true, List.all_eq_true, beq_iff_eq]
  exact Iff.rfl

theorem mem_uptoLast {ign : List String} {b : Bin} {rest : List Bin} {g : String} {y : Bin} :
    y ∈ uptoLast ign b rest g ↔
      y = b ∨ ∃ (j k : Nat) (bk : Bin), j ≤ k ∧ rest[j]? = some y ∧ rest[k]? = some bk ∧ g ∈ named ign bk := by
  unfold uptoLast
  constructor
  · intro hy
    split at hy
    · rename_i k hk
      obtain ⟨bk, hbk, hp⟩ := lastIdxWith_some _ rest k hk
      rcases List.mem_cons.mp hy with h | h
      · exact Or.inl h
      · obtain ⟨j, hj⟩ := List.mem_iff_getElem?.mp h
        rw [List.getElem?_take] at hj
        split at hj
        · exact Or.inr ⟨j, k, bk, Nat.le_of_lt_succ ‹_›, hj, hbk, List.contains_iff_mem.mp hp⟩
        · cases hj
    · exact Or.inl (List.mem_singleton.mp hy)
  · rintro (rfl | ⟨j, k, bk, hjk, hj, hk, hg⟩)
    · split <;> exact List.mem_cons_self
    · obtain ⟨k', hk', hkk'⟩ := lastIdxWith_ge (fun x => (named ign x).contains g) rest k bk hk
        (List.contains_iff_mem.mpr hg)
      rw [hk']
      refine List.mem_cons_of_mem _ (List.mem_iff_getElem?.mpr ⟨j, ?_⟩)
      rw [List.getElem?_take, if_pos (Nat.lt_succ_of_le (Nat.le_trans hjk hkk'))]
      exact hj

/-- the executable check used by the driver decides the property's hypothesis -/
theorem contiguousB_iff (ign : List String) (rs : List Bin) :
    contiguousB ign rs = true ↔ Contiguous ign rs := by
  induction rs with
  | nil => exact ⟨fun _ i j k bi _ _ _ _ hi => (nomatch hi), fun _ => rfl⟩
  | cons b rest ih =>
    rw [contiguousB_cons, ih]
    constructor
    · rintro ⟨hhead, hrest⟩ i j k bi bj bk hij hjk hi hj hk g hgi hgk h hh
      cases i with
      | succ i =>
        obtain ⟨j, rfl⟩ := Nat.exists_eq_add_one_of_ne_zero (Nat.ne_zero_of_lt hij)
        obtain ⟨k, rfl⟩ := Nat.exists_eq_add_one_of_ne_zero (Nat.ne_zero_of_lt hjk)
        exact hrest i j k bi bj bk (Nat.le_of_succ_le_succ hij) (Nat.le_of_succ_le_succ hjk) hi hj hk
          g hgi hgk h hh
      | zero =>
        -- the head carries `g`: row `j` is among the bins the head clause inspects for `g`
        obtain rfl : b = bi := Option.some.inj hi
        refine hhead g hgi bj (mem_uptoLast.mpr ?_) h hh
        cases j with
        | zero => exact Or.inl (Option.some.inj hj).symm
        | succ j =>
          obtain ⟨k, rfl⟩ := Nat.exists_eq_add_one_of_ne_zero (Nat.ne_zero_of_lt hjk)
          exact Or.inr ⟨j, k, bk, Nat.le_of_succ_le_succ hjk, hj, hk, hgk⟩
    · intro H
      refine ⟨fun g hg y hy h hh => ?_, H.tail⟩
      rcases mem_uptoLast.mp hy with rfl | ⟨j, k, bk, hjk, hj, hk, hgk⟩
      · exact H 0 0 0 y y y (Nat.le_refl _) (Nat.le_refl _) rfl rfl rfl g hg hg h hh
      · exact H 0 (j + 1) (k + 1) b y bk (Nat.zero_le _) (Nat.succ_le_succ hjk) rfl hj hk g hg hgk h hh

end CnvVerif.Genes
