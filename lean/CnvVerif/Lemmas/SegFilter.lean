/-
  C14's lemmas (Props/C14, C14Ext, C14Src; Lemmas/SegFilterExt5 takes the sums from here).  The hypotheses of the
  property (`ChromContig`, `IntLevel`, `Present`, `NatOrMissing`); `splitRuns` forms `Runs`; `sumInt` / `sumRat` are
  `List.sum`, with its algebra; what `squash_region` does to one run; squashing keeps every aggregate
  computed piece by piece (`agg_squashed`): probes and weight (`totals`) for any rearrangement into non-empty groups,
  first start and last end per chromosome for runs on one chromosome (`GoodRuns`).  Then the key of `squash_by_groups`:
  `Tracks`, a non-decreasing integer column that steps exactly where a relation between neighbours fails; the change
  count, the chromosome ordinal and their sum are such columns, so the code's tagged rows (`taggedRows`) are grouped
  into exactly the maximal runs (`taggedGroups_eq_runs`), and on every table into a rearrangement
  (`squashByGroups_conserves`).  Last, what `ampdel` picks and the forms of its level.
-/
import CnvVerif.Model.SegFilter
import CnvVerif.Lemmas.GroupBy
namespace CnvVerif

/-- rows of one chromosome are consecutive in the table (a sorted `.cns` table) -/
def ChromContig (t : List Seg) : Prop :=
  ∀ (l1 l2 l3 : List Seg) (x y z : Seg), t = l1 ++ [x] ++ l2 ++ [y] ++ l3 → z ∈ l2 →
    x.chrom = y.chrom → z.chrom = x.chrom

/-- an integer level (cn, or −1/0/1) -/
def IntLevel (q : Option Rat) : Prop := ∃ z : Int, q = some (z : Rat)

/-- an allele-specific copy number: a natural number or missing -/
def NatOrMissing (q : Option Rat) : Prop := q = none ∨ ∃ n : Nat, q = some (n : Rat)

/-- a level that is present (not NaN) -/
def Present (q : Option Rat) : Prop := ∃ v : Rat, q = some v

theorem ChromContig.keysContig {t : List Seg} (h : ChromContig t) : KeysContig (fun r : Seg => r.chrom) t := h

theorem chromContig_of_length_le_two (t : List Seg) (h : t.length ≤ 2) : ChromContig t := by
  intro l1 l2 l3 x y z ht hz _
  have hlen := congrArg List.length ht
  cases l2 with
  | nil => cases hz
  | cons a b => simp at hlen; omega

/-- the relation between neighbours under which `splitRuns lv` forms its runs -/
abbrev sameRun {κ} [BEq κ] (lv : Seg → κ) (x y : Seg) : Bool := x.chrom == y.chrom && lv x == lv y

theorem runs_splitRuns {κ} [BEq κ] (lv : Seg → κ) (t : List Seg) : Runs (sameRun lv) t (splitRuns lv t) := by
  induction t with
  | nil => exact .nil
  | cons a t ih =>
    cases t with
    | nil => exact .one a
    | cons b t =>
      -- the runs of `b :: t` begin with a run beginning with `b`: the third branch of `splitRuns` is never taken
      obtain ⟨g, gs, e⟩ := ih.head
      rw [splitRuns, e]
      rw [e] at ih
      dsimp only
      split
      · exact .join ‹_› ih
      · exact .cut (Bool.eq_false_iff.mpr ‹_›) ih

theorem splitRuns_flatten {κ} [BEq κ] (lv : Seg → κ) (t : List Seg) : (splitRuns lv t).flatten = t :=
  (runs_splitRuns lv t).flatten

theorem splitRuns_nonempty {κ} [BEq κ] (lv : Seg → κ) (t : List Seg) : ∀ g ∈ splitRuns lv t, g ≠ [] :=
  (runs_splitRuns lv t).ne_nil

theorem splitRuns_uniform {κ} [BEq κ] [LawfulBEq κ] (lv : Seg → κ) (t : List Seg) :
    ∀ g ∈ splitRuns lv t, ∀ a ∈ g, ∀ b ∈ g, a.chrom = b.chrom ∧ lv a = lv b := fun g hg a ha b hb =>
  Prod.mk.inj ((runs_splitRuns lv t).uniform (fun r => (r.chrom, lv r))
    (fun a b h => by simpa [sameRun] using h) g hg a ha b hb)

theorem squashRegion_fields (x : Seg) (xs : List Seg) :
    ∃ r, squashRegion (x :: xs) = some r ∧ r.chrom = x.chrom ∧ r.s = x.s ∧
      r.e = ((x :: xs).getLast?.getD x).e ∧
      r.probes = sumInt ((x :: xs).map (·.probes)) ∧ r.weight = sumRat ((x :: xs).map (·.weight)) :=
  ⟨_, rfl, rfl, rfl, rfl, rfl, rfl⟩

theorem sumInt_eq_listSum (l : List Int) : sumInt l = l.sum := (List.sum_eq_foldl (xs := l)).symm
theorem sumRat_eq_listSum (l : List Rat) : sumRat l = l.sum := (List.sum_eq_foldl (xs := l)).symm

theorem sumInt_nil : sumInt [] = 0 := rfl
theorem sumRat_nil : sumRat [] = 0 := rfl
theorem sumInt_cons (x : Int) (xs : List Int) : sumInt (x :: xs) = x + sumInt xs := by
  rw [sumInt_eq_listSum, sumInt_eq_listSum, List.sum_cons]
theorem sumRat_cons (x : Rat) (xs : List Rat) : sumRat (x :: xs) = x + sumRat xs := by
  rw [sumRat_eq_listSum, sumRat_eq_listSum, List.sum_cons]
theorem sumInt_append (a b : List Int) : sumInt (a ++ b) = sumInt a + sumInt b := by
  rw [sumInt_eq_listSum, sumInt_eq_listSum, sumInt_eq_listSum, List.sum_append]
theorem sumRat_append (a b : List Rat) : sumRat (a ++ b) = sumRat a + sumRat b := by
  rw [sumRat_eq_listSum, sumRat_eq_listSum, sumRat_eq_listSum, List.sum_append]

theorem sumInt_flatten (ls : List (List Int)) : sumInt ls.flatten = sumInt (ls.map sumInt) := by
  induction ls with
  | nil => rfl
  | cons l ls ih => simp only [List.flatten_cons, List.map_cons, sumInt_append, sumInt_cons, ih]

theorem sumRat_flatten (ls : List (List Rat)) : sumRat ls.flatten = sumRat (ls.map sumRat) := by
  induction ls with
  | nil => rfl
  | cons l ls ih => simp only [List.flatten_cons, List.map_cons, sumRat_append, sumRat_cons, ih]

theorem filterMap_squash_map_some (gs : List (List Seg)) (hne : ∀ g ∈ gs, g ≠ []) :
    (gs.filterMap squashRegion).map some = gs.map squashRegion := by
  induction gs with
  | nil => rfl
  | cons g gs ih =>
    have ih := ih (fun g' hg' => hne g' (by simp [hg']))
    cases g with
    | nil => exact absurd rfl (hne [] (by simp))
    | cons x xs =>
      obtain ⟨r, hr, -⟩ := squashRegion_fields x xs
      simp only [List.filterMap_cons, hr, List.map_cons, ih]

theorem sumInt_perm {a b : List Int} (p : a.Perm b) : sumInt a = sumInt b :=
  p.foldl_eq' (fun x _ y _ z => by omega) 0

theorem sumRat_perm {a b : List Rat} (p : a.Perm b) : sumRat a = sumRat b :=
  p.foldl_eq' (fun x _ y _ z => by rw [Rat.add_assoc, Rat.add_comm x y, ← Rat.add_assoc]) 0

/-- Squashing changes no aggregate `agg` of a table that is computed piece by piece (the `agg` of a concatenation
    depends only on the `agg` of its parts) and that every squashed row shares with its group. -/
theorem agg_squashed {M} (agg : List Seg → M)
    (happ : ∀ a a' b b', agg a = agg a' → agg b = agg b' → agg (a ++ b) = agg (a' ++ b'))
    (gs : List (List Seg)) (hone : ∀ g ∈ gs, ∃ r, squashRegion g = some r ∧ agg [r] = agg g) :
    agg (gs.filterMap squashRegion) = agg gs.flatten := by
  induction gs with
  | nil => rfl
  | cons g gs ih =>
    obtain ⟨r, hr, hg⟩ := hone g List.mem_cons_self
    rw [List.filterMap_cons, hr, List.flatten_cons]
    exact happ [r] g _ _ hg (ih fun g' hg' => hone g' (List.mem_cons_of_mem _ hg'))

/-- what a squash conserves of a table: the number of probes and the weight -/
def totals (l : List Seg) : Int × Rat := (sumInt (l.map (·.probes)), sumRat (l.map (·.weight)))

theorem totals_append (a b : List Seg) : totals (a ++ b) = ((totals a).1 + (totals b).1, (totals a).2 + (totals b).2) := by
  rw [totals, List.map_append, List.map_append, sumInt_append, sumRat_append]
  rfl

theorem totals_singleton (r : Seg) : totals [r] = (r.probes, r.weight) :=
  Prod.ext ((sumInt_cons _ []).trans (Int.add_zero _)) ((sumRat_cons _ []).trans (Rat.add_zero _))

theorem squashed_totals (gs : List (List Seg)) (t : List Seg) (hne : ∀ g ∈ gs, g ≠ []) (hp : gs.flatten.Perm t) :
    totals (gs.filterMap squashRegion) = totals t := by
  refine (agg_squashed totals (fun a a' b b' h1 h2 => ?_) gs fun g hg => ?_).trans
    (Prod.ext (sumInt_perm (hp.map _)) (sumRat_perm (hp.map _)))
  · rw [totals_append, totals_append, h1, h2]
  · obtain ⟨x, xs, rfl⟩ := List.exists_cons_of_ne_nil (hne g hg)
    exact ⟨_, rfl, totals_singleton _⟩

/-- a list of runs: every run is non-empty and lies on one chromosome -/
def GoodRuns (gs : List (List Seg)) : Prop :=
  ∀ g ∈ gs, g ≠ [] ∧ ∀ a ∈ g, ∀ b ∈ g, a.chrom = b.chrom

theorem splitRuns_good (h : Bool) (f : Seg → Option Rat) (t : List Seg) :
    GoodRuns (splitRuns (fullLevel h f) t) :=
  fun g hg => ⟨splitRuns_nonempty _ t g hg,
    fun a ha b hb => (splitRuns_uniform (fullLevel h f) t g hg a ha b hb).1⟩

/-- a run on one chromosome and its squashed row are both off `c`, or the run is all on `c` and hands its first start and
    last end to the row -/
theorem ends_squashed (c : String) (gs : List (List Seg)) (hg : GoodRuns gs) :
    ((gs.filterMap squashRegion).filter (fun r => r.chrom == c)).head?.map (·.s) =
      (gs.flatten.filter (fun r => r.chrom == c)).head?.map (·.s) ∧
    ((gs.filterMap squashRegion).filter (fun r => r.chrom == c)).getLast?.map (·.e) =
      (gs.flatten.filter (fun r => r.chrom == c)).getLast?.map (·.e) := by
  -- stated forwards: read back from the goal, the unifier has to find `agg` through `Prod.mk.inj`
  have key := agg_squashed (fun l : List Seg => ((l.filter (fun r => r.chrom == c)).head?.map (·.s),
    (l.filter (fun r => r.chrom == c)).getLast?.map (·.e))) ?_ gs ?_
  · exact Prod.mk.inj key
  · intro a a' b b' h1 h2
    obtain ⟨h1s, h1e⟩ := Prod.mk.inj h1
    obtain ⟨h2s, h2e⟩ := Prod.mk.inj h2
    rw [List.filter_append, List.filter_append, List.head?_append, List.head?_append, List.getLast?_append,
      List.getLast?_append, Option.map_or, Option.map_or, Option.map_or, Option.map_or, h1s, h1e, h2s, h2e]
  · intro g hgm
    obtain ⟨hne, hu⟩ := hg g hgm
    obtain ⟨x, xs, rfl⟩ := List.exists_cons_of_ne_nil hne
    obtain ⟨r, hr, hch, hs, he, -, -⟩ := squashRegion_fields x xs
    refine ⟨r, hr, ?_⟩
    have hxs : ∀ a ∈ x :: xs, (a.chrom == c) = (x.chrom == c) := fun a ha => by rw [hu a ha x List.mem_cons_self]
    rw [List.getLast?_eq_some_getLast hne] at he
    cases hx : x.chrom == c
    · have hf : (x :: xs).filter (fun r => r.chrom == c) = [] :=
        List.filter_eq_nil_iff.mpr fun a ha => by rw [hxs a ha, hx]; exact Bool.false_ne_true
      rw [hf, List.filter_cons_of_neg (by rw [hch, hx]; exact Bool.false_ne_true)]
      rfl
    · have hf : (x :: xs).filter (fun r => r.chrom == c) = x :: xs :=
        List.filter_eq_self.mpr fun a ha => by rw [hxs a ha, hx]
      rw [hf, List.filter_cons_of_pos (by rw [hch, hx]), List.getLast?_eq_some_getLast hne]
      exact Prod.ext (congrArg some hs) (congrArg some he)

theorem exists_chrom_iff (l : List Seg) (c : String) (f : Seg → Int) :
    (∃ r ∈ l, r.chrom = c) ↔ ((l.filter (fun r => r.chrom == c)).head?.map f).isSome = true := by
  rw [Option.isSome_map, List.isSome_head?, ne_eq, List.filter_eq_nil_iff]
  simp

theorem runs_same_chromosomes (c : String) (gs : List (List Seg)) (hg : GoodRuns gs) :
    (∃ r ∈ gs.filterMap squashRegion, r.chrom = c) ↔ (∃ r ∈ gs.flatten, r.chrom = c) := by
  rw [exists_chrom_iff _ c (·.s), exists_chrom_iff _ c (·.s), (ends_squashed c gs hg).1]

/-- `c` is a non-decreasing integer column over the rows `t` (of any type) whose neighbouring entries are equal exactly when
    the neighbouring rows are related by `P` -/
inductive Tracks {α} (P : α → α → Prop) : List Int → List α → Prop
  | nil : Tracks P [] []
  | one (c : Int) (x : α) : Tracks P [c] [x]
  | cons {c c' : Int} {cs : List Int} {x y : α} {t : List α} :
      c ≤ c' → (c = c' ↔ P x y) → Tracks P (c' :: cs) (y :: t) → Tracks P (c :: c' :: cs) (x :: y :: t)

theorem Tracks.head_le {α} {P : α → α → Prop} {c cs x t} (h : Tracks P (c :: cs) (x :: t)) : ∀ d ∈ cs, c ≤ d := by
  induction cs generalizing c x t with
  | nil => simp
  | cons c' cs ih =>
    cases h with
    | cons h1 _ h3 =>
      intro d hd
      rcases List.mem_cons.mp hd with rfl | hd
      · exact h1
      · exact Int.le_trans h1 (ih h3 d hd)

/-- a non-decreasing column never returns to a value it has left -/
theorem Tracks.keyRuns {α} {P : α → α → Prop} {c t} (h : Tracks P c t) : KeyRuns P c t := by
  induction h with
  | nil => exact .nil
  | one c x => exact .one c x
  | cons h1 h2 h3 ih =>
    refine .cons h2 (fun hne hmem => ?_) ih
    rcases List.mem_cons.mp hmem with h | h
    · exact hne h
    · have := h3.head_le _ h
      omega

/-- both columns being non-decreasing, their sum is equal between neighbours exactly when both are -/
theorem Tracks.add_map {α} {P Q : α → α → Prop} {C} {t : List α} (ord : α → Int) (hC : Tracks P C t) (hO : Tracks Q (t.map ord) t) :
    Tracks (fun a b => P a b ∧ Q a b) ((C.zip t).map (fun p => p.1 + ord p.2)) t := by
  induction hC with
  | nil => exact .nil
  | one c x => exact .one _ x
  | @cons c c' cs x y t h1 h2 _ ih =>
    cases hO with
    | cons o1 o2 o3 =>
      refine .cons (Int.add_le_add h1 o1) ?_ (ih o3)
      show c + ord x = c' + ord y ↔ P x y ∧ Q x y
      rw [← h2, ← o2]
      omega

theorem Tracks.of_adjacent {α} {P : α → α → Prop} (c : α → Int) (t : List α)
    (h : ∀ p x y q, t = p ++ x :: y :: q → c x ≤ c y ∧ (c x = c y ↔ P x y)) : Tracks P (t.map c) t := by
  suffices ∀ s p, t = p ++ s → Tracks P (s.map c) s from this t [] rfl
  intro s
  induction s with
  | nil => intro _ _; exact .nil
  | cons x s ih =>
    intro p hp
    cases s with
    | nil => exact .one _ x
    | cons y q =>
      obtain ⟨h1, h2⟩ := h p x y q hp
      exact .cons h1 h2 (ih (p ++ [x]) (by simpa using hp))


/-- `enumerate_changes` counts the level changes: non-decreasing, and constant exactly between equal levels,
    whatever the size of the levels -/
theorem tracks_enumChanges {α} (q : α → Rat) (t : List α) :
    Tracks (fun a b => q a = q b) (enumChanges (t.map (fun r => some (q r)))) t := by
  cases t with
  | nil => exact .nil
  | cons x xs =>
    show Tracks _ (0 :: enumChangesGo 0 (some (q x)) (xs.map (fun r => some (q r)))) (x :: xs)
    generalize (0 : Int) = n
    induction xs generalizing n x with
    | nil => exact .one n x
    | cons y ys ih =>
      -- one step of `enumChangesGo`: the count goes up by one exactly when the level changes
      refine .cons (c' := n + if q x = q y then 0 else 1) ?_ ?_ (ih y _)
      · split <;> omega
      · by_cases h : q x = q y
        · rw [if_pos h]
          exact iff_of_true (Int.add_zero n).symm h
        · rw [if_neg h]
          exact iff_of_false (by omega) h


theorem tracks_const (t : List Seg) : Tracks (fun _ _ => True) (t.map (fun _ => (0 : Int))) t :=
  Tracks.of_adjacent _ t fun _ _ _ _ _ => ⟨Int.le_refl 0, iff_of_true rfl trivial⟩

/-- neighbours `a`, `b` in a list of names, `b` new at its place unless it repeats `a`: among the distinct names in order
    of first appearance `b` does not come before `a`, and has `a`'s position only if it is `a` -/
theorem idxOf_eraseDups_adj {α} [BEq α] [LawfulBEq α] (p q : List α) (a b : α) (hnew : b ≠ a → b ∉ p ++ [a]) :
    (p ++ a :: b :: q).eraseDups.idxOf a ≤ (p ++ a :: b :: q).eraseDups.idxOf b ∧
    ((p ++ a :: b :: q).eraseDups.idxOf a = (p ++ a :: b :: q).eraseDups.idxOf b ↔ a = b) := by
  by_cases hab : a = b
  · subst hab; simp
  · have hb : b ∉ p ++ [a] := hnew (fun h => hab h.symm)
    have e : p ++ a :: b :: q = (p ++ [a]) ++ (b :: q) := by simp
    rw [e, List.eraseDups_append]
    have ha1 : a ∈ (p ++ [a]).eraseDups := List.mem_eraseDups.mpr (by simp)
    have hb1 : b ∉ (p ++ [a]).eraseDups := fun h => hb (List.mem_eraseDups.mp h)
    rw [List.idxOf_append, List.idxOf_append, if_pos ha1, if_neg hb1]
    have := List.idxOf_lt_length_of_mem ha1
    constructor
    · omega
    · constructor
      · intro h; omega
      · intro h; exact absurd h hab

/-- `cnarr["chromosome"].unique()` numbers the chromosomes in table order: on a contiguous table the ordinal column is
    non-decreasing and constant exactly within a chromosome -/
theorem tracks_ord (t : List Seg) (hc : ChromContig t) :
    Tracks (fun a b => a.chrom = b.chrom) (t.map (fun r => chromOrdinal ((t.map (·.chrom)).eraseDups) r.chrom)) t := by
  refine Tracks.of_adjacent _ t fun p x y q ht => ?_
  have := idxOf_eraseDups_adj (p.map (·.chrom)) (q.map (·.chrom)) x.chrom y.chrom
    (fun hne => hc.keysContig.new ht hne)
  rw [show p.map (·.chrom) ++ x.chrom :: y.chrom :: q.map (·.chrom) = t.map (·.chrom) by rw [ht]; simp] at this
  exact ⟨Int.ofNat_le.mpr this.1, by rw [← this.2]; exact Int.ofNat_inj⟩

theorem natOrMissing_ne (q : Option Rat) (hq : NatOrMissing q) : q ≠ some (-1) := by
  rcases hq with rfl | ⟨n, rfl⟩
  · simp
  · intro h
    have h' : ((n : Nat) : Rat) = -1 := Option.some.inj h
    have h0 : (0 : Rat) ≤ ((n : Nat) : Rat) := by
      rw [← Rat.intCast_natCast]; exact Rat.intCast_nonneg.mpr (Int.natCast_nonneg n)
    rw [h'] at h0
    exact absurd h0 (by decide)

/-- `fillna(d)` keeps two values apart exactly when they differ, as long as the stand-in `d` itself is not a value
    (the code uses −1 for a missing allele-specific copy number) -/
theorem getD_inj_of_ne {d : Rat} (q q' : Option Rat) (hq : q ≠ some d) (hq' : q' ≠ some d) :
    q.getD d = q'.getD d ↔ q = q' := by
  refine ⟨fun h => ?_, fun h => by rw [h]⟩
  cases q <;> cases q' <;> simp only [Option.getD_none, Option.getD_some] at h
  · rfl
  · exact absurd (h ▸ rfl) hq'
  · exact absurd (h ▸ rfl) hq
  · rw [h]

/-- the rows `squash_by_groups` hands to `groupby`, each tagged with its group key (`_group`, `_g1`, `_g2`) -/
def taggedRows (h : Bool) (t : List Seg) (levels : List (Option Rat)) : List ((Int × Int × Int) × Seg) :=
  let names := (t.map (·.chrom)).eraseDups
  let change := enumChanges levels
  let keys : List Int := (change.zip t).map (fun p => p.1 + chromOrdinal names p.2.chrom)
  let g1 := if h then enumChanges (t.map (fun r => some (r.cn1.getD (-1)))) else t.map (fun _ => 0)
  let g2 := if h then enumChanges (t.map (fun r => some (r.cn2.getD (-1)))) else t.map (fun _ => 0)
  (keys.zip (g1.zip g2)).zip t

theorem squashByGroups_def (h : Bool) (t : List Seg) (lv : List (Option Rat)) :
    squashByGroups h t lv =
      ((groupByKey (·.1) (taggedRows h t lv)).map (fun g => g.map (·.2))).filterMap squashRegion := by
  rw [List.filterMap_map]
  rfl

theorem filterAmpdel_def (h : Bool) (t : List Seg) :
    filterAmpdel h t =
      ((groupByKey (·.1) (taggedRows h t (t.map levelAmpdel))).map (fun g => g.map (·.2))).filterMap ampdelPick := by
  rw [List.filterMap_map]
  refine congrArg (fun f => List.filterMap f _) (funext fun g => ?_)
  cases g <;> rfl

theorem enumChangesGo_length (acc : Int) (p : Option Rat) (l : List (Option Rat)) :
    (enumChangesGo acc p l).length = l.length := by
  induction l generalizing acc p with
  | nil => rfl
  | cons x xs ih => simp [enumChangesGo, ih]

theorem enumChanges_length (l : List (Option Rat)) : (enumChanges l).length = l.length := by
  cases l with
  | nil => rfl
  | cons x xs => simp [enumChanges, enumChangesGo_length]

theorem taggedRows_snd (h : Bool) (t : List Seg) (f : Seg → Option Rat) :
    (taggedRows h t (t.map f)).map (·.2) = t := by
  unfold taggedRows
  simp only []
  apply List.map_snd_zip
  cases h <;> simp [enumChanges_length]

/-- `groupby` only rearranges the rows into groups and `squash_region` sums probes and weight over its group: whatever the
    order of the table, its levels (NaN included) or its allele-specific columns -/
theorem squashByGroups_conserves (h : Bool) (t : List Seg) (f : Seg → Option Rat) :
    totals (squashByGroups h t (t.map f)) = totals t := by
  rw [squashByGroups_def]
  refine squashed_totals _ t (fun g hg => ?_) ?_
  · obtain ⟨g0, hg0, rfl⟩ := List.mem_map.mp hg
    exact fun h' => groupByKey_nonempty _ _ g0 hg0 (List.map_eq_nil_iff.mp h')
  · have h2 := (groupByKey_flatten_perm (fun p : (Int × Int × Int) × Seg => p.1) (taggedRows h t (t.map f))).map (·.2)
    rwa [taggedRows_snd, List.map_flatten] at h2

/-- the groups pandas forms from the code's keys are exactly the maximal runs, in order -/
theorem taggedGroups_eq_runs (h : Bool) (f : Seg → Option Rat) (t : List Seg)
    (hc : ChromContig t) (hf : ∀ r ∈ t, Present (f r))
    (h1 : h = true → ∀ r ∈ t, r.cn1 ≠ some (-1) ∧ r.cn2 ≠ some (-1)) :
    (groupByKey (·.1) (taggedRows h t (t.map f))).map (fun g => g.map (·.2)) = splitRuns (fullLevel h f) t := by
  let g : Seg → Rat := fun r => (f r).getD 0
  have hg : ∀ r ∈ t, f r = some (g r) := by
    intro r hr
    obtain ⟨v, hv⟩ := hf r hr
    simp only [g, hv, Option.getD_some]
  -- `_group`: change count of the level plus chromosome ordinal, a non-decreasing column; `_g1`, `_g2` are zipped on
  have hK := ((tracks_enumChanges g t).add_map _ (tracks_ord t hc)).keyRuns
  unfold taggedRows
  simp only []
  rw [List.map_congr_left hg]
  refine (runs_groupByKey_zip (sameRun (fullLevel h f)) ?_).unique (runs_splitRuns _ t)
  cases h with
  | false =>
    refine (hK.zip ((tracks_const t).keyRuns.zip (tracks_const t).keyRuns)).congr fun a ha b hb => ?_
    simp only [fullLevel, hg a ha, hg b hb, Bool.false_eq_true, if_false, Bool.and_eq_true, beq_iff_eq,
      Prod.mk.injEq, and_true, Option.some.injEq]
    exact and_comm
  | true =>
    have hA := (tracks_enumChanges (fun r => r.cn1.getD (-1)) t).keyRuns
    have hB := (tracks_enumChanges (fun r => r.cn2.getD (-1)) t).keyRuns
    refine (hK.zip (hA.zip hB)).congr fun a ha b hb => ?_
    simp only [fullLevel, hg a ha, hg b hb, if_true, Bool.and_eq_true, beq_iff_eq, Prod.mk.injEq,
      Option.some.injEq, getD_inj_of_ne _ _ (h1 rfl a ha).1 (h1 rfl b hb).1,
      getD_inj_of_ne _ _ (h1 rfl a ha).2 (h1 rfl b hb).2]
    rw [and_comm (a := g a = g b), and_assoc]

/-- on a chromosome-contiguous table whose levels are present (ANY rational values: `enumerate_changes`
    counts the changes and truncates nothing), `squash_by_groups` (change count of the level +
    chromosome ordinal, plus the allele-specific keys) yields exactly one squashed row per maximal run of
    consecutive same-chromosome, same-level segments -/
theorem squashByGroups_eq_runs_any (h : Bool) (f : Seg → Option Rat) (t : List Seg)
    (hc : ChromContig t) (hf : ∀ r ∈ t, Present (f r))
    (h1 : h = true → ∀ r ∈ t, r.cn1 ≠ some (-1) ∧ r.cn2 ≠ some (-1)) :
    squashByGroups h t (t.map f) = specSquash h f t := by
  rw [squashByGroups_def, taggedGroups_eq_runs h f t hc hf h1]
  rfl

theorem fullLevel_fst (h : Bool) (f : Seg → Option Rat) (r : Seg) : (fullLevel h f r).1 = f r := by
  cases h <;> rfl

theorem ampdelPick_eq (g : List Seg) :
    ampdelPick g = if ampdelKeep g = true then squashRegion g else none := by
  cases g with
  | nil => rfl
  | cons x xs =>
    simp only [ampdelPick, ampdelKeep, bne]
    by_cases h : (levelAmpdel x == some 0) = true <;> simp [h]

theorem filterMap_ampdelPick (runs : List (List Seg)) :
    runs.filterMap ampdelPick = (runs.filter ampdelKeep).filterMap squashRegion := by
  rw [List.filterMap_filter]
  exact congrArg (fun f => List.filterMap f runs) (funext ampdelPick_eq)

theorem present_of_intLevel {q : Option Rat} (h : IntLevel q) : Present q := by
  obtain ⟨z, hz⟩ := h
  exact ⟨_, hz⟩

theorem intLevel_ite3 (a b : Prop) [Decidable a] [Decidable b] (u v w : Int) :
    IntLevel (some (if a then (u : Rat) else if b then (v : Rat) else (w : Rat))) := by
  by_cases ha : a
  · exact ⟨u, by rw [if_pos ha]⟩
  · by_cases hb : b
    · exact ⟨v, by rw [if_neg ha, if_pos hb]⟩
    · exact ⟨w, by rw [if_neg ha, if_neg hb]⟩

/-- `ampdel`'s level with the cut-offs of the source put in -/
theorem levelAmpdel_form (r : Seg) (c : Rat) (hc : r.cn = some c) :
    levelAmpdel r = some (if c ≥ 5 then 1 else if c = 0 then -1 else 0) := by
  have h5 : ((5 : Int) : Rat) = 5 := rfl
  have h0 : ((0 : Int) : Rat) = 0 := rfl
  simp [levelAmpdel, hc, Generated.AMPDEL_AMP_MIN, Generated.AMPDEL_DEL_EQ, h5, h0]

theorem levelAmpdel_cases (r : Seg) :
    levelAmpdel r = some 1 ∨ levelAmpdel r = some (-1) ∨ levelAmpdel r = some 0 := by
  unfold levelAmpdel
  simp only []
  split
  · exact Or.inl rfl
  · split
    · exact Or.inr (Or.inl rfl)
    · exact Or.inr (Or.inr rfl)

end CnvVerif
