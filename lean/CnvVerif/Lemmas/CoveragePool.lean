/-
  How `coverage` splits its work and gathers it (C09): `Executor.map` hands results back in submission order whatever
  the completion order (`poolMap_eq_map`, from the key lookup of Lemmas/Basic.lean); the chunks of `to_chunks`
  concatenate to the non-comment lines for every chunk size and have the lengths the generator promises for a positive
  one; `bedcov` chunk by chunk is `bedcov` on the whole file.  Core Lean only.
-/
import CnvVerif.Model.Coverage
import CnvVerif.Lemmas.Basic
namespace CnvVerif.Cov
open CnvVerif

/-- `Executor.map` contract: whatever order the workers finish in, results come back in submission order -/
theorem orderedGather_of_perm {β} (ys : List β) (done : List (Nat × β))
    (h : done.Perm ((List.range ys.length).zip ys)) : orderedGather ys.length done = ys := by
  have hg : orderedGather ys.length done =
      ((List.range ys.length).map (fun i => (done.find? (fun d => d.1 == i)).map (·.2))).filterMap id := by
    rw [List.filterMap_map]; rfl
  rw [hg, gather_lookup done ys (fun d hd => (mem_enum ys d.1 d.2).mp (h.mem_iff.mp hd))
      (fun i hi => ⟨(i, ys[i]), h.mem_iff.mpr ((mem_enum ys i _).mpr (List.getElem?_eq_getElem hi)), rfl⟩),
    List.filterMap_map]
  exact List.filterMap_some

theorem completion_perm {β} (order : List Nat) (xs : List (Nat × β)) : (completion order xs).Perm xs :=
  List.mergeSort_perm _ _

/-- `pool.map(f, xs)` = `map(f, xs)` for every completion order -/
theorem poolMap_eq_map {α β} (f : α → β) (xs : List α) (order : List Nat) : poolMap f xs order = xs.map f := by
  unfold poolMap
  have hl : xs.length = (xs.map f).length := by simp
  rw [hl]
  exact orderedGather_of_perm (xs.map f) _ (completion_perm _ _)

theorem succ_mod_of (k size : Nat) (hs : 0 < size) :
    ((k + 1) % size = 0 ∧ k % size + 1 = size) ∨ ((k + 1) % size = k % size + 1 ∧ k % size + 1 < size) := by
  have hlt := Nat.mod_lt k hs
  have h1 : (k + 1) % size = (k % size + 1) % size := by
    rw [Nat.add_mod, Nat.add_mod (k % size) 1, Nat.mod_mod]
  by_cases h : k % size + 1 = size
  · left; refine ⟨?_, h⟩; rw [h1, h, Nat.mod_self]
  · right
    have hl : k % size + 1 < size := by omega
    exact ⟨by rw [h1, Nat.mod_eq_of_lt hl], hl⟩

/-- the chunks concatenate to the non-comment lines for every `size`: all it takes is that the open chunk is empty
    whenever a chunk has just been closed -/
theorem toChunksGo_flatten {α} (isC : α → Bool) (size k : Nat) (cur xs : List α) (hk : k % size = 0 → cur = []) :
    (toChunksGo isC size k cur xs).flatten = cur.reverse ++ xs.filter (fun x => !isC x) := by
  induction xs generalizing k cur with
  | nil =>
    unfold toChunksGo
    by_cases h : k % size = 0
    · simp [h, hk h]
    · simp [h]
  | cons x xs ih =>
    unfold toChunksGo
    rw [List.filter_cons]
    cases hc : isC x
    · by_cases hz : (k + 1) % size = 0
      · simp [hz, ih (k + 1) [] (fun _ => rfl)]
      · simp [hz, ih (k + 1) (x :: cur) (fun h => absurd h hz)]
    · simp [ih k cur hk]

/-- the lengths of the chunks: the open chunk holds `k % size` records -/
theorem toChunksGo_shape {α} (isC : α → Bool) (size : Nat) (hs : 0 < size) (k : Nat) (cur xs : List α)
    (hk : cur.length = k % size) :
    ∃ full last, toChunksGo isC size k cur xs = full ++ last ∧ (∀ c ∈ full, c.length = size) ∧
      (last = [] ∨ ∃ c, last = [c] ∧ 0 < c.length ∧ c.length < size) := by
  induction xs generalizing k cur with
  | nil =>
    unfold toChunksGo
    by_cases h : k % size = 0
    · rw [if_neg (by rw [h]; decide)]; exact ⟨[], [], rfl, nofun, Or.inl rfl⟩
    · rw [if_pos (by simpa using h)]
      refine ⟨[], [cur.reverse], rfl, nofun, Or.inr ⟨_, rfl, ?_, ?_⟩⟩
      · rw [List.length_reverse]; omega
      · rw [List.length_reverse, hk]; exact Nat.mod_lt k hs
  | cons x xs ih =>
    unfold toChunksGo
    cases hc : isC x
    · rw [if_neg Bool.false_ne_true]
      rcases succ_mod_of k size hs with ⟨hz, hfull⟩ | ⟨hnz, hlt⟩
      · rw [if_pos (by rw [hz]; rfl)]
        obtain ⟨full, last, h2, h3, h4⟩ := ih (k + 1) [] (by rw [hz]; rfl)
        refine ⟨(x :: cur).reverse :: full, last, by rw [h2]; rfl, ?_, h4⟩
        intro c hcm
        rcases List.mem_cons.mp hcm with h | h
        · rw [h, List.length_reverse, List.length_cons, hk]; exact hfull
        · exact h3 c h
      · rw [if_neg (by rw [hnz]; simp)]
        exact ih (k + 1) (x :: cur) (by rw [List.length_cons, hk, hnz])
    · rw [if_pos rfl]; exact ih k cur hk

theorem toChunks_flatten {α} (isC : α → Bool) (size : Nat) (lines : List α) :
    (toChunks isC size lines).flatten = lines.filter (fun x => !isC x) := by
  simpa [toChunks] using toChunksGo_flatten isC size 0 [] lines (fun _ => rfl)

theorem toChunks_shape {α} (isC : α → Bool) (size : Nat) (hs : 0 < size) (lines : List α) :
    ∃ full last, toChunks isC size lines = full ++ last ∧ (∀ c ∈ full, c.length = size) ∧
      (last = [] ∨ ∃ c, last = [c] ∧ 0 < c.length ∧ c.length < size) :=
  toChunksGo_shape isC size hs 0 [] lines (by simp)

theorem records_filter_noncomment (lines : List BedLine) :
    records (lines.filter (fun x => !x.isComment)) = records lines := by
  unfold records
  rw [List.filterMap_filter]
  exact congrArg (List.filterMap · lines) (funext fun x => by cases x <;> rfl)

theorem bedcov_chunks (contigs : List (String × Nat)) (reads : List ARead) (q : Nat) (lines : List BedLine)
    (size : Nat) :
    ((toChunks BedLine.isComment size lines).map (bedcov contigs reads q)).flatten = bedcov contigs reads q lines := by
  have h : ∀ chunks : List (List BedLine),
      (chunks.map (bedcov contigs reads q)).flatten = bedcov contigs reads q chunks.flatten := by
    intro chunks
    unfold bedcov records
    rw [List.filterMap_flatten, List.map_flatten, List.map_map]; rfl
  rw [h, toChunks_flatten]
  unfold bedcov
  rw [records_filter_noncomment]

end CnvVerif.Cov
