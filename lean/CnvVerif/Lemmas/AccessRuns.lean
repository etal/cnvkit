/-
  Runs of positions (0-based, half-open pairs): the maximal runs of a predicate on `[0, n)` as `accRunsGo` lists them
  are non-empty, separated and cover exactly the predicate (`accRuns_canon`, `accRuns_cov`); a list with these two
  properties consists of exactly the maximal runs (`mem_iff_isMaxRun`).  `maxRuns w`: the runs of characters other
  than 'N' of a sequence, what the scanner of cnvlib/access.py is compared with (Lemmas/AccessScan.lean).
-/
import CnvVerif.Model.Access
import CnvVerif.Lemmas.Basic
namespace CnvVerif

theorem accRunsGo_zero (f : Nat → Bool) (pos : Nat) (rs : Option Nat) :
    accRunsGo f 0 pos rs = emitOpen rs pos := rfl

theorem accRunsGo_succ (f : Nat → Bool) (k pos : Nat) (rs : Option Nat) :
    accRunsGo f (k + 1) pos rs =
      if f pos then accRunsGo f k (pos + 1) (some (rs.getD pos))
      else emitOpen rs pos ++ accRunsGo f k (pos + 1) none := by
  cases rs <;> rfl

/-- the maximal runs of non-'N' characters of `w`, by position -/
def maxRuns (w : List Char) : List Run := accRunsGo (nonN w) w.length 0 none

/-- position `i` lies in one of the runs -/
def covN (l : List Run) (i : Nat) : Prop := ∃ r ∈ l, r.1 ≤ i ∧ i < r.2

/-- every run non-empty, the runs in order with at least one position between neighbours -/
def CanonN (l : List Run) : Prop := (∀ r ∈ l, r.1 < r.2) ∧ l.Pairwise (fun a b => a.2 < b.1)

theorem covN_nil (i : Nat) : covN [] i ↔ False := by simp [covN]

theorem covN_append (a b : List Run) (i : Nat) : covN (a ++ b) i ↔ covN a i ∨ covN b i := by
  simp only [covN, List.mem_append, or_and_right, exists_or]

/-- stated without a case split on the open run: with none open, `rs.getD e = e` gives the empty interval -/
theorem covN_emitOpen (rs : Option Nat) (e i : Nat) : covN (emitOpen rs e) i ↔ rs.getD e ≤ i ∧ i < e := by
  cases rs with
  | none => exact (covN_nil i).trans ⟨False.elim, fun ⟨h1, h2⟩ => absurd h2 (Nat.not_lt.mpr h1)⟩
  | some s => simp [emitOpen, covN]

theorem covN_accRunsGo (f : Nat → Bool) (k pos : Nat) (rs : Option Nat) (hrs : rs.getD pos ≤ pos) (i : Nat) :
    covN (accRunsGo f k pos rs) i ↔
      (rs.getD pos ≤ i ∧ i < pos) ∨ (pos ≤ i ∧ i < pos + k ∧ f i = true) := by
  induction k generalizing pos rs with
  | zero =>
    rw [accRunsGo_zero, covN_emitOpen]
    exact ⟨Or.inl, fun h => h.elim id (fun ⟨h1, h2, _⟩ => absurd h2 (Nat.not_lt.mpr h1))⟩
  | succ k ih =>
    have e : pos + 1 + k = pos + (k + 1) := by omega
    rw [accRunsGo_succ]
    by_cases hf : f pos = true
    · -- `pos` moves from the positions ahead into the open run
      rw [if_pos hf, ih (pos + 1) _ (Nat.le_succ_of_le hrs), Option.getD_some, e]
      constructor
      · rintro (⟨h1, h2⟩ | ⟨h1, h2, h3⟩)
        · rcases Nat.lt_or_eq_of_le (Nat.le_of_lt_succ h2) with hi | hi
          · exact Or.inl ⟨h1, hi⟩
          · exact Or.inr ⟨Nat.le_of_eq hi.symm, hi ▸ Nat.lt_add_of_pos_right (Nat.succ_pos k), hi ▸ hf⟩
        · exact Or.inr ⟨Nat.le_of_succ_le h1, h2, h3⟩
      · rintro (⟨h1, h2⟩ | ⟨h1, h2, h3⟩)
        · exact Or.inl ⟨h1, Nat.lt_succ_of_lt h2⟩
        · rcases Nat.eq_or_lt_of_le h1 with hi | hi
          · exact Or.inl ⟨hi ▸ hrs, hi ▸ Nat.lt_succ_self pos⟩
          · exact Or.inr ⟨hi, h2, h3⟩
    · -- the open run is closed at `pos`, which is no `f`-position
      rw [if_neg hf, covN_append, covN_emitOpen, ih (pos + 1) none (Nat.le_refl _), e]
      refine or_congr Iff.rfl ⟨?_, ?_⟩
      · rintro (⟨h1, h2⟩ | ⟨h1, h2, h3⟩)
        · exact absurd h2 (Nat.not_lt.mpr h1)
        · exact ⟨Nat.le_of_succ_le h1, h2, h3⟩
      · rintro ⟨h1, h2, h3⟩
        exact Or.inr ⟨Nat.lt_of_le_of_ne h1 (fun e => hf (e ▸ h3)), h2, h3⟩

theorem canonN_cons {r : Run} {l : List Run} :
    CanonN (r :: l) ↔ r.1 < r.2 ∧ (∀ y ∈ l, r.2 < y.1) ∧ CanonN l :=
  forall_and_pairwise_cons

theorem accRunsGo_canon (f : Nat → Bool) (k pos : Nat) (rs : Option Nat)
    (hrs : ∀ s, rs = some s → s < pos) :
    CanonN (accRunsGo f k pos rs) ∧ ∀ r ∈ accRunsGo f k pos rs, rs.getD pos ≤ r.1 := by
  -- the lower bound is carried along because it is what separates a run closed at `pos` from the runs after it:
  -- those start at `pos + 1` or later
  have hnil : CanonN [] := ⟨nofun, List.Pairwise.nil⟩
  induction k generalizing pos rs with
  | zero =>
    cases rs with
    | none => exact ⟨hnil, nofun⟩
    | some s =>
      exact ⟨canonN_cons.mpr ⟨hrs s rfl, nofun, hnil⟩,
        fun r hr => by rw [List.mem_singleton.mp hr]; exact Nat.le_refl _⟩
  | succ k ih =>
    rw [accRunsGo_succ]
    by_cases hf : f pos = true
    · rw [if_pos hf]
      refine ih (pos + 1) _ (fun s hs => ?_)
      rw [← Option.some.inj hs]
      cases rs with
      | none => exact Nat.lt_succ_self _
      | some t => exact Nat.lt_succ_of_lt (hrs t rfl)
    · rw [if_neg hf]
      obtain ⟨hc, hlo⟩ := ih (pos + 1) none nofun
      cases rs with
      | none => exact ⟨hc, fun r hr => Nat.le_of_succ_le (hlo r hr)⟩
      | some s =>
        have hs := hrs s rfl
        refine ⟨canonN_cons.mpr ⟨hs, hlo, hc⟩, fun r hr => ?_⟩
        rcases List.mem_cons.mp hr with rfl | h
        · exact Nat.le_refl _
        · exact Nat.le_of_lt (Nat.lt_trans hs (hlo r h))

theorem accRuns_canon (f : Nat → Bool) (n : Nat) : CanonN (accRunsGo f n 0 none) :=
  (accRunsGo_canon f n 0 none nofun).1

theorem accRuns_cov (f : Nat → Bool) (n i : Nat) :
    covN (accRunsGo f n 0 none) i ↔ i < n ∧ f i = true := by
  rw [covN_accRunsGo f n 0 none (Nat.le_refl _), Nat.zero_add]
  exact ⟨fun h => h.elim (fun h => absurd h.2 (Nat.not_lt_zero _)) (fun h => h.2), fun h => Or.inr ⟨Nat.zero_le _, h⟩⟩

/-- `(s, e)` is a maximal run of `f`-positions within `[0, n)` -/
def IsMaxRun (f : Nat → Bool) (n s e : Nat) : Prop :=
  s < e ∧ e ≤ n ∧ (∀ i, s ≤ i → i < e → f i = true) ∧
  (s = 0 ∨ f (s - 1) = false) ∧ (e = n ∨ f e = false)

/-- a run of `f`-positions through `i` starts no earlier (`end_le`: ends no later) than a maximal one
    through `i` -/
theorem IsMaxRun.start_le {f : Nat → Bool} {s e s' i : Nat} (hall : ∀ j, s ≤ j → j < e → f j = true)
    (hs' : s' = 0 ∨ f (s' - 1) = false) (h2 : i < e) (h1' : s' ≤ i) : s' ≤ s := by
  apply Nat.le_of_not_lt
  intro hlt
  rcases hs' with h0 | hf
  · exact absurd hlt (h0 ▸ Nat.not_lt_zero s)
  · -- `s' - 1` lies in `[s, e)`
    rw [hall (s' - 1) (Nat.le_sub_one_of_lt hlt)
      (Nat.lt_of_le_of_lt (Nat.sub_le _ _) (Nat.lt_of_le_of_lt h1' h2))] at hf
    cases hf

theorem IsMaxRun.end_le {f : Nat → Bool} {s e e' n i : Nat} (hall : ∀ j, s ≤ j → j < e → f j = true)
    (he' : e' = n ∨ f e' = false) (hn : e ≤ n) (h1 : s ≤ i) (h2' : i < e') : e ≤ e' := by
  apply Nat.le_of_not_lt
  intro hlt
  rcases he' with h0 | hf
  · exact absurd hn (h0 ▸ Nat.not_le_of_lt hlt)
  · rw [hall e' (Nat.le_of_lt (Nat.lt_of_le_of_lt h1 h2')) hlt] at hf; cases hf

theorem IsMaxRun.unique {f : Nat → Bool} {n s e s' e' i : Nat} (h : IsMaxRun f n s e)
    (h' : IsMaxRun f n s' e') (h1 : s ≤ i) (h2 : i < e) (h1' : s' ≤ i) (h2' : i < e') :
    s = s' ∧ e = e' :=
  ⟨Nat.le_antisymm (start_le h'.2.2.1 h.2.2.2.1 h2' h1) (start_le h.2.2.1 h'.2.2.2.1 h2 h1'),
   Nat.le_antisymm (end_le h.2.2.1 h'.2.2.2.2 h.2.1 h1 h2') (end_le h'.2.2.1 h.2.2.2.2 h'.2.1 h1' h2)⟩

theorem CanonN.not_cov_next {l : List Run} (hc : CanonN l) {r : Run} (hr : r ∈ l) {i : Nat}
    (hi : i + 1 = r.1 ∨ i = r.2) : ¬ covN l i := by
  rintro ⟨r', hr', h1, h2⟩
  have := hc.1 r hr
  rcases pairwise_eq_or_rel _ l hc.2 r r' hr hr' with rfl | h | h <;> omega

theorem mem_iff_isMaxRun (f : Nat → Bool) (n : Nat) (l : List Run) (hc : CanonN l)
    (hcov : ∀ i, covN l i ↔ i < n ∧ f i = true) (s e : Nat) :
    (s, e) ∈ l ↔ IsMaxRun f n s e := by
  have fwd : ∀ r ∈ l, IsMaxRun f n r.1 r.2 := by
    intro r hr
    have hpos := hc.1 r hr
    have hin : ∀ i, r.1 ≤ i → i < r.2 → i < n ∧ f i = true := fun i h1 h2 => (hcov i).mp ⟨r, hr, h1, h2⟩
    have hn : r.2 ≤ n := Nat.le_of_pred_lt (hin (r.2 - 1) (Nat.le_sub_one_of_lt hpos) (by omega)).1
    refine ⟨hpos, hn, fun i h1 h2 => (hin i h1 h2).2, ?_, ?_⟩
    -- an `f`-position next to `r` would be covered
    · rcases Nat.eq_zero_or_eq_succ_pred r.1 with hs | hs
      · exact Or.inl hs
      · refine Or.inr (Bool.eq_false_iff.mpr fun hf => ?_)
        exact hc.not_cov_next hr (Or.inl hs.symm) ((hcov (r.1 - 1)).mpr ⟨by omega, hf⟩)
    · rcases Nat.eq_or_lt_of_le hn with he | he
      · exact Or.inl he
      · refine Or.inr (Bool.eq_false_iff.mpr fun hf => ?_)
        exact hc.not_cov_next hr (Or.inr rfl) ((hcov r.2).mpr ⟨he, hf⟩)
  refine ⟨fwd (s, e), fun h => ?_⟩
  -- the run of `l` through `s` is a maximal run through `s`, like `(s, e)`
  obtain ⟨r, hr, h1, h2⟩ :=
    (hcov s).mpr ⟨Nat.lt_of_lt_of_le h.1 h.2.1, h.2.2.1 s (Nat.le_refl _) h.1⟩
  obtain ⟨e1, e2⟩ := (fwd r hr).unique h h1 h2 (Nat.le_refl _) h.1
  rw [← e1, ← e2]
  exact hr

theorem mem_maxRuns_iff (w : List Char) (s e : Nat) :
    (s, e) ∈ maxRuns w ↔ IsMaxRun (nonN w) w.length s e :=
  mem_iff_isMaxRun (nonN w) w.length (maxRuns w) (accRuns_canon _ _) (accRuns_cov _ _) s e

theorem nonN_lt_length (w : List Char) (i : Nat) (h : nonN w i = true) : i < w.length := by
  unfold nonN at h
  split at h
  · rename_i c hc
    exact (List.getElem?_eq_some_iff.mp hc).1
  · cases h

theorem maxRuns_cov (w : List Char) (i : Nat) : covN (maxRuns w) i ↔ nonN w i = true := by
  unfold maxRuns
  rw [accRuns_cov]
  exact ⟨fun h => h.2, fun h => ⟨nonN_lt_length w i h, h⟩⟩

end CnvVerif
