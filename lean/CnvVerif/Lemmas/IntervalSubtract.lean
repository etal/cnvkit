/-
  `subtract` on one chromosome.  One keeper: the pairs `_subtraction` zips together in its four cases are the gaps between
  the excluded rows (`subtractRow_eq_gapsR`), so what is left is the keeper minus what the excluded rows cover.  Every
  keeper against a canonical list of exclusions (`subtractCanon`): canonical keepers stay canonical and exactly the
  excluded bases go.  The one-chromosome models of C13 (`subtractChrom`), of C12 (`antiRegionsChrom`) and the table-level
  `subtract` seen from one chromosome (Lemmas/IntervalTable.lean) are instances.  Core Lean only.
-/
import CnvVerif.Lemmas.Basic
import CnvVerif.Lemmas.Interval
namespace CnvVerif

/-! ### subtract: the zip-based pair lists as structural recursions -/

/-- gaps before each excluded row, then the gap up to `hi` -/
def gapsR (lo hi : Int) : List Row → List (Int × Int)
  | [] => [(lo, hi)]
  | x :: xs => (lo, x.s) :: gapsR x.e hi xs

/-- gaps before each excluded row only -/
def gapsN (lo : Int) : List Row → List (Int × Int)
  | [] => []
  | x :: xs => (lo, x.s) :: gapsN x.e xs

/-- base `p` lies in one of the half-open pairs -/
def covP (l : List (Int × Int)) (p : Int) : Prop := ∃ q ∈ l, q.1 ≤ p ∧ p < q.2

theorem covP_nil (p : Int) : covP [] p ↔ False := by simp [covP]

theorem covP_cons (a : Int × Int) (l : List (Int × Int)) (p : Int) :
    covP (a :: l) p ↔ (a.1 ≤ p ∧ p < a.2) ∨ covP l p := by
  simp only [covP, List.mem_cons, exists_eq_or_imp]

theorem zip_gapsR (lo hi : Int) (ex : List Row) :
    (lo :: ex.map (·.e)).zip (ex.map (·.s) ++ [hi]) = gapsR lo hi ex := by
  induction ex generalizing lo with
  | nil => rfl
  | cons x xs ih =>
    simp only [List.map_cons, List.cons_append, List.zip_cons_cons, gapsR]
    rw [ih]

theorem zip_gapsN (lo : Int) (ex : List Row) :
    (lo :: (ex.map (·.e)).dropLast).zip (ex.map (·.s)) = gapsN lo ex := by
  induction ex generalizing lo with
  | nil => rfl
  | cons x xs ih =>
    cases xs with
    | nil => rfl
    | cons y ys =>
      have := ih x.e
      simp only [List.map_cons, List.dropLast_cons_cons, List.zip_cons_cons, gapsN] at this ⊢
      rw [this]

theorem zip_gapsN' (f : Row) (t : List Row) :
    (((f :: t).map (·.e)).dropLast).zip (t.map (·.s)) = gapsN f.e t := by
  cases t with
  | nil => rfl
  | cons y ys =>
    have := zip_gapsN f.e (y :: ys)
    simp only [List.map_cons, List.dropLast_cons_cons] at this ⊢
    exact this

/-- the filter on positive length does not change coverage -/
theorem cov_pairs (k : Row) (pairs : List (Int × Int)) (p : Int) :
    cov ((pairs.filter (fun q => q.2 > q.1)).map (fun q => { k with s := q.1, e := q.2 })) p ↔
      covP pairs p := by
  simp only [cov, covP, List.mem_map, List.mem_filter, decide_eq_true_eq]
  constructor
  · rintro ⟨r, ⟨q, ⟨hq, _⟩, rfl⟩, h1, h2⟩
    exact ⟨q, hq, h1, h2⟩
  · rintro ⟨q, hq, h1, h2⟩
    exact ⟨_, ⟨q, ⟨hq, by omega⟩, rfl⟩, h1, h2⟩

theorem covP_gapsR (lo hi : Int) (ex : List Row) (hc : Canon ex)
    (ho : ∀ x ∈ ex, lo ≤ x.e ∧ x.s ≤ hi) (p : Int) :
    covP (gapsR lo hi ex) p ↔ (lo ≤ p ∧ p < hi) ∧ ¬ cov ex p := by
  induction ex generalizing lo with
  | nil => simp [gapsR, covP, cov]
  | cons x xs ih =>
    have hx := hc.head_pos
    have hox := ho x (by simp)
    have ho' : ∀ y ∈ xs, x.e ≤ y.e ∧ y.s ≤ hi := by
      intro y hy
      have h1 := (List.pairwise_cons.mp hc.2).1 y hy
      have h2 := hc.1 y (by simp [hy])
      have h3 := ho y (by simp [hy])
      omega
    simp only [gapsR, covP_cons, cov_cons, ih x.e hc.tail ho']
    by_cases hC : cov xs p
    · have := hc.tail_gt hC
      simp only [hC, not_true_eq_false, and_false, or_false, or_true, iff_false]
      omega
    · simp only [hC, not_false_eq_true, and_true, or_false]
      omega

theorem subtractRow_cons (k f : Row) (t : List Row) :
    subtractRow k (f :: t) =
      ((if k.s < f.s ∧ k.e > ((f :: t).getLast?.getD f).e then gapsR k.s k.e (f :: t)
        else if k.s < f.s then gapsN k.s (f :: t)
        else if k.e > ((f :: t).getLast?.getD f).e then gapsR f.e k.e t
        else gapsN f.e t).filter (fun q => q.2 > q.1)).map
        (fun q => { k with s := q.1, e := q.2 }) := by
  simp only [subtractRow]
  congr 2
  by_cases hl : k.s < f.s <;> by_cases hr : k.e > ((f :: t).getLast?.getD f).e
  · simp only [hl, hr, and_self, decide_true, Bool.and_self, if_true]
    exact zip_gapsR k.s k.e (f :: t)
  · simp only [hl, hr, and_false, decide_true, decide_false, Bool.and_false, if_true, if_false,
      Bool.false_eq_true]
    exact zip_gapsN k.s (f :: t)
  · simp only [hl, hr, false_and, decide_true, decide_false, Bool.false_and, if_true, if_false,
      Bool.false_eq_true]
    exact zip_gapsR f.e k.e t
  · simp only [hl, hr, false_and, decide_false, Bool.false_and, if_false, Bool.false_eq_true]
    split
    · exact zip_gapsN' f t
    · rename_i hlen
      cases t with
      | nil => rfl
      | cons y ys => simp at hlen

theorem gapsR_eq_gapsN_append (hi : Int) (f : Row) (t : List Row) :
    gapsR f.e hi t = gapsN f.e t ++ [(((f :: t).getLast?.getD f).e, hi)] := by
  induction t generalizing f with
  | nil => rfl
  | cons y ys ih =>
    simp only [gapsR, gapsN, ih y, List.cons_append, List.getLast?_cons_cons,
      List.getLast?_eq_some_getLast (List.cons_ne_nil y ys), Option.getD_some]

/-- the four assemblies are one: the pair before the first excluded row and the pair after the last one are left out
    exactly when the `end > start` filter would drop them -/
theorem subtractRow_eq_gapsR (k f : Row) (t : List Row) :
    subtractRow k (f :: t) = ((gapsR k.s k.e (f :: t)).filter (fun q => q.2 > q.1)).map
      (fun q => { k with s := q.1, e := q.2 }) := by
  rw [subtractRow_cons]
  congr 1
  simp only [gapsR, gapsN, gapsR_eq_gapsN_append k.e f t, List.filter_cons, List.filter_append, List.filter_nil]
  generalize ((f :: t).getLast?.getD f) = l
  -- not keep_left: the filter drops the first pair `(k.s, f.s)`; not keep_right: it drops the last pair `(l.e, k.e)`
  by_cases hl : k.s < f.s <;> by_cases hr : k.e > l.e <;> simp [hl, hr]

theorem subtractRow_cov (k : Row) (ex : List Row) (hc : Canon ex)
    (ho : ∀ x ∈ ex, x.e > k.s ∧ x.s < k.e) (p : Int) :
    cov (subtractRow k ex) p ↔ (k.s ≤ p ∧ p < k.e) ∧ ¬ cov ex p := by
  cases ex with
  | nil => simp [subtractRow, cov]
  | cons f t =>
    rw [subtractRow_eq_gapsR, cov_pairs]
    exact covP_gapsR k.s k.e (f :: t) hc (fun x hx => by have := ho x hx; omega) p

/-- of canonical exclusions only the rows that overlap the keeper matter inside it -/
theorem subtractRow_cov_overlapping (k : Row) (m : List Row) (hc : Canon m) (p : Int) :
    cov (subtractRow k (m.filter (fun x => x.e > k.s && x.s < k.e))) p ↔ (k.s ≤ p ∧ p < k.e) ∧ ¬ cov m p := by
  have ho : ∀ x ∈ m.filter (fun x => x.e > k.s && x.s < k.e), x.e > k.s ∧ x.s < k.e := fun x hx => by
    simpa using (List.mem_filter.mp hx).2
  rw [subtractRow_cov k _ (hc.filter _) ho p]
  refine and_congr_right fun hk => not_congr ?_
  simp only [cov, List.mem_filter, Bool.and_eq_true, decide_eq_true_eq]
  constructor
  · rintro ⟨r, ⟨hr, _⟩, h⟩; exact ⟨r, hr, h⟩
  · rintro ⟨r, hr, h⟩; exact ⟨r, ⟨hr, by omega⟩, h⟩

/-- every piece is the keeper with only `start` / `end` replaced (`keeper` itself or `keeper._replace(start=…, end=…)`) -/
theorem subtractRow_fields (k : Row) (ex : List Row) :
    ∀ x ∈ subtractRow k ex, { x with s := k.s, e := k.e } = k := by
  intro x hx
  cases ex with
  | nil => simp only [subtractRow, List.mem_singleton] at hx; subst hx; rfl
  | cons f t =>
    simp only [subtractRow, List.mem_map] at hx
    obtain ⟨p, _, rfl⟩ := hx
    rfl

theorem subtractRow_carry (k : Row) (ex : List Row) :
    ∀ q ∈ subtractRow k ex, q.chrom = k.chrom ∧ q.gene = k.gene ∧ q.s < q.e ∨ q = k := by
  intro q hq
  unfold subtractRow at hq
  split at hq
  · right; simpa using hq
  · left
    simp only [List.mem_map, List.mem_filter, decide_eq_true_eq] at hq
    obtain ⟨p, ⟨_, hp⟩, rfl⟩ := hq
    exact ⟨rfl, rfl, by show p.1 < p.2; omega⟩

/-! ### what is left of one keeper is canonical -/

theorem gapsR_fst (lo hi : Int) (ex : List Row) :
    ∀ q ∈ gapsR lo hi ex, q.1 = lo ∨ ∃ x ∈ ex, q.1 = x.e := by
  induction ex generalizing lo with
  | nil => exact fun q hq => Or.inl (by rw [List.mem_singleton.mp hq])
  | cons x xs ih =>
    intro q hq
    rcases List.mem_cons.mp hq with rfl | hq
    · exact Or.inl rfl
    · rcases ih x.e q hq with h | ⟨y, hy, h⟩
      · exact Or.inr ⟨x, List.mem_cons_self .., h⟩
      · exact Or.inr ⟨y, List.mem_cons_of_mem _ hy, h⟩

theorem gapsR_pairwise (lo hi : Int) (ex : List Row) (hc : Canon ex) :
    (gapsR lo hi ex).Pairwise (fun a b => a.2 < b.1) := by
  induction ex generalizing lo with
  | nil => exact List.pairwise_singleton ..
  | cons x xs ih =>
    obtain ⟨hxp, hsep, hcx⟩ := canon_cons.mp hc
    refine List.pairwise_cons.mpr ⟨fun q hq => ?_, ih x.e hcx⟩
    show x.s < q.1
    rcases gapsR_fst x.e hi xs q hq with h | ⟨y, hy, h⟩
    · rw [h]; exact hxp
    · rw [h]; exact Int.lt_trans hxp (Int.lt_trans (hsep y hy) (hcx.1 y hy))

theorem subtractRow_canon (k : Row) (hk : k.s < k.e) (ex : List Row) (hc : Canon ex)
    (ho : ∀ x ∈ ex, x.e > k.s ∧ x.s < k.e) :
    Canon (subtractRow k ex) ∧ ∀ q ∈ subtractRow k ex, k.s ≤ q.s ∧ q.e ≤ k.e := by
  have hpos : ∀ q ∈ subtractRow k ex, q.s < q.e := by
    intro q hq
    rcases subtractRow_carry k ex q hq with h | h
    · exact h.2.2
    · subst h; exact hk
  have hin : ∀ q ∈ subtractRow k ex, k.s ≤ q.s ∧ q.e ≤ k.e := by
    intro q hq
    have hq' := hpos q hq
    have c1 := (subtractRow_cov k ex hc ho q.s).mp ⟨q, hq, Int.le_refl _, hq'⟩
    have c2 := (subtractRow_cov k ex hc ho (q.e - 1)).mp ⟨q, hq, Int.le_sub_one_of_lt hq', by omega⟩
    exact ⟨c1.1.1, Int.le_of_sub_one_lt c2.1.2⟩
  refine ⟨⟨hpos, ?_⟩, hin⟩
  cases ex with
  | nil => simp [subtractRow]
  | cons f t =>
    rw [subtractRow_eq_gapsR, List.pairwise_map]
    exact (gapsR_pairwise _ _ _ hc).sublist List.filter_sublist

theorem cov_flatMap (t : List Row) (f : Row → List Row) (p : Int) :
    cov (t.flatMap f) p ↔ ∃ k ∈ t, cov (f k) p :=
  cov_flatMap_iff t f p

/-- of every keeper of `t`, what the rows of `m` that overlap it (the `outer` query) leave -/
def subtractCanon (t m : List Row) : List Row :=
  t.flatMap (fun k => subtractRow k (m.filter (fun x => x.e > k.s && x.s < k.e)))

theorem subtractCanon_nil (t : List Row) : subtractCanon t [] = t := by
  induction t with
  | nil => rfl
  | cons k ks ih => exact congrArg (k :: ·) ih

theorem subtractCanon_cov (t m : List Row) (hm : Canon m) (p : Int) :
    cov (subtractCanon t m) p ↔ cov t p ∧ ¬ cov m p := by
  unfold subtractCanon
  simp only [cov_flatMap_iff, subtractRow_cov_overlapping _ m hm]
  exact ⟨fun ⟨k, hk, h, hn⟩ => ⟨⟨k, hk, h⟩, hn⟩, fun ⟨⟨k, hk, h⟩, hn⟩ => ⟨k, hk, h, hn⟩⟩

theorem subtractCanon_canon (t m : List Row) (hc : Canon t) (hm : Canon m) : Canon (subtractCanon t m) :=
  canon_flatMap t _ hc fun k hk => subtractRow_canon k (hc.1 k hk) _ (hm.filter _) fun x hx => by
    simpa using (List.mem_filter.mp hx).2

/-! ### only the coordinates of the excluded rows matter -/

theorem gapsR_of_ivOf (lo hi : Int) {ex ex' : List Row} (h : ex.map ivOf = ex'.map ivOf) :
    gapsR lo hi ex = gapsR lo hi ex' := by
  induction ex generalizing ex' lo with
  | nil =>
    cases ex' with
    | nil => rfl
    | cons => cases h
  | cons x xs ih =>
    cases ex' with
    | nil => cases h
    | cons y ys =>
      obtain ⟨hxy, ht⟩ := List.cons.inj h
      rw [gapsR, gapsR, show x.s = y.s from congrArg Prod.fst hxy, show x.e = y.e from congrArg Prod.snd hxy,
        ih _ ht]

theorem subtractRow_of_ivOf (k : Row) {ex ex' : List Row} (h : ex.map ivOf = ex'.map ivOf) :
    subtractRow k ex = subtractRow k ex' := by
  cases ex with
  | nil =>
    cases ex' with
    | nil => rfl
    | cons => cases h
  | cons f t =>
    cases ex' with
    | nil => cases h
    | cons f' t' => rw [subtractRow_eq_gapsR, subtractRow_eq_gapsR, gapsR_of_ivOf _ _ h]

theorem subtractCanon_congr (t : List Row) {m m' : List Row} (h : m.map ivOf = m'.map ivOf) :
    subtractCanon t m = subtractCanon t m' := by
  refine flatMap_congr fun k _ => subtractRow_of_ivOf k ?_
  have e : ∀ l : List Row, (l.filter (fun x => x.e > k.s && x.s < k.e)).map ivOf =
      (l.map ivOf).filter (fun q => q.2 > k.s && q.1 < k.e) := fun l => by
    rw [List.filter_map]; rfl
  rw [e, e, h]

end CnvVerif
