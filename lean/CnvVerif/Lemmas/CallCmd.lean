/-
  The glue model of `cnvkit.py call` (Model/CallCmd.lean: `commands._cmd_call`, `cmdutil.verify_sample_sex`): which
  purities the guard refuses (`cmdPurityRejected_iff`), what an accepted plan hands to `do_call` (`cmdCallPlan_ok`), and
  the Boolean identity behind `verify_sample_sex` (`ite_bne_self`).  The ties to the source text are in Props/C01Cmd.lean.
-/
import CnvVerif.Model.CallCmd
import CnvVerif.Lemmas.Call
namespace CnvVerif

theorem cmdPurityRejected_iff (purity : Option Rat) :
    cmdPurityRejected purity = true ↔ ∃ p, purity = some p ∧ p ≠ 0 ∧ ¬ (0 < p ∧ p ≤ 1) := by
  cases purity with
  | none => simp [cmdPurityRejected]
  | some p =>
    simp only [cmdPurityRejected, Option.some.injEq, exists_eq_left', Bool.and_eq_true, bne_iff_ne, ne_eq,
      Bool.not_eq_true', Bool.and_eq_false_iff, decide_eq_false_iff_not, not_and_or]

theorem cmdCallPlan_ok {a : CmdCallArgs} {ploidy : Nat} {hapX : Bool} {par : Option String} {g : Bool} {tp : List Rat}
    {rc : Recenter} {cfg : CallCfg} (h : cmdCallPlan a ploidy hapX par g tp = .ok (rc, cfg)) :
    cmdPurityRejected a.purity = false ∧ rc = cmdRecenter a.centerAt a.center ∧ cfg.purity = a.purity := by
  unfold cmdCallPlan at h
  split at h
  · cases h
  · rename_i hrej
    cases h
    exact ⟨Bool.eq_false_iff.mpr hrej, rfl, rfl⟩

/-- "take the stated value if it differs from the guess, else the guess" is: take the stated value -/
theorem ite_bne_self (g b : Bool) : (if (g != b) = true then b else g) = b := by
  cases g <;> cases b <;> rfl

end CnvVerif
