/-
  C08: the sort key of chromosome names.  Character-list mirror `keyL` of `CnvVerif.sorterChrom`
  (`skgenome.chromsort.sorter_chrom`) and the equality `sorterChrom s = ((keyL s.toList).1, String.ofList (keyL s.toList).2)`:
  String functions do not reduce in the kernel; `keyL` does (`decide` works on literals).  Through it: the key of a
  number is its value, the keys of X, Y, M, MT, a `chr` prefix in any case is ignored, and the natural order
  1 < 2 < 10 < … < X < Y < M < MT in both naming styles.
-/
import CnvVerif.Lemmas.FormatsChars
import Std.Data.String.ToNat

open CnvVerif
namespace CnvVerif.Fmt

theorem toList_takeWhile (s : String) (p : Char → Bool) :
    (s.takeWhile p).copy.toList = s.toList.takeWhile p := by
  have h1 : (s.takeWhile p).copy ++ (s.dropWhile p).copy = s := String.takeWhile_append_dropWhile
  have h2 : (s.takeWhile p).all p = true := String.all_takeWhile
  have h3 : ((s.dropWhile p).takeWhile p).isEmpty = true := String.isEmpty_takeWhile_dropWhile
  rw [String.Slice.all_bool_eq] at h2
  rw [String.Slice.isEmpty_takeWhile, String.Slice.startsWith_bool_eq_head?] at h3
  conv => rhs; rw [← h1]
  rw [String.toList_append, takeWhile_append_head _ _ _ (List.all_eq_true.mp h2)
    (fun x hx => by rw [Option.mem_def.mp hx] at h3; simpa using h3)]

/-- the label starts with `chr` in any case: `label.lower().startswith("chr")` of `sorter_chrom` -/
def chrPrefixed (l : List Char) : Bool := ['c', 'h', 'r'].isPrefixOf (l.map Char.toLower)

/-- `sorter_chrom` after the optional `chr` prefix has been removed -/
def keyRest (c : List Char) : Nat × List Char :=
  if c = ['X'] ∨ c = ['Y'] then (1000, c)
  else
    let nums := c.takeWhile Char.isDigit
    let chars := c.drop nums.length
    let n := Nat.ofDigitChars 10 nums 0
    if chars.isEmpty then (n, [])
    else if chars.length == 1 then (2000 + n, chars)
    else (3000 + n, chars)

/-- `sorter_chrom` on the characters of the label -/
def keyL (l : List Char) : Nat × List Char := keyRest (if chrPrefixed l then l.drop 3 else l)

theorem startsWith_chr (s : String) : s.toLower.startsWith "chr" = chrPrefixed s.toList := by
  rw [Bool.eq_iff_iff, String.startsWith_string_iff]
  simp [String.toLower, chrPrefixed]

theorem isEmpty_toList (s : String) : s.isEmpty = s.toList.isEmpty := by
  rw [Bool.eq_iff_iff, String.isEmpty_iff]
  simp

theorem toNat_digits (s : String) (h : ∀ c ∈ s.toList, c.isDigit) :
    s.toNat?.getD 0 = Nat.ofDigitChars 10 s.toList 0 := by
  by_cases he : s = ""
  · subst he
    have : "".isNat = false := by
      rw [← Bool.not_eq_true, String.isNat_iff]; simp
    rw [String.toNat?_eq_none this]; rfl
  · rw [String.toNat?_eq_some_ofDigitChars (String.isNat_of_isDigit he h)]
    rw [List.filter_bne_eq_self_of_not_mem]
    · rfl
    · intro hm; have := h _ hm; simp at this

/-- `nums` and `chars` are any strings with the right characters: the slices `sorter_chrom` takes are `.copy` /
    `.toString` terms, which are named here only by what `toList` gives -/
theorem keyRest_core (c nums chars : String)
    (hn : nums.toList = c.toList.takeWhile Char.isDigit)
    (hch : chars.toList = c.toList.drop (c.toList.takeWhile Char.isDigit).length) :
    (if c == "X" || c == "Y" then (1000, c)
    else
      if chars.isEmpty then (nums.toNat?.getD 0, "")
      else if chars.length == 1 then (2000 + nums.toNat?.getD 0, chars)
      else (3000 + nums.toNat?.getD 0, chars)) = ((keyRest c.toList).1, String.ofList (keyRest c.toList).2) := by
  have hX : (c == "X") = decide (c.toList = ['X']) := by
    rw [Bool.eq_iff_iff]; simp [← String.toList_inj]
  have hY : (c == "Y") = decide (c.toList = ['Y']) := by
    rw [Bool.eq_iff_iff]; simp [← String.toList_inj]
  have hd : ∀ ch ∈ nums.toList, ch.isDigit := by
    rw [hn]; intro ch hch; exact List.all_eq_true.1 List.all_takeWhile ch hch
  rw [hX, hY, toNat_digits _ hd, isEmpty_toList, ← String.length_toList, hn, hch]
  have hc : chars = String.ofList (c.toList.drop (c.toList.takeWhile Char.isDigit).length) := by
    rw [← hch, String.ofList_toList]
  unfold keyRest
  by_cases h1 : c.toList = ['X'] ∨ c.toList = ['Y']
  · simp [h1]
  · rw [if_neg h1, if_neg (by simpa using h1)]
    dsimp only
    split
    · rfl
    · split
      · simp [hc]
      · simp [hc]

theorem keyRest_eq (c : String) :
    (if c == "X" || c == "Y" then (1000, c)
    else
      let nums := (c.takeWhile Char.isDigit).toString
      let chars := (c.drop nums.length).toString
      let n := nums.toNat?.getD 0
      if chars.isEmpty then (n, "")
      else if chars.length == 1 then (2000 + n, chars)
      else (3000 + n, chars)) = ((keyRest c.toList).1, String.ofList (keyRest c.toList).2) := by
  have hn : (c.takeWhile Char.isDigit).copy.toList = c.toList.takeWhile Char.isDigit :=
    toList_takeWhile c _
  have hch : (c.drop (c.takeWhile Char.isDigit).copy.length).copy.toList
      = c.toList.drop (c.toList.takeWhile Char.isDigit).length := by
    rw [String.toList_copy_drop, ← String.length_toList, hn]
  exact keyRest_core c _ _ hn hch

theorem sorterChrom_eq_keyL (s : String) :
    sorterChrom s = ((keyL s.toList).1, String.ofList (keyL s.toList).2) := by
  unfold keyL sorterChrom
  rw [startsWith_chr]
  have := keyRest_eq (if chrPrefixed s.toList = true then (s.drop 3).toString else s)
  have h2 : (if chrPrefixed s.toList = true then (s.drop 3).toString else s).toList =
      if chrPrefixed s.toList = true then s.toList.drop 3 else s.toList := by
    split
    · exact String.toList_copy_drop
    · rfl
  rw [h2] at this
  exact this

theorem toLower_digit (c : Char) (h : c.isDigit) : c.toLower = c := by
  unfold Char.toLower
  simp only [Char.isDigit, Bool.and_eq_true, decide_eq_true_eq] at h
  rw [dif_neg]
  intro h'
  have h1 := h.2
  have h2 := h'.1
  simp only [ge_iff_le, UInt32.le_iff_toNat_le] at h1 h2
  have : '9'.val.toNat = 57 := by decide
  have : 'A'.val.toNat = 65 := by decide
  omega

theorem chrPrefixed_digits (l : List Char) (h : ∀ c ∈ l, c.isDigit) : chrPrefixed l = false := by
  cases l with
  | nil => rfl
  | cons x t =>
    have hx := h x (by simp)
    have : x ≠ 'c' := by intro e; subst e; simp at hx
    simp [chrPrefixed, toLower_digit x hx, List.isPrefixOf, Ne.symm this]

theorem keyRest_digits (l : List Char) (h : ∀ c ∈ l, c.isDigit) :
    keyRest l = (Nat.ofDigitChars 10 l 0, []) := by
  have hX : ¬ (l = ['X'] ∨ l = ['Y']) := by
    rintro (e | e) <;> subst e <;> simp at h
  have ht : l.takeWhile Char.isDigit = l := takeWhile_eq_self_of_all _ l h
  unfold keyRest
  rw [if_neg hX]
  simp [ht]

theorem chrPrefixed_chr (a b c : Char) (ha : a.toLower = 'c') (hb : b.toLower = 'h')
    (hc : c.toLower = 'r') (l : List Char) : chrPrefixed (a :: b :: c :: l) = true := by
  simp [chrPrefixed, List.isPrefixOf, ha, hb, hc]

theorem keyL_chr (a b c : Char) (ha : a.toLower = 'c') (hb : b.toLower = 'h')
    (hc : c.toLower = 'r') (l : List Char) : keyL (a :: b :: c :: l) = keyRest l := by
  rw [keyL, chrPrefixed_chr a b c ha hb hc]; rfl

theorem keyL_of_not_prefixed (l : List Char) (h : chrPrefixed l = false) : keyL l = keyRest l := by
  rw [keyL, h]; rfl

theorem keyL_number (n : Nat) : keyL (Nat.toDigits 10 n) = (n, []) := by
  rw [keyL_of_not_prefixed _ (chrPrefixed_digits _ (toDigits_digits n)),
    keyRest_digits _ (toDigits_digits n), Nat.ofDigitChars_ten_toDigits]

/-- the literal names of the property, evaluated through `keyL` -/
theorem sorterChrom_named :
    sorterChrom "X" = (1000, "X") ∧ sorterChrom "Y" = (1000, "Y") ∧ sorterChrom "M" = (2000, "M") ∧
    sorterChrom "MT" = (3000, "MT") ∧ sorterChrom "chrX" = (1000, "X") ∧ sorterChrom "chrY" = (1000, "Y") ∧
    sorterChrom "chrM" = (2000, "M") ∧ sorterChrom "chrMT" = (3000, "MT") := by
  simp only [sorterChrom_eq_keyL]
  decide +kernel

theorem sorterChrom_prefix_insensitive (s : String) (a b c : Char)
    (ha : a.toLower = 'c') (hb : b.toLower = 'h') (hc : c.toLower = 'r')
    (hs : chrPrefixed s.toList = false) :
    sorterChrom (String.ofList [a, b, c] ++ s) = sorterChrom s := by
  rw [sorterChrom_eq_keyL, sorterChrom_eq_keyL, String.toList_append, String.toList_ofList,
    show [a, b, c] ++ s.toList = a :: b :: c :: s.toList from rfl,
    keyL_chr a b c ha hb hc, keyL_of_not_prefixed _ hs]

theorem sorterChrom_chr_append (s : String) (hs : chrPrefixed s.toList = false) :
    sorterChrom ("chr" ++ s) = sorterChrom s := by
  have h : "chr" = String.ofList ['c', 'h', 'r'] := by decide
  rw [h]
  exact sorterChrom_prefix_insensitive s 'c' 'h' 'r' (by decide) (by decide) (by decide) hs

theorem sorterChrom_number (n : Nat) :
    sorterChrom (toString n) = (n, "") ∧ sorterChrom ("chr" ++ toString n) = (n, "") := by
  have h : sorterChrom (toString n) = (n, "") := by
    rw [sorterChrom_eq_keyL, toList_toString_nat, keyL_number]
  refine ⟨h, ?_⟩
  rw [sorterChrom_chr_append _ (by rw [toList_toString_nat]; exact chrPrefixed_digits _ (toDigits_digits n)), h]

theorem natural_order_plain (n m : Nat) (hnm : n < m) (hm : m < 1000) :
    chromKeyLt (sorterChrom (toString n)) (sorterChrom (toString m)) = true ∧
    chromKeyLt (sorterChrom (toString m)) (sorterChrom "X") = true ∧
    chromKeyLt (sorterChrom "X") (sorterChrom "Y") = true ∧
    chromKeyLt (sorterChrom "Y") (sorterChrom "M") = true ∧
    chromKeyLt (sorterChrom "M") (sorterChrom "MT") = true := by
  obtain ⟨hX, hY, hM, hMT, -⟩ := sorterChrom_named
  rw [(sorterChrom_number n).1, (sorterChrom_number m).1, hX, hY, hM, hMT]
  have hxy : "X" < "Y" := by rw [String.lt_iff]; decide
  refine ⟨?_, ?_, ?_, ?_, ?_⟩ <;> simp [chromKeyLt, hnm, hm, hxy]

theorem natural_order (n m : Nat) (hnm : n < m) (hm : m < 1000) (p : String) (hp : p = "" ∨ p = "chr") :
    chromKeyLt (sorterChrom (p ++ toString n)) (sorterChrom (p ++ toString m)) = true ∧
    chromKeyLt (sorterChrom (p ++ toString m)) (sorterChrom (p ++ "X")) = true ∧
    chromKeyLt (sorterChrom (p ++ "X")) (sorterChrom (p ++ "Y")) = true ∧
    chromKeyLt (sorterChrom (p ++ "Y")) (sorterChrom (p ++ "M")) = true ∧
    chromKeyLt (sorterChrom (p ++ "M")) (sorterChrom (p ++ "MT")) = true := by
  rcases hp with rfl | rfl
  · simp only [String.empty_append]
    exact natural_order_plain n m hnm hm
  · have hd : ∀ k : Nat, chrPrefixed (toString k).toList = false := fun k => by
      rw [toList_toString_nat]; exact chrPrefixed_digits _ (toDigits_digits k)
    rw [sorterChrom_chr_append _ (hd n), sorterChrom_chr_append _ (hd m),
      sorterChrom_chr_append "X" (by decide), sorterChrom_chr_append "Y" (by decide),
      sorterChrom_chr_append "M" (by decide), sorterChrom_chr_append "MT" (by decide)]
    exact natural_order_plain n m hnm hm

end CnvVerif.Fmt
