/-
  A table seen from one chromosome: `rowsOf t c` (Model/IntervalSpec.lean), the rows of `t` on `c` in table order.
  Each pandas wrapper that cnvkit puts around a one-chromosome algorithm commutes with it: row-wise `filter`, `map` and
  `flatMap`; concatenation of blocks that each carry one name (`rowsOf_flatMap`; with distinct names `rowsOf` picks the
  block, `filter_key_of_nodup`); `groupby(sort=False)` + a function per group + concatenation (`rowsOf_groups`); a sort
  whose order, between rows of one chromosome, implies `R` leaves each chromosome's rows `R`-sorted (`pairwise_rowsOf`);
  the stable re-sort of the chromosomes leaves each chromosome's rows as they are (`rowsOf_resortChrom`).  A table-level
  statement is then the one-chromosome statement after one rewrite.  Core Lean only.
-/
import CnvVerif.Model.IntervalSpec
import CnvVerif.Lemmas.Basic
namespace CnvVerif

theorem mem_rowsOf {t : Table} {c : String} {r : Row} : r ∈ rowsOf t c ↔ r ∈ t ∧ r.chrom = c := by
  simp only [rowsOf, List.mem_filter, beq_iff_eq]

theorem mem_rowsOf_self {t : Table} {r : Row} (h : r ∈ t) : r ∈ rowsOf t r.chrom := mem_rowsOf.mpr ⟨h, rfl⟩

theorem rowsOf_chrom (t : Table) (c : String) : ∀ r ∈ rowsOf t c, r.chrom = c :=
  fun _ hr => (mem_rowsOf.mp hr).2

theorem cov_rowsOf (t : Table) (c : String) (p : Int) :
    cov (rowsOf t c) p ↔ ∃ r ∈ t, r.chrom = c ∧ r.s ≤ p ∧ p < r.e := by
  simp only [cov, mem_rowsOf, and_assoc]

theorem rowsOf_eq_self (t : Table) (c : String) (h : ∀ r ∈ t, r.chrom = c) : rowsOf t c = t :=
  filter_chrom_self t c h

theorem rowsOf_eq_nil (t : Table) (c : String) (h : ∀ r ∈ t, r.chrom ≠ c) : rowsOf t c = [] := by
  unfold rowsOf
  apply List.filter_eq_nil_iff.mpr
  intro r hr
  simp [h r hr]

theorem rowsOf_idem (t : Table) (c : String) : rowsOf (rowsOf t c) c = rowsOf t c :=
  rowsOf_eq_self _ c (rowsOf_chrom t c)

theorem rowsOf_filter (t : Table) (q : Row → Bool) (c : String) :
    rowsOf (t.filter q) c = (rowsOf t c).filter q := by
  unfold rowsOf
  rw [List.filter_filter, List.filter_filter]
  exact List.filter_congr fun r _ => Bool.and_comm ..

/-- `hf` comes last: given in place, `fun _ => rfl` would fix `f` to the identity before `rw` has found it -/
theorem rowsOf_map (f : Row → Row) (t : Table) (c : String) (hf : ∀ r, (f r).chrom = r.chrom) :
    rowsOf (t.map f) c = (rowsOf t c).map f := by
  unfold rowsOf
  rw [List.filter_map]
  congr 2
  funext r
  exact congrArg (· == c) (hf r)

/-- tables concatenated, each on one chromosome `key a`: the rows of chromosome `c` come from the `a` with that key
    (`key := Row.chrom` for a row-wise `flatMap` that keeps the chromosome) -/
theorem rowsOf_flatMap {α} (key : α → String) (f : α → Table) (hf : ∀ a, ∀ r ∈ f a, r.chrom = key a)
    (l : List α) (c : String) :
    rowsOf (l.flatMap f) c = (l.filter (fun a => key a == c)).flatMap f := by
  induction l with
  | nil => rfl
  | cons a l ih =>
    unfold rowsOf at ih ⊢
    rw [List.flatMap_cons, List.filter_append, ih]
    by_cases h : key a = c
    · have e : (f a).filter (fun r => r.chrom == c) = f a :=
        rowsOf_eq_self (f a) c (fun r hr => (hf a r hr).trans h)
      simp [e, h]
    · have e : (f a).filter (fun r => r.chrom == c) = [] :=
        rowsOf_eq_nil (f a) c (fun r hr => by rw [hf a r hr]; exact h)
      simp [e, h]

theorem filter_key_of_nodup {α : Type} (key : α → String) (l : List α) (hn : (l.map key).Nodup) (a : α) (ha : a ∈ l) :
    l.filter (fun x => key x == key a) = [a] := by
  induction l with
  | nil => cases ha
  | cons x xs ih =>
    obtain ⟨hx, hxs⟩ := List.nodup_cons.mp hn
    have hno : ∀ y ∈ xs, key y ≠ key x := fun y hy e => hx (List.mem_map.mpr ⟨y, hy, e⟩)
    rcases List.mem_cons.mp ha with rfl | ha'
    · rw [List.filter_cons, if_pos (beq_self_eq_true _),
        List.filter_eq_nil_iff.mpr fun y hy h => hno y hy (beq_iff_eq.mp h)]
    · rw [List.filter_cons, if_neg (fun h => hno a ha' (beq_iff_eq.mp h).symm), ih hxs ha']

theorem rowsOf_groups (f : Table → Table) (S : Table) (hnil : f [] = [])
    (hf : ∀ c l, (∀ r ∈ l, r.chrom = c) → ∀ r ∈ f l, r.chrom = c) (c : String) :
    rowsOf ((groupByChrom S).flatMap (fun g => f g.2)) c = f (rowsOf S c) := by
  rw [groupByChrom, List.flatMap_map,
    rowsOf_flatMap (fun k => k) (fun k => f (S.filter fun r => r.chrom == k)) (fun k => hf k _ (rowsOf_chrom S k))]
  by_cases hc : c ∈ chromsInOrder S
  · rw [filter_key_of_nodup (fun k => k) _ (by rw [List.map_id']; exact nodup_eraseDups _) c hc, List.flatMap_singleton]
    rfl
  · rw [List.filter_eq_nil_iff.mpr fun k hk e => hc ((beq_iff_eq.mp e : k = c) ▸ hk),
      rowsOf_eq_nil S c fun r hr h => hc ((mem_chromsInOrder S c).mpr ⟨r, hr, h⟩), hnil]
    rfl

theorem pairwise_rowsOf {R : Row → Row → Prop} {t : Table} (h : t.Pairwise (fun a b => a.chrom = b.chrom → R a b))
    (c : String) : (rowsOf t c).Pairwise R :=
  (h.filter (fun r => r.chrom == c)).imp_of_mem fun {a b} ha hb hab =>
    hab ((rowsOf_chrom t c a ha).trans (rowsOf_chrom t c b hb).symm)

theorem rowsOf_sortLex_sorted (t : Table) (c : String) : StartSorted (rowsOf (sortLex t) c) :=
  pairwise_rowsOf ((List.pairwise_mergeSort lexLe_trans lexLe_total t).imp fun {a b} hab hc => by
    rw [lexLe_iff, hc] at hab
    rcases hab with h | ⟨_, h⟩
    · exact absurd h (String.lt_irrefl _)
    · omega) c

theorem mem_rowsOf_sortLex (t : Table) (c : String) (r : Row) :
    r ∈ rowsOf (sortLex t) c ↔ r ∈ rowsOf t c := by
  simp only [mem_rowsOf, sortLex, List.mem_mergeSort]

theorem rowsOf_sortTable_sorted (t : Table) (c : String) : StartSorted (rowsOf (sortTable t) c) :=
  pairwise_rowsOf ((sortTable_sorted t).imp fun {a b} hab hc => by
    rw [sortLe_iff, hc, chromKeyLt_irrefl] at hab
    rcases hab with h | ⟨_, h⟩
    · exact absurd h Bool.false_ne_true
    · omega) c

theorem mem_sortTable (t : Table) (r : Row) : r ∈ sortTable t ↔ r ∈ t := by
  unfold sortTable
  exact List.mem_mergeSort

theorem cov_rowsOf_sortTable (t : Table) (c : String) (p : Int) :
    cov (rowsOf (sortTable t) c) p ↔ cov (rowsOf t c) p := by
  rw [cov_rowsOf, cov_rowsOf]
  simp only [mem_sortTable]

theorem rowsOf_resortChrom (X : Table) (c : String) : rowsOf (resortChrom X) c = rowsOf X c := by
  -- rows of one chromosome compare equal, so the stable sort keeps them as a sublist, and it loses none
  have hpw : (rowsOf X c).Pairwise (fun a b => chromOnlyLe a b = true) :=
    (List.pairwise_of_forall (l := rowsOf X c) fun _ _ => trivial).imp_of_mem fun {a b} ha hb _ => by
      rw [chromOnlyLe, rowsOf_chrom X c a ha, rowsOf_chrom X c b hb]
      simpa using chromKeyLe_total (sorterChrom c) (sorterChrom c)
  have h1 : (rowsOf X c).Sublist (resortChrom X) :=
    List.sublist_mergeSort (le := chromOnlyLe) (fun _ _ _ => chromKeyLe_trans _ _ _) (fun _ _ => chromKeyLe_total _ _)
      hpw List.filter_sublist
  have h2 : (rowsOf (rowsOf X c) c).Sublist (rowsOf (resortChrom X) c) := h1.filter _
  rw [rowsOf_idem] at h2
  have h3 : (rowsOf (resortChrom X) c).Perm (rowsOf X c) := (List.mergeSort_perm _ _).filter _
  exact (h2.eq_of_length h3.length_eq.symm).symm

end CnvVerif
