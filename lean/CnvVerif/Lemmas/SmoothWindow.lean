/-
  Weighted sums against a window: `dot`, the positive and the negative part of a window (`winPos`, `winNeg`), and the
  two-sided bound of a signed weighted sum from which both the averaging property of a non-negative window and the
  max/min ratio a window with negative lobes tolerates follow; `normalise`.
-/
import Mathlib.Tactic.Linarith
import Mathlib.Tactic.Ring
import Mathlib.Algebra.Order.Field.Basic
import Mathlib.Algebra.Order.Group.PosPart
import Mathlib.Algebra.BigOperators.Ring.List
import CnvVerif.Model.Smoothing
namespace CnvVerif.Smooth

theorem dot_nil_left (b : List Rat) : dot [] b = 0 := rfl
theorem dot_cons (a b : Rat) (s t : List Rat) : dot (a :: s) (b :: t) = a * b + dot s t := rfl

theorem dot_replicate (a : List Rat) (c : Rat) : dot a (List.replicate a.length c) = c * a.sum := by
  induction a with
  | nil => simp [dot]
  | cons x t ih => rw [List.length_cons, List.replicate_succ, dot_cons, ih, List.sum_cons]; ring

theorem dot_map_mul (a b : List Rat) (c : Rat) : dot a (b.map (· * c)) = dot a b * c := by
  induction a generalizing b with
  | nil => simp [dot]
  | cons x t ih =>
    cases b with
    | nil => simp [dot]
    | cons v b' => rw [List.map_cons, dot_cons, dot_cons, ih]; ring

/-- total of the positive coefficients of a window -/
def winPos (c : List Rat) : Rat := (c.map (fun v => max v 0)).sum
/-- total size of the negative coefficients -/
def winNeg (c : List Rat) : Rat := (c.map (fun v => max (-v) 0)).sum

theorem winPos_nil : winPos [] = 0 := rfl
theorem winNeg_nil : winNeg [] = 0 := rfl
theorem winPos_cons (a : Rat) (t : List Rat) : winPos (a :: t) = max a 0 + winPos t := rfl
theorem winNeg_cons (a : Rat) (t : List Rat) : winNeg (a :: t) = max (-a) 0 + winNeg t := rfl

theorem winPos_nonneg (c : List Rat) : 0 ≤ winPos c := by
  induction c with
  | nil => exact le_refl _
  | cons a t ih => rw [winPos_cons]; exact add_nonneg (le_max_right _ _) ih

theorem winNeg_nonneg (c : List Rat) : 0 ≤ winNeg c := by
  induction c with
  | nil => exact le_refl _
  | cons a t ih => rw [winNeg_cons]; exact add_nonneg (le_max_right _ _) ih

theorem winPos_sub_winNeg (c : List Rat) : winPos c - winNeg c = c.sum := by
  induction c with
  | nil => simp [winPos, winNeg]
  | cons a t ih =>
    rw [winPos_cons, winNeg_cons, List.sum_cons, ← ih]
    have : max a 0 - max (-a) 0 = a := posPart_sub_negPart a
    linarith

theorem winNeg_of_nonneg (c : List Rat) (h : ∀ w ∈ c, 0 ≤ w) : winNeg c = 0 := by
  induction c with
  | nil => exact winNeg_nil
  | cons a t ih =>
    rw [winNeg_cons, ih (fun w hw => h w (List.mem_cons_of_mem _ hw)),
      max_eq_right (neg_nonpos.mpr (h a List.mem_cons_self)), add_zero]

theorem mul_bounds (a u m M : Rat) (hu : m ≤ u ∧ u ≤ M) :
    m * max a 0 - M * max (-a) 0 ≤ a * u ∧ a * u ≤ M * max a 0 - m * max (-a) 0 := by
  rcases le_total 0 a with ha | ha
  · have h1 := mul_le_mul_of_nonneg_left hu.1 ha
    have h2 := mul_le_mul_of_nonneg_left hu.2 ha
    rw [max_eq_left ha, max_eq_right (neg_nonpos.mpr ha)]
    constructor <;> linarith
  · have h1 := mul_le_mul_of_nonpos_left hu.1 ha
    have h2 := mul_le_mul_of_nonpos_left hu.2 ha
    rw [max_eq_right ha, max_eq_left (neg_nonneg.mpr ha)]
    constructor <;> linarith

theorem dot_bounds (c v : List Rat) (hlen : c.length = v.length) (m M : Rat) (hv : ∀ u ∈ v, m ≤ u ∧ u ≤ M) :
    m * winPos c - M * winNeg c ≤ dot c v ∧ dot c v ≤ M * winPos c - m * winNeg c := by
  induction c generalizing v with
  | nil => simp [dot, winPos, winNeg]
  | cons a t ih =>
    match v, hlen with
    | u :: v', hlen =>
      have hu := mul_bounds a u m M (hv u List.mem_cons_self)
      have ht := ih v' (Nat.succ.inj hlen) (fun z hz => hv z (List.mem_cons_of_mem _ hz))
      rw [dot_cons, winPos_cons, winNeg_cons]
      constructor <;> linarith

theorem dot_between (a b : List Rat) (hlen : a.length = b.length) (ha : ∀ w ∈ a, 0 ≤ w) (lo hi : Rat)
    (hb : ∀ v ∈ b, lo ≤ v ∧ v ≤ hi) : lo * a.sum ≤ dot a b ∧ dot a b ≤ hi * a.sum := by
  have h := dot_bounds a b hlen lo hi hb
  have hpos := winPos_sub_winNeg a
  rw [winNeg_of_nonneg a ha] at h hpos
  rw [← hpos]
  constructor <;> linarith

/-- values in `[m, M]` with `M · winNeg c < m · winPos c` (the cross-multiplied form of: max/min ratio below
    `winPos c / winNeg c`; it also covers `winNeg c = 0`) have a positive signed sum -/
theorem dot_pos_of_ratio (c v : List Rat) (hlen : c.length = v.length) (m M : Rat)
    (hv : ∀ u ∈ v, m ≤ u ∧ u ≤ M) (hratio : M * winNeg c < m * winPos c) : 0 < dot c v := by
  have := (dot_bounds c v hlen m M hv).1
  linarith

theorem normalise_length (w : List Rat) : (normalise w).length = w.length := by simp [normalise]

theorem normalise_sum (w : List Rat) (h : w.sum ≠ 0) : (normalise w).sum = 1 := by
  have hdiv : (fun x : Rat => x / w.sum) = (fun x => (w.sum)⁻¹ * x) := funext fun x => div_eq_inv_mul x _
  rw [normalise, hdiv, List.sum_map_mul_left, List.map_id', inv_mul_cancel₀ h]

theorem normalise_nonneg (w : List Rat) (hw : ∀ v ∈ w, 0 ≤ v) (hs : 0 < w.sum) : ∀ v ∈ normalise w, 0 ≤ v := by
  intro v hv
  obtain ⟨u, hu, rfl⟩ := List.mem_map.mp hv
  exact div_nonneg (hw u hu) (le_of_lt hs)

end CnvVerif.Smooth
