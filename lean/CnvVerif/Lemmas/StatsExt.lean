/-
  Lemmas behind Props/C17Ext.lean: every spread statistic of `do_segmetrics` is non-negative (stated on the
  radicand where the statistic is a square root), the deviations -- hence all spread statistics -- are unchanged
  when the bins and the segment value move together, and the location-free ones (stdev, sem, MAD, IQR) do not
  depend on the subtracted segment value at all.
-/
import CnvVerif.Model.Stats
import CnvVerif.Lemmas.StatsPct
import CnvVerif.Lemmas.Descriptives
import Mathlib.Tactic.Linarith
import Mathlib.Tactic.Ring
import Mathlib.Algebra.Order.BigOperators.Group.List
namespace CnvVerif.Stats

/-- the statistic's value is not negative (`√v`: the radicand; NaN and tail probabilities: nothing to say) -/
def Val.NonNeg : Val → Prop
  | .nan => True
  | .num v => 0 ≤ v
  | .sqrtOf v => 0 ≤ v
  | .tTail _ _ => True

theorem sum_nonneg_map {α} (l : List α) (f : α → Rat) (h : ∀ x ∈ l, 0 ≤ f x) : 0 ≤ (l.map f).sum :=
  List.sum_nonneg (List.forall_mem_map.mpr h)

theorem sumSqDev_nonneg (l : List Rat) : 0 ≤ sumSqDev l :=
  sum_nonneg_map l _ (fun _ _ => mul_self_nonneg _)

theorem varP_nonneg (l : List Rat) : 0 ≤ varP l :=
  div_nonneg (sumSqDev_nonneg l) (Nat.cast_nonneg _)

theorem meanSq_nonneg (l : List Rat) : 0 ≤ meanSq l :=
  div_nonneg (sum_nonneg_map l _ (fun _ _ => mul_self_nonneg _)) (Nat.cast_nonneg _)

theorem var1_nonneg (l : List Rat) (h : 2 ≤ l.length) : 0 ≤ var1 l :=
  div_nonneg (sumSqDev_nonneg l) (sub_nonneg.mpr (Nat.one_le_cast.mpr (by omega)))

theorem median_map_nonneg {α} (l : List α) (g : α → Rat) (hg : ∀ y, 0 ≤ g y) : 0 ≤ median (l.map g) :=
  Desc.median_nonneg _ (fun x hx => by obtain ⟨y, _, rfl⟩ := List.mem_map.mp hx; exact hg y)

theorem madBody_nonneg (a : List Rat) : 0 ≤ madBody a := Desc.madCore_nonneg a true

theorem iqrBody_nonneg (a : List Rat) : 0 ≤ iqrBody a :=
  sub_nonneg.mpr (percentile_mono a 25 75 (by decide) (by decide) (by decide))

/-! `on_array(0)`: by the shape of the argument -/

theorem onArray_nonneg (f : List Rat → StatOut) (hf : ∀ a, (f a).val.NonNeg) (a : List Rat) :
    (onArray (some 0) f a).val.NonNeg := by
  match a with
  | [] => trivial
  | [x] => exact le_refl (0 : Rat)
  | x :: y :: t => exact hf _

/-- a statistic that does not see the map `g` on non-empty lists does not see it behind `on_array(d)` either -/
theorem onArray_map (d : Rat) (f : List Rat → StatOut) (g : Rat → Rat)
    (h : ∀ a, a ≠ [] → f (a.map g) = f a) (a : List Rat) :
    onArray (some d) f (a.map g) = onArray (some d) f a := by
  match a with
  | [] => rfl
  | [x] => rfl
  | x :: y :: t => exact h _ (List.cons_ne_nil _ _)

theorem statStdev_nonneg (a : List Rat) : (statStdev a).val.NonNeg := by
  unfold statStdev; split
  · trivial
  · exact varP_nonneg a

theorem statSem_nonneg (a : List Rat) : (statSem a).val.NonNeg := by
  unfold statSem; split
  · trivial
  · exact div_nonneg (var1_nonneg a (by omega)) (Nat.cast_nonneg _)

theorem statMad_nonneg (a : List Rat) : (statMad a).val.NonNeg :=
  onArray_nonneg (fun a => { val := .num (madBody a) }) madBody_nonneg a

theorem statMse_nonneg (a : List Rat) : (statMse a).val.NonNeg :=
  onArray_nonneg (fun a => { val := .num (mseBody a) }) meanSq_nonneg a

theorem statIqr_nonneg (a : List Rat) : (statIqr a).val.NonNeg :=
  onArray_nonneg (fun a => { val := .num (iqrBody a) }) iqrBody_nonneg a

theorem ite_val_nonneg {c : Prop} [Decidable c] {x y : StatOut} (hx : x.val.NonNeg) (hy : y.val.NonNeg) :
    (if c then x else y).val.NonNeg := by
  split <;> assumption

theorem pow4_nonneg (x : Rat) : 0 ≤ x * x * x * x := by
  rw [mul_assoc (x * x)]; exact mul_self_nonneg _

/-- the biweight midvariance is the MAD fallback, NaN, or the root of a sum of even powers over a square -/
theorem bivarBody_nonneg (a : List Rat) : (bivarBody a).val.NonNeg := by
  unfold bivarBody
  generalize bilocBody a = p
  obtain ⟨initial, s0⟩ := p
  -- `bivarBody` ends in `if wsum == 0 then { val := fallback, .. } else { val := main, .. }` (Model/Stats.lean)
  apply ite_val_nonneg
  · exact mul_nonneg (median_map_nonneg _ rabs Desc.absR_nonneg) (by decide +kernel)
  · -- `main` is `if dsum == 0 then .nan else .sqrtOf (num / (dsum * dsum))`; the `show` projects `val` out of the record
    show (if _ then Val.nan else Val.sqrtOf _).NonNeg
    split
    · trivial
    · exact div_nonneg
        (mul_nonneg (Nat.cast_nonneg _)
          (sum_nonneg_map _ _ (fun p _ => mul_nonneg (mul_self_nonneg p.1) (pow4_nonneg _))))
        (mul_self_nonneg _)

theorem statBivar_nonneg (a : List Rat) : (statBivar a).val.NonNeg :=
  onArray_nonneg bivarBody bivarBody_nonneg a

theorem deviations_common_shift (l : List Rat) (sg c : Rat) :
    (l.map (· + c)).map (· - (sg + c)) = l.map (· - sg) := by
  rw [List.map_map]
  apply List.map_congr_left
  intro x _
  simp only [Function.comp]
  ring

theorem meanR_shift (l : List Rat) (hne : l ≠ []) (c : Rat) : meanR (l.map (· - c)) = meanR l - c := by
  unfold meanR; simpa only [← sub_eq_add_neg] using Desc.mean_map_add hne (-c)

theorem sumSqDev_shift (l : List Rat) (c : Rat) : sumSqDev (l.map (· - c)) = sumSqDev l := by
  by_cases hne : l = []
  · subst hne; rfl
  · unfold sumSqDev
    simp only []
    rw [meanR_shift l hne, List.map_map]
    congr 1
    apply List.map_congr_left
    intro x _
    simp only [Function.comp]
    ring

theorem varP_shift (l : List Rat) (c : Rat) : varP (l.map (· - c)) = varP l := by
  unfold varP; rw [sumSqDev_shift, List.length_map]

theorem var1_shift (l : List Rat) (c : Rat) : var1 (l.map (· - c)) = var1 l := by
  unfold var1; rw [sumSqDev_shift, List.length_map]

theorem statStdev_shift (l : List Rat) (c : Rat) : statStdev (l.map (· - c)) = statStdev l := by
  unfold statStdev; rw [varP_shift, List.isEmpty_map]

theorem statSem_shift (l : List Rat) (c : Rat) : statSem (l.map (· - c)) = statSem l := by
  unfold statSem; rw [var1_shift, List.length_map]

theorem madBody_shift (l : List Rat) (c : Rat) : madBody (l.map (· - c)) = madBody l := by
  have := Desc.madCore_shift l (-c) true
  rw [madBody_eq, madBody_eq]
  simpa only [← sub_eq_add_neg] using this

theorem iqrBody_shift (l : List Rat) (hne : l ≠ []) (c : Rat) : iqrBody (l.map (· - c)) = iqrBody l := by
  rw [iqrBody_eq, iqrBody_eq]
  simpa only [← sub_eq_add_neg] using Desc.iqrCore_shift l hne (-c)

theorem statMad_shift (l : List Rat) (c : Rat) : statMad (l.map (· - c)) = statMad l :=
  onArray_map 0 _ _ (fun a _ => by rw [madBody_shift a]) l

theorem statIqr_shift (l : List Rat) (c : Rat) : statIqr (l.map (· - c)) = statIqr l :=
  onArray_map 0 _ _ (fun a ha => by rw [iqrBody_shift a ha]) l

end CnvVerif.Stats
