/-
  Caller-owned list arguments (Model/Effects.lean (iv), (v)): the filter loop of `do_call` touches one list object and
  does to it what the same loop does to a plain value (`foldl_filters_hset`); run on a copy allocated behind the caller's
  objects it leaves those as they were, so a history of steps threads the heap unchanged.  Core Lean only.
-/
import CnvVerif.Model.Effects
import CnvVerif.Lemmas.Basic
namespace CnvVerif.Effects

theorem hget_hset {h : Heap} {r : Nat} (hr : r < h.length) (v : List String) : hget (hset h r v) r = v := by
  unfold hget hset; simp [hr]

theorem hset_hset (h : Heap) (r : Nat) (v w : List String) : hset (hset h r v) r w = hset h r w := by
  unfold hset; simp

theorem hset_hget {h : Heap} {r : Nat} (hr : r < h.length) : hset h r (hget h r) = h := by
  unfold hget hset
  rw [List.getD_eq_getElem?_getD, List.getElem?_eq_getElem hr, Option.getD_some, List.set_getElem_self]

theorem hset_append_length (h : Heap) (v w : List String) : hset (h ++ [v]) h.length w = h ++ [w] := by
  unfold hset
  rw [List.set_append_right _ _ (Nat.le_refl _)]
  simp

theorem hget_append_length (h : Heap) (v : List String) : hget (h ++ [v]) h.length = v := by
  unfold hget; simp

/-- one round of the loop of `do_call` on a plain list value: (what is left, what has been applied) -/
def filterStep (st : List String × List String) (filt : String) : List String × List String :=
  if st.1.contains filt then (st.1.erase filt, st.2 ++ [filt]) else st

/-- the filter bookkeeping of `do_call` on a plain list value: (what is left for after calling, what is applied before) -/
def earlyPure (v : List String) : List String × List String := ["ci", "sem"].foldl filterStep (v, [])

/-- the loop of `do_call`, for any tuple of filter names: it touches the object at `r` only, and does to it what the
    same loop does to a plain value -/
theorem foldl_filters_hset {h : Heap} {r : Nat} (hr : r < h.length) (fl : List String) (v acc : List String) :
    fl.foldl (fun (st : Heap × List String) filt =>
        if (hget st.1 r).contains filt then (hset st.1 r ((hget st.1 r).erase filt), st.2 ++ [filt]) else st)
      (hset h r v, acc) =
    (hset h r (fl.foldl filterStep (v, acc)).1, (fl.foldl filterStep (v, acc)).2) := by
  induction fl generalizing v acc with
  | nil => rfl
  | cons a t ih =>
    simp only [List.foldl_cons, hget_hset hr, filterStep]
    split
    · rw [hset_hset]; exact ih _ _
    · exact ih _ _

theorem earlyFilters_eq {h : Heap} {r : Nat} (hr : r < h.length) :
    earlyFilters h r = (hset h r (earlyPure (hget h r)).1, (earlyPure (hget h r)).2) := by
  have := foldl_filters_hset hr ["ci", "sem"] (hget h r) []
  rw [hset_hget hr] at this
  exact this

theorem earlyFilters_append (h : Heap) (v : List String) :
    earlyFilters (h ++ [v]) h.length = (h ++ [(earlyPure v).1], (earlyPure v).2) := by
  rw [earlyFilters_eq (by simp), hget_append_length, hset_append_length]

theorem doCallFilters_some {h : Heap} {r : Nat} (he : (hget h r).isEmpty = false) :
    doCallFilters h (some r) =
      (h ++ [(earlyPure (hget h r)).1], (earlyPure (hget h r)).2, (earlyPure (hget h r)).1) := by
  simp [doCallFilters, he, halloc, earlyFilters_append, hget_append_length]

theorem doCallFiltersPrefix_some {h : Heap} {r : Nat} (hr : r < h.length) (he : (hget h r).isEmpty = false) :
    doCallFiltersPrefix h (some r) =
      (hset h r (earlyPure (hget h r)).1, (earlyPure (hget h r)).2, (earlyPure (hget h r)).1) := by
  simp [doCallFiltersPrefix, he, earlyFilters_eq hr, hget_hset hr]

/-- `do_call` leaves every caller-owned list object as it was: what it allocates lies behind them -/
theorem doCallFilters_take (h : Heap) (arg : Option Nat) : (doCallFilters h arg).1.take h.length = h := by
  cases arg with
  | none => exact List.take_length
  | some r =>
    cases he : (hget h r).isEmpty with
    | true => simp [doCallFilters, he]
    | false => rw [doCallFilters_some he]; exact List.take_left

theorem useHeap_id (h : Heap) (u : Use) : useHeap false h u = h := by
  unfold useHeap
  cases u.role with
  | filters => exact doCallFilters_take h (some u.ref)
  | ignoreList => rfl
  | ignoreTuple => rfl
  | readOnly => rfl

theorem stepHeap_id (h : Heap) (s : Step) : stepHeap false h s = h :=
  foldl_fixed_mem (useHeap false) h s.uses fun u _ => useHeap_id h u

end CnvVerif.Effects
