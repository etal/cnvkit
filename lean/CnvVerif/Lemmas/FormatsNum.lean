/-
  C08 — numeric facts about the `%.{p}g` model (`dexp`, `roundHE`, `sigRound` of `Model/Formats.lean`, `sigParts`
  of `Model/FormatsExt.lean`): the decimal exponent is correct; a positive number rounds to the value of its normal form `sigParts`
  (`p` digits `m`, `10^(p-1) ≤ m < 10^p`, and a decimal exponent), and a number in that form is its own normal
  form; `sigRound` is odd.  From these: rounding to `p` significant digits is idempotent, is within half a
  unit in the last place, and fixes decimals that already have at most `p` significant digits.
-/
import CnvVerif.Model.FormatsExt
import CnvVerif.Lemmas.Round
import Mathlib.Tactic.Linarith
import Mathlib.Tactic.Ring
import Mathlib.Tactic.FieldSimp
import Mathlib.Tactic.Positivity
import Mathlib.Tactic.NormNum
import Mathlib.Data.Rat.Floor
import Mathlib.Algebra.Order.Field.Power
import Mathlib.Algebra.Order.Ring.Abs
namespace CnvVerif.Fmt
open CnvVerif CnvVerif.Generated

theorem pow10_eq (e : Int) : pow10 e = (10 : ℚ) ^ e := by
  unfold pow10
  split
  · rename_i h
    conv_rhs => rw [← Int.toNat_of_nonneg h]
    rw [zpow_natCast]
  · rename_i h
    have h' : 0 ≤ -e := by omega
    have : e = -((-e).toNat : Int) := by rw [Int.toNat_of_nonneg h']; ring
    conv_rhs => rw [this]
    rw [zpow_neg, zpow_natCast, one_div]

theorem ten_zpow_pos (k : ℤ) : (0 : ℚ) < (10 : ℚ) ^ k := zpow_pos (by norm_num) k

theorem pow_mul_zpow (n : Nat) (k e : ℤ) (h : (n : ℤ) + k = e) : (10 : ℚ) ^ n * (10 : ℚ) ^ k = (10 : ℚ) ^ e := by
  rw [← h, zpow_add₀ (by norm_num), zpow_natCast]

/-- a mantissa that reaches `10^p` is `10^(p-1)` one decade further -/
theorem carry_decade (p : Nat) (hp : 1 ≤ p) (k : ℤ) :
    (10 : ℚ) ^ p * (10 : ℚ) ^ k = (10 : ℚ) ^ (p - 1) * (10 : ℚ) ^ (k + 1) := by
  rw [pow_mul_zpow p k (p + k) rfl, pow_mul_zpow (p - 1) (k + 1) (p + k) (by omega)]

theorem ndig_spec (n : Nat) (hn : 0 < n) : ∃ k, ndig n = k + 1 ∧ 10 ^ k ≤ n ∧ n < 10 ^ (k + 1) := by
  induction n using Nat.strong_induction_on with
  | _ n ih =>
    unfold ndig
    split
    · exact ⟨0, rfl, by omega, by omega⟩
    · obtain ⟨k, hk, h1, h2⟩ := ih (n / 10) (by omega) (by omega)
      refine ⟨k + 1, by rw [hk], ?_, ?_⟩
      · rw [pow_succ]; omega
      · rw [pow_succ]; omega

theorem ratio_bounds (N D : ℚ) (n d : Nat) (hD : 0 < D)
    (h1 : (10 : ℚ) ^ n ≤ N) (h2 : N < (10 : ℚ) ^ (n + 1))
    (h3 : (10 : ℚ) ^ d ≤ D) (h4 : D < (10 : ℚ) ^ (d + 1)) :
    (10 : ℚ) ^ ((n : ℤ) - d - 1) ≤ N / D ∧ N / D < (10 : ℚ) ^ ((n : ℤ) - d + 1) := by
  have hd : (0 : ℚ) < 10 ^ d := by positivity
  have hd1 : (0 : ℚ) < 10 ^ (d + 1) := by positivity
  have hn : (0 : ℚ) < 10 ^ n := by positivity
  have hn1 : (0 : ℚ) < 10 ^ (n + 1) := by positivity
  constructor
  · rw [show (n : ℤ) - d - 1 = ((n : ℕ) : ℤ) - ((d + 1 : ℕ) : ℤ) by push_cast; ring,
      zpow_sub₀ (by norm_num), zpow_natCast, zpow_natCast, div_le_div_iff₀ hd1 hD]
    calc (10 : ℚ) ^ n * D ≤ 10 ^ n * 10 ^ (d + 1) := by
          apply mul_le_mul_of_nonneg_left h4.le hn.le
      _ ≤ N * 10 ^ (d + 1) := by
          apply mul_le_mul_of_nonneg_right h1 hd1.le
  · rw [show (n : ℤ) - d + 1 = ((n + 1 : ℕ) : ℤ) - ((d : ℕ) : ℤ) by push_cast; ring,
      zpow_sub₀ (by norm_num), zpow_natCast, zpow_natCast, div_lt_div_iff₀ hD hd]
    calc N * 10 ^ d < 10 ^ (n + 1) * 10 ^ d := by
          apply mul_lt_mul_of_pos_right h2 hd
      _ ≤ 10 ^ (n + 1) * D := by
          apply mul_le_mul_of_nonneg_left h3 hn1.le

theorem dexp_spec (a : Rat) (ha : 0 < a) : pow10 (dexp a) ≤ a ∧ a < pow10 (dexp a + 1) := by
  have hnum : 0 < a.num := Rat.num_pos.mpr ha
  obtain ⟨n, hn, n1, n2⟩ := ndig_spec a.num.natAbs (by omega)
  obtain ⟨d, hd, d1, d2⟩ := ndig_spec a.den a.den_pos
  have hcast : ((a.num.natAbs : ℕ) : ℚ) = (a.num : ℚ) := by
    rw [← Int.cast_natCast, Int.natCast_natAbs, abs_of_pos hnum]
  have ha' : a = (a.num.natAbs : ℚ) / (a.den : ℚ) := by
    rw [hcast, Rat.num_div_den]
  have hb := ratio_bounds (a.num.natAbs : ℚ) (a.den : ℚ) n d (by exact_mod_cast a.den_pos)
    (by exact_mod_cast n1) (by exact_mod_cast n2) (by exact_mod_cast d1) (by exact_mod_cast d2)
  rw [← ha'] at hb
  have he0 : ((ndig a.num.natAbs : ℕ) : ℤ) - ((ndig a.den : ℕ) : ℤ) = (n : ℤ) - d := by
    rw [hn, hd]; push_cast; ring
  unfold dexp
  simp only [he0, pow10_eq]
  split
  · rename_i h
    exact ⟨h, hb.2⟩
  · rename_i h
    refine ⟨hb.1, ?_⟩
    rw [show (n : ℤ) - d - 1 + 1 = (n : ℤ) - d by ring]
    exact lt_of_not_ge h

theorem dexp_unique (a : ℚ) (ha : 0 < a) (e : ℤ) (h1 : (10 : ℚ) ^ e ≤ a) (h2 : a < (10 : ℚ) ^ (e + 1)) :
    dexp a = e := by
  obtain ⟨s1, s2⟩ := dexp_spec a ha
  rw [pow10_eq] at s1 s2
  have hA : (10 : ℚ) ^ (dexp a) < (10 : ℚ) ^ (e + 1) := lt_of_le_of_lt s1 h2
  have hB : (10 : ℚ) ^ e < (10 : ℚ) ^ (dexp a + 1) := lt_of_le_of_lt h1 s2
  rw [zpow_lt_zpow_iff_right₀ (by norm_num)] at hA hB
  omega

theorem roundHE_eq : roundHE = roundHalfEven := rfl

theorem roundHE_close (x : ℚ) : |(roundHE x : ℚ) - x| ≤ 1 / 2 := by
  rw [roundHE_eq]; exact abs_sub_le_iff.mpr (roundHalfEven_nearest x)

theorem sigRound_zero (p : Nat) : sigRound p 0 = 0 := by
  unfold sigRound; simp

theorem sigRound_of_pos (p : Nat) (a : ℚ) (ha : 0 < a) :
    sigRound p a = (roundHE (a / (10 : ℚ) ^ (dexp a - ((p : ℤ) - 1))) : ℚ) * (10 : ℚ) ^ (dexp a - ((p : ℤ) - 1)) := by
  unfold sigRound
  have h0 : ¬ a = 0 := ne_of_gt ha
  have h1 : ¬ a < 0 := not_lt.mpr ha.le
  simp only [beq_iff_eq, h0, h1, if_false, pow10_eq]

theorem sign_cases (q : ℚ) : q = 0 ∨ ∃ a, 0 < a ∧ (a = q ∨ -a = q) := by
  rcases lt_trichotomy q 0 with h | h | h
  · exact Or.inr ⟨-q, neg_pos.mpr h, Or.inr (neg_neg q)⟩
  · exact Or.inl h
  · exact Or.inr ⟨q, h, Or.inl rfl⟩

theorem sigRound_neg (p : Nat) (q : ℚ) : sigRound p (-q) = -sigRound p q := by
  have key : ∀ a : ℚ, 0 < a → sigRound p (-a) = -sigRound p a := by
    intro a ha
    rw [sigRound_of_pos p a ha]
    unfold sigRound
    have h0 : ¬ -a = 0 := neg_ne_zero.mpr (ne_of_gt ha)
    simp only [beq_iff_eq, h0, neg_lt_zero.mpr ha, if_false, if_true, neg_neg, pow10_eq]
  obtain rfl | ⟨a, ha, rfl | rfl⟩ := sign_cases q
  · rw [neg_zero, sigRound_zero, neg_zero]
  · exact key a ha
  · rw [neg_neg, key a ha, neg_neg]

theorem dexp_mantissa (p : Nat) (hp : 1 ≤ p) (M : ℚ) (k : ℤ) (hlo : (10 : ℚ) ^ (p - 1) ≤ M) (hhi : M < (10 : ℚ) ^ p) :
    0 < M * (10 : ℚ) ^ k ∧ dexp (M * (10 : ℚ) ^ k) = k + ((p : ℤ) - 1) := by
  have hk := ten_zpow_pos k
  have ha : (0 : ℚ) < M * (10 : ℚ) ^ k := mul_pos (lt_of_lt_of_le (by positivity) hlo) hk
  refine ⟨ha, dexp_unique _ ha _ ?_ ?_⟩
  · rw [← pow_mul_zpow (p - 1) k (k + ((p : ℤ) - 1)) (by omega)]
    exact mul_le_mul_of_nonneg_right hlo hk.le
  · rw [← pow_mul_zpow p k (k + ((p : ℤ) - 1) + 1) (by omega)]
    exact mul_lt_mul_of_pos_right hhi hk

theorem mantissa_bounds (p : Nat) (hp : 1 ≤ p) (a : ℚ) (ha : 0 < a) :
    (10 : ℤ) ^ (p - 1) ≤ roundHE (a / (10 : ℚ) ^ (dexp a - ((p : ℤ) - 1))) ∧
    roundHE (a / (10 : ℚ) ^ (dexp a - ((p : ℤ) - 1))) ≤ (10 : ℤ) ^ p := by
  obtain ⟨s1, s2⟩ := dexp_spec a ha
  rw [pow10_eq] at s1 s2
  have hsc := ten_zpow_pos (dexp a - ((p : ℤ) - 1))
  apply roundHalfEven_between
  · rw [le_div_iff₀ hsc]
    push_cast
    rw [pow_mul_zpow (p - 1) _ (dexp a) (by omega)]
    exact s1
  · rw [div_lt_iff₀ hsc]
    push_cast
    rw [pow_mul_zpow p _ (dexp a + 1) (by omega)]
    exact s2

theorem sigParts_spec (p : Nat) (hp : 1 ≤ p) (a : ℚ) (ha : 0 < a) :
    10 ^ (p - 1) ≤ (sigParts p a).1 ∧ (sigParts p a).1 < 10 ^ p ∧
    sigRound p a = ((sigParts p a).1 : ℚ) * (10 : ℚ) ^ ((sigParts p a).2 - ((p : ℤ) - 1)) := by
  obtain ⟨b1, b2⟩ := mantissa_bounds p hp a ha
  rw [sigRound_of_pos p a ha]
  unfold sigParts
  simp only [pow10_eq]
  generalize roundHE (a / (10 : ℚ) ^ (dexp a - ((p : ℤ) - 1))) = r at b1 b2
  obtain ⟨n, rfl⟩ := Int.eq_ofNat_of_zero_le (le_trans (by positivity) b1)
  have b1' : 10 ^ (p - 1) ≤ n := by exact_mod_cast b1
  have b2' : n ≤ 10 ^ p := by exact_mod_cast b2
  simp only [Int.toNat_natCast, Int.cast_natCast]
  by_cases h : n = 10 ^ p
  · -- the mantissa rounded up to `10^p`: one decade further
    subst h
    simp only [beq_self_eq_true, if_true]
    refine ⟨le_rfl, Nat.pow_lt_pow_right (by norm_num) (by omega), ?_⟩
    rw [show dexp a + 1 - ((p : ℤ) - 1) = (dexp a - ((p : ℤ) - 1)) + 1 by ring]
    push_cast
    exact carry_decade p hp _
  · simp only [beq_eq_false_iff_ne.mpr h, Bool.false_eq_true, if_false]
    exact ⟨b1', by omega, trivial⟩

theorem sigParts_fix (p : Nat) (hp : 1 ≤ p) (m : ℕ) (X : ℤ) (hlo : 10 ^ (p - 1) ≤ m) (hhi : m < 10 ^ p) :
    sigParts p ((m : ℚ) * (10 : ℚ) ^ (X - ((p : ℤ) - 1))) = (m, X) := by
  obtain ⟨_, hd⟩ := dexp_mantissa p hp (m : ℚ) (X - ((p : ℤ) - 1)) (by exact_mod_cast hlo) (by exact_mod_cast hhi)
  rw [show X - ((p : ℤ) - 1) + ((p : ℤ) - 1) = X by ring] at hd
  have hk := ten_zpow_pos (X - ((p : ℤ) - 1))
  have hr : roundHE ((m : ℕ) : ℚ) = (m : ℤ) := by exact_mod_cast roundHalfEven_intCast (m : ℤ)
  have hne : (m == 10 ^ p) = false := by
    simp only [beq_eq_false_iff_ne, ne_eq]; omega
  unfold sigParts
  simp only [hd, pow10_eq]
  rw [mul_div_assoc, div_self hk.ne', mul_one, hr, Int.toNat_natCast]
  simp only [hne, Bool.false_eq_true, if_false]

theorem sigParts_sigRound (p : Nat) (hp : 1 ≤ p) (a : ℚ) (ha : 0 < a) :
    sigParts p (sigRound p a) = sigParts p a := by
  obtain ⟨h1, h2, h3⟩ := sigParts_spec p hp a ha
  rw [h3]
  exact sigParts_fix p hp _ _ h1 h2

theorem sigRound_pos_of_pos (p : Nat) (hp : 1 ≤ p) (a : ℚ) (ha : 0 < a) : 0 < sigRound p a := by
  obtain ⟨h1, _, h3⟩ := sigParts_spec p hp a ha
  rw [h3]
  exact mul_pos (Nat.cast_pos.mpr (lt_of_lt_of_le (by positivity) h1)) (ten_zpow_pos _)

theorem sigRound_idem_pos (p : Nat) (hp : 1 ≤ p) (a : ℚ) (ha : 0 < a) :
    sigRound p (sigRound p a) = sigRound p a := by
  rw [(sigParts_spec p hp _ (sigRound_pos_of_pos p hp a ha)).2.2, sigParts_sigRound p hp a ha,
    ← (sigParts_spec p hp a ha).2.2]

/-- rounding to p ≥ 1 significant digits is idempotent: the value `%.{p}g` prints is a fixed point -/
theorem sigRound_idempotent (p : Nat) (hp : 1 ≤ p) (q : Rat) : sigRound p (sigRound p q) = sigRound p q := by
  obtain rfl | ⟨a, ha, rfl | rfl⟩ := sign_cases q
  · rw [sigRound_zero, sigRound_zero]
  · exact sigRound_idem_pos p hp a ha
  · rw [sigRound_neg, sigRound_neg, sigRound_idem_pos p hp a ha]

theorem sigRound_close_pos (p : Nat) (a : ℚ) (ha : 0 < a) :
    |sigRound p a - a| ≤ (1 / 2) * (10 : ℚ) ^ (dexp a - ((p : ℤ) - 1)) := by
  rw [sigRound_of_pos p a ha]
  have hsc := ten_zpow_pos (dexp a - ((p : ℤ) - 1))
  generalize (10 : ℚ) ^ (dexp a - ((p : ℤ) - 1)) = sc at hsc
  have h := roundHE_close (a / sc)
  have e : (roundHE (a / sc) : ℚ) * sc - a = ((roundHE (a / sc) : ℚ) - a / sc) * sc := by
    field_simp
  rw [e, abs_mul, abs_of_pos hsc]
  exact mul_le_mul_of_nonneg_right h hsc.le

/-- the rounded value is within half a unit in the last (p-th) place -/
theorem sigRound_close (p : Nat) (q : Rat) (hq : q ≠ 0) :
    |sigRound p q - q| ≤ (1 / 2) * pow10 (dexp |q| - ((p : Int) - 1)) := by
  rw [pow10_eq]
  obtain rfl | ⟨a, ha, rfl | rfl⟩ := sign_cases q
  · exact absurd rfl hq
  · rw [abs_of_pos ha]; exact sigRound_close_pos p a ha
  · rw [sigRound_neg, show -sigRound p a - -a = -(sigRound p a - a) by ring, abs_neg, abs_neg, abs_of_pos ha]
    exact sigRound_close_pos p a ha

theorem sigRound_fixes_short_decimals (p : Nat) (hp : 1 ≤ p) (m : Nat) (k : Int)
    (hlo : 10 ^ (p - 1) ≤ m) (hhi : m < 10 ^ p) :
    sigRound p ((m : Rat) * pow10 k) = (m : Rat) * pow10 k ∧ sigRound p (-((m : Rat) * pow10 k)) = -((m : Rat) * pow10 k) := by
  have ha := (dexp_mantissa p hp (m : ℚ) k (by exact_mod_cast hlo) (by exact_mod_cast hhi)).1
  have hf := sigParts_fix p hp m (k + ((p : ℤ) - 1)) hlo hhi
  rw [show k + ((p : ℤ) - 1) - ((p : ℤ) - 1) = k by ring] at hf
  rw [pow10_eq, sigRound_neg, (sigParts_spec p hp _ ha).2.2, hf, show k + ((p : ℤ) - 1) - ((p : ℤ) - 1) = k by ring]
  exact ⟨rfl, rfl⟩

end CnvVerif.Fmt
