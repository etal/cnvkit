/-
  Lemmas behind Props/C17.lean, order-statistics part.  The estimators of cnvlib/descriptives.py that segmetrics calls
  (Model/Stats.lean) are the functions of Model/Descriptives.lean -- by `rfl`, but for the order of one product in
  `percentile` -- so what C17 needs of them (a percentile is monotone in `q`, stays inside any bounds of the data, and
  at q = 50 is the median) comes from Lemmas/OrderStat.lean and Lemmas/Quantile.lean.  Weighted
  averages with positive weights stay inside the range of their values.  Consequences for `ciBoot`.
-/
import CnvVerif.Model.Stats
import Mathlib.Tactic.Linarith
import Mathlib.Tactic.Positivity
import CnvVerif.Lemmas.Quantile
namespace CnvVerif.Stats

theorem rabs_eq : rabs = Desc.absR := rfl
theorem sortR_eq (l : List Rat) : sortR l = Desc.sortR l := rfl
theorem median_eq (l : List Rat) : median l = Desc.median l := rfl
theorem madBody_eq (a : List Rat) : madBody a = Desc.madCore a true := rfl

/-- `percentile` takes its level in percent and multiplies the slope from the other side -/
theorem percentile_eq (l : List Rat) (q : Rat) : percentile l q = Desc.quantile l (q / 100) := by
  show _ + _ * _ = _ + _ * _
  exact congrArg _ (mul_comm _ _)

theorem iqrBody_eq (a : List Rat) : iqrBody a = Desc.iqrCore a := by
  unfold iqrBody Desc.iqrCore
  rw [percentile_eq, percentile_eq]
  rfl

theorem level_range {q : Rat} (h0 : 0 ≤ q) (h1 : q ≤ 100) : 0 ≤ q / 100 ∧ q / 100 ≤ 1 :=
  ⟨div_nonneg h0 (by norm_num), (div_le_one (by norm_num)).mpr h1⟩

theorem percentile_mono (l : List Rat) (q1 q2 : Rat) (h0 : 0 ≤ q1) (h12 : q1 ≤ q2) (h2 : q2 ≤ 100) :
    percentile l q1 ≤ percentile l q2 := by
  by_cases hl : l = []
  · subst hl; simp [percentile, percentileSorted, sortR]
  · rw [percentile_eq, percentile_eq]
    exact Desc.quantile_mono l hl _ _ (level_range h0 (le_trans h12 h2)).1
      (div_le_div_of_nonneg_right h12 (by norm_num)) (level_range (le_trans h0 h12) h2).2

theorem percentile_bounds (l : List Rat) (hne : l ≠ []) (q : Rat) (h0 : 0 ≤ q) (h1 : q ≤ 100)
    (lo hi : Rat) (hb : ∀ x ∈ l, lo ≤ x ∧ x ≤ hi) : lo ≤ percentile l q ∧ percentile l q ≤ hi :=
  percentile_eq l q ▸ (Desc.quantile_inHull hne (level_range h0 h1).1 (level_range h0 h1).2).range hb

theorem median_eq_percentile (l : List Rat) : median l = percentile l 50 := by
  rw [median_eq, percentile_eq, Desc.median_eq_quantile]; norm_num

theorem median_singleton (x : Rat) : median [x] = x := Desc.median_singleton x

theorem wavg_bounds (v w : List Rat) (hlen : v.length = w.length) (hne : v ≠ [])
    (hw : ∀ x ∈ w, 0 < x) (lo hi : Rat) (hb : ∀ x ∈ v, lo ≤ x ∧ x ≤ hi) :
    lo ≤ wavg v w ∧ wavg v w ≤ hi := by
  have hwne : w ≠ [] := fun h => hne (List.length_eq_zero_iff.mp (by rw [hlen, h]; rfl))
  have hpos := List.sum_pos w hw hwne
  obtain ⟨i1, i2⟩ := Desc.wsum_between (v.zip w) (·.1) (·.2) lo hi
    (fun p hp => ⟨hb _ (List.of_mem_zip hp).1, (hw _ (List.of_mem_zip hp).2).le⟩)
  rw [List.map_snd_zip (le_of_eq hlen.symm)] at i1 i2
  unfold wavg
  exact ⟨(le_div_iff₀ hpos).mpr i1, (div_le_iff₀ hpos).mpr i2⟩

/-- the percentile levels `100·α/2 ≤ 50 ≤ 100·(1 − α/2)` of both intervals, in `[0, 100]` -/
theorem interval_levels (alpha : Rat) (h0 : 0 < alpha) (h1 : alpha < 1) :
    0 ≤ 100 * (alpha / 2) ∧ 100 * (alpha / 2) ≤ 50 ∧ 50 ≤ 100 * (1 - alpha / 2) ∧
      100 * (1 - alpha / 2) ≤ 100 := by
  have e1 : 100 * (alpha / 2) = 50 * alpha := by ring
  have e2 : 100 * (1 - alpha / 2) = 100 - 50 * alpha := by ring
  have a : 0 ≤ 50 * alpha := mul_nonneg (by decide) h0.le
  have b : 50 * alpha ≤ 50 := mul_le_of_le_one_right (by decide) h1.le
  rw [e1, e2]
  exact ⟨a, b, le_sub_comm.mp (by rwa [show (100 : Rat) - 50 = 50 by norm_num]), sub_le_self _ a⟩

theorem ciBoot_of_lt {vals : List Rat} (h : vals.length < 2) (wts : List Rat) (alpha : Rat) (boot : List BootRow) :
    ciBoot vals wts alpha boot = (vals.getD 0 0, vals.getD 0 0) := if_pos h

theorem ciBoot_of_not_lt {vals : List Rat} (h : ¬ vals.length < 2) (wts : List Rat) (alpha : Rat)
    (boot : List BootRow) :
    ciBoot vals wts alpha boot =
      (percentile (boot.map (replicateMean vals wts)) (100 * (alpha / 2)),
        percentile (boot.map (replicateMean vals wts)) (100 * (1 - alpha / 2))) := if_neg h

/-- a replicate list is well formed for `k` bins: positions below `k`, at least one position, no noise
    (plain, unsmoothed bootstrap) -/
def BootWF (k : Nat) (boot : List BootRow) : Prop :=
  boot ≠ [] ∧ ∀ r ∈ boot, r.idx ≠ [] ∧ r.noise = [] ∧ ∀ i ∈ r.idx, i < k

theorem BootWF.replicateMean_bounds {vals : List Rat} {boot : List BootRow} (hb : BootWF vals.length boot)
    (wts : List Rat) (hlen : vals.length = wts.length) (hw : ∀ x ∈ wts, 0 < x) (r : BootRow) (hrb : r ∈ boot)
    (lo hi : Rat) (hr : ∀ x ∈ vals, lo ≤ x ∧ x ≤ hi) :
    lo ≤ replicateMean vals wts r ∧ replicateMean vals wts r ≤ hi := by
  obtain ⟨hidx, hnoise, hlt⟩ := hb.2 r hrb
  unfold replicateMean
  simp only [hnoise, List.nil_append]
  apply wavg_bounds
  · simp
  · intro h
    have := congrArg List.length h
    simp at this
    exact hidx this
  · intro x hx
    obtain ⟨i, hi, rfl⟩ := List.mem_map.mp hx
    exact hw _ (Desc.nth_mem wts i (hlen ▸ hlt i hi))
  · intro x hx
    obtain ⟨p, hp, rfl⟩ := List.mem_map.mp hx
    obtain ⟨hp1, hp2⟩ := List.of_mem_zip hp
    rw [List.eq_of_mem_replicate hp2, add_zero]
    exact hr _ (Desc.nth_mem vals p.1 (hlt _ hp1))

end CnvVerif.Stats
