/-
  The pool of Model/CoverageSched.lean along every schedule.  Every submitted task is in exactly one of three places:
  waiting, on a worker, or (as its result) in the slot of its submission index; `Inv` says so and every event keeps it.
  Hence a filled slot is never wrong, what `Executor.map` has yielded is a prefix of the serial result, and a pool at rest
  has every slot filled: the ordered gather is the serial map.  `2 * waiting + running` drops under some enabled event, so
  every schedule can be completed.  A parallel section yields its serial value once it is done (`section_done`), and
  `coverageSched` is the serial command delivered once the pool is done (`coverageSched_eq`).
  Core Lean only.
-/
import CnvVerif.Model.CoverageSched
import CnvVerif.Lemmas.CoveragePool
namespace CnvVerif.Cov.Sched
open CnvVerif CnvVerif.Cov

variable {α β : Type}

theorem mem_split_eraseIdx (l : List α) (k : Nat) (t a : α) (hk : l[k]? = some t) (ha : a ∈ l) :
    a = t ∨ a ∈ l.eraseIdx k := by
  obtain ⟨j, hj⟩ := List.mem_iff_getElem?.mp ha
  by_cases hjk : j = k
  · left
    rw [hjk, hk] at hj
    exact (Option.some.inj hj).symm
  · right
    rw [List.mem_eraseIdx_iff_getElem?]
    exact ⟨j, hjk, hj⟩

theorem countP_set_some (l : List (Option α)) (w : Nat) (t : α) (h : l[w]? = some none) :
    (l.set w (some t)).countP Option.isSome = l.countP Option.isSome + 1 := by
  obtain ⟨hw, he⟩ := List.getElem?_eq_some_iff.mp h
  rw [List.countP_set hw, he]; rfl

theorem countP_set_none (l : List (Option α)) (w : Nat) (v : α) (h : l[w]? = some (some v)) :
    (l.set w none).countP Option.isSome + 1 = l.countP Option.isSome := by
  obtain ⟨hw, he⟩ := List.getElem?_eq_some_iff.mp h
  have hpos : 0 < l.countP Option.isSome := List.countP_pos_iff.mpr ⟨some v, List.mem_of_getElem? h, rfl⟩
  rw [List.countP_set hw, he]
  show l.countP Option.isSome - 1 + 0 + 1 = _
  omega

/-- what is true of the pool at every moment, relative to the submitted tasks `xs` -/
structure Inv (f : α → β) (xs : List α) (st : St α β) : Prop where
  pend_ok : ∀ (i : Nat) (x : α), (i, x) ∈ st.pending → xs[i]? = some x
  run_ok : ∀ (w i : Nat) (x : α), st.running[w]? = some (some (i, x)) → xs[i]? = some x
  len : st.slots.length = xs.length
  slot_ok : ∀ (i : Nat) (y : β), st.slots[i]? = some (some y) → (xs[i]?).map f = some y
  acct : ∀ (i : Nat) (x : α), xs[i]? = some x →
    (i, x) ∈ st.pending ∨ (∃ w : Nat, st.running[w]? = some (some (i, x))) ∨ st.slots[i]? = some (some (f x))

theorem inv_init (f : α → β) (xs : List α) (nw : Nat) : Inv f xs (init nw xs : St α β) where
  pend_ok := fun i x h => (mem_enum xs i x).mp h
  run_ok := fun _ _ _ h => nomatch List.eq_of_mem_replicate (List.mem_of_getElem? h)
  len := List.length_replicate
  slot_ok := fun _ _ h => nomatch List.eq_of_mem_replicate (List.mem_of_getElem? h)
  acct := fun i x h => Or.inl ((mem_enum xs i x).mpr h)

theorem step_take (f : α → β) (st : St α β) (w k : Nat) (t : Nat × α) (hw : st.running[w]? = some none)
    (hk : st.pending[k]? = some t) :
    step f st (.take w k) =
      { st with pending := st.pending.eraseIdx k, running := st.running.set w (some t) } := by
  simp only [step, hw, hk]

theorem step_finish (f : α → β) (st : St α β) (w i : Nat) (x : α) (hw : st.running[w]? = some (some (i, x))) :
    step f st (.finish w) =
      { st with running := st.running.set w none, slots := st.slots.set i (some (f x)),
                log := st.log ++ [(i, f x)] } := by
  simp only [step, hw]

theorem step_take_cases (f : α → β) (st : St α β) (w k : Nat) :
    step f st (.take w k) = st ∨ ∃ t, st.running[w]? = some none ∧ st.pending[k]? = some t := by
  simp only [step]
  split
  · next t hw hk => exact Or.inr ⟨t, hw, hk⟩
  · exact Or.inl rfl

theorem step_finish_cases (f : α → β) (st : St α β) (w : Nat) :
    step f st (.finish w) = st ∨ ∃ (i : Nat) (x : α), st.running[w]? = some (some (i, x)) := by
  simp only [step]
  split
  · next i x hw => exact Or.inr ⟨i, x, hw⟩
  · exact Or.inl rfl

theorem getElem?_set_cases {γ} (l : List γ) (w j : Nat) (a b : γ) (h : (l.set w a)[j]? = some b) :
    (w = j ∧ a = b) ∨ (w ≠ j ∧ l[j]? = some b) := by
  by_cases hwj : w = j
  · rw [List.getElem?_set, if_pos hwj] at h
    split at h
    · exact Or.inl ⟨hwj, Option.some.inj h⟩
    · exact nomatch h
  · rw [List.getElem?_set_ne hwj] at h; exact Or.inr ⟨hwj, h⟩

theorem inv_step (f : α → β) (xs : List α) (st : St α β) (ev : Ev) (h : Inv f xs st) : Inv f xs (step f st ev) := by
  cases ev with
  | take w k =>
    rcases step_take_cases f st w k with he | ⟨t, hw, hk⟩
    · rw [he]; exact h
    · rw [step_take f st w k t hw hk]
      refine ⟨fun i x hm => h.pend_ok i x (List.mem_of_mem_eraseIdx hm), ?_, h.len, h.slot_ok, ?_⟩
      · intro w' i x hr
        rcases getElem?_set_cases _ _ _ _ _ hr with ⟨-, ht⟩ | ⟨-, hr⟩
        · exact h.pend_ok i x (Option.some.inj ht ▸ List.mem_of_getElem? hk)
        · exact h.run_ok w' i x hr
      · -- the task taken moves from `pending` to worker `w`; everything else stays where it was
        intro i x hx
        rcases h.acct i x hx with hp | ⟨w', hr⟩ | hs
        · rcases mem_split_eraseIdx _ _ _ _ hk hp with he | he
          · exact Or.inr (Or.inl ⟨w, he ▸ List.getElem?_set_self (List.getElem?_eq_some_iff.mp hw).1⟩)
          · exact Or.inl he
        · have hne : w ≠ w' := fun he => by subst he; rw [hw] at hr; exact nomatch hr
          exact Or.inr (Or.inl ⟨w', (List.getElem?_set_ne hne).trans hr⟩)
        · exact Or.inr (Or.inr hs)
  | finish w =>
    rcases step_finish_cases f st w with he | ⟨i, x, hw⟩
    · rw [he]; exact h
    · rw [step_finish f st w i x hw]
      have hxi : xs[i]? = some x := h.run_ok w i x hw
      have hil : i < st.slots.length := by rw [h.len]; exact (List.getElem?_eq_some_iff.mp hxi).1
      refine ⟨h.pend_ok, ?_, (List.length_set ..).trans h.len, ?_, ?_⟩
      · intro w' i' x' hr
        rcases getElem?_set_cases _ _ _ _ _ hr with ⟨-, ht⟩ | ⟨-, hr⟩
        · exact nomatch ht
        · exact h.run_ok w' i' x' hr
      · intro j y hs
        rcases getElem?_set_cases _ _ _ _ _ hs with ⟨hij, hy⟩ | ⟨-, hs⟩
        · rw [← hij, hxi, ← Option.some.inj hy]; rfl
        · exact h.slot_ok j y hs
      · -- the task finished moves from worker `w` to slot `i`
        intro j x' hx'
        rcases h.acct j x' hx' with hp | ⟨w', hr⟩ | hs
        · exact Or.inl hp
        · by_cases hww : w = w'
          · subst hww
            rw [hw] at hr
            obtain ⟨rfl, rfl⟩ := Prod.mk.inj (Option.some.inj (Option.some.inj hr))
            exact Or.inr (Or.inr (List.getElem?_set_self hil))
          · exact Or.inr (Or.inl ⟨w', (List.getElem?_set_ne hww).trans hr⟩)
        · refine Or.inr (Or.inr ?_)
          by_cases hij : i = j
          · subst hij
            rw [hxi] at hx'
            exact Option.some.inj hx' ▸ List.getElem?_set_self hil
          · exact (List.getElem?_set_ne hij).trans hs

theorem inv_run (f : α → β) (xs : List α) (st : St α β) (evs : List Ev) (h : Inv f xs st) :
    Inv f xs (run f st evs) := by
  induction evs generalizing st with
  | nil => exact h
  | cons e t ih => exact ih _ (inv_step f xs st e h)

theorem quiescent_iff (st : St α β) :
    quiescent st = true ↔ st.pending = [] ∧ ∀ (w : Nat) v, st.running[w]? = some v → v = none := by
  unfold quiescent
  rw [Bool.and_eq_true, List.isEmpty_iff, List.all_eq_true]
  constructor
  · rintro ⟨hp, hr⟩
    refine ⟨hp, fun w v hv => ?_⟩
    have := hr v (List.mem_of_getElem? hv)
    cases v with
    | none => rfl
    | some _ => simp at this
  · rintro ⟨hp, hr⟩
    refine ⟨hp, fun v hv => ?_⟩
    obtain ⟨w, hw⟩ := List.mem_iff_getElem?.mp hv
    rw [hr w v hw]; rfl

theorem slots_of_quiescent (f : α → β) (xs : List α) (st : St α β) (h : Inv f xs st)
    (hq : quiescent st = true) : st.slots = (xs.map f).map some := by
  obtain ⟨hp, hr⟩ := (quiescent_iff st).mp hq
  apply List.ext_getElem?
  intro i
  by_cases hi : i < xs.length
  · have hx : xs[i]? = some xs[i] := List.getElem?_eq_getElem hi
    rcases h.acct i xs[i] hx with hm | ⟨w, hw⟩ | hs
    · rw [hp] at hm; exact absurd hm (by simp)
    · exact absurd (hr w _ hw) (by simp)
    · rw [hs]; simp [hx]
  · rw [List.getElem?_eq_none (by rw [h.len]; omega), List.getElem?_eq_none (by simp; omega)]

theorem gatherOrdered_of_quiescent (f : α → β) (xs : List α) (st : St α β) (h : Inv f xs st)
    (hq : quiescent st = true) : gatherOrdered st = xs.map f := by
  unfold gatherOrdered
  rw [slots_of_quiescent f xs st h hq, List.filterMap_map]
  exact List.filterMap_some

theorem yielded_prefix_aux (sl : List (Option β)) (ys : List β)
    (hok : ∀ (i : Nat) (y : β), sl[i]? = some (some y) → ys[i]? = some y) :
    ((sl.takeWhile Option.isSome).filterMap id) <+: ys := by
  induction sl generalizing ys with
  | nil => exact List.nil_prefix
  | cons a t ih =>
    cases a with
    | none => simp
    | some y =>
      have h0 := hok 0 y (by simp)
      cases ys with
      | nil => simp at h0
      | cons b u =>
        simp only [List.getElem?_cons_zero, Option.some.injEq] at h0
        subst h0
        simp only [List.takeWhile_cons, Option.isSome_some, if_true, List.filterMap_cons, id]
        rw [List.cons_prefix_cons]
        refine ⟨rfl, ih u ?_⟩
        intro i z hz
        have := hok (i + 1) z (by simpa using hz)
        simpa using this

theorem yielded_prefix (f : α → β) (xs : List α) (st : St α β) (h : Inv f xs st) :
    yieldedSoFar st <+: xs.map f := by
  unfold yieldedSoFar
  apply yielded_prefix_aux
  intro i y hy
  have := h.slot_ok i y hy
  rw [List.getElem?_map]; exact this

theorem running_length_step (f : α → β) (st : St α β) (ev : Ev) :
    (step f st ev).running.length = st.running.length := by
  cases ev with
  | take w k =>
    rcases step_take_cases f st w k with he | ⟨t, hw, hk⟩
    · rw [he]
    · rw [step_take f st w k t hw hk]; exact List.length_set
  | finish w =>
    rcases step_finish_cases f st w with he | ⟨i, x, hw⟩
    · rw [he]
    · rw [step_finish f st w i x hw]; exact List.length_set

theorem progress (f : α → β) (st : St α β) (hq : quiescent st = false) (hw : 0 < st.running.length) :
    ∃ ev, measure (step f st ev) < measure st := by
  -- a busy worker can finish (one running task less); if all are idle, something waits (the pool is not at
  -- rest) and worker 0 can take the first waiting task (one waiting less, one running more: 2 - 1)
  by_cases hbusy : ∃ (w : Nat) (v : Nat × α), st.running[w]? = some (some v)
  · obtain ⟨w, ⟨i, x⟩, hv⟩ := hbusy
    refine ⟨.finish w, ?_⟩
    rw [step_finish f st w i x hv]
    have := countP_set_none st.running w (i, x) hv
    show 2 * st.pending.length + (st.running.set w none).countP Option.isSome <
      2 * st.pending.length + st.running.countP Option.isSome
    omega
  · have hidle : ∀ (w : Nat) v, st.running[w]? = some v → v = none := by
      intro w v hv
      cases v with
      | none => rfl
      | some v => exact absurd ⟨w, v, hv⟩ hbusy
    have hp : st.pending ≠ [] := by
      intro hp
      have : quiescent st = true := (quiescent_iff st).mpr ⟨hp, hidle⟩
      rw [this] at hq; exact absurd hq (by simp)
    obtain ⟨t, tl, hpt⟩ := List.exists_cons_of_ne_nil hp
    have h0 : st.running[0]? = some none := by
      have : st.running[0]? = some st.running[0] := List.getElem?_eq_getElem hw
      rw [this, hidle 0 _ this]
    refine ⟨.take 0 0, ?_⟩
    have hk : st.pending[0]? = some t := by rw [hpt]; rfl
    rw [step_take f st 0 0 t h0 hk]
    have := countP_set_some st.running 0 t h0
    show 2 * (st.pending.eraseIdx 0).length + (st.running.set 0 (some t)).countP Option.isSome <
      2 * st.pending.length + st.running.countP Option.isSome
    rw [this, hpt]
    simp only [List.eraseIdx_cons_zero, List.length_cons]
    omega

theorem exists_completion (f : α → β) (n : Nat) (st : St α β) (hm : measure st < n)
    (hw : 0 < st.running.length) : ∃ evs, quiescent (run f st evs) = true := by
  induction n generalizing st with
  | zero => exact absurd hm (Nat.not_lt_zero _)
  | succ n ih =>
    by_cases hq : quiescent st = true
    · exact ⟨[], hq⟩
    · obtain ⟨ev, hlt⟩ := progress f st (by simpa using hq) hw
      obtain ⟨evs, he⟩ := ih (step f st ev) (by omega) (by rw [running_length_step]; exact hw)
      exact ⟨ev :: evs, he⟩

theorem run_append (f : α → β) (st : St α β) (e1 e2 : List Ev) :
    run f st (e1 ++ e2) = run f (run f st e1) e2 := by
  unfold run; rw [List.foldl_append]

theorem running_length_run (f : α → β) (st : St α β) (evs : List Ev) :
    (run f st evs).running.length = st.running.length := by
  induction evs generalizing st with
  | nil => rfl
  | cons e t ih =>
    show (run f (step f st e) t).running.length = _
    rw [ih, running_length_step]

theorem schedMap_of_quiescent (f : α → β) (xs : List α) (nw : Nat) (evs : List Ev)
    (hq : quiescent (run f (init nw xs : St α β) evs) = true) :
    schedMap "ordered" f xs nw evs = some (xs.map f) := by
  unfold schedMap
  simp only [hq, if_true, gatherBy, beq_self_eq_true]
  rw [gatherOrdered_of_quiescent f xs _ (inv_run f xs _ evs (inv_init f xs nw)) hq]

theorem schedMap_ordered_eq (f : α → β) (xs : List α) (nw : Nat) (evs : List Ev) :
    schedMap "ordered" f xs nw evs =
      if quiescent (run f (init nw xs : St α β) evs) then some (xs.map f) else none := by
  split
  · exact schedMap_of_quiescent f xs nw evs ‹_›
  · unfold schedMap; simp only [*]; rfl

theorem quiescent_completable (f : α → β) (xs : List α) (nw : Nat) (hnw : 0 < nw) (evs : List Ev) :
    ∃ more, quiescent (run f (init nw xs : St α β) (evs ++ more)) = true := by
  have hlen : (run f (init nw xs : St α β) evs).running.length = nw := by
    rw [running_length_run]; simp [init]
  obtain ⟨more, hq⟩ := exists_completion f _ (run f (init nw xs) evs) (Nat.lt_succ_self _) (by omega)
  exact ⟨more, by rw [run_append]; exact hq⟩

theorem modes_ordered : Generated.COVERAGE_GATHER_MODES.getD 0 "" = "ordered" ∧
    Generated.COVERAGE_GATHER_MODES.getD 1 "" = "ordered" := ⟨rfl, rfl⟩

/-- a parallel section (`serial` without a pool when `c`, else the ordered gather handed to `post`) yields its value once
    it is `done` (no pool, or the pool at rest) and nothing before; a pool with a worker can always get done -/
theorem section_done {γ} (c : Bool) (serial : γ) (f : α → β) (xs : List α) (post : List β → γ) (nw : Nat) (r : γ)
    (hr : r = if c then serial else post (xs.map f)) :
    ∃ done : List Ev → Bool, (0 < nw → ∀ evs, ∃ more, done (evs ++ more) = true) ∧
      ∀ evs, (if c then some serial else (schedMap "ordered" f xs nw evs).map post) =
        if done evs then some r else none := by
  subst hr
  refine ⟨fun evs => c || quiescent (run f (init nw xs : St α β) evs), fun hnw evs => ?_, fun evs => ?_⟩
  · obtain ⟨more, h⟩ := quiescent_completable f xs nw hnw evs
    exact ⟨more, by simp only [h, Bool.or_true]⟩
  · rw [schedMap_ordered_eq]
    show _ = if (c || quiescent (run f (init nw xs : St α β) evs)) = true then _ else _
    cases c <;> cases quiescent (run f (init nw xs : St α β) evs) <;> rfl

/-- `coverageSched` is the serial command, its table delivered once the pool is done: which schedule, how many workers
    and processes, which chunk size only decide when -/
theorem coverageSched_eq (contigs : List (String × Nat)) (rs : List Read) (q : Nat) (lines : List BedLine)
    (algo : Algo) (procs size nw : Nat) :
    ∃ done : List Ev → Bool, (0 < nw → ∀ evs, ∃ more, done (evs ++ more) = true) ∧
      ∀ evs, coverageSched contigs rs q lines algo procs size nw evs =
        (coverage contigs rs q lines algo 1 1 []).map fun t => if done evs then some t else none := by
  unfold coverageSched coverage
  cases validate contigs lines with
  | some e => exact ⟨fun _ => true, fun _ _ => ⟨[], rfl⟩, fun _ => rfl⟩
  | none =>
    cases algo with
    | count =>
      simp only [countTableSched, countTable, modes_ordered.1, List.flatMap_def, Except.map, beq_self_eq_true, if_true,
        Except.ok.injEq]
      exact section_done (procs == 1) _ _ _ List.flatten nw _ (ite_self _).symm
    | pileup =>
      obtain ⟨done, h1, h2⟩ := section_done (procs == 1) (bedcov contigs (rs.map align) q lines)
        (bedcov contigs (rs.map align) q) (toChunks BedLine.isComment size lines) List.flatten nw _
        (by rw [bedcov_chunks, ite_self])
      refine ⟨done, h1, fun evs => ?_⟩
      simp only [pileupTableSched, pileupTable, modes_ordered.2, h2]
      split <;> rfl

end CnvVerif.Cov.Sched
