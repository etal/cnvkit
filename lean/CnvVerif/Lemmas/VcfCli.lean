/-
  The command-line glue of property C18 (Model/VcfExt.lean) in two parts: a table fact, evaluated on
  Generated/VcfConsts.lean -- every VCF-reading command binds the options of `load_het_snps` the standard way
  (`cliBinding_std`) -- and one equation for the standard binding with the command line left symbolic
  (`cliLhsArgs_of_binding`).
-/
import CnvVerif.Model.VcfExt
namespace CnvVerif.Vcf
open CnvVerif

/-- what every command's binding looks like as long as it passes its options by name -/
def stdBinding : Binding :=
  { sampleId := some "args.sample_id", normalId := some "args.normal_id",
    minVariantDepth := some "args.min_variant_depth", zygosityFreq := some "args.zygosity_freq",
    tumorBoost := none, depthDefault := some 20, zygConst := some (1/4), zygDefaultIsNone := true,
    idsDefaultNone := true }

theorem cliBinding_std : ∀ cmd ∈ Generated.cliVcfCommands, cliBinding cmd = some stdBinding := by
  decide +kernel

theorem cliLhsArgs_of_binding (cmd : String) (a : CliVcfArgs) (h : cliBinding cmd = some stdBinding) :
    cliLhsArgs cmd a = some (cliDocumented a) := by
  unfold cliLhsArgs
  rw [h]
  obtain ⟨sid, nid, md, zf⟩ := a
  cases md <;>
    simp [stdBinding, parseVcfOptions, strAttr, intAttr, ratAttr, cliDocumented, bind, Option.bind, pure]

end CnvVerif.Vcf
