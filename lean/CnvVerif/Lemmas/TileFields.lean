/-
  The fields `transfer_fields` leaves alone: probes and log2 of a reported segment are those of its raw run segment.
-/
import CnvVerif.Model.Tile
import CnvVerif.Lemmas.Tile
import CnvVerif.Lemmas.Basic
namespace CnvVerif
open C03Baf (rawSegs)

theorem assembleUnit_log2_probes (u : List Bin) (runs : List Nat) :
    ∀ g ∈ assembleUnit u runs, ∃ run ∈ splitLens (u.filter (·.keep)) runs,
      run ≠ [] ∧ g.probes = (run.length : Int) ∧ g.log2 = wmeanLog2 run := by
  intro g hg
  have hm := List.mem_map_of_mem (f := fun g : SegO => (g.probes, g.log2)) hg
  rw [assembleUnit_map _ u runs (fun _ _ => rfl) (fun _ _ => rfl) (fun _ => rfl)] at hm
  obtain ⟨g0, h0, h1⟩ := List.mem_map.mp hm
  obtain ⟨run, hr, hs⟩ := List.mem_filterMap.mp (show g0 ∈ (splitLens (u.filter (·.keep)) runs).filterMap segOfRun from h0)
  cases run with
  | nil => simp [segOfRun] at hs
  | cons a t =>
    injection hs with hs
    subst hs
    exact ⟨a :: t, hr, List.cons_ne_nil _ _, (Prod.mk.inj h1).1.symm, (Prod.mk.inj h1).2.symm⟩

end CnvVerif
