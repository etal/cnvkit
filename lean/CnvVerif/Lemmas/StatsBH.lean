/-
  Lemmas behind Props/C17.lean, Benjamini–Hochberg part: the running-minimum algorithm of `p_adjust_bh`
  (Model/Stats.lean `padjustBH`), run with ANY permutation that sorts the values non-increasingly
  (`bhWithOrder`), equals the closed form `bhClosed`; the model's own stable sort is one such permutation.
  The closed form is the least of 1 and the admissible terms, hence at most 1, not below the raw value, monotone, and
  the same for every permutation of the values; the driver's term-sharing evaluation `bhClosedFast` equals it.
-/
import CnvVerif.Model.Stats
import CnvVerif.Lemmas.Basic
import Mathlib.Tactic.Linarith
import Mathlib.Tactic.Ring
namespace CnvVerif.Stats

theorem le_foldl_min (l : List Rat) (a v : Rat) (ha : v ≤ a) (hl : ∀ x ∈ l, v ≤ x) : v ≤ l.foldl min a := by
  rcases foldl_pick_mem min min_choice l a with h | h
  · rw [h]; exact ha
  · exact hl _ h

theorem bhClosedAt_le_one (p : List Rat) (v : Rat) : bhClosedAt p v ≤ 1 :=
  (foldl_min_le _ _).1

/-- the closed form is the least of 1 and the terms `n·p_j / #{k | p_k ≤ p_j}` with `p_j ≥ v` … -/
theorem bhClosedAt_spec (p : List Rat) (v : Rat) :
    (bhClosedAt p v = 1 ∨ ∃ x ∈ p, v ≤ x ∧ bhClosedAt p v = bhTerm p x) ∧
    (∀ x ∈ p, v ≤ x → bhClosedAt p v ≤ bhTerm p x) := by
  constructor
  · rcases foldl_pick_mem min min_choice ((p.filter (fun x => v ≤ x)).map (bhTerm p)) 1 with h | h
    · left; exact h
    · right
      obtain ⟨x, hx, hxe⟩ := List.mem_map.mp h
      obtain ⟨hxp, hvx⟩ := List.mem_filter.mp hx
      exact ⟨x, hxp, of_decide_eq_true hvx, hxe.symm⟩
  · intro x hx hvx
    apply (foldl_min_le _ _).2
    exact List.mem_map.mpr ⟨x, List.mem_filter.mpr ⟨hx, decide_eq_true hvx⟩, rfl⟩

/-- … which determines it -/
theorem bhClosedAt_unique (p : List Rat) (v c : Rat) (h1 : c ≤ 1)
    (hle : ∀ x ∈ p, v ≤ x → c ≤ bhTerm p x)
    (hat : c = 1 ∨ ∃ x ∈ p, v ≤ x ∧ c = bhTerm p x) : c = bhClosedAt p v := by
  obtain ⟨hat', hle'⟩ := bhClosedAt_spec p v
  apply le_antisymm
  · rcases hat' with h | ⟨x, hx, hvx, h⟩
    · rw [h]; exact h1
    · rw [h]; exact hle x hx hvx
  · rcases hat with h | ⟨x, hx, hvx, h⟩
    · rw [h]; exact bhClosedAt_le_one p v
    · rw [h]; exact hle' x hx hvx

theorem bhClosedAt_mono (p : List Rat) (u v : Rat) (h : u ≤ v) : bhClosedAt p u ≤ bhClosedAt p v := by
  obtain ⟨hat, -⟩ := bhClosedAt_spec p v
  rcases hat with h1 | ⟨x, hx, hvx, h1⟩
  · rw [h1]; exact bhClosedAt_le_one p u
  · rw [h1]; exact (bhClosedAt_spec p u).2 x hx (le_trans h hvx)

theorem countP_le_pos (p : List Rat) (x : Rat) (hx : x ∈ p) : 0 < p.countP (fun y => decide (y ≤ x)) :=
  List.countP_pos_iff.mpr ⟨x, hx, by simp⟩

theorem le_bhTerm (p : List Rat) (h0 : ∀ x ∈ p, 0 ≤ x) (x : Rat) (hx : x ∈ p) : x ≤ bhTerm p x := by
  have hc : (0 : Rat) < ((p.countP (fun y => decide (y ≤ x)) : Nat) : Rat) :=
    Nat.cast_pos.mpr (countP_le_pos p x hx)
  have hn : ((p.countP (fun y => decide (y ≤ x)) : Nat) : Rat) ≤ (p.length : Rat) :=
    Nat.cast_le.mpr List.countP_le_length
  unfold bhTerm
  rw [le_div_iff₀ hc, mul_comm]
  exact mul_le_mul_of_nonneg_right hn (h0 x hx)

theorem le_bhClosedAt (p : List Rat) (h0 : ∀ x ∈ p, 0 ≤ x) (v : Rat) (hv : v ≤ 1) : v ≤ bhClosedAt p v := by
  obtain ⟨hat, -⟩ := bhClosedAt_spec p v
  rcases hat with h1 | ⟨x, hx, hvx, h1⟩
  · rw [h1]; exact hv
  · rw [h1]; exact le_trans hvx (le_bhTerm p h0 x hx)

/-- the driver's term-sharing evaluation is the closed form -/
theorem bhClosedFast_eq (p : List Rat) : bhClosedFast p = bhClosed p := by
  unfold bhClosedFast bhClosed
  apply List.map_congr_left
  intro v _
  show _ = bhClosedAt p v
  unfold bhClosedAt
  rw [← List.map_prod_left_eq_zip, List.filter_map, List.map_map]
  rfl

theorem bhTerm_perm {L p : List Rat} (h : L.Perm p) (x : Rat) : bhTerm L x = bhTerm p x := by
  unfold bhTerm
  rw [h.length_eq, h.countP_eq]

theorem bhClosedAt_perm {L p : List Rat} (h : L.Perm p) (v : Rat) : bhClosedAt L v = bhClosedAt p v := by
  obtain ⟨hat, hle⟩ := bhClosedAt_spec L v
  apply bhClosedAt_unique p v _ (bhClosedAt_le_one L v)
  · intro x hx hvx
    rw [← bhTerm_perm h]
    exact hle x (h.mem_iff.mpr hx) hvx
  · rcases hat with h1 | ⟨x, hx, hvx, h1⟩
    · left; exact h1
    · right; exact ⟨x, h.mem_iff.mp hx, hvx, by rw [← bhTerm_perm h]; exact h1⟩

abbrev Desc (l : List Rat) : Prop := l.Pairwise (fun a b => b ≤ a)

theorem countP_desc (pre xs : List Rat) (x : Rat) (hs : Desc (pre ++ x :: xs)) :
    (pre ++ x :: xs).countP (fun y => decide (y ≤ x)) =
      pre.countP (fun y => decide (y ≤ x)) + (xs.length + 1) := by
  obtain ⟨-, hxs, -⟩ := List.pairwise_append.mp hs
  obtain ⟨hx, -⟩ := List.pairwise_cons.mp hxs
  have : xs.countP (fun y => decide (y ≤ x)) = xs.length :=
    List.countP_eq_length.mpr (fun a ha => decide_eq_true (hx a ha))
  rw [List.countP_append, List.countP_cons, this]
  simp

/-- the factor the algorithm applies at `x` counts the values from `x` on; the closed form counts all values `≤ x`.
    The two agree unless `x` ties with an earlier value, and the algorithm's term is never the smaller one -/
theorem step_term (pre xs : List Rat) (x : Rat) (hs : Desc (pre ++ x :: xs)) (h0 : 0 ≤ x) :
    bhTerm (pre ++ x :: xs) x ≤ ((pre ++ x :: xs).length : Rat) / ((xs.length + 1 : Nat) : Rat) * x ∧
    (bhTerm (pre ++ x :: xs) x = ((pre ++ x :: xs).length : Rat) / ((xs.length + 1 : Nat) : Rat) * x ∨ x ∈ pre) := by
  have hT : bhTerm (pre ++ x :: xs) x = ((pre ++ x :: xs).length : Rat) * x /
      ((pre.countP (fun y => decide (y ≤ x)) + (xs.length + 1) : Nat) : Rat) := by
    unfold bhTerm; rw [countP_desc pre xs x hs]
  rw [hT, div_mul_eq_mul_div]
  by_cases hj : pre.countP (fun y => decide (y ≤ x)) = 0
  · rw [hj, Nat.zero_add]
    exact ⟨le_refl _, Or.inl rfl⟩
  · obtain ⟨y, hy, hyx⟩ := List.countP_pos_iff.mp (Nat.pos_of_ne_zero hj)
    obtain ⟨-, -, hpx⟩ := List.pairwise_append.mp hs
    have hyeq : y = x := le_antisymm (of_decide_eq_true hyx) (hpx y hy x (List.mem_cons_self ..))
    refine ⟨?_, Or.inr (hyeq ▸ hy)⟩
    apply div_le_div_of_nonneg_left (mul_nonneg (Nat.cast_nonneg _) h0) (Nat.cast_pos.mpr (Nat.succ_pos _))
    exact Nat.cast_le.mpr (Nat.le_add_left _ _)

/-- the running minimum after the values in `pre`: below the closed form's term of each of them, and one of them -/
def IsRunMin (L pre : List Rat) (cur : Rat) : Prop :=
  (∀ y ∈ pre, cur ≤ bhTerm L y) ∧ ∃ y ∈ pre, cur = bhTerm L y

theorem IsRunMin.first (x : Rat) (xs : List Rat) (hs : Desc (x :: xs)) (h0 : 0 ≤ x) :
    IsRunMin (x :: xs) [x] ((((x :: xs).length : Nat) : Rat) / ((xs.length + 1 : Nat) : Rat) * x) := by
  have e : bhTerm (x :: xs) x = (((x :: xs).length : Nat) : Rat) / ((xs.length + 1 : Nat) : Rat) * x :=
    (step_term [] xs x hs h0).2.resolve_right List.not_mem_nil
  exact ⟨fun y hy => by rw [List.mem_singleton.mp hy, e], x, List.mem_singleton_self x, e.symm⟩

theorem IsRunMin.step {pre xs : List Rat} {x cur : Rat} (h : IsRunMin (pre ++ x :: xs) pre cur)
    (hs : Desc (pre ++ x :: xs)) (h0 : 0 ≤ x) :
    IsRunMin (pre ++ x :: xs) (pre ++ [x])
      (min cur (((pre ++ x :: xs).length : Rat) / ((xs.length + 1 : Nat) : Rat) * x)) := by
  obtain ⟨hle, y, hy, hat⟩ := h
  obtain ⟨ht, hcase⟩ := step_term pre xs x hs h0
  have hx : min cur (((pre ++ x :: xs).length : Rat) / ((xs.length + 1 : Nat) : Rat) * x) ≤
      bhTerm (pre ++ x :: xs) x := by
    rcases hcase with e | hxpre
    · exact le_of_le_of_eq (min_le_right _ _) e.symm
    · exact le_trans (min_le_left _ _) (hle x hxpre)
  constructor
  · intro z hz
    rcases List.mem_append.mp hz with h | h
    · exact le_trans (min_le_left _ _) (hle z h)
    · rw [List.mem_singleton.mp h]
      exact hx
  · rcases min_choice cur (((pre ++ x :: xs).length : Rat) / ((xs.length + 1 : Nat) : Rat) * x) with e | e
    · exact ⟨y, List.mem_append_left _ hy, e.trans hat⟩
    · exact ⟨x, List.mem_append_right _ (List.mem_singleton_self x), le_antisymm hx (le_of_le_of_eq ht e.symm)⟩

/-- the values `≥ x` of a descending list are those up to `x` and the later ones equal to `x`: capped at 1, the
    running minimum up to `x` is the closed form at `x` -/
theorem IsRunMin.capped_eq_closedAt (pre xs : List Rat) (x c : Rat) (hs : Desc (pre ++ x :: xs))
    (h : IsRunMin (pre ++ x :: xs) (pre ++ [x]) c) : min 1 c = bhClosedAt (pre ++ x :: xs) x := by
  obtain ⟨hle, y, hy, hat⟩ := h
  obtain ⟨-, hxs, hpx⟩ := List.pairwise_append.mp hs
  obtain ⟨hx, -⟩ := List.pairwise_cons.mp hxs
  have hsub : ∀ z ∈ pre ++ [x], z ∈ pre ++ x :: xs ∧ x ≤ z := by
    intro z hz
    rcases List.mem_append.mp hz with h | h
    · exact ⟨List.mem_append_left _ h, hpx z h x (List.mem_cons_self ..)⟩
    · rw [List.mem_singleton.mp h]
      exact ⟨List.mem_append_right _ (List.mem_cons_self ..), le_refl _⟩
  apply bhClosedAt_unique _ _ _ (min_le_left _ _)
  · intro z hz hxz
    apply le_trans (min_le_right _ _)
    rcases List.mem_append.mp hz with h | h
    · exact hle z (List.mem_append_left _ h)
    · have hzx : z ≤ x := by
        rcases List.mem_cons.mp h with rfl | h
        · exact le_refl _
        · exact hx z h
      rw [le_antisymm hzx hxz]
      exact hle x (List.mem_append_right _ (List.mem_singleton_self x))
  · rcases min_choice 1 c with e | e
    · exact Or.inl e
    · exact Or.inr ⟨y, (hsub y hy).1, (hsub y hy).2, e.trans hat⟩

theorem bhScan_eq (L : List Rat) (h0 : ∀ x ∈ L, 0 ≤ x) (hs : Desc L) (pre rest : List Rat) (cur : Rat)
    (hL : L = pre ++ rest) (h : IsRunMin L pre cur) :
    (bhScan L.length cur rest).map (fun x => min 1 x) = rest.map (bhClosedAt L) := by
  induction rest generalizing pre cur with
  | nil => rfl
  | cons x xs ih =>
    subst hL
    have h' := h.step hs (h0 x (List.mem_append_right _ (List.mem_cons_self ..)))
    simp only [bhScan, List.map_cons]
    rw [IsRunMin.capped_eq_closedAt pre xs x _ hs h', ih (pre ++ [x]) _ (by simp) h']

/-- `np.minimum.accumulate` over a descending list: the first factor-times-value is a running minimum of the first
    value alone (`IsRunMin.first`), the rest is the scan -/
theorem bhAccumulate_eq (L : List Rat) (h0 : ∀ x ∈ L, 0 ≤ x) (hs : Desc L) :
    (bhAccumulate L.length L).map (fun x => min 1 x) = L.map (bhClosedAt L) := by
  cases L with
  | nil => rfl
  | cons x xs =>
    have h := IsRunMin.first x xs hs (h0 x (List.mem_cons_self ..))
    simp only [bhAccumulate, List.map_cons]
    rw [IsRunMin.capped_eq_closedAt [] xs x _ hs h, bhScan_eq (x :: xs) h0 hs [x] xs _ rfl h]
    rfl

theorem bhDescending_perm (p : List Rat) : (bhDescending p).Perm p.zipIdx :=
  List.mergeSort_perm _ _

theorem bhDescending_desc (p : List Rat) : Desc ((bhDescending p).map (·.1)) := by
  have h : (bhDescending p).Pairwise (fun a b => decide (b.1 ≤ a.1) = true) :=
    List.pairwise_mergeSort
      (le := fun (a b : Rat × Nat) => decide (b.1 ≤ a.1))
      (fun a b c hab hbc => decide_eq_true (le_trans (of_decide_eq_true hbc) (of_decide_eq_true hab)))
      (fun a b => by
        rcases le_total a.1 b.1 with h | h
        · simp [h]
        · simp [h])
      _
  rw [Desc, List.pairwise_map]
  exact h.imp (fun h => of_decide_eq_true h)

theorem bhDescending_length (p : List Rat) : (bhDescending p).length = p.length := by
  rw [(bhDescending_perm p).length_eq, List.length_zipIdx]

/-- `p[by_descend]` are the sorted values -/
theorem take_bhDescending (p : List Rat) :
    ((bhDescending p).map (·.2)).map (fun i => p.getD i 0) = (bhDescending p).map (·.1) := by
  rw [List.map_map]
  apply List.map_congr_left
  intro x hx
  have h3 : x ∈ p.zipIdx := (bhDescending_perm p).mem_iff.mp hx
  rw [List.mem_zipIdx_iff_getElem?] at h3
  simp only [Function.comp, List.getD_eq_getElem?_getD, h3, Option.getD_some]

theorem bhDescending_snd_perm (p : List Rat) : ((bhDescending p).map (·.2)).Perm (List.range p.length) := by
  have := (bhDescending_perm p).map Prod.snd
  rwa [List.zipIdx_map_snd, ← List.range_eq_range'] at this

/-- undoing a sort: reading `o.map g` at the position of `i` in `o`, for every `i`, gives `g` in index order -/
theorem unsort_map {β} (o : List Nat) (n : Nat) (hperm : o.Perm (List.range n)) (g : Nat → β) (d : β) :
    (List.range n).map (fun i => (o.map g).getD (o.idxOf i) d) = (List.range n).map g := by
  apply List.map_congr_left
  intro i hi
  have hr : o.idxOf i < o.length := List.idxOf_lt_length_iff.mpr (hperm.mem_iff.mpr hi)
  rw [List.getD_eq_getElem?_getD, List.getElem?_eq_getElem (by rwa [List.length_map]), Option.getD_some,
    List.getElem_map, List.getElem_idxOf hr]

/-- `p_adjust_bh` for a given sorting permutation `o` (`by_descend`): running minimum over `p[o]`, cap, unsort -/
def bhWithOrder (p : List Rat) (o : List Nat) : List Rat :=
  (List.range p.length).map (fun i =>
    ((bhAccumulate p.length (o.map (fun j => p.getD j 0))).map (fun x => min 1 x)).getD (o.idxOf i) 0)

theorem padjustBH_eq_withOrder (p : List Rat) : padjustBH p = bhWithOrder p ((bhDescending p).map (·.2)) := by
  unfold padjustBH bhWithOrder
  rw [take_bhDescending]

/-- whatever permutation sorts the values into non-increasing order (any tie order), the algorithm yields the
    closed form, at the original positions -/
theorem bhWithOrder_eq_closed (p : List Rat) (o : List Nat) (h0 : ∀ x ∈ p, 0 ≤ x)
    (hperm : o.Perm (List.range p.length)) (hdesc : Desc (o.map (fun j => p.getD j 0))) :
    bhWithOrder p o = bhClosed p := by
  have hLperm : (o.map (fun j => p.getD j 0)).Perm p := by
    have := hperm.map (fun j => p.getD j 0)
    rwa [map_getD_range] at this
  have hacc := bhAccumulate_eq _ (fun x hx => h0 x (hLperm.mem_iff.mp hx)) hdesc
  rw [hLperm.length_eq, funext (bhClosedAt_perm hLperm), List.map_map] at hacc
  unfold bhWithOrder bhClosed
  rw [hacc, unsort_map o p.length hperm, ← List.map_map, map_getD_range]

/-- the algorithm computes the closed form: `q_i = min(1, min_{j : p_j ≥ p_i} n·p_j / #{k | p_k ≤ p_j})` -/
theorem padjustBH_eq_closed (p : List Rat) (h0 : ∀ x ∈ p, 0 ≤ x) : padjustBH p = bhClosed p := by
  rw [padjustBH_eq_withOrder]
  apply bhWithOrder_eq_closed p _ h0 (bhDescending_snd_perm p)
  rw [take_bhDescending]
  exact bhDescending_desc p

theorem mem_zip_padjustBH (p : List Rat) (h0 : ∀ x ∈ p, 0 ≤ x) (e : Rat × Rat) (he : e ∈ p.zip (padjustBH p)) :
    e.1 ∈ p ∧ e.2 = bhClosedAt p e.1 := by
  rw [padjustBH_eq_closed p h0, bhClosed, ← List.map_prod_left_eq_zip] at he
  obtain ⟨x, hx, rfl⟩ := List.mem_map.mp he
  exact ⟨hx, rfl⟩

end CnvVerif.Stats
