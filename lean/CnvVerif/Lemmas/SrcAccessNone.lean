/-
  The loop body, the flush and the conversion to `Region` that `C13N.c13nLoop` / `c13nRegions`
  (Model/AccessNoneExt5.lean) use once a header has been read are those of Lemmas/SrcAccess.lean, i.e. the
  generated `src_get_regions_step` / `_final` (Generated/ExprsAccess.lean).
-/
import CnvVerif.Model.AccessNoneExt5
import CnvVerif.Lemmas.SrcAccess
namespace CnvVerif.SrcNone
open CnvVerif CnvVerif.Generated CnvVerif.Src CnvVerif.C13N

theorem c13n_stepFn : C13N.stepFn = Src.stepFn := rfl
theorem c13n_finalFn : C13N.finalFn = Src.finalFn := rfl
theorem c13n_toRegion : (fun (r : List Char × Nat × Nat) => (String.ofList r.1, r.2.1, r.2.2)) = Src.toRegion := rfl

end CnvVerif.SrcNone
