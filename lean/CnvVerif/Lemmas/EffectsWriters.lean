/-
  File actions of the command layer (Model/WritersExt5.lean): how the lists that pass the checks are built, what one
  run and repeated runs of such a list add to a directory tree (`GrownD`), and what the table read from the source says
  about the writers that promise not to overwrite.
-/
import CnvVerif.Model.WritersExt5
import CnvVerif.Lemmas.PathProg
import CnvVerif.Generated.EffectsWriters
namespace CnvVerif.C10W
open CnvVerif.Effects

/-- a list passes `pairsGuarded` exactly when it is built from `ensure e; write e` pairs: induction along the pairs -/
@[elab_as_elim]
theorem pairsGuarded_induction {P : List WAct → Prop} (nil : P [])
    (pair : ∀ e hlp rest, pairsGuarded rest = true → P rest → P (.ensure e :: .write hlp e :: rest)) :
    ∀ acts, pairsGuarded acts = true → P acts
  | [], _ => nil
  | [_], h => by cases h
  | .write _ _ :: _ :: _, h => by cases h
  | .ensure _ :: .ensure _ :: _, h => by cases h
  | .ensure e :: .write hlp e' :: rest, h => by
    rw [pairsGuarded, Bool.and_eq_true, beq_iff_eq] at h
    obtain ⟨rfl, hrest⟩ := h
    exact pair e hlp rest hrest (pairsGuarded_induction nil pair rest hrest)

theorem runActs_grown (env : String → PathArg) (tok : String) (acts : List WAct) (h : pairsGuarded acts = true) :
    ∀ fs : FSD, WF fs.files → (∀ e, (env e).slash = false → isDir fs (env e).dir = true) →
      ∃ fs', runActs env tok acts fs = .ok fs' ∧ GrownD (List.replicate (nWrites acts) tok) fs fs' := by
  refine pairsGuarded_induction ?_ ?_ acts h
  · exact fun fs hw _ => ⟨fs, rfl, .refl hw⟩
  · intro e hlp rest _ ih fs hw hcwd
    obtain ⟨fs1, h1, g1, _⟩ := guardedWriteD_grown fs hw (env e) tok (hcwd e)
    obtain ⟨fs2, h2, g2⟩ := ih fs1 g1.files.wf (fun x hx => g1.dirs _ (hcwd x hx))
    rw [guardedWriteD] at h1
    exact ⟨fs2, by simp only [runActs, h1]; exact h2, List.replicate_succ' ▸ g1.trans g2⟩

theorem runRepeated_grown (env : String → PathArg) (acts : List WAct) (h : pairsGuarded acts = true) (ts : List String) :
    ∀ fs : FSD, WF fs.files → (∀ e, (env e).slash = false → isDir fs (env e).dir = true) →
      ∃ fs', runRepeated env acts ts fs = .ok fs' ∧
        GrownD (ts.reverse.flatMap (List.replicate (nWrites acts))) fs fs' := by
  induction ts with
  | nil => exact fun fs hw _ => ⟨fs, rfl, .refl hw⟩
  | cons t ts ih =>
    intro fs hw hcwd
    obtain ⟨fs1, h1, g1⟩ := runActs_grown env t acts h fs hw hcwd
    obtain ⟨fs2, h2, g2⟩ := ih fs1 g1.files.wf (fun x hx => g1.dirs _ (hcwd x hx))
    refine ⟨fs2, by rw [runRepeated, h1]; exact h2, ?_⟩
    rw [List.reverse_cons, List.flatMap_append, List.flatMap_singleton]
    exact g1.trans g2

theorem before_append_fromFirstEnsure (l : List WAct) : beforeFirstEnsure l ++ fromFirstEnsure l = l := by
  induction l with
  | nil => rfl
  | cons a t ih =>
    cases a with
    | ensure e => rfl
    | write hlp e => simp only [beforeFirstEnsure, fromFirstEnsure, List.cons_append, ih]

/-- both facts about the rows of the promised writers in one statement, so that the table is evaluated once: turning
    its function names into bytes is the slow part of checking either -/
theorem promised_rows :
    (∀ fn ∈ PROMISED, ∃ r, findRow Generated.WRITER_TABLE fn = some r ∧ promisedOK r.acts = true) ∧
    (∀ fn ∈ ["cnvlib.commands._cmd_coverage", "cnvlib.commands._cmd_reference"],
      ∃ r, findRow Generated.WRITER_TABLE fn = some r ∧ pairsGuarded r.acts = true ∧ nWrites r.acts = 1) := by
  decide +kernel

end CnvVerif.C10W
