/-
  The run-time oracle of the C19 driver (`Drv.C19.Spec`: definitions written a second time from the published
  formulas) against the model (`Desc`): its insertion sort, median, type-7 quantile, weighted mean and Qn pair
  enumeration are the model's functions, for all inputs.  Props/C19Published.lean builds MAD, IQR, gapper, Qn and the
  weighted variance on these; the oracle's biweight functions (`Spec.biweightStep`, `biweightLocation`, `bivarParts`)
  have no equation here.
-/
import CnvVerif.Lemmas.Descriptives
import CnvVerif.Lemmas.Basic
import CnvVerif.Driver.Descriptives
namespace CnvVerif.Desc
open CnvVerif.Drv.C19

/-- the oracle's insertion step is Mathlib's `orderedInsert` -/
theorem spec_insertSorted_eq (x : Rat) (l : List Rat) : Spec.insertSorted x l = List.orderedInsert (· ≤ ·) x l := by
  induction l with
  | nil => rfl
  | cons y ys ih => unfold Spec.insertSorted; rw [List.orderedInsert_cons, ih]

theorem spec_isort_eq_sortR (l : List Rat) : Spec.isort l = sortR l := by
  have : Spec.isort l = List.insertionSort (· ≤ ·) l :=
    congrArg (fun f => List.foldr f [] l) (funext fun x => funext (spec_insertSorted_eq x))
  rw [this]
  exact (sortR_unique (List.pairwise_insertionSort _ l) (List.perm_insertionSort _ l)).symm

theorem spec_absQ_eq (q : Rat) : absQ q = absR q := rfl

theorem spec_orderStat_eq (s : List Rat) (k : Nat) : Spec.orderStat s k = nth s k := rfl

theorem spec_median_eq (l : List Rat) : Spec.median l = median l := by
  rw [median_def]
  unfold Spec.median
  simp only [spec_isort_eq_sortR, spec_orderStat_eq, beq_iff_eq]

theorem spec_quantile7_eq (l : List Rat) (hl : l ≠ []) (q : Rat) (h0 : 0 ≤ q) (h1 : q ≤ 1) :
    Spec.quantile7 l q = quantile l q := by
  have hx := quantile_vidx hl h0 h1
  obtain ⟨hg0, _⟩ := floorNat_spec _ hx.1
  unfold Spec.quantile7 quantile
  rw [quantileSorted_eq]
  unfold interpAt
  simp only [spec_isort_eq_sortR, spec_orderStat_eq, beq_iff_eq]
  rw [mul_comm (((sortR l).length : Rat) - 1) q]
  generalize q * (((sortR l).length : Rat) - 1) = x at hx hg0 ⊢
  split
  · rename_i heq; rw [← heq, sub_self, zero_mul, add_zero]
  · -- a fractional index lies below `n − 1`, so its upper neighbour is the next entry
    rename_i hne
    have hlt : ((x.floor.toNat : Nat) : Rat) < (((sortR l).length - 1 : Nat) : Rat) := by
      rw [Nat.cast_pred (Nat.zero_lt_of_lt (vidx_lt hx))]
      exact lt_of_lt_of_le (lt_of_le_of_ne hg0 (Ne.symm hne)) hx.2
    rw [Nat.min_eq_left (Nat.succ_le_of_lt (Nat.cast_lt.mp hlt))]

theorem spec_absQ_fun : (absQ : Rat → Rat) = absR := rfl

theorem diffs_eq_range (s : List Rat) :
    diffs s = (List.range (s.length - 1)).map (fun i => nth s (i + 1) - nth s i) := by
  apply List.ext_getElem
  · rw [diffs_length]; simp
  · intro i h1 h2
    rw [diffs_length] at h1
    rw [List.getElem_map, List.getElem_range, nth_eq_getElem s (i + 1) (by omega), nth_eq_getElem s i (by omega)]
    simp only [diffs, List.getElem_map, List.getElem_zip, List.getElem_tail]

theorem spec_wmean_eq (p : List (Rat × Rat)) (v : Rat) (h : wavg p = some v) : Spec.wmean p = v := by
  unfold wavg at h
  simp only at h
  split at h
  · exact absurd h (by simp)
  · unfold Spec.wmean
    rw [← List.foldl_map (f := fun q : Rat × Rat => q.1 * q.2) (g := (· + ·)),
      ← List.foldl_map (f := fun q : Rat × Rat => q.2) (g := (· + ·)), ← List.sum_eq_foldl, ← List.sum_eq_foldl]
    exact Option.some.inj h

theorem filter_lt_range_succ (P : Nat → Bool) (h0 : P 0 = false) (n : Nat) :
    (List.range (n + 1)).filter P = ((List.range n).filter (fun j => P (j + 1))).map Nat.succ := by
  rw [List.range_succ_eq_map, List.filter_cons, h0, List.filter_map]
  rfl

/-- row by row: the pairs `(0, j)` of `a :: xs` are `a` against every entry of `xs`, and the pairs `(i+1, j+1)` are the
    pairs `(i, j)` of `xs` -/
theorem spec_qn_pairs (x : List Rat) :
    ((List.range x.length).flatMap (fun i => ((List.range x.length).filter (fun j => i < j)).map
      (fun j => absQ (x.getD i 0 - x.getD j 0)))) = pairDiffs x := by
  induction x with
  | nil => rfl
  | cons a xs ih =>
    have hrow : ∀ i, ((List.range (xs.length + 1)).filter (fun j => decide (i < j))).map
        (fun j => absQ ((a :: xs).getD i 0 - (a :: xs).getD j 0)) =
        ((List.range xs.length).filter (fun j => decide (i < j + 1))).map
          (fun j => absQ ((a :: xs).getD i 0 - xs.getD j 0)) := fun i => by
      rw [filter_lt_range_succ _ (decide_eq_false (Nat.not_lt_zero i)), List.map_map]; rfl
    rw [pairDiffs_cons, ← ih, List.length_cons, List.flatMap_congr (fun i _ => hrow i), List.range_succ_eq_map,
      List.flatMap_cons, List.flatMap_map]
    congr 1
    · rw [List.filter_eq_self.mpr (fun j _ => decide_eq_true (Nat.succ_pos j))]
      conv_rhs => rw [← map_getD_range xs 0, List.map_map]
      rfl
    · exact List.flatMap_congr (fun i _ => congrArg (List.map _) (List.filter_congr (fun j _ => by simp)))

theorem spec_qn_eq (a : List Rat) (h : 2 ≤ a.length) :
    Spec.qn a = quantile (pairDiffs a) (1 / 4) /
      (if a.length ≤ 10 then 174 / 125 else if a.length < 400 then 1 + 4 / (a.length : Rat) else 1) := by
  unfold Spec.qn
  simp only []
  rw [spec_qn_pairs, spec_quantile7_eq _ (pairDiffs_ne_nil a h) _ (by norm_num) (by norm_num)]

theorem spec_qn_const_pos (n : Nat) :
    (0 : Rat) < (if n ≤ 10 then 174 / 125 else if n < 400 then 1 + 4 / (n : Rat) else 1) := by
  split_ifs <;> positivity

end CnvVerif.Desc
