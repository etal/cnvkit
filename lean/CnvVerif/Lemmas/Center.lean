/-
  Lemmas behind Props/C15.lean: center_all is a uniform shift that zeroes any translation-
  equivariant estimator of the selected bins; `medianR` is the median of Model/Descriptives.lean, whose
  lemmas are in Lemmas/OrderStat.lean, so it is one.  `centerSel` names the bins the estimate is taken from; `centerShift_map` says what a row map
  that keeps coordinates and low-coverage verdicts and moves log2 by a constant does to the shift (the
  depth-scale clauses of C04 and C05 and the depth-column clause of C04 are instances).  The levels of
  chrX (`expectedX`) that shift_xx and the shifts of the two sex hypotheses bring to the autosomal level.
-/
import CnvVerif.Model.Center
import CnvVerif.Lemmas.OrderStat
import Mathlib.Tactic.Linarith
import Mathlib.Tactic.Ring
import Mathlib.Tactic.FieldSimp
import Mathlib.Tactic.NormNum
namespace CnvVerif

/-- an estimator that moves with the data when a constant is added (median, mean, biweight
    location, KDE mode … all are) -/
def TransEquiv (est : List Rat → Rat) : Prop :=
  ∀ (l : List Rat) (c : Rat), l ≠ [] → est (l.map (· + c)) = est l + c

theorem sumR_eq_sum (l : List Rat) : sumR l = l.sum := List.sum_eq_foldl.symm

theorem meanR_transEquiv : TransEquiv meanR := fun l c hl => by
  unfold meanR; rw [sumR_eq_sum, sumR_eq_sum]; exact Desc.mean_map_add hl c

/-- `np.median` as C15 models it (0 on no values, tested first) is the median of Model/Descriptives.lean; its lemmas are
    those of Lemmas/OrderStat.lean -/
theorem medianR_eq_median (l : List Rat) : medianR l = Desc.median l := by
  rw [Desc.median_def]
  unfold medianR Desc.sortR Desc.nth
  simp only []
  split
  · rename_i h0
    rw [List.eq_nil_of_length_eq_zero h0]
    simp
  · rfl

theorem medianR_transEquiv : TransEquiv medianR := fun l c hl => by
  rw [medianR_eq_median, medianR_eq_median, Desc.median_map_add c l hl]

theorem medianR_inHull {l : List Rat} (hl : l ≠ []) : Desc.InHull l (medianR l) :=
  medianR_eq_median l ▸ Desc.median_inHull hl

theorem medianR_of_majority (l : List Rat) (a : Rat) (h : l.length < 2 * l.count a) : medianR l = a :=
  (medianR_eq_median l).trans (Desc.median_of_majority l a h)

theorem chromGroup_ne_nil (sel : List CBin) (c : String) (hc : c ∈ (sel.map (·.chrom)).eraseDups) :
    (sel.filter (·.chrom == c)).map (·.log2) ≠ [] := by
  obtain ⟨b, hb, rfl⟩ := List.mem_map.mp (List.mem_eraseDups.mp hc)
  exact List.ne_nil_of_mem (List.mem_map_of_mem (List.mem_filter.mpr ⟨hb, beq_self_eq_true _⟩))

/-- a row map that keeps the chromosome and moves log2 by `c` moves the values fed to the estimator by `c`
    (`hest`: the estimator moves with the data; at `c = 0` every estimator does) -/
theorem centerValues_map (est : List Rat → Rat) (bc : Bool) (g : CBin → CBin) (c : Rat)
    (hg : ∀ b, (g b).chrom = b.chrom ∧ (g b).log2 = b.log2 + c)
    (hest : ∀ l : List Rat, l ≠ [] → est (l.map (· + c)) = est l + c) (sel : List CBin) :
    centerValues est bc (sel.map g) = (centerValues est bc sel).map (· + c) := by
  unfold centerValues
  cases bc with
  | false => simp only [Bool.false_eq_true, if_false, List.map_map, Function.comp_def, hg]
  | true =>
    simp only [if_true, List.map_map, List.filter_map, Function.comp_def, hg]
    apply List.map_congr_left
    intro ch hch
    -- equivariance is only assumed on non-empty lists
    have := hest _ (chromGroup_ne_nil sel ch hch)
    rwa [List.map_map] at this

theorem centerValues_ne_nil (est : List Rat → Rat) (byChrom : Bool) (sel : List CBin)
    (hsel : sel ≠ []) : centerValues est byChrom sel ≠ [] := by
  obtain ⟨b, rest, rfl⟩ := List.exists_cons_of_ne_nil hsel
  unfold centerValues
  cases byChrom with
  | false => simp
  | true =>
    simp only [if_true, List.map_cons, List.eraseDups_cons]
    simp

/-- `autosomes` reads only the coordinates: it commutes with any map that keeps them -/
theorem autosomesOf_map (g : CBin → CBin) (hg : ∀ b, (g b).chrom = b.chrom ∧ (g b).s = b.s ∧ (g b).e = b.e)
    (first : String) (par : Option String) (T : List CBin) :
    autosomesOf first par (T.map g) = (autosomesOf first par T).map g := by
  unfold autosomesOf
  rw [apply_ite (List.map g), List.any_map, List.filter_map]
  simp only [Function.comp_def, hg]

theorem autosomesOf_ne_nil (first : String) (par : Option String) (t : List CBin) (ht : t ≠ []) :
    autosomesOf first par t ≠ [] := by
  unfold autosomesOf
  split
  · exact ht
  · rename_i h
    obtain ⟨b, hb, hb'⟩ := List.any_eq_true.mp (by simpa using h)
    exact List.ne_nil_of_mem (List.mem_filter.mpr ⟨hb, by simp [hb']⟩)

/-- what `drop_low_coverage` drops: log2 below `NULL_LOG2_COVERAGE - MIN_REF_COVERAGE` (−15) or depth 0 -/
def lowC (b : CBin) : Bool :=
  decide (b.log2 < Generated.NULL_LOG2_COVERAGE - Generated.MIN_REF_COVERAGE) ||
    (match b.depth with | some d => decide (d = 0) | none => false)

theorem dropLow_eq (T : List CBin) : dropLow T = T.filter (fun b => !lowC b) := rfl

/-- the bins `center_all` estimates from -/
def centerSel (sl : Bool) (par : Option String) (t : List CBin) : List CBin :=
  autosomesOf ((t.head?.map (·.chrom)).getD "") par (if sl then dropLow t else t)

theorem centerShift_eq (est : List Rat → Rat) (bc sl : Bool) (par : Option String) (t : List CBin) :
    centerShift est bc sl par t =
      if (centerSel sl par t).isEmpty then 0 else -(est (centerValues est bc (centerSel sl par t))) := rfl

theorem centerSel_map (g : CBin → CBin) (hg : ∀ b, (g b).chrom = b.chrom ∧ (g b).s = b.s ∧ (g b).e = b.e)
    (sl : Bool) (par : Option String) (T : List CBin) (hlow : sl = true → ∀ b ∈ T, lowC (g b) = lowC b) :
    centerSel sl par (T.map g) = (centerSel sl par T).map g := by
  have hfirst : ((T.map g).head?.map (·.chrom)).getD "" = (T.head?.map (·.chrom)).getD "" := by
    cases T with
    | nil => rfl
    | cons a _ => exact (hg a).1
  unfold centerSel
  rw [hfirst, ← autosomesOf_map g hg]
  cases sl with
  | false => rfl
  | true =>
    simp only [if_true, dropLow_eq, List.filter_map]
    exact congrArg (fun l => autosomesOf _ par (List.map g l))
      (List.filter_congr fun b hb => congrArg (!·) (hlow rfl b hb))

/-- `center_all`'s shift under a row map that keeps coordinates and low-coverage verdicts and moves log2 by `c`:
    it moves by `−c`, unless no bin is selected (then it is 0 before and after) -/
theorem centerShift_map (est : List Rat → Rat) (bc sl : Bool) (par : Option String) (g : CBin → CBin) (c : Rat)
    (hg : ∀ b, (g b).chrom = b.chrom ∧ (g b).s = b.s ∧ (g b).e = b.e ∧ (g b).log2 = b.log2 + c)
    (hest : ∀ l : List Rat, l ≠ [] → est (l.map (· + c)) = est l + c) (T : List CBin)
    (hlow : sl = true → ∀ b ∈ T, lowC (g b) = lowC b) :
    centerShift est bc sl par (T.map g) =
      centerShift est bc sl par T - (if (centerSel sl par T).isEmpty then 0 else c) := by
  rw [centerShift_eq, centerShift_eq, centerSel_map g (fun b => ⟨(hg b).1, (hg b).2.1, (hg b).2.2.1⟩) sl par T hlow,
    List.isEmpty_map, centerValues_map est bc g c (fun b => ⟨(hg b).1, (hg b).2.2.2⟩) hest]
  split
  · exact (sub_zero 0).symm
  · rename_i h
    rw [hest _ (centerValues_ne_nil est bc _ (by simpa using h))]
    ring

/-- adding `c` to every log2 lowers the shift by `c`, when some bin is selected and (under `skip_low`) no bin changes
    sides of the cut-off -/
theorem centerShift_map_add (est : List Rat → Rat) (he : TransEquiv est) (bc sl : Bool) (par : Option String)
    (t : List CBin) (c : Rat) (hsel : centerSel sl par t ≠ [])
    (hlow : sl = true → ∀ b ∈ t, lowC { b with log2 := b.log2 + c } = lowC b) :
    centerShift est bc sl par (t.map (fun b => { b with log2 := b.log2 + c })) = centerShift est bc sl par t - c :=
  (centerShift_map est bc sl par (fun b => { b with log2 := b.log2 + c }) c (fun _ => ⟨rfl, rfl, rfl, rfl⟩)
    (fun l => he l c) t hlow).trans (by rw [if_neg (by simpa using hsel)])

/-- nothing is dropped, so something is selected -/
theorem centerSel_ne_nil (sl : Bool) (par : Option String) (t : List CBin) (hne : t ≠ [])
    (hlow : sl = true → ∀ b ∈ t, lowC b = false) : centerSel sl par t ≠ [] := by
  have : (if sl then dropLow t else t) = t := by
    cases sl with
    | false => rfl
    | true => exact (dropLow_eq t).trans (List.filter_eq_self.mpr fun b hb => by rw [hlow rfl b hb]; rfl)
  unfold centerSel
  rw [this]
  exact autosomesOf_ne_nil _ par t hne

/-- after adding the shift `−est(values)` the chosen estimator of the selected bins is zero,
    for every translation-equivariant estimator, per chromosome first or not -/
theorem center_zeroes_estimator (est : List Rat → Rat) (he : TransEquiv est) (byChrom : Bool)
    (sel : List CBin) (hsel : sel ≠ []) :
    est (centerValues est byChrom
          (sel.map (fun b => { b with log2 := b.log2 + (-(est (centerValues est byChrom sel))) }))) = 0 := by
  rw [centerValues_map est byChrom (fun b => { b with log2 := b.log2 + _ }) _ (fun _ => ⟨rfl, rfl⟩) (fun l => he l _),
    he _ _ (centerValues_ne_nil est byChrom sel hsel)]
  ring

theorem absR_eq_abs (q : Rat) : absR q = |q| := Desc.absR_eq_abs q

/-- the level chrX sits at for a sample of the given sex against the given reference, relative to
    the autosomes -/
def expectedX (hapX isXX : Bool) : Rat := (if isXX then 0 else -1) + (if hapX then 1 else 0)

/-- … so a chrX at its expected level is brought to the autosomal level 0 -/
theorem shiftXX_levels (hapX isXX : Bool) :
    expectedX hapX isXX + (if isXX && hapX then -1 else if !isXX && !hapX then 1 else 0) = 0 := by
  cases hapX <;> cases isXX <;> simp [expectedX]

/-- once the shift of a hypothesis is added, the level of chrX no longer depends on the reference sex: a male
    sample's chrX then sits at −1 / 0 relative to the autosomes, a female one's at 0 / +1 -/
theorem expectedX_add_xShifts (hapX : Bool) :
    expectedX hapX false + (xShifts hapX).1 = -1 ∧ expectedX hapX false + (xShifts hapX).2 = 0 ∧
    expectedX hapX true + (xShifts hapX).1 = 0 ∧ expectedX hapX true + (xShifts hapX).2 = 1 := by
  cases hapX <;> norm_num [expectedX, xShifts]

end CnvVerif
