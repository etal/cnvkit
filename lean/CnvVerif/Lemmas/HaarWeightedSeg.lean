/-
  Under positive weights the weighted `HaarConv` is `respW` at every position; on a step, wherever it is, that is the
  closed form `stepRespW` (a constant is the step of height zero); where the half-window fits on both sides its only
  peak is the step position, and the weighted `haarSeg` reports the step.
-/
import CnvVerif.Lemmas.HaarWeightedStep
import CnvVerif.Lemmas.HaarTop
namespace CnvVerif.Haar

theorem getD_beyond (wt : List Rat) (i : Nat) (hi : wt.length ≤ i) : wt.getD i 0 = 0 := by
  simp [List.getD_eq_getElem?_getD, List.getElem?_eq_none hi]

theorem wfun_pos (wt : List Rat) (hpos : ∀ x ∈ wt, 0 < x) (i : Nat) (hi : i < wt.length) : 0 < wfun wt i := by
  simp only [wfun, List.getD_eq_getElem?_getD, List.getElem?_eq_getElem hi, Option.getD_some]
  exact hpos _ (List.getElem_mem hi)

theorem swOf_stepSig (lo hi : Rat) (b n : Nat) (wt : List Rat) (hw : wt.length = n) :
    swOf (stepSig lo hi b n).toArray wt.toArray
      = fun i => lo * wfun wt i + (hi - lo) * upperW (wfun wt) b i := by
  funext i
  simp only [swOf, nth_toArray, wfun, upperW]
  by_cases hib : i < b
  · rw [getD_stepSig_lt lo hi b n i hib, if_neg (Nat.not_le.mpr hib)]
    ring
  · by_cases hin : i < n
    · rw [getD_stepSig_ge lo hi b n i (by omega) hin, if_pos (by omega)]
      ring
    · rw [getD_beyond wt i (by omega)]
      simp

theorem stepW_of_list (wt : List Rat) (b n h : Nat) (h1 : 1 ≤ h) (hb : h ≤ b) (hn : b + h ≤ n)
    (hw : wt.length = n) (hpos : ∀ x ∈ wt, 0 < x) : StepW (wfun wt) b n h := by
  exact ⟨h1, hb, hn, fun i hi => wfun_pos wt hpos i (by omega)⟩

/-- at position 0 both windows are the first `h` bins: the stored 0 is `respW` too -/
theorem respW_zero (s w : Array Rat) (n h : Nat) (fac : Rat) (hh : h ≤ n) : respW s w n h fac 0 = 0 := by
  simp [respW, wValue, winAcc, lowWin, highWin, pre, hh, neg_div]

theorem wfun_win_pos (wt : List Rat) (n h : Nat) (h1 : 1 ≤ h) (hh : h ≤ n) (hw : wt.length = n)
    (hpos : ∀ x ∈ wt, 0 < x) (k : Nat) (hk : k < n) : 0 < lowWin (wfun wt) h k ∧ 0 < highWin (wfun wt) n h k :=
  have pos : ∀ i, i < n → 0 < wfun wt i := fun i hi => wfun_pos wt hpos i (hw ▸ hi)
  ⟨lowWin_pos _ n h h1 hh pos k hk, highWin_pos _ n h h1 hh pos k hk⟩

theorem haarConvW_pos (fac : Rat) (sig wt : List Rat) (h n : Nat) (hlen : sig.length = n) (hw : wt.length = n)
    (hpos : ∀ x ∈ wt, 0 < x) (h1 : 1 ≤ h) (hh : h ≤ n) :
    haarConvW fac sig wt h = some ((List.range n).map (respW sig.toArray wt.toArray n h fac)) := by
  rw [haarConvW_eq fac sig wt h n hlen h1 hh fun k _ hk => by
    rw [wOf_toArray]; exact (wfun_win_pos wt n h h1 hh hw hpos k hk).imp ne_of_gt ne_of_gt]
  obtain ⟨m, rfl⟩ : ∃ m, n = m + 1 := ⟨n - 1, by omega⟩
  rw [List.range_eq_range', List.range'_succ, List.map_cons, respW_zero _ _ _ _ _ hh, Nat.add_sub_cancel]

/-- the response is linear in the signal and blind to constants: on a step, wherever it is, it is the step height
times the difference of the shares of the two windows' weight beyond the step -/
theorem respW_stepSig (fac lo hi : Rat) (b n h : Nat) (wt : List Rat) (hw : wt.length = n) (k : Nat)
    (d1 : lowWin (wfun wt) h k ≠ 0) (d2 : highWin (wfun wt) n h k ≠ 0) :
    respW (stepSig lo hi b n).toArray wt.toArray n h fac k = fac * (hi - lo) * stepShareW (wfun wt) b n h k := by
  simp only [respW, wValue, winAcc, stepShareW]
  rw [swOf_stepSig lo hi b n wt hw, wOf_toArray, lowWin_lin, highWin_lin]
  field_simp
  ring

/-- **closed form of the weighted convolution**: for positive weights, `HaarConv(step, W, h)[k] =
sqrt(h/2) * (hi - lo) * share(k)`, wherever the step is -/
theorem haarConvW_step (fac lo hi : Rat) (b n h : Nat) (wt : List Rat) (h1 : 1 ≤ h) (hbn : b ≤ n) (hn : h ≤ n)
    (hw : wt.length = n) (hpos : ∀ x ∈ wt, 0 < x) :
    haarConvW fac (stepSig lo hi b n) wt h = some (stepRespW fac lo hi wt b n h) := by
  rw [haarConvW_pos fac _ wt h n (stepSig_length lo hi b n hbn) hw hpos h1 hn]
  exact congrArg some (List.map_congr_left fun k hk =>
    have p := wfun_win_pos wt n h h1 hn hw hpos k (List.mem_range.mp hk)
    respW_stepSig fac lo hi b n h wt hw k p.1.ne' p.2.ne')

/-- `haarConvW_step` where the half-window fits on both sides of the step (the closed form needs neither bound) -/
theorem haarConvW_ideal_step (fac lo hi : Rat) (b n h : Nat) (wt : List Rat) (h1 : 1 ≤ h) (hb : h ≤ b)
    (hn : b + h ≤ n) (hw : wt.length = n) (hpos : ∀ x ∈ wt, 0 < x) :
    haarConvW fac (stepSig lo hi b n) wt h = some (stepRespW fac lo hi wt b n h) :=
  haarConvW_step fac lo hi b n h wt h1 (by omega) (by omega) hw hpos

theorem peaks_stepRespW (fac lo hi : Rat) (hfac : 0 < fac) (hne : lo ≠ hi) (b n h : Nat) (wt : List Rat)
    (h1 : 1 ≤ h) (hb : h ≤ b) (hn : b + h ≤ n) (hn2 : b + 2 ≤ n) (hw : wt.length = n) (hpos : ∀ x ∈ wt, 0 < x) :
    findLocalPeaks (stepRespW fac lo hi wt b n h) = [b] :=
  (stepW_of_list wt b n h h1 hb hn hw hpos).unimodal.peaks (fac * (hi - lo) * ·) (mul_zero _)
    (mul_strict (mul_ne_zero hfac.ne' (sub_ne_zero.mpr hne.symm))) h1 hb hn2

/-- **the noise-free step, weighted path**: `haarSeg(step, q, W)` with any positive weights reports exactly one
breakpoint, at `b`, sizes `(b, n - b)`, weighted means `(lo, hi)` -/
theorem haarSegW_ideal_step (rnd : Rat → Rat) (fac : Nat → Rat) (hfac : ∀ h, 0 < fac h) (p : Nat → List Rat)
    (q lo hi : Rat) (hne : lo ≠ hi) (b n : Nat) (hb : 32 ≤ b) (hn : b + 32 ≤ n) (wt : List Rat)
    (hw : wt.length = n) (hpos : ∀ x ∈ wt, 0 < x) :
    haarSegW rnd fac p q (stepSig lo hi b n) wt
      = { start := [0, b], stop := [(b : Int) - 1, (n : Int) - 1],
          size := [(b : Int), (n : Int) - (b : Int)], mean := [lo, hi] } := by
  unfold haarSegW
  apply haarSegWith_single_peak _ _ _ (by decide) (fun lv x hx => fdrThres_small rnd x q (p lv) hx) lo hi b n
    (by omega) (by omega) ?_ (some wt) (by intro ws e; simp at e; subst e; exact hw)
  intro row hrow
  obtain ⟨h1, h32⟩ := table_rows row hrow
  rw [haarConvW_ideal_step (fac row.2.1) lo hi b n row.2.1 wt h1 (by omega) (by omega) hw hpos]
  exact peaks_stepRespW (fac row.2.1) lo hi (hfac _) hne b n row.2.1 wt h1 (by omega) (by omega) (by omega) hw hpos

/-- a constant is a step of height zero -/
theorem haarConvW_const (fac c : Rat) (n h : Nat) (wt : List Rat) (h1 : 1 ≤ h) (hw : wt.length = n)
    (hpos : ∀ x ∈ wt, 0 < x) : haarConvW fac (List.replicate n c) wt h = some (List.replicate n 0) := by
  by_cases hh : n < h
  · unfold haarConvW
    rw [List.length_replicate, if_pos hh]
  · rw [show List.replicate n c = stepSig c c 0 n by simp [stepSig],
      haarConvW_step fac c c 0 n h wt h1 (Nat.zero_le n) (by omega) hw hpos, stepRespW, sub_self, mul_zero]
    simp

/-- **the flat profile, weighted path** (exact arithmetic): a constant signal with positive weights has no
breakpoint -/
theorem haarSegW_flat (rnd : Rat → Rat) (fac : Nat → Rat) (p : Nat → List Rat) (q c : Rat) (n : Nat) (hn : 1 ≤ n)
    (wt : List Rat) (hw : wt.length = n) (hpos : ∀ x ∈ wt, 0 < x) :
    haarSegW rnd fac p q (List.replicate n c) wt
      = { start := [0], stop := [(n : Int) - 1], size := [(n : Int)], mean := [c] } :=
  haarSegWith_no_peak _ _ _ c n hn (fun row hrow => by
    rw [haarConvW_const (fac row.2.1) c n row.2.1 wt (table_rows row hrow).1 hw hpos]; exact findLocalPeaks_zero n)
    (some wt) (fun _ e => Option.some.inj e ▸ hw)

end CnvVerif.Haar
