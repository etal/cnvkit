/-
  Property C18, "frequencies stay attached" through `load_het_snps`: what each step (retyping, het selection,
  TumorBoost) keeps of a row (`Carries`), and that the boosted value depends on a row's two frequencies only.
-/
import CnvVerif.Lemmas.VcfTable
namespace CnvVerif.Vcf
open CnvVerif

/-- `row` carries the site, flag, depth, alt count and the normal's numbers of `r0` -/
def Carries (row r0 : VRow) : Prop :=
  row.chrom = r0.chrom ∧ row.s = r0.s ∧ row.e = r0.e ∧ row.ref = r0.ref ∧ row.alt = r0.alt ∧
  row.somatic = r0.somatic ∧ row.t.depth = r0.t.depth ∧ row.t.altCount = r0.t.altCount ∧
  row.n.map (fun g => (g.depth, g.altCount, g.altFreq)) = r0.n.map (fun g => (g.depth, g.altCount, g.altFreq))

theorem Carries.refl (r : VRow) : Carries r r := ⟨rfl, rfl, rfl, rfl, rfl, rfl, rfl, rfl, rfl⟩

theorem carries_reZyg (het hom : Rat) (r : VRow) :
    Carries { r with t := reZyg het hom r.t, n := r.n.map (reZyg het hom) } r := by
  refine ⟨rfl, rfl, rfl, rfl, rfl, rfl, rfl, rfl, ?_⟩
  cases r.n <;> rfl

theorem Carries.trans {a b c : VRow} (h1 : Carries a b) (h2 : Carries b c) : Carries a c := by
  obtain ⟨a1, a2, a3, a4, a5, a6, a7, a8, a9⟩ := h1
  obtain ⟨b1, b2, b3, b4, b5, b6, b7, b8, b9⟩ := h2
  exact ⟨a1.trans b1, a2.trans b2, a3.trans b3, a4.trans b4, a5.trans b5, a6.trans b6, a7.trans b7, a8.trans b8,
    a9.trans b9⟩

theorem boostRow_eq_of (r r' : VRow) (ht : r.t.altFreq = r'.t.altFreq)
    (hn : r.n.map (·.altFreq) = r'.n.map (·.altFreq)) : boostRow r = boostRow r' := by
  unfold boostRow
  cases h : r.n <;> cases h' : r'.n <;> rw [h, h'] at hn
  · exact ht
  · cases hn
  · cases hn
  · have e := Option.some.inj hn
    simp only at e ⊢
    rw [ht, e]

theorem boostRow_reZyg (het hom : Rat) (r : VRow) :
    boostRow { r with t := reZyg het hom r.t, n := r.n.map (reZyg het hom) } = boostRow r :=
  boostRow_eq_of _ r rfl (by cases r.n <;> rfl)

theorem boostRow_congr (row r0 : VRow) (hc : Carries row r0) (hf : row.t.altFreq = r0.t.altFreq) :
    boostRow row = boostRow r0 := by
  obtain ⟨_, _, _, _, _, _, _, _, hn⟩ := hc
  refine boostRow_eq_of row r0 hf ?_
  have := congrArg (Option.map (fun t : Rat × Rat × Freq => t.2.2)) hn
  rwa [Option.map_map, Option.map_map] at this

theorem retype_carries (zf : Option (Rat × Rat)) (rows rows1 : List VRow) (h : retype zf rows = .ok rows1) :
    ∀ row ∈ rows1, ∃ r0 ∈ rows, Carries row r0 ∧ row.t.altFreq = r0.t.altFreq := by
  intro row hrow
  unfold retype at h
  split at h
  · split at h
    · cases h
      obtain ⟨r0, hr0, rfl⟩ := List.mem_map.mp hrow
      exact ⟨r0, hr0, carries_reZyg _ _ r0, rfl⟩
    · cases h
  · cases h
    exact ⟨row, hrow, Carries.refl row, rfl⟩

theorem boostStage_rows (boost paired : Bool) (rows out : List VRow) (h : boostStage boost paired rows = .ok out) :
    ∀ row ∈ out, ∃ r1 ∈ rows, Carries row r1 ∧
      row.t.altFreq = (if boost then boostRow r1 else r1.t.altFreq) := by
  intro row hrow
  unfold boostStage at h
  cases boost
  · cases h
    exact ⟨row, hrow, Carries.refl row, rfl⟩
  · cases paired
    · cases h
    · cases h
      obtain ⟨r1, hr1, rfl⟩ := List.mem_map.mp hrow
      exact ⟨r1, hr1, ⟨rfl, rfl, rfl, rfl, rfl, rfl, rfl, rfl, rfl⟩, rfl⟩

end CnvVerif.Vcf
