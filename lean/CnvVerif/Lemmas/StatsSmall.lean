/-
  Lemmas behind Props/C17Small.lean: the complete row `do_segmetrics` produces for a segment without bins and for a
  one-bin segment (Model/StatsSmallExt5c.lean), from which the statements about single cells are read off.
  `segRow`, `onArray`, `variance` here are that model's own (namespace `C17Small`: statistics on two or more values are
  a parameter), not the `Stats.segRow`, `Stats.onArray` of Model/Stats.lean.  Mathlib is imported for the field lemmas
  on `Rat` (`add_zero`, `div_one`) that `simp` uses when it evaluates the one-bin row.
-/
import CnvVerif.Model.StatsSmallExt5c
import Mathlib.Tactic.Ring
namespace CnvVerif.C17Small

theorem variance_singleton (x : Rat) : variance [x] = 0 := by
  simp [variance, avg, total]

theorem segRow_nil (B : Big) (sm : Bool) (n : Nat) (s : Rat) :
    segRow B sm n s [] =
      { mean := .nan, median := .nan, mode := .nan, ttest := .nan, stdev := .nan, sem := .nan, mad := .nan,
        mse := .nan, iqr := .nan, bivar := .nan, ci := (.nan, .nan), pi := (.nan, .nan) } := rfl

/-- one bin `b`: location and interval cells are `b`, spread cells 0, the cells that need a degree of freedom NaN;
    neither `B`, the bootstrap options nor the segment's own log2 occur -/
theorem segRow_singleton (B : Big) (sm : Bool) (n : Nat) (s b : Rat) :
    segRow B sm n s [b] =
      { mean := .num b, median := .num b, mode := .num b, ttest := .nan, stdev := .num 0, sem := .nan,
        mad := .num 0, mse := .num 0, iqr := .num 0, bivar := .num 0, ci := (.num b, .num b),
        pi := (.num b, .num b) } := by
  simp [segRow, npMean, npMedian, onArray, noDof, npStd, calcInterval, ciFunc, piFunc, variance_singleton, avg, total]

end CnvVerif.C17Small
