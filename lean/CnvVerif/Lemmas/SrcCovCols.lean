/-
  The reader of the text side of `bedcov` (Model/CoverageExt5Cols.lean) with the settings the translator reads off the
  current source (Generated/ExprsCovCols.lean, regenerated from /repo on every run; reading rules in harness/coltrans.py).
-/
import CnvVerif.Generated.ExprsCovCols
import CnvVerif.Lemmas.CoverageExt5Cols
namespace CnvVerif.C09Cols
open CnvVerif.Generated

/-- the reader settings of the `read_csv` call in the current source -/
def srcReader : Reader :=
  { keepDefaultNa := BEDCOV_KEEP_DEFAULT_NA, naValues := BEDCOV_NA_VALUES.map String.toList }

end CnvVerif.C09Cols
