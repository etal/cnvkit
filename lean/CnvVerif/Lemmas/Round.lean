/-
  Python / numpy `round` (half to even) on rationals: `roundHalfEven` (Model/Interval.lean), which `roundHE`
  (Model/Call.lean) abbreviates and `Fmt.roundHE` (Model/Formats.lean) repeats (`Haar.roundHalfEven` of Model/Haar.lean
  is a further copy, about which nothing is proved).  Everything follows from `roundHalfEven_cases`; the tie rule itself is
  needed by no user.  Core Lean only.
-/
import CnvVerif.Model.Interval
namespace CnvVerif

theorem roundHalfEven_cases (q : Rat) :
    (roundHalfEven q = q.floor ∧ q - q.floor ≤ 1 / 2) ∨
      (roundHalfEven q = q.floor + 1 ∧ 1 / 2 ≤ q - q.floor) := by
  unfold roundHalfEven
  simp only
  split
  · rename_i h
    exact .inl ⟨rfl, Rat.le_of_lt h⟩
  · rename_i h
    split
    · rename_i h'
      exact .inr ⟨rfl, Rat.le_of_lt h'⟩
    · rename_i h'
      split
      · exact .inl ⟨rfl, Rat.not_lt.mp h'⟩
      · exact .inr ⟨rfl, Rat.not_lt.mp h⟩

theorem roundHalfEven_between (q : Rat) (L U : Int) (hL : (L : Rat) ≤ q) (hU : q < (U : Rat)) :
    L ≤ roundHalfEven q ∧ roundHalfEven q ≤ U := by
  have h1 : L ≤ q.floor := Rat.le_floor_iff.mpr hL
  have h2 : q.floor < U := Rat.floor_lt_iff.mpr hU
  rcases roundHalfEven_cases q with ⟨e, _⟩ | ⟨e, _⟩ <;> omega

theorem roundHalfEven_nonneg (q : Rat) (h : 0 ≤ q) : 0 ≤ roundHalfEven q := by
  have hf : (0 : Int) ≤ q.floor := Rat.le_floor_iff.mpr (by simpa using h)
  rcases roundHalfEven_cases q with ⟨e, _⟩ | ⟨e, _⟩ <;> omega

theorem roundHalfEven_intCast (n : Int) : roundHalfEven (n : Rat) = n := by
  rcases roundHalfEven_cases (n : Rat) with ⟨e, _⟩ | ⟨e, h⟩
  · rw [e, Rat.floor_intCast]
  · rw [Rat.floor_intCast] at h; grind

theorem roundHalfEven_nearest (q : Rat) :
    (roundHalfEven q : Rat) - q ≤ 1/2 ∧ q - (roundHalfEven q : Rat) ≤ 1/2 := by
  have h1 := Rat.floor_le q
  have h2 := Rat.lt_floor_add_one q
  rcases roundHalfEven_cases q with ⟨h, h3⟩ | ⟨h, h3⟩ <;> rw [h] <;> constructor <;> grind

theorem roundHalfEven_near (q : Rat) (k : Int) (h1 : (k : Rat) - 1 / 2 < q) (h2 : q < (k : Rat) + 1 / 2) :
    roundHalfEven q = k := by
  obtain ⟨a, b⟩ := roundHalfEven_nearest q
  have h3 : ((roundHalfEven q : Int) : Rat) < ((k + 1 : Int) : Rat) := by grind
  have h4 : ((k - 1 : Int) : Rat) < (roundHalfEven q : Rat) := by grind
  have := Rat.intCast_lt_intCast.mp h3
  have := Rat.intCast_lt_intCast.mp h4
  omega

theorem roundHalfEven_mono {a b : Rat} (h : a ≤ b) : roundHalfEven a ≤ roundHalfEven b := by
  have hf : a.floor ≤ b.floor := Rat.floor_monotone h
  rcases roundHalfEven_cases a with ⟨ha, ha'⟩ | ⟨ha, ha'⟩ <;> rcases roundHalfEven_cases b with ⟨hb, hb'⟩ | ⟨hb, hb'⟩
  · omega
  · omega
  · -- `a` rounded up, `b` down: either the floors differ, or `a = b = floor + 1/2` and both round alike
    rcases Int.lt_or_eq_of_le hf with hlt | heq
    · omega
    · rw [heq] at ha'
      rw [Rat.le_antisymm h (by grind)]
      exact Int.le_refl _
  · omega

end CnvVerif
