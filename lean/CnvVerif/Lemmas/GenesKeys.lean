/-
  C16: keys in order of first appearance.  The model spells pandas' `groupby(..., sort=False)` keys and the insertion
  order of a dict twice -- `firstKeys` on names, `firstByName` on the `(position, name)` visits of `_get_gene_map` --
  and both are core's `List.eraseDups` (`firstKeys_eq_eraseDups`, `firstByName_keys`), which is what ties
  `by_chromosome()`, `segsInOrder`, `get_gene_intervals` and the gene map to Lemmas/GroupBy.lean.  Core Lean only.
-/
import CnvVerif.Model.Genes
import CnvVerif.Lemmas.Basic
namespace CnvVerif.Genes
open CnvVerif

/-! ### `groupby(..., sort=False)` keys -/

theorem firstKeys_filter (p : String → Bool) (l : List String) : (firstKeys l).filter p = firstKeys (l.filter p) := by
  induction l with
  | nil => rfl
  | cons b l ih =>
    rw [firstKeys, List.filter_cons, List.filter_cons]
    split
    · rw [firstKeys, ← ih, List.filter_filter, List.filter_filter]
      simp only [Bool.and_comm]
    · rename_i hb
      rw [← ih, List.filter_filter]
      refine List.filter_congr fun x _ => ?_
      by_cases hx : x = b
      · simp [hx, hb]
      · simp [hx]

theorem firstKeys_eq_eraseDups (l : List String) : firstKeys l = l.eraseDups := by
  induction l using eraseDups_induction with
  | nil => rfl
  | cons a l ih => rw [firstKeys, List.eraseDups_cons, firstKeys_filter, ← ih]; rfl

theorem mem_firstKeys {l : List String} {c : String} : c ∈ firstKeys l ↔ c ∈ l :=
  firstKeys_eq_eraseDups l ▸ List.mem_eraseDups

theorem firstKeys_nodup (l : List String) : (firstKeys l).Nodup :=
  firstKeys_eq_eraseDups l ▸ nodup_eraseDups l

/-! ### the keys of the gene map -/

theorem firstByName_keys (T : List (Nat × String)) : (firstByName T).map (·.2) = firstKeys (T.map (·.2)) := by
  induction T with
  | nil => rfl
  | cons a as ih => rw [firstByName, List.map_cons, List.map_cons, firstKeys, ← ih, List.filter_map]; rfl

theorem firstByName_sublist (T : List (Nat × String)) : (firstByName T).Sublist T := by
  induction T with
  | nil => exact List.Sublist.slnil
  | cons a as ih => exact List.Sublist.cons_cons a (List.Sublist.trans List.filter_sublist ih)

theorem firstByName_keys_nodup (T : List (Nat × String)) : ((firstByName T).map (·.2)).Nodup :=
  firstByName_keys T ▸ firstKeys_nodup _

theorem firstByName_names_nodup (T : List (Nat × String)) :
    (firstByName T).Pairwise (fun a b => a.2 ≠ b.2) :=
  List.pairwise_map.mp (firstByName_keys_nodup T)

theorem firstByName_covers {T : List (Nat × String)} {i : Nat} {g : String} (h : (i, g) ∈ T) :
    ∃ f, (f, g) ∈ firstByName T := by
  have hg : g ∈ (firstByName T).map (·.2) := firstByName_keys T ▸ mem_firstKeys.mpr (List.mem_map_of_mem (f := (·.2)) h)
  obtain ⟨x, hx, rfl⟩ := List.mem_map.mp hg
  exact ⟨x.1, hx⟩

theorem firstByName_first {T : List (Nat × String)} (hs : T.Pairwise (fun a b => a.1 ≤ b.1))
    {f i : Nat} {g : String} (hk : (f, g) ∈ firstByName T) (hi : (i, g) ∈ T) : f ≤ i := by
  induction T with
  | nil => cases hi
  | cons a as ih =>
    obtain ⟨hhead, htail⟩ := List.pairwise_cons.mp hs
    rcases List.mem_cons.mp hk with rfl | h
    · rcases List.mem_cons.mp hi with h' | h'
      · cases h'
        exact Nat.le_refl _
      · exact hhead _ h'
    · obtain ⟨h1, h2⟩ := List.mem_filter.mp h
      rcases List.mem_cons.mp hi with rfl | h'
      · simp at h2
      · exact ih htail h1 h'

end CnvVerif.Genes
