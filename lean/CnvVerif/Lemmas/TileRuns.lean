/-
  The partition the HMM methods hand to the glue (`squash_by_groups(survivors, states, by_arm=True)`, model
  `hmmRuns`): for ANY state / arm tagging its runs are non-empty, concatenate to the survivors and never cross a
  chromosome boundary — the hypothesis `RunsOnOneChrom` of Lemmas/TileGenome.lean.
-/
import CnvVerif.Lemmas.TileGenome
import CnvVerif.Lemmas.SplitRunsBy
namespace CnvVerif

theorem hmmRuns_onOneChrom (sv : List Bin) (tags : List Int) :
    RunsOnOneChrom (splitLens sv (hmmRuns sv tags)) := by
  unfold hmmRuns
  generalize hp : (sv.zipIdx.map fun (b, i) => (b, tags.getD i 0)) = pairs
  have hfst : pairs.map (·.1) = sv := by rw [← hp, List.map_map]; exact List.zipIdx_map_fst 0 sv
  obtain ⟨hfl, hne, hch⟩ := splitRunsBy_spec
    (fun (p q : Bin × Int) => p.1.chrom == q.1.chrom && p.2 == q.2) (fun p : Bin × Int => p.1.chrom)
    (by intro p q hpq; simp only [Bool.and_eq_true, beq_iff_eq] at hpq; exact hpq.1) pairs
  generalize splitRunsBy (fun (p q : Bin × Int) => p.1.chrom == q.1.chrom && p.2 == q.2) pairs = gp at hne hfl hch
  have hgs : (gp.map (·.map (·.1))).flatten = sv := by rw [← List.map_flatten, hfl, hfst]
  have hlen : gp.map List.length = (gp.map (·.map (·.1))).map List.length := by
    rw [List.map_map]
    exact List.map_congr_left fun g _ => (List.length_map _).symm
  have hne' : ∀ g ∈ gp.map (·.map (·.1)), g ≠ [] := by
    intro g hg
    obtain ⟨g0, hg0, rfl⟩ := List.mem_map.mp hg
    intro h
    exact hne g0 hg0 (List.map_eq_nil_iff.mp h)
  rw [hlen]
  -- the survivors, as the list being cut, are the flattening of the runs' first components: cutting a flattening at
  -- the lengths of its parts gives the parts back
  rw [← hgs, splitLens_of_groups _ hne']
  intro grp hg a ha b hb
  obtain ⟨g0, hg0, rfl⟩ := List.mem_map.mp hg
  obtain ⟨pa, hpa, rfl⟩ := List.mem_map.mp ha
  obtain ⟨pb, hpb, rfl⟩ := List.mem_map.mp hb
  exact hch g0 hg0 pa hpa pb hpb

end CnvVerif
