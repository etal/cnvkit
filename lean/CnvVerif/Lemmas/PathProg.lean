/-
  `core.ensure_path` on a file system with directories: what the two blocks of its body (Model/PathProg.lean's command
  language) compute from any state, what `makedirs` and the directory block do to the directories, and the guarded
  write on a tree reduced to the flat model of Lemmas/EffectsFs.lean.
-/
import CnvVerif.Model.PathProg
import CnvVerif.Lemmas.EffectsFs
namespace CnvVerif.Effects

/-- the counting loop `while isfile(bak): cnt += 1; bak = f"{fname}.{cnt}"` computes `firstFree` -/
theorem loop_firstFree (fuel n : Nat) (fs : FSD) (arg : PathArg) (cnt : Nat) (d : Option Dir) :
    loop fuel .bak (.seq (.incCnt 1) .setBak) n ⟨fs, arg, cnt, bakName arg.name cnt, d⟩ =
      ⟨fs, arg, firstFree fs.files arg.name n cnt, bakName arg.name (firstFree fs.files arg.name n cnt), d⟩ := by
  induction n generalizing cnt with
  | zero => rw [loop, firstFree]
  | succ k ih =>
    rw [loop, PState.eval]
    cases h : isFile fs.files (bakName arg.name cnt) with
    | false => rw [firstFree_succ_of_free h, if_neg Bool.false_ne_true]
    | true => rw [firstFree_succ_of_file h, if_pos rfl, run, run, run, ih]

theorem ensureDir_files (fs : FSD) (p : PathArg) : (ensureDir fs p).files = fs.files := by
  unfold ensureDir; split <;> rfl

/-- the directory block of the source, from any state -/
theorem run_dir_block (fuel : Nat) (s : PState) :
    (run fuel (.ifSlash (.seq .setDname (.ifDir true .makedirs))) s) =
      { s with fs := ensureDir s.fs s.arg, dname := if s.arg.slash then some s.arg.dir else s.dname } := by
  rw [run, ensureDir]
  cases hs : s.arg.slash with
  | false => rfl
  | true =>
    rw [if_pos rfl, run, run, run]
    cases hd : isDir s.fs s.arg.dir <;> simp [run, hd]

/-- the file block of the source, from any state -/
theorem run_file_block (fuel : Nat) (s : PState) :
    (run fuel (.ifFile .fname (.seq (.setCnt 1) (.seq .setBak
      (.seq (.whileFile .bak (.seq (.incCnt 1) .setBak)) (.rename .fname .bak))))) s).fs =
      { s.fs with files := if isFile s.fs.files s.arg.name
          then renameFile s.fs.files s.arg.name (bakName s.arg.name (firstFree s.fs.files s.arg.name fuel 1))
          else s.fs.files } := by
  rw [run, PState.eval]
  cases hf : isFile s.fs.files s.arg.name with
  | false => rfl
  | true => simp only [run, if_true, PState.eval, loop_firstFree]

theorem take_mem_ancestors (d : Dir) (k : Nat) : d.take k ∈ ancestors d := by
  simp only [ancestors, List.mem_map, List.mem_range]
  exact ⟨min k d.length, by omega, List.take_eq_take_min.symm⟩

theorem self_mem_ancestors (d : Dir) : d ∈ ancestors d := by
  simpa using take_mem_ancestors d d.length

theorem isDir_makedirs_iff (fs : FSD) (d a : Dir) :
    isDir (makedirs fs d) a = true ↔ isDir fs a = true ∨ a ∈ ancestors d := by
  simp only [isDir, makedirs, List.contains_iff_mem, List.mem_append, List.mem_filter]
  constructor
  · rintro (h | h)
    · exact .inl h
    · exact .inr h.1
  · rintro (h | h)
    · exact .inl h
    · by_cases hm : a ∈ fs.dirs
      · exact .inl hm
      · exact .inr ⟨h, by simpa using hm⟩

theorem isDir_ensurePathD (fs : FSD) (p : PathArg) (a : Dir) : isDir (ensurePathD fs p) a = isDir (ensureDir fs p) a := rfl

/-- after `ensure_path` the directory of the path exists: created when the path names one, the working
    directory otherwise (`hcwd`: a path without a directory part lies in a directory that exists) -/
theorem ensurePathD_isDir (fs : FSD) (p : PathArg) (hcwd : p.slash = false → isDir fs p.dir = true) :
    isDir (ensurePathD fs p) p.dir = true := by
  rw [isDir_ensurePathD, ensureDir]
  cases hs : p.slash
  · exact hcwd hs
  · cases hd : isDir fs p.dir
    · exact (isDir_makedirs_iff fs p.dir p.dir).mpr (.inr (self_mem_ancestors p.dir))
    · exact hd

theorem ensurePathD_keeps {fs : FSD} {a : Dir} (h : isDir fs a = true) (p : PathArg) :
    isDir (ensurePathD fs p) a = true := by
  rw [isDir_ensurePathD, ensureDir]; split
  · exact (isDir_makedirs_iff fs p.dir a).mpr (.inl h)
  · exact h

theorem ensurePathD_inv {fs : FSD} {a : Dir} {p : PathArg} (h : isDir (ensurePathD fs p) a = true) :
    isDir fs a = true ∨ a ∈ ancestors p.dir := by
  rw [isDir_ensurePathD, ensureDir] at h; split at h
  · exact (isDir_makedirs_iff fs p.dir a).mp h
  · exact .inl h

theorem ensurePathD_files (fs : FSD) (p : PathArg) : (ensurePathD fs p).files = ensurePath fs.files p.name := by
  rw [ensurePathD, ensureDir_files]

/-- `Grown` on a tree: the files have grown by `cs` and no directory has disappeared -/
structure GrownD (cs : List String) (fs fs' : FSD) : Prop where
  files : Grown cs fs.files fs'.files
  dirs : ∀ a, isDir fs a = true → isDir fs' a = true

theorem GrownD.refl {fs : FSD} (hw : WF fs.files) : GrownD [] fs fs := ⟨.refl hw, fun _ h => h⟩

theorem GrownD.trans {cs cs' : List String} {fs fs₁ fs₂ : FSD} (h₁ : GrownD cs fs fs₁) (h₂ : GrownD cs' fs₁ fs₂) :
    GrownD (cs' ++ cs) fs fs₂ := ⟨h₁.files.trans h₂.files, fun a h => h₂.dirs a (h₁.dirs a h)⟩

theorem guardedWriteD_grown (fs : FSD) (hw : WF fs.files) (p : PathArg) (c : String)
    (hcwd : p.slash = false → isDir fs p.dir = true) :
    ∃ fs', guardedWriteD fs p c = .ok fs' ∧ GrownD [c] fs fs' ∧ isDir fs' p.dir = true := by
  have hd := ensurePathD_isDir fs p hcwd
  refine ⟨_, if_pos hd, ⟨?_, fun _ ha => ensurePathD_keeps ha p⟩, hd⟩
  rw [ensurePathD_files]; exact guardedWrite_grown hw p.name c

theorem guardedWritesD_grown (fs : FSD) (hw : WF fs.files) (p : PathArg) (ws : List String)
    (hcwd : p.slash = false → isDir fs p.dir = true) :
    ∃ fs', guardedWritesD fs p ws = .ok fs' ∧ GrownD ws.reverse fs fs' ∧ (ws ≠ [] → isDir fs' p.dir = true) := by
  induction ws generalizing fs with
  | nil => exact ⟨fs, rfl, .refl hw, fun h => absurd rfl h⟩
  | cons c ws ih =>
    obtain ⟨fs1, h1, g1, hd1⟩ := guardedWriteD_grown fs hw p c hcwd
    obtain ⟨fs2, h2, g2, _⟩ := ih fs1 g1.files.wf (fun _ => hd1)
    exact ⟨fs2, by rw [guardedWritesD, h1]; exact h2, List.reverse_cons ▸ g1.trans g2, fun _ => g2.dirs _ hd1⟩

end CnvVerif.Effects
