/-
  The FASTA scanner of cnvlib/access.py (`stepLine`: blank line, all-N shortcut, mixed line through the positions of
  its 'N's, N-free line) does on every line what a scanner that reads one character at a time does (`charScan`, which
  composes over `++`), so any splitting of a sequence into lines is scanned like the sequence, and the runs reported
  are the maximal non-'N' runs by position (`scanSeq_eq_maxRuns`).
-/
import CnvVerif.Lemmas.AccessRuns
namespace CnvVerif

/-- one character at a time: an 'N' closes the open run, anything else opens/continues one -/
def charScan (pos : Nat) (rs : Option Nat) : List Char → List Run × Option Nat
  | [] => ([], rs)
  | c :: cs =>
    if c = 'N' then
      let r := charScan (pos + 1) none cs
      (emitOpen rs pos ++ r.1, r.2)
    else charScan (pos + 1) (some (rs.getD pos)) cs

theorem charScan_N (pos : Nat) (rs : Option Nat) (cs : List Char) :
    charScan pos rs ('N' :: cs) =
      (emitOpen rs pos ++ (charScan (pos + 1) none cs).1, (charScan (pos + 1) none cs).2) := by
  simp only [charScan, if_true]

theorem charScan_nonN (pos : Nat) (rs : Option Nat) {c : Char} (cs : List Char) (h : c ≠ 'N') :
    charScan pos rs (c :: cs) = charScan (pos + 1) (some (rs.getD pos)) cs := by
  simp only [charScan, if_neg h]

theorem nIdxFrom_N (k : Nat) (cs : List Char) : nIdxFrom k ('N' :: cs) = k :: nIdxFrom (k + 1) cs := by
  simp only [nIdxFrom, if_true]

theorem nIdxFrom_nonN (k : Nat) {c : Char} (cs : List Char) (h : c ≠ 'N') :
    nIdxFrom k (c :: cs) = nIdxFrom (k + 1) cs := by
  simp only [nIdxFrom, if_neg h]

theorem nIdxFrom_ge (k : Nat) (line : List Char) : ∀ i ∈ nIdxFrom k line, k ≤ i := by
  induction line generalizing k with
  | nil => intro i hi; cases hi
  | cons c cs ih =>
    intro i hi
    by_cases hc : c = 'N'
    · rw [hc, nIdxFrom_N, List.mem_cons] at hi
      rcases hi with rfl | hi
      · exact Nat.le_refl _
      · exact Nat.le_of_succ_le (ih _ i hi)
    · rw [nIdxFrom_nonN k cs hc] at hi
      exact Nat.le_of_succ_le (ih _ i hi)

theorem nIdxFrom_eq_nil (k : Nat) (line : List Char) : nIdxFrom k line = [] ↔ 'N' ∉ line := by
  induction line generalizing k with
  | nil => simp [nIdxFrom]
  | cons c cs ih =>
    by_cases hc : c = 'N'
    · simp [hc, nIdxFrom_N]
    · rw [nIdxFrom_nonN k cs hc, ih, List.mem_cons, not_or]
      exact ⟨fun h => ⟨fun e => hc e.symm, h⟩, fun h => h.2⟩

theorem charScan_allN (pos : Nat) (rs : Option Nat) (line : List Char) (hne : line ≠ [])
    (h : ∀ c ∈ line, c = 'N') : charScan pos rs line = (emitOpen rs pos, none) := by
  induction line generalizing pos rs with
  | nil => exact absurd rfl hne
  | cons c cs ih =>
    rw [h c (by simp), charScan_N]
    cases cs with
    | nil => simp [charScan]
    | cons d ds => rw [ih (pos + 1) none (by simp) (fun x hx => h x (by simp [hx]))]; simp [emitOpen]

/-- the character scanner driven by the positions of the 'N's only: `idx` are the positions (relative to
    the cursor `c` of the line's first character) of the 'N's at or after offset `k`; `e` is the line's length -/
def idxScan (c e : Nat) : Nat → Option Nat → List Nat → List Run × Option Nat
  | k, rs, [] => ([], if k < e then some (rs.getD (c + k)) else rs)
  | k, rs, i :: is =>
    (emitOpen (if k < i then some (rs.getD (c + k)) else rs) (c + i) ++ (idxScan c e (i + 1) none is).1,
     (idxScan c e (i + 1) none is).2)

theorem idxScan_skip (c e k : Nat) (rs : Option Nat) (idx : List Nat) (hk : k < e) (h : ∀ i ∈ idx, k < i) :
    idxScan c e (k + 1) (some (rs.getD (c + k))) idx = idxScan c e k rs idx := by
  cases idx with
  | nil => simp [idxScan, hk]
  | cons i is =>
    have := h i (by simp)
    simp only [idxScan, this, if_true, Option.getD_some, ite_self]

theorem charScan_eq_idxScan (c k : Nat) (rs : Option Nat) (line : List Char) (e : Nat)
    (he : e = k + line.length) : charScan (c + k) rs line = idxScan c e k rs (nIdxFrom k line) := by
  induction line generalizing k rs with
  | nil => subst he; simp [charScan, nIdxFrom, idxScan]
  | cons x xs ih =>
    have he' : e = k + 1 + xs.length := by rw [he, List.length_cons]; omega
    by_cases hx : x = 'N'
    · rw [hx, charScan_N, nIdxFrom_N, Nat.add_assoc, ih (k + 1) none he']
      simp only [idxScan, Nat.lt_irrefl, if_false]
    · rw [charScan_nonN _ _ _ hx, nIdxFrom_nonN _ _ hx, Nat.add_assoc, ih (k + 1) _ he']
      exact idxScan_skip c e k rs _ (by omega) (fun i hi => nIdxFrom_ge _ _ i hi)

/-- the blocks between consecutive 'N's of a line, as `get_regions` computes them with `zip`, a mask and
    the cursor added -/
def midBlocks (c : Nat) (idx : List Nat) : List Run :=
  ((idx.zip (idx.drop 1)).filter (fun p => p.2 - p.1 > 1)).map (fun p => (p.1 + 1 + c, p.2 + c))

theorem midBlocks_cons_cons (c i j : Nat) (t : List Nat) :
    midBlocks c (i :: j :: t) =
      emitOpen (if i + 1 < j then some (c + (i + 1)) else none) (c + j) ++ midBlocks c (j :: t) := by
  show (List.filter _ ((i, j) :: (j :: t).zip t)).map _ = _
  rw [List.filter_cons]
  by_cases h : i + 1 < j
  · rw [if_pos (decide_eq_true (show j - i > 1 by omega)), if_pos h, Nat.add_comm c, Nat.add_comm c]
    rfl
  · rw [if_neg (fun hd => h (by have := of_decide_eq_true hd; omega)), if_neg h]
    rfl

/-- after an 'N' at `i`: the blocks between the remaining 'N's, and the run left open after the last -/
theorem idxScan_after (c e i : Nat) (t : List Nat) :
    idxScan c e (i + 1) none t =
      (midBlocks c (i :: t),
       if (i :: t).getLastD 0 + 1 < e then some (c + (i :: t).getLastD 0 + 1) else none) := by
  induction t generalizing i with
  | nil => simp [idxScan, midBlocks, Nat.add_assoc]
  | cons j u ih =>
    simp only [idxScan, ih j, midBlocks_cons_cons, Option.getD_none]
    rfl

/-- every branch of `get_regions` on one line (blank line, all-N shortcut, mixed line via `n_indices`, N-free line)
    does what the character scanner does on that line -/
theorem stepLine_eq_charScan (st : Scan) (line : List Char) :
    stepLine st line =
      ((charScan st.cursor st.runStart line).1,
       ⟨st.cursor + line.length, (charScan st.cursor st.runStart line).2⟩) := by
  have hscan := charScan_eq_idxScan st.cursor 0 st.runStart line line.length (Nat.zero_add _).symm
  rw [Nat.add_zero] at hscan
  unfold stepLine
  by_cases he : line = []
  · subst he; rfl
  have hlen : 0 < line.length := List.length_pos_iff.mpr he
  rw [if_neg (mt List.isEmpty_iff.mp he)]
  by_cases hN : 'N' ∈ line
  · rw [if_pos (List.contains_iff_mem.mpr hN)]
    split
    · rename_i hall
      rw [charScan_allN _ _ line he (fun c hc => by simpa using List.all_eq_true.mp hall c hc)]
    · obtain ⟨i, t, hidx⟩ := List.exists_cons_of_ne_nil (mt (nIdxFrom_eq_nil 0 line).mp (not_not_intro hN))
      rw [hscan]
      -- mixed line: `idxScan` from the first 'N' `i` on is the model's blocks and open run (`idxScan_after`);
      -- what remains is the block before `i`, written with `!=` in the model and with `<` in `idxScan`
      simp only [nIndices, hidx, idxScan, idxScan_after, List.headD_cons, midBlocks]
      congr 2
      cases st.runStart <;> by_cases hi : i = 0 <;> simp [hi, emitOpen, Nat.pos_of_ne_zero]
  · rw [if_neg (mt List.contains_iff_mem.mp hN), hscan, (nIdxFrom_eq_nil 0 line).mpr hN]
    simp only [idxScan, hlen, if_true]
    cases st.runStart <;> rfl

theorem stepLine_nil (st : Scan) : stepLine st [] = ([], st) := rfl

theorem charScan_append (pos : Nat) (rs : Option Nat) (a b : List Char) :
    charScan pos rs (a ++ b) =
      ((charScan pos rs a).1 ++ (charScan (pos + a.length) (charScan pos rs a).2 b).1,
       (charScan (pos + a.length) (charScan pos rs a).2 b).2) := by
  induction a generalizing pos rs with
  | nil => rfl
  | cons c cs ih =>
    have e : pos + (c :: cs).length = pos + 1 + cs.length := by rw [List.length_cons]; omega
    rw [e, List.cons_append]
    by_cases hc : c = 'N'
    · rw [hc, charScan_N, charScan_N, ih, List.append_assoc]
    · rw [charScan_nonN _ _ _ hc, charScan_nonN _ _ _ hc, ih]

theorem scanLines_eq_charScan (st : Scan) (lines : List (List Char)) :
    scanLines st lines =
      ((charScan st.cursor st.runStart lines.flatten).1,
       ⟨st.cursor + lines.flatten.length, (charScan st.cursor st.runStart lines.flatten).2⟩) := by
  induction lines generalizing st with
  | nil => rfl
  | cons l ls ih =>
    rw [scanLines, stepLine_eq_charScan, ih, List.flatten_cons, charScan_append, List.length_append,
      Nat.add_assoc]

theorem charScan_eq_accRunsGo (f : Nat → Bool) (pos : Nat) (rs : Option Nat) (suf : List Char)
    (hf : ∀ j, j < suf.length → f (pos + j) = nonN suf j) :
    (charScan pos rs suf).1 ++ emitOpen (charScan pos rs suf).2 (pos + suf.length) =
      accRunsGo f suf.length pos rs := by
  induction suf generalizing pos rs with
  | nil => rfl
  | cons c cs ih =>
    have h0 : f pos = (c != 'N') := hf 0 (Nat.zero_lt_succ _)
    have hf' : ∀ j, j < cs.length → f (pos + 1 + j) = nonN cs j := fun j hj => by
      rw [Nat.add_assoc, Nat.add_comm 1 j]; exact hf (j + 1) (Nat.succ_lt_succ hj)
    have e : pos + (c :: cs).length = pos + 1 + cs.length := by rw [List.length_cons]; omega
    rw [e, List.length_cons, accRunsGo_succ, h0]
    by_cases hc : c = 'N'
    · rw [hc, charScan_N, List.append_assoc, ih _ _ hf']; rfl
    · rw [charScan_nonN _ _ _ hc, ih _ _ hf', if_pos (by simpa using hc)]

theorem maxRuns_eq_charScan (w : List Char) :
    maxRuns w = (charScan 0 none w).1 ++ emitOpen (charScan 0 none w).2 w.length := by
  have := charScan_eq_accRunsGo (nonN w) 0 none w (fun j _ => by rw [Nat.zero_add])
  rw [Nat.zero_add] at this
  exact this.symm

theorem scanSeq_eq_maxRuns (lines : List (List Char)) : scanSeq lines = maxRuns lines.flatten := by
  rw [scanSeq, scanLines_eq_charScan, maxRuns_eq_charScan, Nat.zero_add]

end CnvVerif
