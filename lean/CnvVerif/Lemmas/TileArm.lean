/-
  `GenomicArray.by_arm`, the exact centromere choice: the three facts from which Props/C03Arm.lean shows that `cmereIdx`
  (Model/Tile.lean) meets the specification `ByArmChoice` (Model/TileExt.lean).  `argmax` is the first position of the
  maximum; the gap list is indexed as the specification indexes gaps; accepting that first maximum when it is at least
  `minGap` wide is the demanded choice among the admissible positions.
-/
import CnvVerif.Model.Tile
import CnvVerif.Lemmas.FirstMax
namespace CnvVerif

/-- the loop invariant of `argmaxGo`: `best` is the first maximum of the part `pre` already read -/
theorem argmaxGo_firstMax (xs pre : List Int) (best : Nat) (h : FirstMax 0 pre best) :
    FirstMax 0 (pre ++ xs) (argmaxGo xs pre.length best (pre.getD best 0)) := by
  induction xs generalizing pre best with
  | nil => rw [List.append_nil]; exact h
  | cons x t ih =>
    unfold argmaxGo
    rw [List.append_cons]
    by_cases hx : x > pre.getD best 0
    · rw [if_pos hx]
      have := ih (pre ++ [x]) pre.length (h.snoc_of_gt hx)
      rwa [getD_snoc_length, List.length_append, List.length_singleton] at this
    · rw [if_neg hx]
      have := ih (pre ++ [x]) best (h.snoc_of_le (Int.not_lt.mp hx))
      rwa [getD_snoc_lt pre x h.1, List.length_append, List.length_singleton] at this

/-- numpy `argmax`: a position holding the maximum, the first such position -/
theorem argmax_spec (l : List Int) (hne : l ≠ []) :
    argmax l < l.length ∧ (∀ j, j < l.length → l.getD j 0 ≤ l.getD (argmax l) 0) ∧
      (∀ j, j < argmax l → l.getD j 0 < l.getD (argmax l) 0) := by
  have h : FirstMax 0 l (argmax l) := by
    cases l with
    | nil => exact absurd rfl hne
    | cons x t => exact argmaxGo_firstMax t [x] 0 (.singleton x)
  obtain ⟨hk, hmax, hfirst⟩ := h
  refine ⟨hk, fun j hj => ?_, fun j hj => ?_⟩
  · rw [← List.getElem_eq_getD (h := hj)]; exact hmax _ (List.getElem_mem hj)
  · rw [← List.getElem_eq_getD (h := Nat.lt_trans hj hk)]
    exact hfirst _ (List.mem_take_iff_getElem.mpr ⟨j, by omega, rfl⟩)

/-- the gap list of `by_arm` for a chromosome long enough to be searched: it lists the gaps before the positions
    `margin+1 … n−margin−1`, entry `k` being `start[margin+1+k] − end[margin+k]` -/
theorem gaps_spec (starts ends : List Int) (hlen : ends.length = starts.length) (m : Nat)
    (h : starts.length > 2 * m + 1) :
    let gaps := (((starts.drop (m + 1)).take (starts.length - m - (m + 1))).zip
      ((ends.drop m).take (starts.length - m - 1 - m))).map (fun p => p.1 - p.2)
    m + 1 + gaps.length + m = starts.length ∧
      ∀ k, k < gaps.length → gaps.getD k 0 = starts.getD (m + 1 + k) 0 - ends.getD (m + 1 + k - 1) 0 := by
  intro gaps
  refine ⟨?_, fun k hk => ?_⟩
  · simp only [gaps, List.length_map, List.length_zip, List.length_take, List.length_drop]; omega
  · rw [← List.getElem_eq_getD (h := hk)]
    simp only [gaps, List.getElem_map, List.getElem_zip, List.getElem_take, List.getElem_drop]
    rw [List.getElem_eq_getD 0, List.getElem_eq_getD 0, Nat.add_right_comm m 1 k]
    rfl

/-- accepting the first maximum of `gaps` if it reaches `minGap` is the choice demanded among the positions
    `m+1 … n−m−1`, when `gaps` lists the gaps before those positions -/
theorem choice_of_argmax (gap : Nat → Int) (gaps : List Int) (m n : Nat) (minGap : Int)
    (hn : m + 1 + gaps.length + m = n) (hne : gaps ≠ [])
    (hg : ∀ k, k < gaps.length → gaps.getD k 0 = gap (m + 1 + k)) :
    let idx := if gaps.getD (argmax gaps) 0 ≥ minGap then argmax gaps + m + 1 else 0
    let admissible (j : Nat) : Prop := m + 1 ≤ j ∧ j + m + 1 ≤ n
    (idx ≠ 0 → admissible idx ∧ minGap ≤ gap idx ∧ (∀ j, admissible j → gap j ≤ gap idx) ∧
        (∀ j, admissible j → j < idx → gap j < gap idx)) ∧
    (idx = 0 → ∀ j, admissible j → gap j < minGap) := by
  intro idx admissible
  obtain ⟨hlt, hmax, hfirst⟩ := argmax_spec gaps hne
  -- an admissible position is `m + 1 + k` for a position `k` of `gaps`
  have hadm : ∀ j, admissible j → ∃ k, k < gaps.length ∧ j = m + 1 + k := by
    intro j hj
    obtain ⟨k, rfl⟩ := Nat.exists_eq_add_of_le hj.1
    exact ⟨k, by have := hj.2; omega, rfl⟩
  have hcomm : argmax gaps + m + 1 = m + 1 + argmax gaps := Nat.add_comm _ (m + 1)
  by_cases hsz : gaps.getD (argmax gaps) 0 ≥ minGap
  · simp only [idx, if_pos hsz, hcomm, ← hg _ hlt]
    refine ⟨fun _ => ⟨by constructor <;> omega, hsz, fun j hj => ?_, fun j hj hji => ?_⟩, fun h0 => by omega⟩
    · obtain ⟨k, hk, rfl⟩ := hadm j hj
      rw [← hg k hk]; exact hmax k hk
    · obtain ⟨k, hk, rfl⟩ := hadm j hj
      rw [← hg k hk]; exact hfirst k (by omega)
  · simp only [idx, if_neg hsz]
    refine ⟨fun h0 => absurd rfl h0, fun _ j hj => ?_⟩
    obtain ⟨k, hk, rfl⟩ := hadm j hj
    rw [← hg k hk]; exact Int.lt_of_le_of_lt (hmax k hk) (Int.not_le.mp hsz)

end CnvVerif
