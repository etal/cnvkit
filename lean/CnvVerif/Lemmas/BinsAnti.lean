/-
  The antitarget bins of one chromosome (`antiChrom`): what is binned is the shrunk access minus
  everything near a target; each bin is a bin `splitRow` cuts from one merged free region.
-/
import CnvVerif.Model.Bins
import CnvVerif.Lemmas.Bins
import CnvVerif.Lemmas.IntervalSubtract
namespace CnvVerif

/-- base `p` lies in an accessible region shrunk by `pad` on both sides (start clipped at 0) -/
def inShrunk (pad : Int) (acc : List Row) (p : Int) : Prop :=
  ∃ r ∈ acc, max 0 (r.s + pad) ≤ p ∧ p < r.e - pad

/-- base `p` is within `pad` bases of a target row (a zero-width row counts as a position) -/
def nearTarget (pad : Int) (tg : List Row) (p : Int) : Prop :=
  ∃ r ∈ tg, r.s - pad ≤ p ∧ p < r.e + pad

/-- target rows: non-negative coordinates, `start ≤ end` (zero-width allowed; any order, overlapping,
    nested, duplicated) -/
def WFTargets (tg : List Row) : Prop := ∀ r ∈ tg, 0 ≤ r.s ∧ r.s ≤ r.e

theorem inShrunk_single (pad : Int) (hpad : 0 ≤ pad) (r : Row) (hr : 0 ≤ r.s) (p : Int) :
    inShrunk pad [r] p ↔ r.s + pad ≤ p ∧ p < r.e - pad := by
  unfold inShrunk
  simp only [List.mem_singleton, exists_eq_left]
  omega

theorem mem_shrinkRows {pad : Int} {acc : List Row} {k : Row} :
    k ∈ shrinkRows pad acc ↔
      ∃ r ∈ acc, k = { r with s := max 0 (r.s + pad), e := max 0 (r.e - pad) } ∧ k.e - k.s > 0 := by
  simp only [shrinkRows, List.mem_filter, List.mem_map, decide_eq_true_eq]
  constructor
  · rintro ⟨⟨r, hr, rfl⟩, hk⟩
    exact ⟨r, hr, rfl, hk⟩
  · rintro ⟨r, hr, rfl, hk⟩
    exact ⟨⟨r, hr, rfl⟩, hk⟩

theorem mem_growRows {pad : Int} {tg : List Row} {k : Row} :
    k ∈ growRows pad tg ↔ ∃ r ∈ tg, k = { r with s := max 0 (r.s - pad), e := max 0 (r.e + pad) } := by
  simp only [growRows, List.mem_map, eq_comm]

theorem cov_shrinkRows (pad : Int) (acc : List Row) (p : Int) :
    cov (shrinkRows pad acc) p ↔ inShrunk pad acc p := by
  constructor
  · rintro ⟨k, hk, h1, h2⟩
    obtain ⟨r, hr, rfl, hk⟩ := mem_shrinkRows.mp hk
    refine ⟨r, hr, ?_⟩
    dsimp only at hk h1 h2
    omega
  · rintro ⟨r, hr, h1, h2⟩
    refine ⟨_, mem_shrinkRows.mpr ⟨r, hr, rfl, ?_⟩, ?_, ?_⟩ <;> dsimp only <;> omega

theorem shrinkRows_pos (pad : Int) (acc : List Row) :
    ∀ k ∈ shrinkRows pad acc, 0 ≤ k.s ∧ k.s < k.e := by
  intro k hk
  obtain ⟨r, _, rfl, hk⟩ := mem_shrinkRows.mp hk
  dsimp only at hk ⊢
  omega

theorem cov_growRows (pad : Int) (hpad : 0 ≤ pad) (tg : List Row) (h : WFTargets tg) (p : Int)
    (hp : 0 ≤ p) : cov (growRows pad tg) p ↔ nearTarget pad tg p := by
  constructor
  · rintro ⟨k, hk, h1, h2⟩
    obtain ⟨r, hr, rfl⟩ := mem_growRows.mp hk
    have := h r hr
    refine ⟨r, hr, ?_⟩
    dsimp only at h1 h2
    omega
  · rintro ⟨r, hr, h1, h2⟩
    have := h r hr
    refine ⟨_, mem_growRows.mpr ⟨r, hr, rfl⟩, ?_, ?_⟩ <;> dsimp only <;> omega

theorem growRows_pos (pad : Int) (hpad : 0 < pad) (tg : List Row) (h : WFTargets tg) :
    ∀ r ∈ growRows pad tg, 0 ≤ r.s ∧ r.s < r.e := by
  intro k hk
  obtain ⟨r, hr, rfl⟩ := mem_growRows.mp hk
  have := h r hr
  dsimp only
  omega

theorem antiRegionsChrom_eq (pad : Int) (acc tg : List Row) :
    antiRegionsChrom pad acc tg = subtractCanon (shrinkRows pad acc) (mergeSorted (growRows pad tg)) := rfl

theorem antiRegionsChrom_no_targets (pad : Int) (acc : List Row) :
    antiRegionsChrom pad acc [] = shrinkRows pad acc := by
  rw [antiRegionsChrom_eq, show growRows pad [] = [] from rfl, mergeSorted_nil, subtractCanon_nil]

theorem antiRegionsChrom_cov (pad : Int) (hpad : 0 < pad) (acc tg : List Row) (h : WFTargets tg)
    (p : Int) :
    cov (antiRegionsChrom pad acc tg) p ↔ inShrunk pad acc p ∧ ¬ nearTarget pad tg p := by
  rw [antiRegionsChrom_eq,
    subtractCanon_cov _ _ (mergeSorted_canon _ fun r hr => (growRows_pos pad hpad tg h r hr).2),
    mergeSorted_cov, ← cov_shrinkRows]
  -- a base of a shrunk keeper is not negative, and there `growRows` covers what is near a target
  refine and_congr_right fun ⟨k, hk, h1, _⟩ => not_congr ?_
  exact cov_growRows pad (Int.le_of_lt hpad) tg h p (Int.le_trans (shrinkRows_pos pad acc k hk).1 h1)

theorem antiRegionsChrom_pos (pad : Int) (acc tg : List Row) :
    ∀ q ∈ antiRegionsChrom pad acc tg, q.s < q.e := by
  intro q hq
  unfold antiRegionsChrom at hq
  obtain ⟨k, hk, hq⟩ := List.mem_flatMap.mp hq
  rcases subtractRow_carry k _ q hq with ⟨_, _, h⟩ | rfl
  · exact h
  · exact (shrinkRows_pos pad acc q hk).2

theorem mem_nameAnti (l : List Row) (b : Row) :
    b ∈ nameAnti l ↔ ∃ r ∈ l, b = { r with gene := Generated.ANTITARGET_NAME } := by
  simp only [nameAnti, List.mem_map, eq_comm]

theorem cov_nameAnti (l : List Row) (p : Int) : cov (nameAnti l) p ↔ cov l p := by
  simp only [cov, mem_nameAnti]
  constructor
  · rintro ⟨b, ⟨r, hr, rfl⟩, h⟩; exact ⟨r, hr, h⟩
  · rintro ⟨r, hr, h⟩; exact ⟨_, ⟨r, hr, rfl⟩, h⟩

theorem antiMerged_canon (pad : Int) (acc tg : List Row) :
    Canon (mergeSorted (antiRegionsChrom pad acc tg)) :=
  mergeSorted_canon _ (antiRegionsChrom_pos pad acc tg)

theorem mem_antiChrom {pad : Int} {avg : Rat} {m : Int} {acc tg : List Row} {b : Row}
    (hb : b ∈ antiChrom pad avg m acc tg) :
    ∃ M ∈ mergeSorted (antiRegionsChrom pad acc tg), M.s < M.e ∧
      ∃ x ∈ splitRow avg m M, b.s = x.s ∧ b.e = x.e ∧ b.gene = Generated.ANTITARGET_NAME := by
  unfold antiChrom at hb
  obtain ⟨x, hx, rfl⟩ := (mem_nameAnti _ b).mp hb
  obtain ⟨M, hM, hx⟩ := List.mem_flatMap.mp hx
  exact ⟨M, hM, (antiMerged_canon pad acc tg).1 M hM, x, hx, rfl, rfl, rfl⟩

/-- whatever holds of the coordinates of every bin `splitRow` cuts from a non-empty region holds of
    the antitarget bins -/
theorem antiChrom_of_splitRow {pad : Int} {avg : Rat} {m : Int} {acc tg : List Row}
    {P : Int → Int → Prop} (h : ∀ M : Row, M.s < M.e → ∀ x ∈ splitRow avg m M, P x.s x.e) :
    ∀ b ∈ antiChrom pad avg m acc tg, P b.s b.e := by
  intro b hb
  obtain ⟨M, _, hMpos, x, hx, hs, he, _⟩ := mem_antiChrom hb
  rw [hs, he]
  exact h M hMpos x hx

theorem antiChrom_inside_far (pad : Int) (hpad : 0 < pad) (avg : Rat) (havg : 0 < avg) (m : Int)
    (acc tg : List Row) (h : WFTargets tg) :
    ∀ b ∈ antiChrom pad avg m acc tg, ∀ p, b.s ≤ p → p < b.e →
      inShrunk pad acc p ∧ ¬ nearTarget pad tg p := by
  intro b hb p h1 h2
  obtain ⟨M, hM, hMpos, x, hx, hs, he, _⟩ := mem_antiChrom hb
  have hw := splitRow_within avg havg m M (Int.le_of_lt hMpos) x hx
  rw [← antiRegionsChrom_cov pad hpad acc tg h p, ← mergeSorted_cov]
  exact ⟨M, hM, by omega, by omega⟩

theorem antiChrom_pairwise (pad : Int) (avg : Rat) (havg : 0 < avg) (m : Int) (acc tg : List Row) :
    (antiChrom pad avg m acc tg).Pairwise (fun x y => x.e ≤ y.s) := by
  unfold antiChrom nameAnti
  rw [List.pairwise_map]
  exact flatMap_splitRow_pairwise avg havg m _ (antiMerged_canon pad acc tg)

theorem interval_in_canon (M : List Row) (hM : Canon M) (u v : Int) (huv : u < v)
    (h : ∀ p, u ≤ p → p < v → cov M p) : ∃ m ∈ M, m.s ≤ u ∧ v ≤ m.e := by
  obtain ⟨m, hm, h1, h2⟩ := h u (Int.le_refl u) huv
  refine ⟨m, hm, h1, ?_⟩
  apply Classical.byContradiction
  intro hn
  obtain ⟨k, hk, h3, h4⟩ := h m.e (by omega) (by omega)
  have hmp := hM.1 m hm
  rcases pairwise_eq_or_rel _ M hM.2 m k hm hk with rfl | h5 | h5 <;> omega

theorem antiChrom_covers (pad : Int) (hpad : 0 < pad) (avg : Rat) (havg : 0 < avg) (m : Int)
    (acc tg : List Row) (h : WFTargets tg) (u v : Int) (huv : u < v) (hlen : m ≤ v - u)
    (hfree : ∀ p, u ≤ p → p < v → inShrunk pad acc p ∧ ¬ nearTarget pad tg p) :
    ∀ p, u ≤ p → p < v → cov (antiChrom pad avg m acc tg) p := by
  intro p h1 h2
  have hC := antiMerged_canon pad acc tg
  have hcov : ∀ q, u ≤ q → q < v → cov (mergeSorted (antiRegionsChrom pad acc tg)) q := by
    intro q hq1 hq2
    rw [mergeSorted_cov, antiRegionsChrom_cov pad hpad acc tg h q]
    exact hfree q hq1 hq2
  obtain ⟨M, hM, hMs, hMe⟩ := interval_in_canon _ hC u v huv hcov
  unfold antiChrom
  rw [cov_nameAnti, flatMap_splitRow_cov avg havg m _ (fun M hM => Int.le_of_lt (hC.1 M hM)) p]
  exact ⟨M, hM, by omega, by omega, by omega⟩

end CnvVerif
