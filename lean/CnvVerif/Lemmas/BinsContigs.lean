/-
  `drop_noncanonical_contigs`: which contigs are skipped (`skipOf`), in both branches of the rule, and
  from that which accessible rows are kept (`dropNoncanonical_mem_iff`).
-/
import CnvVerif.Model.Bins
import CnvVerif.Lemmas.Basic
namespace CnvVerif

/-- the contigs `drop_noncanonical_contigs` skips -/
def skipOf (acc tg : Table) : List String :=
  let ac := chromsInOrder acc
  let tc := chromsInOrder tg
  let untgt := ac.filter (fun c => !tc.contains c)
  if tc.any isCanonicalName then untgt.filter (fun c => !isCanonicalName c)
  else
    let mx := (tc.map String.length).foldl max 0
    untgt.filter (fun c => c.length > mx)

/-- `max(map(len, target_chroms))` -/
def maxTargetNameLen (tg : Table) : Nat := ((chromsInOrder tg).map String.length).foldl max 0

theorem dropNoncanonical_eq (acc tg : Table) :
    dropNoncanonical acc tg =
      if chromNamesClash acc tg then .error "ValueError"
      else .ok (acc.filter (fun r => !(skipOf acc tg).contains r.chrom)) := rfl

theorem dropNoncanonical_ok {acc tg a : Table} (h : dropNoncanonical acc tg = .ok a) :
    a = acc.filter (fun r => !(skipOf acc tg).contains r.chrom) := by
  rw [dropNoncanonical_eq] at h
  split at h
  · cases h
  · injection h with h; exact h.symm

theorem maxTargetNameLen_ge (tg : Table) : ∀ t ∈ tg, t.chrom.length ≤ maxTargetNameLen tg := by
  intro t ht
  apply (foldl_max_ge _ _).2
  exact List.mem_map.mpr ⟨t.chrom, (mem_chromsInOrder tg t.chrom).mpr ⟨t, ht, rfl⟩, rfl⟩

theorem maxTargetNameLen_attained (tg : Table) (hne : tg ≠ []) :
    ∃ t ∈ tg, t.chrom.length = maxTargetNameLen tg := by
  rcases foldl_pick_mem max (fun _ _ => Std.max_eq_or) ((chromsInOrder tg).map String.length) 0
    with h | h
  · obtain ⟨t, ht⟩ := List.exists_mem_of_ne_nil tg hne
    refine ⟨t, ht, ?_⟩
    have := maxTargetNameLen_ge tg t ht
    unfold maxTargetNameLen at this ⊢
    omega
  · obtain ⟨c, hc, hlen⟩ := List.mem_map.mp h
    obtain ⟨t, ht, rfl⟩ := (mem_chromsInOrder tg c).mp hc
    exact ⟨t, ht, hlen⟩

theorem any_canonical_iff (tg : Table) :
    (chromsInOrder tg).any isCanonicalName = true ↔ ∃ t ∈ tg, isCanonicalName t.chrom = true := by
  rw [List.any_eq_true]
  constructor
  · rintro ⟨c, hc, hcan⟩
    obtain ⟨t, ht, rfl⟩ := (mem_chromsInOrder tg c).mp hc
    exact ⟨t, ht, hcan⟩
  · rintro ⟨t, ht, h⟩
    exact ⟨t.chrom, (mem_chromsInOrder tg t.chrom).mpr ⟨t, ht, rfl⟩, h⟩

theorem mem_skipOf (acc tg : Table) (c : String) :
    c ∈ skipOf acc tg ↔
      c ∈ chromsInOrder acc ∧ c ∉ chromsInOrder tg ∧
        if (∃ t ∈ tg, isCanonicalName t.chrom = true) then isCanonicalName c = false
        else maxTargetNameLen tg < c.length := by
  have hcont : ((chromsInOrder tg).contains c = false) ↔ c ∉ chromsInOrder tg := by
    rw [← Bool.not_eq_true, List.contains_iff_mem]
  unfold skipOf maxTargetNameLen
  simp only
  -- in either branch: membership in the two nested filters, with `contains` read as `∈`
  by_cases hany : ∃ t ∈ tg, isCanonicalName t.chrom = true
  · rw [if_pos ((any_canonical_iff tg).mpr hany), if_pos hany]
    simp only [List.mem_filter, Bool.not_eq_eq_eq_not, Bool.not_true, and_assoc, hcont]
  · rw [if_neg (mt (any_canonical_iff tg).mp hany), if_neg hany]
    simp only [List.mem_filter, Bool.not_eq_eq_eq_not, Bool.not_true, and_assoc, hcont,
      decide_eq_true_eq, gt_iff_lt]

/-- the complete rule: an accessible row is kept iff its contig is targeted, or — when some targeted
    contig is canonically named — canonically named itself, or — when none is — its name is no longer
    than the longest targeted name -/
theorem dropNoncanonical_mem_iff (acc tg a : Table) (h : dropNoncanonical acc tg = .ok a) (r : Row) :
    r ∈ a ↔ r ∈ acc ∧ ((∃ t ∈ tg, t.chrom = r.chrom) ∨
      (if (∃ t ∈ tg, isCanonicalName t.chrom = true) then isCanonicalName r.chrom = true
       else r.chrom.length ≤ maxTargetNameLen tg)) := by
  have hns : (!(skipOf acc tg).contains r.chrom) = true ↔ r.chrom ∉ skipOf acc tg := by simp
  rw [dropNoncanonical_ok h, List.mem_filter, hns, mem_skipOf, ← mem_chromsInOrder tg r.chrom]
  refine and_congr_right fun hr => ?_
  have hacc : r.chrom ∈ chromsInOrder acc := (mem_chromsInOrder acc r.chrom).mpr ⟨r, hr, rfl⟩
  by_cases ht : r.chrom ∈ chromsInOrder tg
  · simp only [ht, not_true_eq_false, false_and, and_false, not_false_eq_true, true_or]
  · simp only [hacc, ht, not_false_eq_true, true_and, false_or]
    split
    · rw [Bool.not_eq_false]
    · rw [Nat.not_lt]

theorem dropNoncanonical_not_mem {acc tg a : Table} (h : dropNoncanonical acc tg = .ok a) {r : Row} (hr : r ∈ acc) :
    r ∉ a ↔ (¬ ∃ t ∈ tg, t.chrom = r.chrom) ∧
      if (∃ t ∈ tg, isCanonicalName t.chrom = true) then isCanonicalName r.chrom = false
      else maxTargetNameLen tg < r.chrom.length := by
  rw [dropNoncanonical_mem_iff acc tg a h r, not_and, not_or]
  simp only [hr, forall_const]
  refine and_congr_right fun _ => ?_
  split <;> simp

end CnvVerif
