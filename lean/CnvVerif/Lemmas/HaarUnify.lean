/-
  `UnifyLevels`: its final sort is Mathlib's `List.insertionSort` (`sortAsc_eq`), the inner `while` a `takeWhile` /
  `filter` / `dropWhile` (`unifyInner_eq`), and the result the sort of what the loop emitted and what it left over
  (`unifyLevels_eq`).  What the loop emits and leaves: every base peak, nothing that was not given, every add-on peak
  farther than the window from all base peaks, and on increasing input only those.  The statements about the result
  itself are the `unify_*` theorems of Props/C11.lean.
-/
import CnvVerif.Model.Haar
import Mathlib.Data.List.Sort
namespace CnvVerif.Haar

theorem sortAsc_eq (l : List Nat) : sortAsc l = l.insertionSort (· ≤ ·) := by
  have e : insertAsc = List.orderedInsert (· ≤ ·) := by
    funext x l
    induction l with
    | nil => rfl
    | cons y ys ih => simp only [insertAsc, List.orderedInsert_cons, ih]
  rw [sortAsc, e]; rfl

theorem sortAsc_sorted (l : List Nat) : (sortAsc l).Pairwise (· ≤ ·) :=
  sortAsc_eq l ▸ List.pairwise_insertionSort _ l

theorem mem_sortAsc (x : Nat) (l : List Nat) : x ∈ sortAsc l ↔ x ∈ l :=
  sortAsc_eq l ▸ (List.perm_insertionSort _ l).mem_iff

/-- the inner `while` walks the add-on items up to `b + w`, keeps those below `b - w`, and leaves the rest -/
theorem unifyInner_eq (b w : Nat) (addon : List Nat) :
    unifyInner b w addon =
      ((addon.takeWhile (fun a => decide (a ≤ b + w))).filter (fun a => decide (a + w < b)),
        addon.dropWhile (fun a => decide (a ≤ b + w))) := by
  induction addon with
  | nil => rfl
  | cons a as ih =>
    by_cases h2 : a ≤ b + w
    · by_cases h1 : a + w < b
      · simp only [unifyInner, ih, List.takeWhile_cons, List.dropWhile_cons, List.filter_cons, h1, h2,
          decide_true, if_true]
      · simp only [unifyInner, ih, List.takeWhile_cons, List.dropWhile_cons, List.filter_cons, h1, h2,
          decide_true, decide_false, if_true, if_false, Bool.false_eq_true]
    · have h1 : ¬ a + w < b := by omega
      simp only [unifyInner, List.takeWhile_cons, List.dropWhile_cons, List.filter_nil, h1, h2,
        decide_false, if_false, Bool.false_eq_true]

theorem unifyInner_mem_cases (b w : Nat) (addon : List Nat) (a : Nat) (ha : a ∈ addon) :
    a ∈ (unifyInner b w addon).1 ∨ a ∈ (unifyInner b w addon).2 ∨ (¬ a + w < b ∧ a ≤ b + w) := by
  rw [unifyInner_eq]
  rw [← List.takeWhile_append_dropWhile (p := fun a => decide (a ≤ b + w)) (l := addon), List.mem_append] at ha
  rcases ha with ha | ha
  · have h2 : a ≤ b + w := by simpa using List.all_eq_true.mp List.all_takeWhile a ha
    by_cases h1 : a + w < b
    · exact Or.inl (List.mem_filter.mpr ⟨ha, decide_eq_true h1⟩)
    · exact Or.inr (Or.inr ⟨h1, h2⟩)
  · exact Or.inr (Or.inl ha)

theorem unifyInner_fst (b w : Nat) (addon : List Nat) (a : Nat)
    (ha : a ∈ (unifyInner b w addon).1) : a ∈ addon ∧ a + w < b := by
  rw [unifyInner_eq] at ha
  obtain ⟨h1, h2⟩ := List.mem_filter.mp ha
  exact ⟨(List.takeWhile_sublist _).subset h1, of_decide_eq_true h2⟩

theorem unifyInner_snd_suffix (b w : Nat) (addon : List Nat) :
    (unifyInner b w addon).2 <:+ addon := by
  rw [unifyInner_eq]
  exact List.dropWhile_suffix _

theorem unifyInner_snd_head (b w : Nat) (addon : List Nat) (a' : Nat) (t : List Nat)
    (h : (unifyInner b w addon).2 = a' :: t) : b + w < a' := by
  have h' : addon.dropWhile (fun a => decide (a ≤ b + w)) = a' :: t := by rw [unifyInner_eq] at h; exact h
  have := List.head_dropWhile_not (fun a => decide (a ≤ b + w)) (l := addon) (h' ▸ List.cons_ne_nil _ _)
  simpa [h'] using this

theorem unifyInner_snd_gt (b w : Nat) (addon : List Nat) (hs : addon.Pairwise (· < ·))
    (x : Nat) (hx : x ∈ (unifyInner b w addon).2) : b + w < x := by
  have hsuf := unifyInner_snd_suffix b w addon
  have hs2 : (unifyInner b w addon).2.Pairwise (· < ·) := hs.sublist hsuf.sublist
  cases hr : (unifyInner b w addon).2 with
  | nil => rw [hr] at hx; simp at hx
  | cons a' t =>
    have hh := unifyInner_snd_head b w addon a' t hr
    rw [hr] at hx hs2
    rcases List.mem_cons.mp hx with rfl | hx'
    · exact hh
    · have := (List.pairwise_cons.mp hs2).1 x hx'
      omega

theorem unifyLoop_cons (w b : Nat) (bs addon : List Nat) :
    unifyLoop w (b :: bs) addon =
      ((unifyInner b w addon).1 ++ b :: (unifyLoop w bs (unifyInner b w addon).2).1,
       (unifyLoop w bs (unifyInner b w addon).2).2) := rfl

theorem unifyLoop_base_mem (w : Nat) (base addon : List Nat) (x : Nat) (hx : x ∈ base) :
    x ∈ (unifyLoop w base addon).1 := by
  induction base generalizing addon with
  | nil => simp at hx
  | cons b bs ih =>
    rw [unifyLoop_cons]
    simp only [List.mem_append, List.mem_cons]
    rcases List.mem_cons.mp hx with rfl | hx'
    · exact Or.inr (Or.inl rfl)
    · exact Or.inr (Or.inr (ih _ hx'))

theorem unifyLoop_snd_suffix (w : Nat) (base addon : List Nat) :
    (unifyLoop w base addon).2 <:+ addon := by
  induction base generalizing addon with
  | nil => exact List.suffix_refl _
  | cons b bs ih =>
    rw [unifyLoop_cons]
    exact (ih _).trans (unifyInner_snd_suffix b w addon)

theorem unifyLoop_fst_subset (w : Nat) (base addon : List Nat) (x : Nat)
    (hx : x ∈ (unifyLoop w base addon).1) : x ∈ base ∨ x ∈ addon := by
  induction base generalizing addon with
  | nil => simp [unifyLoop] at hx
  | cons b bs ih =>
    rw [unifyLoop_cons] at hx
    simp only [List.mem_append, List.mem_cons] at hx
    rcases hx with h | h | h
    · exact Or.inr (unifyInner_fst b w addon x h).1
    · exact Or.inl (by simp [h])
    · rcases ih _ h with h' | h'
      · exact Or.inl (List.mem_cons_of_mem _ h')
      · exact Or.inr ((unifyInner_snd_suffix b w addon).subset h')

theorem unifyLoop_far (w : Nat) (base addon : List Nat) (a : Nat) (ha : a ∈ addon)
    (hfar : ∀ b ∈ base, a + w < b ∨ b + w < a) :
    a ∈ (unifyLoop w base addon).1 ∨ a ∈ (unifyLoop w base addon).2 := by
  induction base generalizing addon with
  | nil => exact Or.inr ha
  | cons b bs ih =>
    rw [unifyLoop_cons]
    simp only [List.mem_append, List.mem_cons]
    rcases unifyInner_mem_cases b w addon a ha with h | h | h
    · exact Or.inl (Or.inl h)
    · rcases ih _ h (fun b' hb' => hfar b' (List.mem_cons_of_mem _ hb')) with h' | h'
      · exact Or.inl (Or.inr (Or.inr h'))
      · exact Or.inr h'
    · have := hfar b (by simp)
      omega

theorem unifyLoop_snd_head (w : Nat) (base addon : List Nat) (bl : Nat)
    (hl : base.getLast? = some bl) (a' : Nat) (t : List Nat)
    (h : (unifyLoop w base addon).2 = a' :: t) : bl + w < a' := by
  induction base generalizing addon with
  | nil => simp at hl
  | cons b bs ih =>
    rw [unifyLoop_cons] at h
    cases bs with
    | nil =>
      simp only [List.getLast?_singleton, Option.some.injEq] at hl
      subst hl
      exact unifyInner_snd_head b w addon a' t h
    | cons b' bs' =>
      rw [List.getLast?_cons_cons] at hl
      exact ih _ hl h

theorem unifyLevels_eq (base addon : List Nat) (w : Nat) (h : addon ≠ []) :
    unifyLevels base addon w =
      sortAsc ((unifyLoop w base addon).1 ++ (unifyLoop w base addon).2) := by
  have he : addon.isEmpty = false := by
    cases addon with
    | nil => exact absurd rfl h
    | cons _ _ => rfl
  unfold unifyLevels
  simp only [he, Bool.false_eq_true, if_false]
  cases hl : base.getLast? with
  | none => rfl
  | some bl =>
    simp only
    cases hr : (unifyLoop w base addon).2 with
    | nil => simp
    | cons a' t =>
      -- the final `while` skips nothing: the first leftover is already beyond the last base peak's window
      have hh := unifyLoop_snd_head w base addon bl hl a' t hr
      have hd : decide (a' ≤ bl + w) = false := by
        apply decide_eq_false
        omega
      rw [List.dropWhile_cons, hd]
      simp

theorem mem_unifyLevels (base addon : List Nat) (w x : Nat) (h : addon ≠ []) :
    x ∈ unifyLevels base addon w ↔
      x ∈ (unifyLoop w base addon).1 ∨ x ∈ (unifyLoop w base addon).2 := by
  rw [unifyLevels_eq base addon w h, mem_sortAsc, List.mem_append]

theorem unifyLevels_nil_addon (base : List Nat) (w : Nat) : unifyLevels base [] w = base := by
  simp [unifyLevels]

theorem unifyLevels_subset (base addon : List Nat) (w x : Nat) (hx : x ∈ unifyLevels base addon w) :
    x ∈ base ∨ x ∈ addon := by
  by_cases h : addon = []
  · subst h
    rw [unifyLevels_nil_addon] at hx
    exact Or.inl hx
  · rw [mem_unifyLevels base addon w x h] at hx
    rcases hx with hx | hx
    · exact unifyLoop_fst_subset w base addon x hx
    · exact Or.inr ((unifyLoop_snd_suffix w base addon).subset hx)

theorem mem_unifyLoop_snd_of_sorted (w : Nat) (base addon : List Nat) (ha : addon.Pairwise (· < ·))
    (x : Nat) (hx : x ∈ (unifyLoop w base addon).2) :
    x ∈ addon ∧ ∀ b ∈ base, b + w < x := by
  induction base generalizing addon with
  | nil => exact ⟨hx, by simp⟩
  | cons b bs ih =>
    rw [unifyLoop_cons] at hx
    have hsuf := unifyInner_snd_suffix b w addon
    have hs2 : (unifyInner b w addon).2.Pairwise (· < ·) := ha.sublist hsuf.sublist
    obtain ⟨h1, h2⟩ := ih _ hs2 hx
    refine ⟨hsuf.subset h1, ?_⟩
    intro b' hb'
    rcases List.mem_cons.mp hb' with rfl | hb''
    · exact unifyInner_snd_gt _ w addon ha x h1
    · exact h2 b' hb''

theorem mem_unifyLoop_fst_of_sorted (w : Nat) (base addon : List Nat) (hb : base.Pairwise (· < ·))
    (ha : addon.Pairwise (· < ·)) (x : Nat) (hx : x ∈ (unifyLoop w base addon).1) :
    x ∈ base ∨ (x ∈ addon ∧ ∀ b ∈ base, x + w < b ∨ b + w < x) := by
  induction base generalizing addon with
  | nil => simp [unifyLoop] at hx
  | cons b bs ih =>
    have hb' := List.pairwise_cons.mp hb
    rw [unifyLoop_cons] at hx
    simp only [List.mem_append, List.mem_cons] at hx
    have hsuf := unifyInner_snd_suffix b w addon
    have hs2 : (unifyInner b w addon).2.Pairwise (· < ·) := ha.sublist hsuf.sublist
    -- `x` was emitted before `b` (then it is below every window), is `b`, or comes from the rest of the loop
    rcases hx with h | h | h
    · obtain ⟨h1, h2⟩ := unifyInner_fst b w addon x h
      refine Or.inr ⟨h1, ?_⟩
      intro b' hb''
      rcases List.mem_cons.mp hb'' with rfl | hb3
      · exact Or.inl h2
      · have := hb'.1 b' hb3
        exact Or.inl (by omega)
    · exact Or.inl (by simp [h])
    · rcases ih _ hb'.2 hs2 h with h' | ⟨h1, h2⟩
      · exact Or.inl (List.mem_cons_of_mem _ h')
      · refine Or.inr ⟨hsuf.subset h1, ?_⟩
        intro b' hb''
        rcases List.mem_cons.mp hb'' with rfl | hb3
        · exact Or.inr (unifyInner_snd_gt _ w addon ha x h1)
        · exact h2 b' hb3

/-- with an empty base `last_pos = -1` and nothing is skipped: the add-on level, sorted -/
theorem unifyLevels_nil_base (addon : List Nat) (w : Nat) : unifyLevels [] addon w = sortAsc addon := by
  cases addon <;> rfl

theorem unifyLevels_nil_singleton (b w : Nat) : unifyLevels [] [b] w = [b] := unifyLevels_nil_base [b] w

theorem unifyLevels_same (b w : Nat) : unifyLevels [b] [b] w = [b] := by
  have h : ¬ b + w < b := by omega
  simp [unifyLevels, unifyLoop, unifyInner, sortAsc, insertAsc, h]

end CnvVerif.Haar
