/-
  What Props/C01SrcTbl.lean needs to tie the model's decision tables to the tables the translator reads off `cnvlib/call.py`
  and `cnvlib/cnary.py` on every run (Generated/ExprsTbl.lean, typed reader `TFn` of harness/exprtrans.py): the model's PAR
  test is the source's `parx_filter` / `pary_filter` mask, and the three masks of a row (on X, on Y, in PAR-Y) as the
  source's four mask functions compute them (`srcMasks`).
-/
import CnvVerif.Generated.ExprsTbl
import CnvVerif.Model.Call
import CnvVerif.Lemmas.Call
import Mathlib.Tactic.SplitIfs
-- Proofs of the shape `first | rfl | script`: the script is for a source expression the translator re-reads in an
-- equivalent spelling; while `rfl` closes the goal the script is dead, hence the linter switches.
set_option linter.unusedSimpArgs false
set_option linter.unusedTactic false
namespace CnvVerif.Src
open CnvVerif CnvVerif.Generated

/-- the PAR coordinates the model looks up for a genome (`Generated.PAR_TABLE`, from `params.PSEUDO_AUTSOMAL_REGIONS`) -/
def ParCoords (g key : String) (lo hi : Int) : Prop := parRange g.toLower key = some (lo, hi)

/-- `parx_filter` / `pary_filter`: the model's PAR test under the chromosome's label is the source's mask -/
theorem inPar_is_source (mask : String → String → String → Int → Int → Int → Int → Int → Int → Bool)
    (hmask : ∀ c l g s e a1 b1 a2 b2, mask c l g s e a1 b1 a2 b2 =
      ((c == l) && ((decide (s ≥ a1) && decide (e ≤ b1)) || (decide (s ≥ a2) && decide (e ≤ b2)))))
    (g k1 k2 chrom label : String) (s e a1 b1 a2 b2 : Int)
    (h1 : ParCoords g k1 a1 b1) (h2 : ParCoords g k2 a2 b2) :
    ((chrom == label) && inPar g k1 k2 s e) = mask chrom label g s e a1 b1 a2 b2 := by
  unfold ParCoords at h1 h2
  rw [hmask]
  unfold inPar
  simp only [h1, h2]

theorem parx_mask_shape : ∀ c l g s e a1 b1 a2 b2, src_parx_filter c l g s e a1 b1 a2 b2 =
    ((c == l) && ((decide (s ≥ a1) && decide (e ≤ b1)) || (decide (s ≥ a2) && decide (e ≤ b2)))) := by
  intro c l g s e a1 b1 a2 b2
  unfold src_parx_filter
  first
  | rfl
  | (cases (c == l) <;> cases decide (s ≥ a1) <;> cases decide (e ≤ b1) <;> cases decide (s ≥ a2) <;>
      cases decide (e ≤ b2) <;> simp_all)

theorem pary_mask_shape : ∀ c l g s e a1 b1 a2 b2, src_pary_filter c l g s e a1 b1 a2 b2 =
    ((c == l) && ((decide (s ≥ a1) && decide (e ≤ b1)) || (decide (s ≥ a2) && decide (e ≤ b2)))) := by
  intro c l g s e a1 b1 a2 b2
  unfold src_pary_filter
  first
  | rfl
  | (cases (c == l) <;> cases decide (s ≥ a1) <;> cases decide (e ≤ b1) <;> cases decide (s ≥ a2) <;>
      cases decide (e ≤ b2) <;> simp_all)

/-- the three row masks `get_as_dframe_and_set_reference_and_expect_copies` reads, computed by the source's own
    filter functions from the row, the labels of the table and the genome option -/
def srcMasks (first : String) (par : Option String) (chrom : String) (s e : Int)
    (x1 x2 y1 y2 : Int × Int) : Bool × Bool × Bool :=
  let g := par.getD ""
  let px := src_parx_filter chrom (xLabel first) g s e x1.1 x1.2 x2.1 x2.2
  let py := src_pary_filter chrom (yLabel first) g s e y1.1 y1.2 y2.1 y2.2
  (src_chr_x_filter chrom (xLabel first) par.isSome px, src_chr_y_filter chrom (yLabel first) par.isSome py, py)

end CnvVerif.Src
