/-
  Table level = chromosome level: on EVERY chromosome `c` of ANY tables the table-level model (`doTargetCore`,
  `getAntitargets`: the pandas `groupby` / `sort_values` / `searchsorted` plumbing of Model/Interval.lean and
  Model/Ranges.lean) yields the bin coordinates of the per-chromosome functions `targetChrom` / `antiChrom` on the
  rows of `c` (`target_rowsOf`, `antitarget_rowsOf`).  The plumbing itself is done once, in IntervalTable /
  IntervalSubdivide, in terms of `rowsOf`; here `merge` is identified with `mergeSorted` (both canonical,
  same coverage: `canon_unique`), which fixes coordinates but not labels, so every later step is shown to see
  coordinates only.  Last, the case without targets (one chromosome): the bins are those of the shrunk access.
-/
import CnvVerif.Model.Bins
import CnvVerif.Lemmas.Bins
import CnvVerif.Lemmas.BinsAnti
import CnvVerif.Lemmas.IntervalTable
namespace CnvVerif

/-! ### the per-row steps see only coordinates -/

theorem splitRow_of_ivOf (avg : Rat) (m : Int) {r r' : Row} (h : ivOf r = ivOf r') :
    (splitRow avg m r).map ivOf = (splitRow avg m r').map ivOf := by
  obtain ⟨hs, he⟩ : r.s = r'.s ∧ r.e = r'.e := Prod.mk.inj h
  have hn : Src.binCount avg r = Src.binCount avg r' := by unfold Src.binCount; rw [hs, he]
  rw [splitRow_eq_binCount, splitRow_eq_binCount, hn, hs, he]
  split
  · split
    · exact congrArg (fun q => [q]) h
    · simp only [splitInto, List.map_map]
      exact List.map_congr_left fun i _ => by
        show (r.s + _, r.s + _) = (r'.s + _, r'.s + _)
        rw [hs, he]
  · rfl

theorem flatMap_splitRow_congr (avg : Rat) (m : Int) {l l' : List Row} (h : l.map ivOf = l'.map ivOf) :
    (l.flatMap (splitRow avg m)).map ivOf = (l'.flatMap (splitRow avg m)).map ivOf := by
  rw [List.map_flatMap, List.map_flatMap, List.flatMap_def, List.flatMap_def]
  exact congrArg List.flatten (map_eq_map_of_imp (fun _ _ _ _ e => splitRow_of_ivOf avg m e) h)

theorem nameAnti_ivOf (t : Table) : (nameAnti t).map ivOf = t.map ivOf := by
  unfold nameAnti
  rw [List.map_map]
  rfl

theorem rowsOf_shrinkRows (pad : Int) (a : Table) (c : String) :
    rowsOf (shrinkRows pad a) c = shrinkRows pad (rowsOf a c) := by
  unfold shrinkRows
  rw [rowsOf_filter, rowsOf_map]
  exact fun _ => rfl

theorem rowsOf_growRows (pad : Int) (tg : Table) (c : String) :
    rowsOf (growRows pad tg) c = growRows pad (rowsOf tg c) :=
  rowsOf_map _ tg c fun _ => rfl

/-- on every chromosome `merge(bp=0)` leaves the intervals of `mergeSorted`: both are canonical lists with the
    coverage of that chromosome's rows -/
theorem rowsOf_mergeTable_ivOf (t : Table) (hp : ∀ r ∈ t, r.s < r.e) (c : String) :
    (rowsOf (mergeTable 0 t) c).map ivOf = (mergeSorted (rowsOf t c)).map ivOf :=
  rowsOf_mergeTable_ivOf_of_canon t hp c (mergeSorted_canon _ fun r hr => hp r (mem_rowsOf.mp hr).1)
    (mergeSorted_cov _)

theorem rowsOf_subdivide_ivOf (avg : Rat) (m : Int) (t : Table) (hp : ∀ r ∈ t, r.s < r.e) (c : String) :
    (rowsOf (subdivideTable avg m t) c).map ivOf =
      ((mergeSorted (rowsOf t c)).flatMap (splitRow avg m)).map ivOf := by
  rw [rowsOf_subdivideTable]
  exact flatMap_splitRow_congr avg m (rowsOf_mergeTable_ivOf t hp c)

/-- `subtract` sees only the coordinates of the merged exclusions -/
theorem rowsOf_subtract_mergeSorted (A T : Table) (hT : ∀ r ∈ T, 0 ≤ r.s ∧ r.s < r.e) (c : String) :
    rowsOf (subtractTable A T) c = subtractCanon (rowsOf A c) (mergeSorted (rowsOf T c)) := by
  rw [rowsOf_subtractTable A T hT c]
  exact subtractCanon_congr _ (rowsOf_mergeTable_ivOf T (fun r hr => (hT r hr).2) c)

/-- table level = chromosome level, on every chromosome of any bait table -/
theorem target_rowsOf (baits : Table) (avg : Rat) (hb : ∀ r ∈ baits, r.s ≤ r.e) (c : String) :
    (rowsOf (doTargetCore baits true avg) c).map ivOf = (targetChrom avg (rowsOf baits c)).map ivOf := by
  unfold doTargetCore targetChrom
  rw [if_pos rfl, ← rowsOf_filter]
  exact rowsOf_subdivide_ivOf avg _ _ (nonempty_baits_pos baits hb) c

theorem resize_shrink (pad : Int) (hpad : 0 < pad) (a : Table) :
    resizeTable (-1 * pad) noSizes a = shrinkRows pad a := by
  unfold resizeTable shrinkRows
  simp only [noSizes, clipInt]
  rw [if_pos (by omega)]
  congr 1
  apply List.map_congr_left
  intro r _
  have e1 : r.s - -1 * pad = r.s + pad := by omega
  have e2 : r.e + -1 * pad = r.e - pad := by omega
  rw [e1, e2]

theorem resize_grow (pad : Int) (hpad : 0 < pad) (tg : Table) :
    resizeTable (1 * pad) noSizes tg = growRows pad tg := by
  unfold resizeTable growRows
  simp only [noSizes, clipInt]
  rw [if_neg (by omega)]
  apply List.map_congr_left
  intro r _
  have e1 : r.s - 1 * pad = r.s - pad := by omega
  have e2 : r.e + 1 * pad = r.e + pad := by omega
  rw [e1, e2]

theorem rowsOf_antiRegions (a tg : Table) (hwf : WFTargets tg) (c : String) :
    rowsOf (antiRegions a tg) c = antiRegionsChrom Generated.ANTI_PAD (rowsOf a c) (rowsOf tg c) := by
  have hpad : (0 : Int) < Generated.ANTI_PAD := by decide
  unfold antiRegions
  rw [antiRegionsChrom_eq, show Generated.ANTI_ACCESS_RESIZE_SIGN = -1 from rfl, show Generated.ANTI_TARGET_RESIZE_SIGN = 1 from rfl,
    resize_shrink _ hpad, resize_grow _ hpad,
    rowsOf_subtract_mergeSorted _ _ (growRows_pos _ hpad tg hwf), rowsOf_shrinkRows, rowsOf_growRows]

theorem antiRegions_pos (a tg : Table) (hwf : WFTargets tg) : ∀ r ∈ antiRegions a tg, r.s < r.e := by
  intro r hr
  have := mem_rowsOf_self hr
  rw [rowsOf_antiRegions a tg hwf] at this
  exact antiRegionsChrom_pos _ _ _ r this

/-- table level = chromosome level, on every chromosome of any access / target tables -/
theorem antitarget_rowsOf (a tg : Table) (avg : Rat) (m : Int) (hwf : WFTargets tg) (c : String) :
    (rowsOf (nameAnti (subdivideTable avg m (antiRegions a tg))) c).map ivOf =
      (antiChrom Generated.ANTI_PAD avg m (rowsOf a c) (rowsOf tg c)).map ivOf := by
  unfold antiChrom
  rw [show rowsOf (nameAnti _) c = nameAnti _ from rowsOf_map _ _ c fun _ => rfl, nameAnti_ivOf, nameAnti_ivOf,
    rowsOf_subdivide_ivOf avg m _ (antiRegions_pos a tg hwf) c, rowsOf_antiRegions a tg hwf]

/-! ### the table functions invent no chromosome: a one-chromosome input gives a one-chromosome output -/

theorem mem_subdivideTable_chrom {avg : Rat} {m : Int} {t : Table} {r : Row}
    (hr : r ∈ subdivideTable avg m t) : ∃ x ∈ t, x.chrom = r.chrom := by
  have := mem_rowsOf_self hr
  rw [rowsOf_subdivideTable] at this
  obtain ⟨M, hM, _⟩ := List.mem_flatMap.mp this
  obtain ⟨x, hx, _⟩ := (mergeTable_spec 0 t r.chrom).1 M hM
  exact ⟨x, (mem_rowsOf.mp hx).1, (mem_rowsOf.mp hx).2⟩

theorem mem_antiRegions_chrom {a tg : Table} (hwf : WFTargets tg) {r : Row} (hr : r ∈ antiRegions a tg) :
    ∃ x ∈ a, x.chrom = r.chrom := by
  have := mem_rowsOf_self hr
  rw [rowsOf_antiRegions a tg hwf] at this
  obtain ⟨k, hk, _⟩ := List.mem_flatMap.mp this
  obtain ⟨q, hq, _⟩ := mem_shrinkRows.mp hk
  exact ⟨q, (mem_rowsOf.mp hq).1, (mem_rowsOf.mp hq).2⟩

theorem antiChrom_no_targets (pad : Int) (avg : Rat) (m : Int) (acc : List Row) (hc : Canon (shrinkRows pad acc)) :
    (antiChrom pad avg m acc []).map ivOf = ((shrinkRows pad acc).flatMap (splitRow avg m)).map ivOf := by
  unfold antiChrom
  rw [nameAnti_ivOf, antiRegionsChrom_no_targets]
  exact flatMap_splitRow_congr avg m (mergeSorted_of_canon hc)

/-- one accessible region and no target, the input on which the 3/4 bound is attained -/
theorem antiChrom_no_targets_single (pad : Int) (avg : Rat) (m : Int) (r : Row)
    (hpos : max 0 (r.e - pad) - max 0 (r.s + pad) > 0) :
    (antiChrom pad avg m [r] []).map ivOf =
      (splitRow avg m ⟨r.chrom, max 0 (r.s + pad), max 0 (r.e - pad), r.gene⟩).map ivOf := by
  have hs : shrinkRows pad [r] = [⟨r.chrom, max 0 (r.s + pad), max 0 (r.e - pad), r.gene⟩] :=
    List.filter_cons_of_pos (by simpa using hpos)
  have hc : Canon (shrinkRows pad [r]) := by rw [hs]; exact ⟨by simpa using (by omega), List.pairwise_singleton ..⟩
  rw [antiChrom_no_targets pad avg m [r] hc, hs, List.flatMap_singleton]

end CnvVerif
