/-
  One query on the rows of one chromosome (skgenome/intersect.py): the binary-search path and the mask path both
  return exactly the rows the property names, so does `idx_ranges` whichever it takes, and `iter_ranges` clips them
  in trim mode.  Both paths cut the table at `searchsorted` positions; a position is the number of rows satisfying a
  predicate that holds on a prefix of the table only (`PrefixClosed`), and everything rests on what such a count says.
-/
import CnvVerif.Model.Ranges
import CnvVerif.Model.IntervalSpec
import CnvVerif.Lemmas.Basic
namespace CnvVerif

/-- the rows a query selects, in the words of the property; `none` = unbounded side -/
def selFilter (qs qe : Option Int) (inner : Bool) (r : Row) : Bool :=
  if inner then qs.all (fun s => decide (r.s ≥ s)) && qe.all (fun e => decide (r.e ≤ e))
  else qs.all (fun s => decide (r.e > s)) && qe.all (fun e => decide (r.s < e))

/-- well-formed table of one chromosome: sorted by start, non-negative coordinates, positive length -/
def WFTable (t : Table) : Prop := StartSorted t ∧ ∀ r ∈ t, 0 ≤ r.s ∧ r.s < r.e

theorem isMonotone_iff (l : List Int) : isMonotone l = true ↔ l.Pairwise (· ≤ ·) := by
  induction l with
  | nil => simp [isMonotone]
  | cons a t ih =>
    cases t with
    | nil => simp [isMonotone]
    | cons b t =>
      simp only [isMonotone, Bool.and_eq_true, decide_eq_true_eq, ih]
      rw [List.pairwise_cons (a := a)]
      constructor
      · rintro ⟨hab, hp⟩
        refine ⟨?_, hp⟩
        intro x hx
        rcases List.mem_cons.mp hx with rfl | hx
        · exact hab
        · exact Int.le_trans hab ((List.pairwise_cons.mp hp).1 x hx)
      · rintro ⟨h1, hp⟩
        exact ⟨h1 b (List.mem_cons_self ..), hp⟩

/-- `p` holds on a prefix of `t` only -/
def PrefixClosed {α : Type} (p : α → Bool) (t : List α) : Prop := t.Pairwise (fun x y => p y = true → p x = true)

theorem PrefixClosed.tail {α : Type} {p : α → Bool} {x : α} {t : List α} (h : PrefixClosed p (x :: t)) :
    PrefixClosed p t :=
  (List.pairwise_cons.mp h).2

theorem PrefixClosed.countP_tail {α : Type} {p : α → Bool} {x : α} {t : List α} (h : PrefixClosed p (x :: t))
    (hx : ¬ p x = true) :
    t.countP p = 0 :=
  List.countP_eq_zero.mpr (fun y hy hpy => hx ((List.pairwise_cons.mp h).1 y hy hpy))

theorem PrefixClosed.getElem {α : Type} {p : α → Bool} {t : List α} (h : PrefixClosed p t) {i : Nat}
    (hi : i < t.length) :
    p t[i] = decide (i < t.countP p) := by
  induction t generalizing i with
  | nil => exact absurd hi (Nat.not_lt_zero _)
  | cons x t ih =>
    by_cases hx : p x = true
    · cases i with
      | zero => simp [hx]
      | succ i => simp [hx, ih h.tail (Nat.lt_of_succ_lt_succ hi)]
    · have hc := h.countP_tail hx
      cases i with
      | zero => simp [hx, hc]
      | succ i => simp [hx, hc, ih h.tail (Nat.lt_of_succ_lt_succ hi)]

/-- `table[lo:hi]` with both positions counts of prefix predicates -/
theorem take_drop_countP {α : Type} (p q : α → Bool) (t : List α) (hp : PrefixClosed p t) (hq : PrefixClosed q t) :
    (t.take (t.countP p)).drop (t.countP q) = t.filter (fun r => !q r && p r) := by
  induction t with
  | nil => rfl
  | cons x t ih =>
    have ih := ih hp.tail hq.tail
    by_cases h1 : p x = true
    · by_cases h2 : q x = true
      · simp [h1, h2, ih]
      · rw [hq.countP_tail h2, List.drop_zero] at ih
        simp [h1, h2, hq.countP_tail h2, ih]
    · have hf : t.filter (fun r => !q r && p r) = [] :=
        List.filter_eq_nil_iff.mpr fun y hy hh =>
          h1 ((List.pairwise_cons.mp hp).1 y hy (Bool.and_eq_true _ _ ▸ hh).2)
      simp [h1, hp.countP_tail h1, hf]

theorem maskUpto_eq (p : Row → Bool) (t : Table) (hp : PrefixClosed p t) :
    maskUpto t.length (t.countP p) = t.map p := by
  apply List.ext_getElem
  · simp [maskUpto]
  · intro i _ h2
    simp [maskUpto, hp.getElem (List.length_map p ▸ h2)]

theorem maskFrom_eq (p : Row → Bool) (t : Table) (hp : PrefixClosed p t) :
    maskFrom t.length (t.countP p) = t.map (fun r => !p r) := by
  apply List.ext_getElem
  · simp [maskFrom]
  · intro i _ h2
    simp [maskFrom, hp.getElem (List.length_map _ ▸ h2), ← Nat.not_lt]

theorem prefixClosed_s_lt (t : Table) (hs : StartSorted t) (v : Int) :
    PrefixClosed (fun r => decide (r.s < v)) t := by
  refine List.Pairwise.imp ?_ hs
  intro a b h
  simp only [decide_eq_true_eq]; omega

theorem prefixClosed_e_le (t : Table) (hm : isMonotone (t.map (·.e)) = true) (v : Int) :
    PrefixClosed (fun r => decide (r.e ≤ v)) t := by
  refine List.Pairwise.imp ?_ (List.pairwise_map.mp ((isMonotone_iff _).mp hm))
  intro a b h
  simp only [decide_eq_true_eq]; omega

theorem prefixClosed_const (t : Table) (c : Bool) : PrefixClosed (fun _ => c) t :=
  List.pairwise_of_forall (fun _ _ h => h)

theorem ssLeft_starts (t : Table) (v : Int) : ssLeft (t.map (·.s)) v = t.countP (fun r => decide (r.s < v)) :=
  List.countP_map

/-- rows that lie before the start bound -/
def beforeStart : Option Int → Bool → Row → Bool
  | some s, true => fun r => decide (r.s < s)
  | some s, false => fun r => decide (r.e ≤ s)
  | none, _ => fun _ => false

/-- rows that do not lie beyond the end bound -/
def withinEnd : Option Int → Bool → Row → Bool
  | some e, true => fun r => decide (r.e ≤ e)
  | some e, false => fun r => decide (r.s < e)
  | none, _ => fun _ => true

theorem decide_lt_eq_not_le (a b : Int) : decide (a < b) = !decide (b ≤ a) := by
  simp only [← decide_not, Int.not_le]

theorem decide_le_eq_not_lt (a b : Int) : decide (a ≤ b) = !decide (b < a) := by
  simp only [← decide_not, Int.not_lt]

theorem selFilter_eq (qs qe : Option Int) (inner : Bool) (r : Row) :
    selFilter qs qe inner r = (!beforeStart qs inner r && withinEnd qe inner r) := by
  rcases qs with _ | s
  · cases qe <;> cases inner <;> rfl
  · cases inner
    · cases qe <;> exact congrArg (· && _) (decide_lt_eq_not_le s r.e)
    · cases qe <;> exact congrArg (· && _) (decide_le_eq_not_lt s r.s)

theorem prefixClosed_beforeStart (t : Table) (hs : StartSorted t) (hm : isMonotone (t.map (·.e)) = true)
    (qs : Option Int) (inner : Bool) : PrefixClosed (beforeStart qs inner) t := by
  cases qs with
  | none => exact prefixClosed_const t false
  | some s => cases inner; exact prefixClosed_e_le t hm s; exact prefixClosed_s_lt t hs s

theorem prefixClosed_withinEnd (t : Table) (hs : StartSorted t) (hm : isMonotone (t.map (·.e)) = true)
    (qe : Option Int) (inner : Bool) : PrefixClosed (withinEnd qe inner) t := by
  cases qe with
  | none => exact prefixClosed_const t true
  | some e => cases inner; exact prefixClosed_s_lt t hs e; exact prefixClosed_e_le t hm e

/-- `slice(start_idx, end_idx)`: each index is the number of rows before the start / not beyond the end -/
theorem irangeSimple_eq (t : Table) (qs qe : Option Int) (inner : Bool) :
    irangeSimple t qs qe inner =
      (t.take (t.countP (withinEnd qe inner))).drop (t.countP (beforeStart qs inner)) := by
  show List.drop _ (List.take _ t) = _
  congr 1
  · rcases qs with _ | s
    · exact (List.countP_eq_zero.mpr fun _ _ h => Bool.noConfusion h).symm
    · cases inner; exact List.countP_map; exact List.countP_map
  · congr 1
    rcases qe with _ | e
    · exact (List.countP_eq_length.mpr fun _ _ => rfl).symm
    · cases inner; exact List.countP_map; exact List.countP_map

theorem irangeSimple_exact (t : Table) (h : WFTable t) (hm : isMonotone (t.map (·.e)) = true)
    (qs qe : Option Int) (inner : Bool) :
    irangeSimple t qs qe inner = t.filter (selFilter qs qe inner) := by
  rw [irangeSimple_eq, take_drop_countP _ _ t (prefixClosed_withinEnd t h.1 hm qe inner)
    (prefixClosed_beforeStart t h.1 hm qs inner)]
  exact List.filter_congr fun r _ => (selFilter_eq qs qe inner r).symm

theorem zip_and_map {α : Type} (f g : α → Bool) (t : List α) :
    ((t.map f).zip (t.map g)).map (fun p => p.1 && p.2) = t.map (fun r => f r && g r) := by
  rw [List.zip_eq_zipWith, List.map_zipWith]
  exact zipWith_map_same _ f g t

theorem applyMask_map (f : Row → Bool) (t : Table) : applyMask t (t.map f) = t.filter f := by
  induction t with
  | nil => rfl
  | cons x t ih =>
    unfold applyMask at ih ⊢
    by_cases h : f x = true <;> simp [h, ih]

/-- the mask after the start bound has been applied (`m1` of `irangeNested`) -/
def startMask (t : Table) (qs : Option Int) (inner : Bool) : List Bool :=
  match qs with
  | some s =>
    if s ≠ 0 then
      if inner then maskFrom t.length (ssLeft (t.map (·.s)) s) else t.map (fun r => decide (r.e > s))
    else List.replicate t.length true
  | none => List.replicate t.length true

/-- the end bound applied to a mask (`m2` of `irangeNested`) -/
def endMask (t : Table) (qe : Option Int) (inner : Bool) (m : List Bool) : List Bool :=
  match qe with
  | some e =>
    if inner then (m.zip (t.map (fun r => decide (r.e ≤ e)))).map (fun p => p.1 && p.2)
    else (m.zip (maskUpto t.length (ssLeft (t.map (·.s)) e))).map (fun p => p.1 && p.2)
  | none => m

theorem irangeNested_eq_masks (t : Table) (qs qe : Option Int) (inner : Bool) :
    irangeNested t qs qe inner = applyMask t (endMask t qe inner (startMask t qs inner)) := rfl

/-- Python's `if start_val:` leaves the start side open for a bound of 0 as for `None`; no row of a well-formed
    table lies before 0, so nothing is lost -/
theorem startMask_eq (t : Table) (h : WFTable t) (qs : Option Int) (inner : Bool) :
    startMask t qs inner = t.map (fun r => !beforeStart qs inner r) := by
  have hopen : ∀ f : Row → Bool, (∀ r ∈ t, f r = true) → List.replicate t.length true = t.map f := by
    intro f hf
    rw [← List.map_const']
    exact List.map_congr_left fun r hr => (hf r hr).symm
  rcases qs with _ | s
  · exact hopen _ fun _ _ => rfl
  · by_cases hz : s = 0
    · subst hz
      simp only [startMask, ne_eq, not_true_eq_false, if_false]
      apply hopen
      intro r hr
      have := h.2 r hr
      cases inner <;> simp only [beforeStart, Bool.not_eq_true', decide_eq_false_iff_not] <;> omega
    · simp only [startMask, ne_eq, hz, not_false_eq_true, if_true]
      cases inner
      · exact List.map_congr_left fun r _ => decide_lt_eq_not_le s r.e
      · simp only [if_true, ssLeft_starts]
        exact maskFrom_eq _ t (prefixClosed_s_lt t h.1 s)

theorem endMask_map (t : Table) (hs : StartSorted t) (qe : Option Int) (inner : Bool) (f : Row → Bool) :
    endMask t qe inner (t.map f) = t.map (fun r => f r && withinEnd qe inner r) := by
  rcases qe with _ | e
  · simp only [endMask, withinEnd, Bool.and_true]
  · cases inner
    · simp only [endMask, Bool.false_eq_true, if_false, ssLeft_starts, maskUpto_eq _ t (prefixClosed_s_lt t hs e),
        zip_and_map, withinEnd]
    · simp only [endMask, if_true, zip_and_map, withinEnd]

theorem irangeNested_eq_filter (t : Table) (h : WFTable t) (qs qe : Option Int) (inner : Bool) :
    irangeNested t qs qe inner = t.filter (selFilter qs qe inner) := by
  rw [irangeNested_eq_masks, startMask_eq t h, endMask_map t h.1, applyMask_map]
  exact List.filter_congr fun r _ => (selFilter_eq qs qe inner r).symm

theorem idxSelect_eq_filter (t : Table) (h : WFTable t) (qs qe : Option Int) (inner : Bool) :
    idxSelect t qs qe inner = t.filter (selFilter qs qe inner) := by
  unfold idxSelect
  split
  · rename_i hc
    simp only [Bool.or_eq_true, Bool.and_eq_true, List.isEmpty_iff, Option.isNone_iff_eq_none] at hc
    rcases hc with rfl | ⟨rfl, rfl⟩
    · rfl
    · exact (List.filter_eq_self.mpr fun r _ => by cases inner <;> rfl).symm
  · split
    · exact irangeNested_eq_filter t h qs qe inner
    · rename_i _ hm
      simp only [Bool.not_eq_true', Bool.not_eq_false] at hm
      exact irangeSimple_exact t h hm qs qe inner

theorem Mode.beq_trim_eq_false {mode : Mode} (h : mode ≠ .trim) : (mode == Mode.trim) = false := by
  cases mode <;> simp_all

/-- one query of `in_ranges`: the rows the query names in the words of the property; in trim mode clipped by the
    model's own `trimRows` (what that does to the selected rows is `selectRange_trim`) -/
def rangeSpec (rows : Table) (qs qe : Option Int) (mode : Mode) : Table :=
  let sel := rows.filter (selFilter qs qe (mode == .inner))
  if mode == .trim then trimRows sel qs qe else sel

theorem selectRange_exact (t : Table) (h : WFTable t) (qs qe : Option Int) (mode : Mode) :
    selectRange t qs qe mode = rangeSpec t qs qe mode := by
  unfold selectRange rangeSpec
  rw [idxSelect_eq_filter t h]

theorem selFilter_outer (qs qe : Int) :
    selFilter (some qs) (some qe) false = fun r => (decide (r.e > qs) && decide (r.s < qe)) := rfl

theorem selectRange_outer (t : Table) (h : WFTable t) (qs qe : Int) :
    selectRange t (some qs) (some qe) .outer = t.filter (fun r => r.e > qs && r.s < qe) :=
  selectRange_exact t h _ _ .outer

/-- trim = the overlapping rows clipped to the query.  The truthiness tests `if start_val:` / `if end_val:` of the
    clipping step change nothing: a bound of 0 is below every start, and no selected row starts before an end of 0. -/
theorem selectRange_trim (t : Table) (h : WFTable t) (qs qe : Int) :
    selectRange t (some qs) (some qe) .trim =
      (t.filter (fun r => r.e > qs && r.s < qe)).map
        (fun r => { r with s := max r.s qs, e := min r.e qe }) := by
  rw [selectRange_exact t h]
  refine List.map_congr_left fun r hr => ?_
  obtain ⟨hrt, hsel⟩ := List.mem_filter.mp hr
  have hlt : r.s < qe := of_decide_eq_true (Bool.and_eq_true _ _ ▸ hsel).2
  have e1 : (if qs ≠ 0 then max r.s qs else r.s) = max r.s qs := by
    by_cases hq : qs = 0
    · rw [hq, if_neg (fun h => h rfl), Int.max_eq_left (h.2 r hrt).1]
    · rw [if_pos hq]
  have e2 : (if qe ≠ 0 then min r.e qe else r.e) = min r.e qe :=
    if_pos (Int.ne_of_gt (Int.lt_of_le_of_lt (h.2 r hrt).1 hlt))
  simp only [e1, e2]

end CnvVerif
