/-
  `np.percentile` (linear method) on a sorted list is a linear interpolation `interpAt` at the virtual index `q·(n−1)`:
  it lies between the two entries it interpolates, is monotone in the index, commutes with `x ↦ k·x + c`, and at the
  level 1/2 is the median.  Last, the convexity fact behind the weighted means of C17 and C19 (`wsum_between`).
-/
import Mathlib.Tactic.Ring
import Mathlib.Algebra.Order.Field.Basic
import Mathlib.Algebra.Order.Floor.Ring
import Mathlib.Data.Rat.Floor
import CnvVerif.Lemmas.OrderStat
namespace CnvVerif.Desc

theorem floorNat_spec (x : Rat) (hx : 0 ≤ x) : (x.floor.toNat : Rat) ≤ x ∧ x < (x.floor.toNat : Rat) + 1 := by
  rw [show x.floor.toNat = ⌊x⌋₊ from Int.floor_toNat x]
  exact ⟨Nat.floor_le hx, Nat.lt_floor_add_one x⟩

theorem floorNat_mono {x y : Rat} (h : x ≤ y) : x.floor.toNat ≤ y.floor.toNat :=
  Int.toNat_le_toNat (Int.floor_le_floor h)

/-- linear interpolation between consecutive entries of `s` at the virtual index `x`: `quantileSorted` as a
    function of the index `q·(n−1)` instead of the level `q` -/
def interpAt (s : List Rat) (x : Rat) : Rat :=
  nth s x.floor.toNat +
    (x - (x.floor.toNat : Rat)) * (nth s (min (x.floor.toNat + 1) (s.length - 1)) - nth s x.floor.toNat)

theorem quantileSorted_eq (s : List Rat) (q : Rat) :
    quantileSorted s q = interpAt s (q * ((s.length : Rat) - 1)) := rfl

section interp
variable {s : List Rat} {x : Rat}

theorem vidx_lt (hx : 0 ≤ x ∧ x ≤ (s.length : Rat) - 1) : x.floor.toNat < s.length := by
  rw [show x.floor.toNat = ⌊x⌋₊ from Int.floor_toNat x]
  exact (Nat.floor_lt hx.1).mpr (lt_of_le_of_lt hx.2 (sub_one_lt _))

theorem vidx_succ_lt (hx : 0 ≤ x ∧ x ≤ (s.length : Rat) - 1) : min (x.floor.toNat + 1) (s.length - 1) < s.length :=
  lt_of_le_of_lt (min_le_right _ _) (Nat.sub_lt (Nat.zero_lt_of_lt (vidx_lt hx)) Nat.one_pos)

theorem vidx_le_succ (hx : 0 ≤ x ∧ x ≤ (s.length : Rat) - 1) : x.floor.toNat ≤ min (x.floor.toNat + 1) (s.length - 1) :=
  le_min (Nat.le_succ _) (Nat.le_sub_one_of_lt (vidx_lt hx))

theorem interpAt_between (hs : s.Pairwise (· ≤ ·)) (hx : 0 ≤ x ∧ x ≤ (s.length : Rat) - 1) :
    nth s x.floor.toNat ≤ interpAt s x ∧ interpAt s x ≤ nth s (min (x.floor.toNat + 1) (s.length - 1)) := by
  obtain ⟨hg0, hg1⟩ := floorNat_spec x hx.1
  exact lerp_between (sorted_nth_le hs (vidx_le_succ hx) (vidx_succ_lt hx)) (sub_nonneg.mpr hg0)
    (sub_le_iff_le_add'.mpr hg1.le)

theorem interpAt_mono (hs : s.Pairwise (· ≤ ·)) {y : Rat} (hx : 0 ≤ x) (hxy : x ≤ y) (hy : y ≤ (s.length : Rat) - 1) :
    interpAt s x ≤ interpAt s y := by
  have hX : 0 ≤ x ∧ x ≤ (s.length : Rat) - 1 := ⟨hx, le_trans hxy hy⟩
  have hY : 0 ≤ y ∧ y ≤ (s.length : Rat) - 1 := ⟨le_trans hx hxy, hy⟩
  rcases Nat.lt_or_eq_of_le (floorNat_mono hxy) with hlt | heq
  · -- different cells: the right end of `x`'s cell is not above the left end of `y`'s
    exact le_trans (interpAt_between hs hX).2
      (le_trans (sorted_nth_le hs (le_trans (min_le_left _ _) hlt) (vidx_lt hY)) (interpAt_between hs hY).1)
  · -- same cell: same end points, larger weight on the upper one
    unfold interpAt
    rw [← heq]
    exact add_le_add_right (mul_le_mul_of_nonneg_right (sub_le_sub_right hxy _)
      (sub_nonneg.mpr (sorted_nth_le hs (vidx_le_succ hX) (vidx_succ_lt hX)))) _

theorem interpAt_map (f : Rat → Rat) (k c : Rat) (hf : ∀ x, f x = k * x + c)
    (hx : 0 ≤ x ∧ x ≤ (s.length : Rat) - 1) : interpAt (s.map f) x = f (interpAt s x) := by
  unfold interpAt
  rw [List.length_map, nth_map f s _ (vidx_lt hx), nth_map f s _ (vidx_succ_lt hx), hf, hf, hf]
  ring

end interp

theorem quantile_vidx {l : List Rat} (hl : l ≠ []) {q : Rat} (h0 : 0 ≤ q) (h1 : q ≤ 1) :
    0 ≤ q * (((sortR l).length : Rat) - 1) ∧ q * (((sortR l).length : Rat) - 1) ≤ ((sortR l).length : Rat) - 1 := by
  have hn1 : (0 : Rat) ≤ ((sortR l).length : Rat) - 1 :=
    sub_nonneg.mpr (by exact_mod_cast List.length_pos_of_ne_nil (sortR_ne_nil hl))
  exact ⟨mul_nonneg h0 hn1, mul_le_of_le_one_left hn1 h1⟩

theorem quantile_inHull {l : List Rat} (hl : l ≠ []) {q : Rat} (h0 : 0 ≤ q) (h1 : q ≤ 1) : InHull l (quantile l q) :=
  have hx := quantile_vidx hl h0 h1
  ⟨_, mem_sortR.mp (nth_mem _ _ (vidx_lt hx)), _, mem_sortR.mp (nth_mem _ _ (vidx_succ_lt hx)),
    interpAt_between (sortR_sorted l) hx⟩

theorem quantile_map_affine (f : Rat → Rat) (k c : Rat) (hf : ∀ x, f x = k * x + c) (hk : 0 ≤ k) (l : List Rat)
    (q : Rat) (hl : l ≠ []) (h0 : 0 ≤ q) (h1 : q ≤ 1) : quantile (l.map f) q = f (quantile l q) := by
  unfold quantile
  rw [sortR_map_mono f (affine_mono hf hk), quantileSorted_eq, quantileSorted_eq, List.length_map]
  exact interpAt_map f k c hf (quantile_vidx hl h0 h1)

theorem quantile_map_add (c : Rat) (l : List Rat) (q : Rat) (hl : l ≠ []) (h0 : 0 ≤ q) (h1 : q ≤ 1) :
    quantile (l.map (· + c)) q = quantile l q + c :=
  quantile_map_affine _ 1 c (add_affine c) zero_le_one l q hl h0 h1

theorem quantile_map_mul (k : Rat) (hk : 0 ≤ k) (l : List Rat) (q : Rat) (hl : l ≠ []) (h0 : 0 ≤ q) (h1 : q ≤ 1) :
    quantile (l.map (k * ·)) q = k * quantile l q :=
  quantile_map_affine _ k 0 (mul_affine k) hk l q hl h0 h1

theorem quantile_mono (l : List Rat) (hl : l ≠ []) (q₁ q₂ : Rat) (h0 : 0 ≤ q₁) (h12 : q₁ ≤ q₂) (h1 : q₂ ≤ 1) :
    quantile l q₁ ≤ quantile l q₂ :=
  have hx₂ := quantile_vidx hl (le_trans h0 h12) h1
  interpAt_mono (sortR_sorted l) (quantile_vidx hl h0 (le_trans h12 h1)).1
    (mul_le_mul_of_nonneg_right h12 (le_trans hx₂.1 hx₂.2)) hx₂.2

theorem floorNat_eq (x : Rat) (k : Nat) (h1 : (k : Rat) ≤ x) (h2 : x < (k : Rat) + 1) : x.floor.toNat = k := by
  rw [show x.floor.toNat = ⌊x⌋₊ from Int.floor_toNat x]
  exact (Nat.floor_eq_iff (le_trans (Nat.cast_nonneg k) h1)).mpr ⟨h1, h2⟩

theorem interpAt_natCast (s : List Rat) (m : Nat) : interpAt s (m : Rat) = nth s m := by
  unfold interpAt
  rw [floorNat_eq _ m (le_refl _) (lt_add_one _), sub_self, zero_mul, add_zero]

theorem interpAt_add_half (s : List Rat) (m : Nat) :
    interpAt s ((m : Rat) + 1 / 2) = (nth s m + nth s (min (m + 1) (s.length - 1))) / 2 := by
  unfold interpAt
  rw [floorNat_eq _ m (by linarith) (by linarith)]
  ring

/-- the virtual index `(n − 1)/2` is whole for odd `n` and half way between the two middle positions for even `n` -/
theorem median_eq_quantile (l : List Rat) : median l = quantile l (1 / 2) := by
  unfold quantile
  rw [median_def, quantileSorted_eq]
  generalize sortR l = s
  obtain ⟨m, hm | hm⟩ : ∃ m, s.length = 2 * m + 1 ∨ s.length = 2 * m := ⟨s.length / 2, by omega⟩
  · have hvi : (1 : Rat) / 2 * ((s.length : Rat) - 1) = (m : Rat) := by rw [hm]; push_cast; ring
    rw [hvi, interpAt_natCast, hm, if_pos (Nat.mul_add_mod 2 m 1), Nat.mul_add_div (by decide : 0 < 2)]
    rfl
  · cases m with
    | zero => rw [List.length_eq_zero_iff.mp hm]; decide +kernel
    | succ k =>
      have hvi : (1 : Rat) / 2 * ((s.length : Rat) - 1) = (k : Rat) + 1 / 2 := by rw [hm]; push_cast; ring
      rw [hvi, interpAt_add_half, hm, if_neg (by rw [Nat.mul_mod_right]; decide),
        Nat.mul_div_cancel_left _ (by decide : 0 < 2), Nat.add_sub_cancel, Nat.min_eq_left (by omega)]

/-- what makes a weighted average, and a step of the biweight location, stay inside the range of the data -/
theorem wsum_between {α} (l : List α) (v w : α → Rat) (lo hi : Rat)
    (h : ∀ a ∈ l, (lo ≤ v a ∧ v a ≤ hi) ∧ 0 ≤ w a) :
    lo * (l.map w).sum ≤ (l.map (fun a => v a * w a)).sum ∧ (l.map (fun a => v a * w a)).sum ≤ hi * (l.map w).sum := by
  induction l with
  | nil => simp
  | cons a t ih =>
    obtain ⟨h1, h2⟩ := ih (fun x hx => h x (List.mem_cons_of_mem _ hx))
    obtain ⟨⟨ha1, ha2⟩, hw⟩ := h a List.mem_cons_self
    rw [List.map_cons, List.map_cons, List.sum_cons, List.sum_cons, mul_add, mul_add]
    exact ⟨add_le_add (mul_le_mul_of_nonneg_right ha1 hw) h1, add_le_add (mul_le_mul_of_nonneg_right ha2 hw) h2⟩

end CnvVerif.Desc
