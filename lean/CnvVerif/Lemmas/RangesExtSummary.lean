/-
  Lemmas behind Props/C07Ext.lean: the summary `np.nanmedian` that `into_ranges` applies to float columns
  (order statistics of the non-NaN values).  The facts about `join_strings` (`pd.unique`) are in Lemmas/Basic.lean.
-/
import CnvVerif.Model.RangesExt
import CnvVerif.Lemmas.OrderStat
namespace CnvVerif
open Desc

/-! `np.sort` / `np.median` of Model/RangesExt.lean are those of Model/Descriptives.lean; Lemmas/OrderStat.lean serves both -/

theorem sortQ_eq (l : List Rat) : sortQ l = sortR l := rfl
theorem medianQ_eq (l : List Rat) : medianQ l = median l := rfl

theorem medianQ_def (l : List Rat) : medianQ l =
    if (sortQ l).length % 2 = 1 then (sortQ l).getD ((sortQ l).length / 2) 0
    else ((sortQ l).getD ((sortQ l).length / 2 - 1) 0 + (sortQ l).getD ((sortQ l).length / 2) 0) / 2 := rfl

/-- the order of the hits does not matter -/
theorem nanMedian_perm (vs ws : List Val) (hp : vs.Perm ws) : nanMedian vs = nanMedian ws := by
  have hf := hp.filterMap Val.finite?
  unfold nanMedian
  generalize vs.filterMap Val.finite? = a at hf
  generalize ws.filterMap Val.finite? = b at hf
  cases a with
  | nil => rw [hf.nil_eq]
  | cons x xs =>
    cases b with
    | nil => exact absurd hf.eq_nil (List.cons_ne_nil _ _)
    | cons y ys => exact congrArg Val.num (median_eq_of_perm hf)

/-- NaN cells are ignored: dropping them does not change the summary -/
theorem nanMedian_drop_nan (vs : List Val) :
    nanMedian (vs.filter (fun v => v.finite?.isSome)) = nanMedian vs := by
  unfold nanMedian
  have : (vs.filter (fun v => v.finite?.isSome)).filterMap Val.finite? = vs.filterMap Val.finite? := by
    induction vs with
    | nil => rfl
    | cons v vs ih =>
      cases hv : v.finite? <;> simp [hv, ih]
  rw [this]

end CnvVerif
