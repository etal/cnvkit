/-
  `FDRThres` as written (Model/HaarExt5Fdr.lean): its descending sort, the last index of `np.nonzero`, the largest
  peak.
-/
import CnvVerif.Model.HaarExt5Fdr
import CnvVerif.Lemmas.HaarUnify
import Mathlib.Tactic.Linarith
import Mathlib.Tactic.FieldSimp
import Mathlib.Tactic.NormNum

namespace CnvVerif.HaarFdr
open CnvVerif.Haar

theorem sortDesc_eq (l : List Rat) : sortDesc l = l.insertionSort (fun x y => y < x) := by
  have e : insertDesc = List.orderedInsert (fun x y => y < x) := by
    funext x l
    induction l with
    | nil => rfl
    | cons y ys ih => simp only [insertDesc, List.orderedInsert_cons, ih]
  rw [sortDesc, e]; rfl

theorem mem_sortDesc (a : Rat) (l : List Rat) : a ∈ sortDesc l ↔ a ∈ l :=
  sortDesc_eq l ▸ (List.perm_insertionSort _ l).mem_iff

theorem length_sortDesc (l : List Rat) : (sortDesc l).length = l.length :=
  sortDesc_eq l ▸ (List.perm_insertionSort _ l).length_eq

/-- what Mathlib's `List.pairwise_insertionSort` lacks: the test `p` that places an element need not be the order `r`
    the result is sorted by, nor total -/
theorem pairwise_orderedInsert_of {α : Type} {p r : α → α → Prop} [DecidableRel p]
    (tr : ∀ a b c, r a b → r b c → r a c) (x : α) (h1 : ∀ y, p x y → r x y) (h2 : ∀ y, ¬ p x y → r y x)
    (l : List α) (h : l.Pairwise r) : (l.orderedInsert p x).Pairwise r := by
  induction l with
  | nil => simp
  | cons z zs ih =>
    obtain ⟨hz, hzs⟩ := List.pairwise_cons.mp h
    rw [List.orderedInsert_cons]
    split
    · rename_i hxz
      exact List.pairwise_cons.mpr ⟨fun y hy => (List.mem_cons.mp hy).elim (· ▸ h1 _ hxz)
        (fun hy => tr _ _ _ (h1 _ hxz) (hz y hy)), h⟩
    · rename_i hxz
      exact List.pairwise_cons.mpr ⟨fun y hy =>
        (List.mem_cons.mp ((List.perm_orderedInsert p x zs).mem_iff.mp hy)).elim (· ▸ h2 _ hxz) (hz y), ih hzs⟩

theorem pairwise_insertionSort_of {α : Type} {p r : α → α → Prop} [DecidableRel p]
    (tr : ∀ a b c, r a b → r b c → r a c) (h1 : ∀ x y, p x y → r x y) (h2 : ∀ x y, ¬ p x y → r y x) (l : List α) :
    (l.insertionSort p).Pairwise r := by
  induction l with
  | nil => simp
  | cons y ys ih => exact pairwise_orderedInsert_of tr y (h1 y) (h2 y) _ ih

/-- `insertDesc` places by `<` and the result is sorted by `≥` (it is not `orderedInsert (· ≥ ·)`: ties go behind) -/
theorem sortDesc_sorted (l : List Rat) : (sortDesc l).Pairwise (fun a b => b ≤ a) := by
  rw [sortDesc_eq]
  exact pairwise_insertionSort_of (p := fun x y => y < x) (r := fun a b => b ≤ a)
    (fun _ _ _ h1 h2 => Rat.le_trans h2 h1) (fun _ _ h => Rat.le_of_lt h) (fun _ _ h => Rat.not_lt.mp h) l

theorem length_xSorted (x : List Rat) : (xSorted x).length = x.length := by
  simp [xSorted, length_sortDesc]

theorem mem_xSorted (a : Rat) (x : List Rat) : a ∈ xSorted x ↔ ∃ v ∈ x, absQ v = a := by
  simp [xSorted, mem_sortDesc]

theorem le_top_of_mem_xSorted (a : Rat) (x : List Rat) (h : a ∈ xSorted x) : a ≤ top x := by
  unfold top
  have hs : (xSorted x).Pairwise (fun a b => b ≤ a) := sortDesc_sorted _
  cases hx : xSorted x with
  | nil => rw [hx] at h; simp at h
  | cons t ts =>
    rw [hx] at h hs
    obtain ⟨ht, _⟩ := List.pairwise_cons.mp hs
    rcases List.mem_cons.mp h with rfl | h
    · simp
    · simpa using ht a h

theorem abs_le_top (x : List Rat) (v : Rat) (hv : v ∈ x) : absQ v ≤ top x :=
  le_top_of_mem_xSorted _ x ((mem_xSorted _ x).mpr ⟨v, hv, rfl⟩)

theorem top_mem (x : List Rat) (hx : 1 ≤ x.length) : ∃ v ∈ x, absQ v = top x := by
  apply (mem_xSorted _ x).mp
  unfold top
  cases h : xSorted x with
  | nil =>
    have := length_xSorted x
    rw [h] at this
    simp at this
    omega
  | cons t ts => simp

theorem getD_mem_xSorted (x : List Rat) (i : Nat) (hi : i < x.length) : (xSorted x).getD i 0 ∈ xSorted x := by
  have hi' : i < (xSorted x).length := by rw [length_xSorted]; exact hi
  have : (xSorted x).getD i 0 = (xSorted x)[i] := by
    simp [List.getD_eq_getElem?_getD, List.getElem?_eq_getElem hi']
  rw [this]
  exact List.getElem_mem hi'

/-- the last element of `np.nonzero(mask)[0]` is the largest index whose mask bit is set -/
theorem getLast_filter_range_some (p : Nat → Bool) (M j : Nat)
    (h : ((List.range M).filter p).getLast? = some j) :
    j < M ∧ p j = true ∧ ∀ k, j < k → k < M → p k = false := by
  -- the filter of `range M` is increasing, so its last element is its largest
  obtain ⟨ys, e⟩ := List.getLast?_eq_some_iff.mp h
  have hs : (ys ++ [j]).Pairwise (· < ·) := e ▸ List.pairwise_lt_range.filter p
  have hj : j ∈ (List.range M).filter p := e ▸ List.mem_append_right ys (List.mem_singleton_self j)
  obtain ⟨hjM, hpj⟩ := List.mem_filter.mp hj
  refine ⟨List.mem_range.mp hjM, hpj, fun k hjk hkM => ?_⟩
  by_contra hp
  have hk : k ∈ ys ++ [j] := e ▸ List.mem_filter.mpr ⟨List.mem_range.mpr hkM, by simpa using hp⟩
  rcases List.mem_append.mp hk with hk | hk
  · have := (List.pairwise_append.mp hs).2.2 k hk j (List.mem_singleton_self j)
    omega
  · have := List.mem_singleton.mp hk
    omega

theorem getLast_filter_range_none (p : Nat → Bool) (M : Nat)
    (h : ((List.range M).filter p).getLast? = none) : ∀ k, k < M → p k = false := by
  intro k hk
  have hnil : (List.range M).filter p = [] := List.getLast?_eq_none_iff.mp h
  have := List.filter_eq_nil_iff.mp hnil k (List.mem_range.mpr hk)
  simpa using this

theorem fdrThresCdf_of_two (rnd : Rat → Rat) (cdf : Rat → Rat → Rat) (x : List Rat) (q sd : Rat) (h2 : 2 ≤ x.length) :
    fdrThresCdf rnd cdf x q sd = match (passing rnd cdf x q sd).getLast? with
      | some i => (xSorted x).getD i 0
      | none => rnd (top x + Generated.HAAR_FDR_EPS) :=
  if_neg (Nat.not_lt.mpr h2)

theorem mq_id (M : Nat) (q : Rat) (i : Nat) : mq id M q i = ((i + 1 : Nat) : Rat) / (M : Rat) * q := rfl

theorem eps_pos : (0 : Rat) < Generated.HAAR_FDR_EPS := by
  unfold Generated.HAAR_FDR_EPS
  norm_num

end CnvVerif.HaarFdr
