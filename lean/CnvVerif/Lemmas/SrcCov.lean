/-
  What the ties of the depth / log2 formulas of the coverage model (Model/Coverage.lean) to the expressions the
  translator reads off the current source (Generated/ExprsCov.lean, Props/C09Src.lean) share.
-/
import CnvVerif.Generated.ExprsCov
import CnvVerif.Model.Coverage
import Mathlib.Data.Rat.Floor
namespace CnvVerif.Src
open CnvVerif CnvVerif.Cov CnvVerif.Generated

/-- `depthOf` under any spelling `c` of the test "the bin has positive length" -/
theorem depthOf_eq_ite (bases s e : Int) (c : Prop) [Decidable c] (hc : c ↔ s < e) :
    depthOf bases s e = if c then (bases : Rat) / ((e : Rat) - (s : Rat)) else 0 := by
  unfold depthOf
  by_cases h : s < e
  · rw [if_pos h, if_pos (hc.mpr h), Int.cast_sub]
  · rw [if_neg h, if_neg (mt hc.mp h)]

theorem depthOf_nonneg (bc s e : Int) (h : 0 ≤ bc) : 0 ≤ depthOf bc s e := by
  unfold depthOf
  split
  · exact div_nonneg (Int.cast_nonneg h) (Int.cast_nonneg (by omega))
  · exact le_refl 0

end CnvVerif.Src
