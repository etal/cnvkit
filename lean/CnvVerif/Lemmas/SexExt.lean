/-
  Lemmas behind Props/C15Margin.lean and Props/C15MarginW.lean: a deterministic robustness margin for the sex
  inference of `compare_sex_chromosomes` on the median-difference path -- proved once for the five location estimates
  the decision is a function of, whatever estimator produced them -- and the Mood tables that put an input on that path.
  The noise-free case of Props/C15.lean (`sex_ideal`) is the margin at `d = 0` for a male sample; for a female one
  the chrX ratio is exactly 0 and annihilates any chrY ratio (`sexIsMaleOfEstimates_self`).
-/
import CnvVerif.Model.SexExt
import CnvVerif.Lemmas.Center
import Mathlib.Tactic.Linarith
import Mathlib.Tactic.Ring
import Mathlib.Tactic.NormNum
import Mathlib.Algebra.Order.Field.Basic
namespace CnvVerif

theorem medianR_shiftVals (l : List Rat) (hl : l ≠ []) (s : Rat) :
    medianR (shiftVals l s) = medianR l + s := medianR_transEquiv l s hl

/-- without a statistic on one side `compare_chrom` is the ratio of the median differences -/
theorem compareChrom_of_none_right (f m : AutoCmp) (hm : m.stat = none) :
    compareChrom f m = f.diff / max m.diff (1/100) := by
  unfold compareChrom; rw [hm]; cases f.stat <;> rfl

theorem isMale_none (xF xM : AutoCmp) : isMale xF xM none = decide (compareChrom xF xM > 1) := rfl

theorem compareChrom_of_some (f m : AutoCmp) (fs ms : Rat) (hf : f.stat = some fs) (hm : m.stat = some ms) :
    compareChrom f m = fs / max ms (1/100) := by
  unfold compareChrom; rw [hf, hm]

theorem ratio_gt_one (fd md : Rat) (h1 : md < fd) (h2 : 1/100 < fd) : 1 < fd / max md (1/100) := by
  have hpos : (0 : Rat) < max md (1/100) := lt_of_lt_of_le (by norm_num) (le_max_right _ _)
  rw [one_lt_div hpos]
  exact max_lt h1 h2

theorem ratio_lt_one (fd md : Rat) (h0 : 0 ≤ fd) (h1 : fd < md) :
    0 ≤ fd / max md (1/100) ∧ fd / max md (1/100) < 1 := by
  have hpos : (0 : Rat) < max md (1/100) := lt_of_lt_of_le (by norm_num) (le_max_right _ _)
  exact ⟨div_nonneg h0 (le_of_lt hpos), (div_lt_one hpos).mpr (lt_of_lt_of_le h1 (le_max_left _ _))⟩

theorem dist_near (A P a LP d : Rat) (hA : |A - a| ≤ d) (hP : |P - LP| ≤ d) :
    |a - LP| - 2 * d ≤ |A - P| ∧ |A - P| ≤ |a - LP| + 2 * d := by
  have h1 := abs_sub_abs_le_abs_sub (a - LP) (A - P)
  have h2 := abs_sub_abs_le_abs_sub (A - P) (a - LP)
  have h3 := abs_sub (A - a) (P - LP)
  rw [sub_sub_sub_comm] at h3
  rw [abs_sub_comm (a - LP) (A - P)] at h1
  constructor <;> linarith

/-- `A`, `P`, `Q` estimate the levels `a`, `LP`, `a` up to `d < 1/4`, and `LP` is a unit or more from `a`: `P` is more
    than 1/2 from `A`, `Q` less, so the ratio of the distances exceeds 1 … -/
theorem ratio_gt_one_of_near (A P Q a LP LQ d : Rat) (hd : 4 * d < 1) (hA : |A - a| ≤ d) (hP : |P - LP| ≤ d)
    (hQ : |Q - LQ| ≤ d) (hLP : 1 ≤ |a - LP|) (hLQ : LQ = a) : 1 < |A - P| / max |A - Q| (1/100) := by
  have hp := (dist_near A P a LP d hA hP).1
  have hq := (dist_near A Q a LQ d hA hQ).2
  rw [hLQ, sub_self, abs_zero] at hq
  apply ratio_gt_one <;> linarith

/-- … and with the roles of `P` and `Q` exchanged it lies in [0, 1) -/
theorem ratio_lt_one_of_near (A P Q a LP LQ d : Rat) (hd : 4 * d < 1) (hA : |A - a| ≤ d) (hP : |P - LP| ≤ d)
    (hQ : |Q - LQ| ≤ d) (hLP : LP = a) (hLQ : 1 ≤ |a - LQ|) :
    0 ≤ |A - P| / max |A - Q| (1/100) ∧ |A - P| / max |A - Q| (1/100) < 1 := by
  have hp := (dist_near A P a LP d hA hP).2
  have hq := (dist_near A Q a LQ d hA hQ).1
  rw [hLP, sub_self, abs_zero] at hp
  apply ratio_lt_one _ _ (abs_nonneg _)
  linarith

/-- the decision from the five location estimates: each within `d < 1/4` of its level (chrY of a female sample:
    at least 2 below the autosomes, its two estimates 3 apart up to `d`) ⇒ the true sex.  The X ratio and the Y
    ratio each fall on the side of 1 that names the sex, and so does their product. -/
theorem sexIsMaleOfEstimates_within_margin (hapX female : Bool) (a d A XF XM : Rat) (Y : Option (Rat × Rat))
    (hd : 4 * d < 1) (hA : |A - a| ≤ d)
    (hXF : |XF - (a + expectedX hapX female + (xShifts hapX).1)| ≤ d)
    (hXM : |XM - (a + expectedX hapX female + (xShifts hapX).2)| ≤ d)
    (hY : ∀ p, Y = some p →
      if female then (|p.1 - (p.2 + 3)| ≤ d ∧ p.2 ≤ a - 2) else (|p.1 - (a + 3)| ≤ d ∧ |p.2 - a| ≤ d)) :
    sexIsMaleOfEstimates A XF XM Y = !female := by
  obtain ⟨mF, mM, fF, fM⟩ := expectedX_add_xShifts hapX
  rw [add_assoc] at hXF hXM
  unfold sexIsMaleOfEstimates
  simp only [absR_eq_abs]
  cases female
  · rw [mF] at hXF; rw [mM] at hXM
    have hx := ratio_gt_one_of_near A XF XM a _ _ d hd hA hXF hXM (by norm_num) (add_zero a)
    cases Y with
    | none => exact decide_eq_true hx
    | some p =>
      have hp := hY p rfl
      simp only [Bool.false_eq_true, if_false] at hp
      have hy := ratio_gt_one_of_near A p.1 p.2 a _ _ d hd hA hp.1 hp.2 (by norm_num) rfl
      exact decide_eq_true (one_lt_mul_of_lt_of_le hx hy.le)
  · rw [fF] at hXF; rw [fM] at hXM
    have hx := ratio_lt_one_of_near A XF XM a _ _ d hd hA hXF hXM (add_zero a) (by norm_num)
    cases Y with
    | none => exact decide_eq_false (not_lt.mpr hx.2.le)
    | some p =>
      have hp := hY p rfl
      simp only [if_true] at hp
      -- chrY far below: `A - p.2 ≥ 2 - d`, and `A - p.1` is that minus 3 up to `d`, smaller in size
      have hy : 0 ≤ |A - p.1| / max |A - p.2| (1/100) ∧ |A - p.1| / max |A - p.2| (1/100) < 1 := by
        have hA' := abs_le.mp hA
        have he := abs_le.mp hp.1
        apply ratio_lt_one _ _ (abs_nonneg _)
        rw [abs_of_nonneg (by linarith : (0 : Rat) ≤ A - p.2), abs_lt]
        constructor <;> linarith
      exact decide_eq_false (not_lt.mpr (mul_le_one₀ hx.2.le hy.1 hy.2.le))

/-- the same for an estimator that moves with the data: one estimate per chromosome, shifted for the two
    hypotheses -/
theorem sexIsMaleOfEstimates_shifted (hapX female : Bool) (a d A X : Rat) (Y : Option Rat) (hd : 4 * d < 1)
    (hA : |A - a| ≤ d) (hX : |X - (a + expectedX hapX female)| ≤ d)
    (hY : ∀ y, Y = some y → if female then y ≤ a - 2 else |y - a| ≤ d) :
    sexIsMaleOfEstimates A (X + (xShifts hapX).1) (X + (xShifts hapX).2)
      (Y.map fun y => (y + yShifts.1, y + yShifts.2)) = !female := by
  have hd0 : 0 ≤ d := (abs_nonneg _).trans hA
  apply sexIsMaleOfEstimates_within_margin hapX female a d _ _ _ _ hd hA
  · rwa [add_sub_add_right_eq_sub]
  · rwa [add_sub_add_right_eq_sub]
  · intro p hp
    obtain ⟨y, hy, rfl⟩ := Option.map_eq_some_iff.mp hp
    have := hY y hy
    cases female
    · simp only [Bool.false_eq_true, if_false] at this ⊢
      exact ⟨by rwa [yShifts, add_sub_add_right_eq_sub], by rwa [yShifts, add_zero]⟩
    · simp only [if_true] at this ⊢
      exact ⟨by simpa [yShifts] using hd0, by rwa [yShifts, add_zero]⟩

theorem isMale_idealCmp (a v s₁ s₂ t₁ t₂ : Rat) (y : Option Rat) :
    isMale (idealCmp a v s₁) (idealCmp a v s₂) (y.map fun yl => (idealCmp a (a + yl) t₁, idealCmp a (a + yl) t₂)) =
      sexIsMaleOfEstimates a (v + s₁) (v + s₂) (y.map fun yl => (a + yl + t₁, a + yl + t₂)) := by
  cases y <;> rfl

/-- a chrX estimate under the female hypothesis that equals the autosomal one makes the chrX ratio exactly 0, which
    annihilates any chrY ratio: "female", whatever chrY says -/
theorem sexIsMaleOfEstimates_self (A XM : Rat) (Y : Option (Rat × Rat)) : sexIsMaleOfEstimates A A XM Y = false := by
  have h0 : absR (A - A) / max (absR (A - XM)) (1/100) = 0 := by rw [sub_self, absR_eq_abs, abs_zero, zero_div]
  unfold sexIsMaleOfEstimates
  rw [h0]
  cases Y
  · exact decide_eq_false (not_lt.mpr zero_le_one)
  · exact decide_eq_false (by rw [Option.map_some, sexScore, zero_mul]; exact not_lt.mpr zero_le_one)

/-- noise-free sex inference (the regime where Mood's test is degenerate and the code falls back to
    median differences): autosomes at level `a`, chrX at its expected level, chrY — when present —
    at `a` for a male sample and anywhere for a female one: the inferred sex is the true one, for
    both reference sexes -/
theorem sex_ideal (hapX female : Bool) (a : Rat) (y : Option Rat)
    (hy : female = false → y = none ∨ y = some 0) :
    isMale (idealCmp a (a + expectedX hapX female) (xShifts hapX).1)
           (idealCmp a (a + expectedX hapX female) (xShifts hapX).2)
           (y.map fun yl => (idealCmp a (a + yl) yShifts.1, idealCmp a (a + yl) yShifts.2))
      = !female := by
  rw [isMale_idealCmp]
  cases female
  · -- male: the margin at `d = 0`
    have := sexIsMaleOfEstimates_shifted hapX false a 0 a (a + expectedX hapX false) (y.map (a + ·)) (by norm_num)
      (by simp) (by simp) (fun v hv => by rcases hy rfl with rfl | rfl <;> simp_all)
    rwa [Option.map_map] at this
  · rw [add_assoc, (expectedX_add_xShifts hapX).2.2.1, add_zero]
    exact sexIsMaleOfEstimates_self _ _ _

/-- the margin for any location estimator: `A`, `X`, `Yv` lie between two of the values `f x` of the autosomal, chrX
    and chrY bins `lA lX lY` (`Desc.InHull`: so do `medianR` and `Desc.weightedMedianCore`); the estimates under the two
    hypotheses are these, shifted (what an estimator that moves with the data returns on the shifted values).  Bins
    within `d < 1/4` of their levels ⇒ the true sex.  `f` stays a parameter: with the values mapped at the call the
    unifier unfolds `weightedMedianCore`. -/
theorem sexIsMaleOfEstimates_of_estimator {α : Type} (f : α → Rat) (hapX female : Bool) (a d : Rat)
    (lA lX lY : List α) (A X XF XM Yv YF YM : Rat) (hd : 4 * d < 1)
    (hrA : Desc.InHull (lA.map f) A) (hrX : Desc.InHull (lX.map f) X) (hrY : lY ≠ [] → Desc.InHull (lY.map f) Yv)
    (hXF : XF = X + (xShifts hapX).1) (hXM : XM = X + (xShifts hapX).2)
    (hYF : lY ≠ [] → YF = Yv + yShifts.1) (hYM : lY ≠ [] → YM = Yv + yShifts.2)
    (hA : ∀ x ∈ lA, |f x - a| ≤ d) (hX : ∀ x ∈ lX, |f x - (a + expectedX hapX female)| ≤ d)
    (hY : if female then ∀ x ∈ lY, f x ≤ a - 2 else ∀ x ∈ lY, |f x - a| ≤ d) :
    sexIsMaleOfEstimates A XF XM (if lY.isEmpty then none else some (YF, YM)) = !female := by
  subst hXF hXM
  have hAn := hrA.near (List.forall_mem_map.mpr hA)
  have hXn := hrX.near (List.forall_mem_map.mpr hX)
  by_cases hy : lY = []
  · subst hy
    exact sexIsMaleOfEstimates_shifted hapX female a d A X none hd hAn hXn (fun _ h => nomatch h)
  · rw [List.isEmpty_eq_false_iff.mpr hy, hYF hy, hYM hy]
    refine sexIsMaleOfEstimates_shifted hapX female a d A X (some Yv) hd hAn hXn fun y e => ?_
    cases e
    cases female
    · exact (hrY hy).near (List.forall_mem_map.mpr hY)
    · exact (hrY hy).le (List.forall_mem_map.mpr hY)

theorem sexIsMaleFallback_eq_estimates (hapX : Bool) (auto xs ys : List Rat) :
    sexIsMaleFallback hapX auto xs ys =
      sexIsMaleOfEstimates (medianR auto) (medianR (shiftVals xs (xShifts hapX).1))
        (medianR (shiftVals xs (xShifts hapX).2))
        (if ys.isEmpty then none else
          some (medianR (shiftVals ys yShifts.1), medianR (shiftVals ys yShifts.2))) := by
  unfold sexIsMaleFallback sexIsMaleOfEstimates compareChromOf fallbackCmp compareChrom
  cases ys.isEmpty <;> rfl

/-- a degenerate Mood table leaves `compare_to_auto` without a statistic, whatever scipy's G is -/
theorem compareToAuto_of_degenerate (G : MoodTable → Rat) (auto vals : List Rat)
    (h : (moodTable auto vals).degenerate = true) : compareToAuto G auto vals = fallbackCmp auto vals := by
  unfold compareToAuto fallbackCmp
  simp only [h, if_true]

theorem sexIsMale_of_allDegenerate (G : MoodTable → Rat) (hapX : Bool) (auto xs ys : List Rat)
    (h : allDegenerate hapX auto xs ys = true) :
    sexIsMale G hapX auto xs ys = sexIsMaleFallback hapX auto xs ys := by
  unfold allDegenerate at h
  simp only [Bool.and_eq_true, Bool.or_eq_true] at h
  obtain ⟨⟨h1, h2⟩, h3⟩ := h
  unfold sexIsMale sexIsMaleFallback compareChromOf
  simp only [compareToAuto_of_degenerate G _ _ h1, compareToAuto_of_degenerate G _ _ h2]
  rcases h3 with h3 | ⟨h3, h4⟩
  · simp only [h3, if_true]
  · simp only [compareToAuto_of_degenerate G _ _ h3, compareToAuto_of_degenerate G _ _ h4]

theorem medianR_append_flat (a : Rat) (auto vals : List Rat) (hA : ∀ v ∈ auto, v = a)
    (hlen : vals.length < auto.length) : medianR (auto ++ vals) = a := by
  apply medianR_of_majority
  have : auto.count a = auto.length := List.count_eq_length.mpr fun v hv => (hA v hv).symm
  rw [List.length_append, List.count_append]
  omega

/-- flat autosomes (every autosomal bin at one value, e.g. a noise-free or fully smoothed profile) with more
    autosomal than sex-chromosome bins make every Mood table degenerate: the grand median is that value, all
    autosomal bins tie with it and are ignored -/
theorem moodTable_flat_degenerate (a : Rat) (auto vals : List Rat) (hA : ∀ v ∈ auto, v = a)
    (hlen : vals.length < auto.length) : (moodTable auto vals).degenerate = true := by
  unfold moodTable MoodTable.degenerate
  simp only [medianR_append_flat a auto vals hA hlen]
  have h1 : auto.countP (fun v => decide (a < v)) = 0 := by
    rw [List.countP_eq_zero]; intro v hv; simp [hA v hv]
  have h2 : auto.countP (fun v => decide (v < a)) = 0 := by
    rw [List.countP_eq_zero]; intro v hv; simp [hA v hv]
  simp [h1, h2]

end CnvVerif
