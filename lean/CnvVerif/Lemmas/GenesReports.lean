/-
  C16: after the grouping -- the rows `genemetrics` reports (`group_by_genes`, `gene_metrics_by_gene`,
  `gene_metrics_by_segment`, the final `min_probes` filter) and the breakpoints of `breaks` (`get_gene_intervals`,
  `get_breakpoints`), each as a membership statement over the model's pipeline.  Core Lean only.
-/
import CnvVerif.Lemmas.GenesKeys
import CnvVerif.Lemmas.GroupBy
namespace CnvVerif.Genes
open CnvVerif

theorem groupRow_fields {g : String} {rows : List Bin} {skip : Bool} {r : GRow}
    (h : groupRow g rows skip = some r) :
    ∃ first last, rows.head? = some first ∧ rows.getLast? = some last ∧
      r.gene = g ∧ r.chrom = first.chrom ∧ r.s = first.s ∧ r.e = last.e ∧
      r.probes = rows.length ∧ r.weight = sumRat (rows.map (·.weight)) ∧
      r.log2 = segmentMean rows skip ∧ r.segWeight = none ∧ r.segProbes = none ∧
      (r.weight ≠ 0 → r.depth = some (sumRat (rows.map (fun b => b.depth * b.weight)) / r.weight)) := by
  unfold groupRow at h
  split at h
  · rename_i first rest last hlast
    cases h
    refine ⟨first, last, rfl, hlast, rfl, rfl, rfl, rfl, rfl, rfl, rfl, rfl, rfl, ?_⟩
    exact fun hw => if_neg (fun hb => hw (eq_of_beq hb))
  · cases h

theorem groupRow_isSome {g : String} {rows : List Bin} {skip : Bool} (h : rows ≠ []) :
    ∃ r, groupRow g rows skip = some r := by
  cases rows with
  | nil => exact absurd rfl h
  | cons a as =>
    have hne : (a :: as) ≠ [] := by simp
    unfold groupRow
    rw [List.getLast?_eq_some_getLast hne]
    exact ⟨_, rfl⟩

theorem mem_groupByGenes {t : List Bin} {skip : Bool} {r : GRow} :
    r ∈ groupByGenes t skip ↔
      ∃ g grp, (g, grp) ∈ byGene defaultIgnore t ∧ grp ≠ [] ∧ skipNames.contains g = false ∧
        groupRow g grp skip = some r := by
  simp only [groupByGenes, byGeneV, List.mem_filterMap, List.mem_filter, Bool.false_eq_true, ↓reduceIte,
    Bool.and_eq_true, Bool.not_eq_eq_eq_not, Bool.not_true, List.isEmpty_eq_false_iff]
  constructor
  · rintro ⟨⟨g, grp⟩, ⟨hm, hne, hs⟩, hr⟩
    exact ⟨g, grp, hm, hne, hs, hr⟩
  · rintro ⟨g, grp, hm, hne, hs, hr⟩
    exact ⟨(g, grp), ⟨hm, hne, hs⟩, hr⟩

theorem mem_metricsByGene {t : List Bin} {thr : Rat} {skip : Bool} {r : GRow} :
    r ∈ metricsByGene t thr skip ↔
      ∃ g grp, (g, grp) ∈ byGene defaultIgnore t ∧ grp ≠ [] ∧ skipNames.contains g = false ∧
        groupRow g grp skip = some r ∧ reaches r.log2 thr = true := by
  simp only [metricsByGene, List.mem_filter, mem_groupByGenes, Bool.and_eq_true]
  constructor
  · rintro ⟨⟨g, grp, hm, hne, hs, hr⟩, hreach, _⟩
    exact ⟨g, grp, hm, hne, hs, hr, hreach⟩
  · rintro ⟨g, grp, hm, hne, hs, hr, hreach⟩
    refine ⟨⟨g, grp, hm, hne, hs, hr⟩, hreach, ?_⟩
    obtain ⟨_, _, _, _, hg, _⟩ := groupRow_fields hr
    rw [hg]
    have : g ≠ "" := by
      intro h0
      rw [h0] at hs
      simp [skipNames] at hs
    simpa using this

theorem mem_segsInOrder {segs : List SegRow} {sg : SegRow} : sg ∈ segsInOrder segs ↔ sg ∈ segs := by
  rw [segsInOrder, firstKeys_eq_eraseDups]
  exact (groups_flatMap_perm (fun sg : SegRow => sg.chrom) segs).mem_iff

/-- the final `min_probes` filter on a table that has the column `segment_probes` (every row carries it) or has not:
    the segment's probes decide where there are any, else the gene's own bins -/
theorem mem_minProbesFilter {rows : List GRow} {m : Nat} {r : GRow}
    (hu : (∀ x ∈ rows, x.segProbes.isSome = true) ∨ (∀ x ∈ rows, x.segProbes = none)) :
    r ∈ minProbesFilter rows m ↔ r ∈ rows ∧ (m = 0 ∨ match r.segProbes with
      | some p => (m : Int) ≤ p
      | none => m ≤ r.probes) := by
  unfold minProbesFilter
  by_cases hm : m = 0
  · subst hm
    exact ⟨fun h => ⟨h, Or.inl rfl⟩, fun h => h.1⟩
  · cases rows with
    | nil => simp only [List.isEmpty_nil, Bool.or_true, ↓reduceIte, List.not_mem_nil, false_and]
    | cons x xs =>
      simp only [beq_false_of_ne hm, List.isEmpty_cons, Bool.or_self, Bool.false_eq_true, ↓reduceIte, hm, false_or]
      rcases hu with hall | hnone
      · rw [if_pos (List.any_eq_true.mpr ⟨x, List.mem_cons_self, hall x List.mem_cons_self⟩), List.mem_filter]
        refine and_congr_right fun hr => ?_
        have hs := hall r hr
        cases hp : r.segProbes with
        | none => rw [hp] at hs; cases hs
        | some q => exact ⟨of_decide_eq_true, decide_eq_true⟩
      · rw [if_neg (fun h => by
          obtain ⟨y, hy, hys⟩ := List.any_eq_true.mp h
          rw [hnone y hy] at hys; cases hys), List.mem_filter, decide_eq_true_eq]
        exact and_congr_right fun hr => by rw [hnone r hr]

/-- the two-step recursion of `breakpoints` visits exactly the consecutive pairs -/
theorem mem_breakpoints (t : List Bin) (m : Nat) (segs : List SegRow) (brk : Brk) :
    brk ∈ breakpoints t m segs ↔
      ∃ cur nxt, Consecutive cur nxt segs ∧ brk ∈ breaksAt t m cur nxt := by
  -- fewer than two rows: no boundary
  have hshort : ∀ {l : List SegRow}, l.length < 2 →
      ¬ ∃ cur nxt, Consecutive cur nxt l ∧ brk ∈ breaksAt t m cur nxt := by
    rintro l hl ⟨cur, nxt, ⟨l1, l2, rfl⟩, _⟩
    simp only [List.length_append, List.length_cons] at hl
    omega
  induction segs with
  | nil => simpa only [breakpoints, List.not_mem_nil, false_iff] using hshort (l := []) (Nat.zero_lt_succ 1)
  | cons a rest ih =>
    cases rest with
    | nil => simpa only [breakpoints, List.not_mem_nil, false_iff] using hshort (l := [a]) (Nat.lt_succ_self 1)
    | cons b rest =>
      simp only [breakpoints, List.mem_append, ih]
      constructor
      · rintro (h | ⟨cur, nxt, ⟨l1, l2, h⟩, hb⟩)
        · exact ⟨a, b, ⟨[], rest, rfl⟩, h⟩
        · exact ⟨cur, nxt, ⟨a :: l1, l2, by rw [h]; rfl⟩, hb⟩
      · rintro ⟨cur, nxt, ⟨l1, l2, h⟩, hb⟩
        cases l1 with
        | nil =>
          simp only [List.nil_append, List.cons.injEq] at h
          obtain ⟨rfl, rfl, rfl⟩ := h
          exact Or.inl hb
        | cons x l1 =>
          simp only [List.cons_append, List.cons.injEq] at h
          exact Or.inr ⟨cur, nxt, ⟨l1, l2, h.2⟩, hb⟩

theorem le_maxInt {l : List Int} {x : Int} (h : x ∈ l) : x ≤ maxInt l := by
  cases l with
  | nil => cases h
  | cons y ys =>
    simp only [maxInt]
    rcases List.mem_cons.mp h with rfl | h
    · exact (foldl_max_ge ys x).1
    · exact (foldl_max_ge ys y).2 x h

theorem filter_gene_eq (t : List Bin) (c g : String) (ign : List String)
    (hg : ign.contains g = false) :
    (t.filter (fun b => b.chrom == c && !ign.contains b.gene)).filter (fun b => b.gene == g) =
      geneBins t c g := by
  rw [List.filter_filter]
  unfold geneBins
  apply List.filter_congr
  intro b _
  cases h : (b.gene == g)
  · simp
  · have : b.gene = g := by simpa using h
    rw [this, hg]
    simp

/-- the interval `get_gene_intervals` builds for the gene `g` of chromosome `c` -/
def ivOf (t : List Bin) (c g : String) : GeneIv :=
  { gene := g, starts := ((geneBins t c g).map (·.s)).mergeSort (fun a b => decide (a ≤ b)),
    stop := maxInt ((geneBins t c g).map (·.e)) }

theorem mem_geneIntervals (t : List Bin) (c : String) (iv : GeneIv) :
    iv ∈ geneIntervals t c ↔
      ∃ g, (fullIgnore defaultIgnore).contains g = false ∧ geneBins t c g ≠ [] ∧ iv = ivOf t c g := by
  unfold geneIntervals
  simp only [List.mem_mergeSort, List.mem_map, mem_firstKeys]
  constructor
  · rintro ⟨g, ⟨b, hb, rfl⟩, rfl⟩
    obtain ⟨hbt, hcond⟩ := List.mem_filter.mp hb
    simp only [Bool.and_eq_true, Bool.not_eq_eq_eq_not, Bool.not_true] at hcond
    obtain ⟨hc, hi⟩ := hcond
    refine ⟨b.gene, hi, ?_, ?_⟩
    · apply List.ne_nil_of_mem (a := b)
      unfold geneBins
      exact List.mem_filter.mpr ⟨hbt, by simp [hc]⟩
    · simp only [ivOf, filter_gene_eq t c b.gene _ hi]
  · rintro ⟨g, hi, hne, rfl⟩
    obtain ⟨b, hb⟩ := List.exists_mem_of_ne_nil _ hne
    unfold geneBins at hb
    obtain ⟨hbt, hcond⟩ := List.mem_filter.mp hb
    simp only [Bool.and_eq_true, beq_iff_eq] at hcond
    obtain ⟨hc, hg⟩ := hcond
    refine ⟨g, ⟨b, List.mem_filter.mpr ⟨hbt, ?_⟩, hg⟩, ?_⟩
    · rw [hg, hi, hc]; simp
    · simp only [ivOf, filter_gene_eq t c g _ hi]

theorem countP_starts (t : List Bin) (c g : String) (p : Int → Bool) :
    (ivOf t c g).starts.countP p = (geneBins t c g).countP (fun b => p b.s) := by
  simp only [ivOf]
  rw [(List.mergeSort_perm _ _).countP_eq p, List.countP_map]
  rfl

/-- the guard of `get_breakpoints` follows from one bin on each side of the boundary -/
theorem guard_of_counts (t : List Bin) (c g : String) (x : Int) (hpos : ∀ b ∈ t, b.s < b.e)
    (hl : 1 ≤ (geneBins t c g).countP (fun b => decide (b.s < x)))
    (hr : 1 ≤ (geneBins t c g).countP (fun b => decide (b.s ≥ x))) :
    (ivOf t c g).starts.headD 0 < x ∧ x < (ivOf t c g).stop := by
  constructor
  · obtain ⟨b, hb, hlt⟩ := List.countP_pos_iff.mp hl
    -- the starts are sorted: their head is at most this bin's start
    have hx : b.s ∈ (ivOf t c g).starts := List.mem_mergeSort.mpr (List.mem_map_of_mem hb)
    have hs : (ivOf t c g).starts.Pairwise (· ≤ ·) := pairwise_mergeSort_key (fun a : Int => a) _
    refine Int.lt_of_le_of_lt ?_ (of_decide_eq_true hlt)
    cases hst : (ivOf t c g).starts with
    | nil => rw [hst] at hx; cases hx
    | cons y ys =>
      rw [hst] at hx hs
      exact (List.mem_cons.mp hx).elim (fun e => Int.le_of_eq e.symm) (List.rel_of_pairwise_cons hs)
  · obtain ⟨b, hb, hge⟩ := List.countP_pos_iff.mp hr
    exact Int.lt_of_le_of_lt (of_decide_eq_true hge)
      (Int.lt_of_lt_of_le (hpos b (List.mem_filter.mp hb).1) (le_maxInt (List.mem_map_of_mem hb)))

theorem mem_breaksAt (t : List Bin) (m : Nat) (cur nxt : SegRow) (hm : 1 ≤ m)
    (hpos : ∀ b ∈ t, b.s < b.e) (brk : Brk) :
    brk ∈ breaksAt t m cur nxt ↔
      nxt.chrom = cur.chrom ∧
        ∃ g, (fullIgnore defaultIgnore).contains g = false ∧ geneBins t cur.chrom g ≠ [] ∧
          m ≤ (geneBins t cur.chrom g).countP (fun b => decide (b.s < cur.e)) ∧
          m ≤ (geneBins t cur.chrom g).countP (fun b => decide (b.s ≥ cur.e)) ∧
          brk = { gene := g, chrom := cur.chrom, loc := cur.e, change := nxt.log2 - cur.log2,
                  left := (geneBins t cur.chrom g).countP (fun b => decide (b.s < cur.e)),
                  right := (geneBins t cur.chrom g).countP (fun b => decide (b.s ≥ cur.e)) } := by
  unfold breaksAt
  by_cases hch : nxt.chrom = cur.chrom
  · simp only [bne_iff_ne, ne_eq, hch, not_true_eq_false, ↓reduceIte, List.mem_filterMap, mem_geneIntervals,
      Option.ite_none_right_eq_some, Bool.and_eq_true, decide_eq_true_eq, Option.some.injEq, true_and]
    constructor
    · rintro ⟨_, ⟨g, hi, hnil, rfl⟩, _, hcnt, rfl⟩
      rw [countP_starts, countP_starts] at hcnt
      exact ⟨g, hi, hnil, hcnt.1, hcnt.2, by rw [countP_starts, countP_starts]; rfl⟩
    · rintro ⟨g, hi, hnil, hl, hr, rfl⟩
      refine ⟨ivOf t cur.chrom g, ⟨g, hi, hnil, rfl⟩,
        guard_of_counts t cur.chrom g cur.e hpos (Nat.le_trans hm hl) (Nat.le_trans hm hr), ?_, ?_⟩
      · rw [countP_starts, countP_starts]
        exact ⟨hl, hr⟩
      · rw [countP_starts, countP_starts]
        rfl
  · simp only [bne_iff_ne, ne_eq, hch, not_false_eq_true, ↓reduceIte, List.not_mem_nil, false_and]

end CnvVerif.Genes
