/-
  Behind Props/C05Cluster.lean, where the statements about the per-cluster columns of `reference --cluster` are proved
  in place: the cluster path's block is an instance of `blockBy`, and an accepted run's columns are `clusterCols`
  over its own bins.
-/
import CnvVerif.Model.ReferenceExt5Cluster
import CnvVerif.Lemmas.ReferencePerm
namespace CnvVerif.Ref.C05Cl
open CnvVerif CnvVerif.Ref

/-- the pooled columns: the pseudo-sample's value first, then the samples' -/
theorem columns_cons (n : Nat) (flat : List Rat) (mat : List (List Rat)) :
    columns n (flat :: mat) = (List.range n).map fun j => flat.getD j 0 :: mat.map (fun row => row.getD j 0) := by
  simp [columns]

theorem blockLogr_eq (hapX : Bool) (par : Option String) (skipLow : Bool) (sexes : List (String × Bool))
    (samples : List Sample) :
    blockLogr hapX par skipLow sexes samples =
      blockBy (fun l => ([], l.map fun _ => [])) (fun first rest => (first.rows, (first :: rest).map fun s =>
        sampleLogr hapX par skipLow ((sexes.find? (·.1 == s.name)).map (·.2))
          (expectFlat hapX par (first.rows.map toC)) s.rows)) samples := rfl

theorem doCluster_cols (hapX : Bool) (par : Option String) (sexes : List (String × Bool))
    (targets : List Sample) (antitargets : Option (List Sample)) (members : List (List Nat)) (minSize : Nat)
    (tbl : ClusterTable) (h : doCluster hapX par sexes targets antitargets members minSize = .ok tbl) :
    ∃ mat, tbl.cols = clusterCols members minSize tbl.bins.length mat := by
  unfold doCluster at h
  simp only [bind, Except.bind, pure, Except.pure, throw, throwThe, MonadExceptOf.throw] at h
  -- `h` is a cascade of matches: the count check, the target block, the optional antitarget block; every branch is
  -- either an error (impossible by `h`) or returns a table whose columns are `clusterCols` by construction
  repeat' split at h
  all_goals cases h
  all_goals exact ⟨_, rfl⟩

end CnvVerif.Ref.C05Cl
