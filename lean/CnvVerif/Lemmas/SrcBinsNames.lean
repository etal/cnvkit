/-
  C12: two spellings of a length test (`len(x) > 0`, `len(x) >= 2`) that a re-translated `filter_names` may use; the tie
  of Props/C12SrcNames.lean falls back on them when `rfl` no longer does.
-/
import CnvVerif.Generated.ExprsBins
import CnvVerif.Model.Bins
import Mathlib.Tactic.SplitIfs
namespace CnvVerif.Src
open CnvVerif CnvVerif.Generated

theorem length_pos_decide {α} (l : List α) : decide (l.length > 0) = !l.isEmpty := by
  cases l <;> simp

theorem length_ge_two_decide {α} (l : List α) : decide (l.length ≥ 2) = decide (l.length > 1) := by
  apply decide_eq_decide.mpr
  omega

end CnvVerif.Src
