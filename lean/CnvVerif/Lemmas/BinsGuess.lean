/-
  `antitarget` without an access table: `guess_chromosome_regions` in closed form, on one chromosome,
  and the minimum size `do_antitarget` falls back on.
-/
import CnvVerif.Model.Bins
import CnvVerif.Lemmas.Basic
namespace CnvVerif

/-- end of the last row (table order) of chromosome `c` -/
def lastEndOf (tg : Table) (c : String) : Int :=
  (((tg.filter (fun r => r.chrom == c)).getLast?).map (·.e)).getD 0

theorem guessRegions_eq (tg : Table) :
    guessRegions tg =
      (chromsInOrder tg).map (fun c => ⟨c, Generated.TELOMERE_SIZE, lastEndOf tg c, ""⟩) := by
  unfold guessRegions groupByChrom lastEndOf
  rw [List.map_map]
  rfl

theorem guessRegions_chroms (tg : Table) : (guessRegions tg).map (·.chrom) = chromsInOrder tg := by
  rw [guessRegions_eq, List.map_map]
  exact List.map_id' _

theorem effectiveAccess_none (tg : Table) : effectiveAccess tg none = .ok (guessRegions tg) := rfl

theorem effectiveAccess_empty (tg : Table) : effectiveAccess tg (some []) = .ok (guessRegions tg) := rfl

/-- targets on one chromosome: the guessed extent runs from the telomere allowance to the end of
    the LAST target row -/
theorem guessRegions_single (c : String) (tg : Table) (last : Row) (hlast : tg.getLast? = some last)
    (hc : ∀ r ∈ tg, r.chrom = c) :
    guessRegions tg = [⟨c, Generated.TELOMERE_SIZE, last.e, ""⟩] := by
  have hne : tg ≠ [] := by
    intro h; rw [h] at hlast; cases hlast
  rw [guessRegions_eq, chromsInOrder_const tg c hc hne]
  simp only [List.map_cons, List.map_nil]
  unfold lastEndOf
  rw [filter_chrom_self tg c hc, hlast]
  rfl

theorem doAntitarget_none (tg : Table) (acc : Option Table) (avg : Rat) :
    doAntitarget tg acc avg none = getAntitargets tg acc avg (defaultMinSize avg) := rfl

theorem doAntitarget_zero (tg : Table) (acc : Option Table) (avg : Rat) :
    doAntitarget tg acc avg (some 0) = getAntitargets tg acc avg (defaultMinSize avg) := rfl

end CnvVerif
