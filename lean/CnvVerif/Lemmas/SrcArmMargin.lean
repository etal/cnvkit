/-
  `GenomicArray.by_arm`: the margin `max(min_arm_bins, int(round(0.1 * len(subtable))))` as the translator reads it
  off the current source (Generated/ExprsByArm.lean) against the model's `max minArmBins (roundTenth n)`.
  In a module of its own so that an edit to the margin breaks exactly the margin obligations.
-/
import CnvVerif.Generated.ExprsByArm
import CnvVerif.Model.Tile
import CnvVerif.Lemmas.Round
import Mathlib.Data.Rat.Floor
import Mathlib.Tactic.Linarith
namespace CnvVerif.Src
open CnvVerif CnvVerif.Generated

/-- the source's margin: the translator's rendering of Python's `round` is `roundHalfEven`; 0.1 is the double nearest to it -/
theorem margin_eq (k n : Rat) :
    src_by_arm_margin k n = max k (roundHalfEven ((3602879701896397 : Rat) / 36028797018963968 * n) : Int) := by
  unfold src_by_arm_margin
  generalize (3602879701896397 : Rat) / 36028797018963968 * n = r
  have h1 : 2 * (r - (r.floor : Rat)) < 1 ↔ r - r.floor < 1 / 2 := by constructor <;> intro h <;> linarith
  have h2 : 2 * (r - (r.floor : Rat)) > 1 ↔ r - r.floor > 1 / 2 := by constructor <;> intro h <;> linarith
  simp only [roundHalfEven, h1, h2, beq_iff_eq, Int.cast_ite]

/-- the model's rounding is within 5/10 of `n / 10`, and within 4/10 away from the tie (a final 5) -/
theorem roundTenth_near (n : Nat) :
    10 * roundTenth n ≤ n + 5 ∧ (n % 10 ≠ 5 → 10 * roundTenth n ≤ n + 4 ∧ n ≤ 10 * roundTenth n + 4) := by
  unfold roundTenth
  simp only []
  split_ifs <;> omega

/-- `round(0.1 * n)` with 0.1 the double: that double is `1/10 + 1/180143985094819840`, so below 10¹⁵ the product is
    less than 1/100 above `n / 10` and rounds to any `z` with `|n - 10 z| ≤ 5`, the upper tie excluded -/
theorem margin_of_near (k : Rat) (n z : Nat) (hn : n < 10 ^ 15) (h1 : 10 * z ≤ n + 5) (h2 : n + 6 ≤ 10 * z + 10) :
    src_by_arm_margin k n = max k z := by
  have hd : (3602879701896397 : Rat) / 36028797018963968 = 1 / 10 + 1 / 180143985094819840 := by norm_num
  have h1R : (10 : Rat) * z ≤ n + 5 := by exact_mod_cast h1
  have h2R : (n : Rat) + 6 ≤ 10 * z + 10 := by exact_mod_cast h2
  have hnR : (n : Rat) < 10 ^ 15 := by exact_mod_cast hn
  rw [margin_eq, hd, add_mul, roundHalfEven_near _ (z : Int) ?_ (by push_cast; linarith), Int.cast_natCast]
  -- at the lower tie `n = 10 z - 5` is positive, and the excess of the double decides
  rcases Nat.eq_zero_or_pos n with rfl | hp
  · have : z = 0 := by omega
    subst this; norm_num
  · have : (1 : Rat) ≤ n := by exact_mod_cast hp
    push_cast; linarith

end CnvVerif.Src
