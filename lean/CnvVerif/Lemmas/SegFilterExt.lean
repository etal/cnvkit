/-
  Lemmas about the glue around the filters (Model/SegFilterExt.lean): the `require_column` guards, the columns that
  survive a squash, the order in which `do_call` applies a list of filters, and what a chain of filters conserves.
-/
import CnvVerif.Model.SegFilterExt
import CnvVerif.Lemmas.SegFilter
namespace CnvVerif

theorem preFilters_eq : preFilters = [Filt.ci, Filt.sem] := by decide +kernel

theorem needs_ci : Filt.ci.needs = ["ci_lo", "ci_hi"] := by decide +kernel
theorem needs_sem : Filt.sem.needs = ["sem"] := by decide +kernel

theorem colsAfterSquash_drops (cols : List String) (c : String)
    (hc : Generated.SQUASH_OUT_COLUMNS.contains c = false) : (colsAfterSquash cols).contains c = false := by
  rw [colsAfterSquash, List.contains_eq_mem, decide_eq_false_iff_not, List.mem_filter, hc]
  exact fun h => absurd h.2 (by decide)

theorem segmetrics_not_written :
    ∀ c ∈ ["ci_lo", "ci_hi", "sem"], Generated.SQUASH_OUT_COLUMNS.contains c = false := by decide +kernel

theorem run_ok (f : Filt) (t t' : Tab) (h : f.run t = .ok t') :
    t' = { cols := colsAfterSquash t.cols, rows := f.apply (t.cols.contains "cn1") t.rows } := by
  unfold Filt.run at h
  split at h
  · cases h; rfl
  · cases h

theorem run_missing_column (f : Filt) (t : Tab) (c : String) (hc : c ∈ f.needs) (hm : t.cols.contains c = false) :
    f.run t = .error f.name := by
  unfold Filt.run
  rw [if_neg]
  intro hall
  have := List.all_eq_true.mp hall c hc
  rw [hm] at this
  exact absurd this (by decide)

/-- after any filter has run, a filter that needs a column no squash writes (`ci`, `sem`) can no longer run -/
theorem run_after_squash_raises {f g : Filt} {t t' : Tab} (h : f.run t = .ok t') {c : String} (hc : c ∈ g.needs)
    (hw : Generated.SQUASH_OUT_COLUMNS.contains c = false) : g.run t' = .error g.name :=
  run_missing_column g t' c hc (by rw [run_ok f t t' h]; exact colsAfterSquash_drops _ c hw)

/-- the filters `do_call` applies after calling: the list without `ci` and `sem`, order kept -/
def postFilters (fs : List Filt) : List Filt := fs.filter (fun f => f != Filt.ci && f != Filt.sem)

/-- one round of `do_call`'s loop over the pre-call filters: the filter runs if it is named, and is taken off the list
    (`list.remove` of a filter that is not named leaves the list as it is) -/
theorem preLoop_cons (p : Filt) (ps : List Filt) (t : Tab) (fs : List Filt) :
    preLoop (p :: ps) t fs = (if p ∈ fs then p.run t else .ok t).bind fun t' => preLoop ps t' (fs.erase p) := by
  rw [preLoop]
  by_cases h : p ∈ fs
  · rw [if_pos (List.contains_iff_mem.mpr h), if_pos h]
    cases p.run t <;> rfl
  · rw [if_neg (mt List.contains_iff_mem.mp h), if_neg h, List.erase_of_not_mem h]
    rfl

/-- `do_call`'s handling of the filter list, written out: `ci` if it is named, then `sem` if it is named, each on the
    un-called table and each taken off the list; then the calling step; then what is left of the list, in the order given -/
theorem doCallFiltersE_eq (call : Tab → Tab) (fs : List Filt) (t : Tab) :
    doCallFiltersE call fs t =
      (if Filt.ci ∈ fs then Filt.ci.run t else .ok t).bind fun t1 =>
      (if Filt.sem ∈ fs then Filt.sem.run t1 else .ok t1).bind fun t2 =>
      runChain ((fs.erase Filt.ci).erase Filt.sem) (call t2) := by
  unfold doCallFiltersE
  rw [preFilters_eq, preLoop_cons]
  cases (if Filt.ci ∈ fs then Filt.ci.run t else .ok t) with
  | error e => rfl
  | ok t1 =>
    dsimp only [Except.bind]
    rw [preLoop_cons]
    simp only [List.mem_erase_of_ne (by decide : Filt.sem ≠ Filt.ci)]
    cases (if Filt.sem ∈ fs then Filt.sem.run t1 else .ok t1) <;> rfl

/-! ## conservation through a whole chain of filters — no hypothesis on the table

  `squash_by_groups` conserves the totals on every table (`squashByGroups_conserves`), the three squashing filters are
  `squash_by_groups` on their level, and therefore every chain of them conserves the totals. -/

theorem Filt.apply_eq {f : Filt} (hf : f ≠ Filt.ampdel) (h : Bool) (t : List Seg) :
    f.apply h t = squashByGroups h t (t.map f.level) := by
  cases f with
  | ampdel => exact absurd rfl hf
  | _ => rfl

theorem run_conserves (f : Filt) (hf : f ≠ Filt.ampdel) (t t1 : Tab) (h : f.run t = .ok t1) : totals t1.rows = totals t.rows := by
  -- rewriting the goal with `Filt.apply_eq` first makes the final `exact` search for the level function
  have := squashByGroups_conserves (t.cols.contains "cn1") t.rows f.level
  rw [← Filt.apply_eq hf] at this
  rw [run_ok f t t1 h]
  exact this

/-- a pre-call filter of `do_call` (`doCallFiltersE_eq`): run if it is named -/
theorem optRun_conserves {f : Filt} (hf : f ≠ Filt.ampdel) {fs : List Filt} {t t1 : Tab}
    (h : (if f ∈ fs then f.run t else .ok t) = .ok t1) : totals t1.rows = totals t.rows := by
  split at h
  · exact run_conserves f hf t t1 h
  · cases h; rfl

theorem runChain_conserves (fs : List Filt) (hfs : Filt.ampdel ∉ fs) (t t' : Tab) (hr : runChain fs t = .ok t') :
    totals t'.rows = totals t.rows := by
  induction fs generalizing t with
  | nil => cases hr; rfl
  | cons f fs ih =>
    rw [runChain] at hr
    split at hr
    · rename_i t1 hf
      exact (ih (fun h => hfs (List.mem_cons_of_mem _ h)) t1 hr).trans
        (run_conserves f (fun h => hfs (h ▸ List.mem_cons_self)) t t1 hf)
    · cases hr

end CnvVerif
