/-
  Lemmas behind Props/C17Glue.lean, on the column store of Lemmas/Frame.lean: the frame of `do_segmetrics` as its four
  groups of assignments and read in closed form (`segmetricsFrame_get?`); when and where `_cmd_segmetrics` writes.
-/
import CnvVerif.Lemmas.Frame
namespace CnvVerif.Stats

variable {α : Type}

theorem segmetricsFrame_eq (segs : Frame α) (loc spread interval : List String)
    (locVal spreadVal : String → α) (ciLo ciHi piLo piHi : α) :
    segmetricsFrame segs loc spread interval locVal spreadVal ciLo ciHi piLo piHi =
      (((segs.assignAll (loc.map (fun nm => (nm, locVal nm)))).assignAll
        (spread.map (fun nm => (nm, spreadVal nm)))).assignAll
        (if interval.contains "ci" then [("ci_lo", ciLo), ("ci_hi", ciHi)] else [])).assignAll
        (if interval.contains "pi" then [("pi_lo", piLo), ("pi_hi", piHi)] else []) := by
  unfold segmetricsFrame segmetricsAssigns
  rw [Frame.assignAll_append, Frame.assignAll_append, Frame.assignAll_append]

/-- which assignment of `do_segmetrics` a column of the result comes from: the last one made to its name -/
theorem segmetricsFrame_get? (segs : Frame α) (loc spread interval : List String) (locVal spreadVal : String → α)
    (ciLo ciHi piLo piHi : α) (k : String) :
    (segmetricsFrame segs loc spread interval locVal spreadVal ciLo ciHi piLo piHi).get? k =
      if "pi" ∈ interval ∧ k = "pi_hi" then some piHi else if "pi" ∈ interval ∧ k = "pi_lo" then some piLo
      else if "ci" ∈ interval ∧ k = "ci_hi" then some ciHi else if "ci" ∈ interval ∧ k = "ci_lo" then some ciLo
      else if k ∈ spread then some (spreadVal k) else if k ∈ loc then some (locVal k) else segs.get? k := by
  rw [segmetricsFrame_eq]
  by_cases hp : "pi" ∈ interval <;> by_cases hc : "ci" ∈ interval <;>
    simp only [List.contains_iff_mem, hp, hc, if_true, if_false, true_and, false_and, Frame.assignAll_cons,
      Frame.assignAll_nil, Frame.get?_assign, Frame.get?_assignAll_keyed, reduceCtorEq]

/-- `_cmd_segmetrics` with its tests as propositions -/
theorem cmdSegmetrics_eq (alpha : Rat) (loc spread interval : List String) (output : Option String) (sid : String) :
    cmdSegmetrics alpha loc spread interval output sid =
      if ¬ (0 < alpha ∧ alpha ≤ 1) then .refuse
      else if loc = [] ∧ spread = [] ∧ interval = [] then .nothing
      else .write (match output with
        | some o => if o.isEmpty then sid ++ ".segmetrics.cns" else o
        | none => sid ++ ".segmetrics.cns") := by
  unfold cmdSegmetrics
  simp only [Bool.not_eq_true', Bool.and_eq_true, decide_eq_true_eq, List.isEmpty_iff, Bool.and_eq_false_imp,
    decide_eq_false_iff_not, not_and, and_assoc]
  congr

theorem cmdSegmetrics_write_iff (alpha : Rat) (loc spread interval : List String) (output : Option String)
    (sid p : String) :
    cmdSegmetrics alpha loc spread interval output sid = .write p ↔
      (0 < alpha ∧ alpha ≤ 1) ∧ ¬ (loc = [] ∧ spread = [] ∧ interval = []) ∧
        p = (match output with
          | some o => if o.isEmpty then sid ++ ".segmetrics.cns" else o
          | none => sid ++ ".segmetrics.cns") := by
  rw [cmdSegmetrics_eq]
  by_cases ha : 0 < alpha ∧ alpha ≤ 1
  · by_cases he : loc = [] ∧ spread = [] ∧ interval = []
    · rw [if_neg (not_not_intro ha), if_pos he]
      exact ⟨fun h => (nomatch h), fun h => absurd he h.2.1⟩
    · rw [if_neg (not_not_intro ha), if_neg he]
      exact ⟨fun h => ⟨ha, he, (CmdOutcome.write.inj h).symm⟩, fun h => congrArg _ h.2.2.symm⟩
  · rw [if_pos ha]
    exact ⟨fun h => (nomatch h), fun h => absurd h.1 ha⟩

end CnvVerif.Stats
