/-
  The loop the translator reads off `call.absolute_threshold` on every run (Generated/ExprsScan.lean, `scan_rows` of
  harness/exprtrans.py), started at any index, computes the model's step value at the first index with `log2 ≤ thr[i]` and
  the ceil above the last (`scan_from`); Python's `int(..)` spellings on the way.  Props/C02SrcScan.lean concludes.
-/
import CnvVerif.Generated.ExprsScan
import CnvVerif.Lemmas.Call
import CnvVerif.Lemmas.SrcInt
-- Proofs of the shape `first | rfl | script`: the script is for a source expression the translator re-reads in an
-- equivalent spelling; while `rfl` closes the goal the script is dead, hence the linter switches.
set_option linter.unusedTactic false
set_option linter.unusedSimpArgs false
set_option linter.unreachableTactic false
namespace CnvVerif.Src
open CnvVerif CnvVerif.Generated

/-- `int(cnum * ref_copies / ploidy)` is the natural-number division of the model -/
theorem intTrunc_scaled (i r ploidy : Nat) :
    (if ((i : Rat) * (r : Rat)) / (ploidy : Rat) < 0 then (((((i : Rat) * (r : Rat)) / (ploidy : Rat)).ceil : Int) : Rat)
      else (((((i : Rat) * (r : Rat)) / (ploidy : Rat)).floor : Int) : Rat)) = (((i * r / ploidy : Nat) : Int) : Rat) :=
  pyInt_eq_natDiv (by rw [Nat.cast_mul])

/-- the step value as a rational, in the shape the source computes it -/
theorem scaledIdx_cast (ploidy r i : Nat) :
    ((scaledIdx ploidy r i : Int) : Rat) =
      (if (r : Rat) ≠ (ploidy : Rat) then (((i * r / ploidy : Nat) : Int) : Rat) else (i : Rat)) := by
  unfold scaledIdx
  by_cases h : r = ploidy
  · rw [if_neg (not_not.mpr h), if_neg (not_not.mpr (congrArg Nat.cast h)), Int.cast_natCast]
  · rw [if_pos h, if_pos (fun h' => h (Nat.cast_injective h'))]

theorem scan_from (thr : List Rat) (ploidy r : Nat) (v t : Rat) (k : Nat) :
    src_absolute_threshold_scan v t (ploidy : Rat) (r : Rat) k thr =
      (match thr.findIdx? (fun th => decide (v ≤ th)) with
       | some i => ((scaledIdx ploidy r (k + i) : Int) : Rat)
       | none => ((((r : Rat) * t).ceil : Int) : Rat)) := by
  induction thr generalizing k with
  | nil =>
    simp only [src_absolute_threshold_scan, List.findIdx?_nil]
    first
    | exact pyInt_intCast _
    | (rw [show (t * (r : Rat)) = (r : Rat) * t from mul_comm _ _]; exact pyInt_intCast _)
  | cons a l ih =>
    rw [List.findIdx?_cons]
    unfold src_absolute_threshold_scan
    by_cases hva : v ≤ a
    · simp only [hva, ge_iff_le, decide_true, if_true, Nat.add_zero]
      rw [scaledIdx_cast]
      by_cases hrp : r = ploidy
      · subst hrp; simp
      · have h1 : (r : Rat) ≠ (ploidy : Rat) := by exact_mod_cast hrp
        have h2 : (ploidy : Rat) ≠ (r : Rat) := fun h => h1 h.symm
        simp only [ne_eq, h1, h2, not_false_eq_true, if_true, not_true_eq_false, if_false, not_not]
        exact pyInt_eq_natDiv (a := k * r) (by push_cast; ring)
    · simp only [hva, ge_iff_le, decide_false, if_false, Bool.false_eq_true]
      rw [ih (k + 1)]
      cases l.findIdx? (fun th => decide (v ≤ th)) with
      | none => rfl
      | some i => simp only [Option.map_some]; rw [show k + 1 + i = k + (i + 1) by omega]

end CnvVerif.Src
