/-
  `FindLocalPeaks`: one induction principle for the loop in absolute indices (`findLocalPeaks_ind`) and an invariant
  of one step (`peakStep_inv`); on a signal without a non-zero plateau the loop is the filter of the strict extrema,
  and on the image of a `Unimodal` shape under a strictly monotone or antitone map that is the single index of the top.
-/
import CnvVerif.Lemmas.Haar
namespace CnvVerif.Haar

theorem peaks_drop_getD (sig : List Rat) (i : Nat) (h : i < sig.length) :
    sig.drop i = sig.getD i 0 :: sig.drop (i + 1) := by
  rw [List.drop_eq_getElem_cons h]
  simp [List.getD_eq_getElem?_getD, h]

theorem peakStep_emit (k : Nat) (mx mn : Option Nat) (p c nx : Rat)
    (hx : (0 < c ∧ p < c ∧ nx < c) ∨ (c < 0 ∧ c < p ∧ c < nx)) :
    (peakStep k mx mn p c nx).1 = [k] := by
  unfold peakStep
  rcases hx with ⟨h0, h1, h2⟩ | ⟨h0, h1, h2⟩
  · simp [h0, h1, h2]
  · have : ¬ 0 < c := not_lt.mpr (le_of_lt h0)
    simp [h0, h1, h2, this]

/-- every index a state `(emitted, maxSuspect, minSuspect)` of the loop emits or still suspects satisfies `Q` -/
abbrev PeakInv (Q : Nat → Prop) (r : List Nat × Option Nat × Option Nat) : Prop :=
  (∀ j ∈ r.1, Q j) ∧ (∀ s, r.2.1 = some s → Q s) ∧ (∀ s, r.2.2 = some s → Q s)

theorem peakStep_inv (Q : Nat → Prop) (k : Nat) (mx mn : Option Nat) (p c nx : Rat)
    (hmx : ∀ s, mx = some s → Q s) (hmn : ∀ s, mn = some s → Q s)
    (hk : ((0 < c ∧ p < c ∧ nx ≤ c) ∨ (c < 0 ∧ c < p ∧ c ≤ nx)) → Q k) :
    PeakInv Q (peakStep k mx mn p c nx) := by
  have nil : ∀ j ∈ ([] : List Nat), Q j := fun _ h => nomatch h
  have non : ∀ s, (none : Option Nat) = some s → Q s := fun _ h => nomatch h
  have one : ∀ {a}, Q a → ∀ j ∈ [a], Q j := fun qa j hj => List.mem_singleton.mp hj ▸ qa
  have som : ∀ {a}, Q a → ∀ s, some a = some s → Q s := fun qa s hs => Option.some.inj hs ▸ qa
  -- branch by branch: what is emitted or newly suspected is `k` under `hk`'s condition or an old suspect
  unfold peakStep
  by_cases h0 : 0 < c
  · rw [if_pos h0]
    by_cases h1 : p < c ∧ nx < c
    · rw [if_pos h1]
      exact ⟨one (hk (Or.inl ⟨h0, h1.1, h1.2.le⟩)), hmx, hmn⟩
    by_cases h2 : p < c ∧ c = nx
    · rw [if_neg h1, if_pos h2]
      exact ⟨nil, som (hk (Or.inl ⟨h0, h2.1, h2.2.ge⟩)), hmn⟩
    by_cases h3 : c = p ∧ nx < c
    · rw [if_neg h1, if_neg h2, if_pos h3]
      cases mx with
      | none => exact ⟨nil, non, hmn⟩
      | some s => exact ⟨one (hmx s rfl), non, hmn⟩
    by_cases h4 : c = p ∧ c < nx
    · rw [if_neg h1, if_neg h2, if_neg h3, if_pos h4]
      exact ⟨nil, non, hmn⟩
    · rw [if_neg h1, if_neg h2, if_neg h3, if_neg h4]
      exact ⟨nil, hmx, hmn⟩
  by_cases h5 : c < 0
  · rw [if_neg h0, if_pos h5]
    by_cases h6 : c < p ∧ c < nx
    · rw [if_pos h6]
      exact ⟨one (hk (Or.inr ⟨h5, h6.1, h6.2.le⟩)), hmx, hmn⟩
    by_cases h7 : c < p ∧ c = nx
    · rw [if_neg h6, if_pos h7]
      exact ⟨nil, hmx, som (hk (Or.inr ⟨h5, h7.1, h7.2.le⟩))⟩
    by_cases h8 : c = p ∧ c < nx
    · rw [if_neg h6, if_neg h7, if_pos h8]
      cases mn with
      | none => exact ⟨nil, hmx, non⟩
      | some s => exact ⟨one (hmn s rfl), hmx, non⟩
    by_cases h9 : c = p ∧ nx < c
    · rw [if_neg h6, if_neg h7, if_neg h8, if_pos h9]
      exact ⟨nil, hmx, non⟩
    · rw [if_neg h6, if_neg h7, if_neg h8, if_neg h9]
      exact ⟨nil, hmx, hmn⟩
  · rw [if_neg h0, if_neg h5]
    exact ⟨nil, hmx, hmn⟩

/-- the loop at index `k` of `sig`: one `peakStep` on `(sig[k-1], sig[k], sig[k+1])` -/
abbrev stepAt (sig : List Rat) (k : Nat) (mx mn : Option Nat) : List Nat × Option Nat × Option Nat :=
  peakStep k mx mn (sig.getD (k - 1) 0) (sig.getD k 0) (sig.getD (k + 1) 0)

/-- `P k mx mn out`: "entered at index `k` with suspects `mx`, `mn`, the loop
still reports `out`".  It holds of `FindLocalPeaks(sig)` at `(1, none, none)` if it holds of the empty report past the
last interior index and is carried backwards over one `peakStep` at each interior index. -/
theorem findLocalPeaks_ind (sig : List Rat) (P : Nat → Option Nat → Option Nat → List Nat → Prop)
    (nil : ∀ k mx mn, sig.length ≤ k + 1 → P k mx mn [])
    (step : ∀ k mx mn out, 1 ≤ k → k + 2 ≤ sig.length →
      P (k + 1) (stepAt sig k mx mn).2.1 (stepAt sig k mx mn).2.2 out → P k mx mn ((stepAt sig k mx mn).1 ++ out)) :
    P 1 none none (findLocalPeaks sig) := by
  have go : ∀ (m k : Nat) (mx mn : Option Nat), sig.length = k + 1 + m → 1 ≤ k →
      P k mx mn (peaksGo k mx mn (sig.getD (k - 1) 0) (sig.getD k 0) (sig.drop (k + 1))) := by
    intro m
    induction m with
    | zero =>
      intro k mx mn hl hk
      rw [List.drop_eq_nil_of_le (by omega)]
      exact nil k mx mn (by omega)
    | succ m ih =>
      intro k mx mn hl hk
      have := ih (k + 1) (stepAt sig k mx mn).2.1 (stepAt sig k mx mn).2.2 (by omega) (by omega)
      rw [Nat.add_sub_cancel] at this
      rw [peaks_drop_getD sig (k + 1) (by omega)]
      exact step k mx mn _ hk (by omega) this
  match sig, go with
  | [], _ | [_], _ => exact nil 1 none none (by simp)
  | p :: c :: rest, go => exact go rest.length 1 none none (by simp; omega) (le_refl 1)

/-- a strict extremum of its sign: what one `peakStep` reports where the signal has no non-zero plateau -/
def isPeak (p c nx : Rat) : Bool :=
  decide ((0 < c ∧ p < c ∧ nx < c) ∨ (c < 0 ∧ c < p ∧ c < nx))

theorem peakStep_strict (k : Nat) (mx mn : Option Nat) (p c nx : Rat)
    (h1 : c = p → c = 0) (h2 : c = nx → c = 0) :
    peakStep k mx mn p c nx = (if isPeak p c nx then [k] else [], mx, mn) := by
  unfold peakStep isPeak
  by_cases h0 : 0 < c
  · have hne : c ≠ 0 := ne_of_gt h0
    have e1 : c ≠ p := fun e => hne (h1 e)
    have e2 : c ≠ nx := fun e => hne (h2 e)
    by_cases hp : p < c ∧ nx < c
    · simp [h0, hp]
    · have : ¬ c < 0 := not_lt.mpr (le_of_lt h0)
      simp [h0, hp, e1, e2, this]
  · by_cases h0' : c < 0
    · have hne : c ≠ 0 := ne_of_lt h0'
      have e1 : c ≠ p := fun e => hne (h1 e)
      have e2 : c ≠ nx := fun e => hne (h2 e)
      by_cases hp : c < p ∧ c < nx
      · simp [h0, h0', hp]
      · simp [h0, h0', hp, e1, e2]
    · simp [h0, h0']

theorem peaks_filter_range'_single (P : Nat → Bool) (b m a : Nat) (h1 : a ≤ b) (h2 : b < a + m)
    (hP : ∀ i, a ≤ i → i < a + m → (P i = true ↔ i = b)) : (List.range' a m).filter P = [b] := by
  have hb : b ∈ List.range' a m := List.mem_range'_1.mpr ⟨h1, h2⟩
  rw [List.filter_congr (q := (· == b)) fun i hi => by
      have := List.mem_range'_1.mp hi
      rw [Bool.eq_iff_iff, hP i this.1 this.2, beq_iff_eq],
    List.filter_beq, (List.nodup_range' (step := 1)).count, if_pos hb]
  rfl

/-- on a signal without a non-zero plateau no suspect is ever needed: the peaks are the strict extrema -/
theorem findLocalPeaks_strict (sig : List Rat)
    (hnp : ∀ i, i + 1 < sig.length → sig.getD i 0 = sig.getD (i + 1) 0 → sig.getD i 0 = 0) :
    findLocalPeaks sig = (List.range' 1 (sig.length - 2)).filter
      (fun i => isPeak (sig.getD (i - 1) 0) (sig.getD i 0) (sig.getD (i + 1) 0)) := by
  refine findLocalPeaks_ind sig (fun k _ _ out => out = (List.range' k (sig.length - 1 - k)).filter
      (fun i => isPeak (sig.getD (i - 1) 0) (sig.getD i 0) (sig.getD (i + 1) 0)))
    (fun k _ _ hl => by rw [show sig.length - 1 - k = 0 by omega]; rfl) fun k mx mn out hk hk2 ih => ?_
  have e1 : sig.getD k 0 = sig.getD (k - 1) 0 → sig.getD k 0 = 0 := fun e =>
    e ▸ hnp (k - 1) (by omega) (by rw [show k - 1 + 1 = k by omega]; exact e.symm)
  dsimp only [stepAt]
  rw [peakStep_strict _ _ _ _ _ _ e1 (hnp k (by omega)), ih,
    show sig.length - 1 - k = (sig.length - 1 - (k + 1)) + 1 by omega, List.range'_succ, List.filter_cons]
  split <;> rfl

/-- under a strictly monotone or antitone `ψ` that fixes 0, the image of `y ≥ 0` is a peak exactly when `y` is
positive and strictly above both neighbours (for an antitone `ψ` the images are negative and the peak is a minimum) -/
theorem isPeak_map (ψ : Rat → Rat) (h0 : ψ 0 = 0) (hψ : StrictMono ψ ∨ StrictAnti ψ) (x y z : Rat) (hy : 0 ≤ y) :
    isPeak (ψ x) (ψ y) (ψ z) = true ↔ (0 < y ∧ x < y ∧ z < y) := by
  have p0 : ∀ a, 0 < ψ a ↔ ψ 0 < ψ a := fun a => by rw [h0]
  have n0 : ∀ a, ψ a < 0 ↔ ψ a < ψ 0 := fun a => by rw [h0]
  unfold isPeak
  rw [decide_eq_true_eq]
  rcases hψ with hm | ha
  · simp only [p0, n0, StrictMono.lt_iff_lt hm]
    exact ⟨fun hh => hh.resolve_right (fun a => absurd a.1 (not_lt.mpr hy)), Or.inl⟩
  · simp only [p0, n0, StrictAnti.lt_iff_gt ha]
    exact ⟨fun hh => hh.resolve_left (fun a => absurd a.1 (not_lt.mpr hy)), Or.inr⟩

/-- `t` vanishes up to `b - h` and from `b + h` on, rises strictly up to `b`, falls strictly after it and is
positive in between: what the tent and the weighted share of a step have in common -/
structure Unimodal (t : Nat → Rat) (b n h : Nat) : Prop where
  zeroL : ∀ k, k < n → k + h ≤ b → t k = 0
  zeroR : ∀ k, k < n → b + h ≤ k → t k = 0
  rise : ∀ k, b ≤ k + h → k < b → t k < t (k + 1)
  fall : ∀ k, b ≤ k → k + 1 < n → k < b + h → t (k + 1) < t k
  pos : ∀ k, k < n → b < k + h → k < b + h → 0 < t k

theorem Unimodal.peaks {t : Nat → Rat} {b n h : Nat} (U : Unimodal t b n h) (ψ : Rat → Rat) (h0 : ψ 0 = 0)
    (hψ : StrictMono ψ ∨ StrictAnti ψ) (h1 : 1 ≤ h) (hb : h ≤ b) (hn2 : b + 2 ≤ n) :
    findLocalPeaks ((List.range n).map (fun k => ψ (t k))) = [b] := by
  have hlen : ((List.range n).map (fun k => ψ (t k))).length = n := by simp
  have hget : ∀ i, i < n → ((List.range n).map (fun k => ψ (t k))).getD i 0 = ψ (t i) :=
    fun i hi => by simp [List.getD_eq_getElem?_getD, hi]
  have hnn : ∀ k, k < n → 0 ≤ t k := by
    intro k hk
    by_cases a : k + h ≤ b
    · rw [U.zeroL k hk a]
    · by_cases a2 : b + h ≤ k
      · rw [U.zeroR k hk a2]
      · exact le_of_lt (U.pos k hk (by omega) (by omega))
  have hsupp : ∀ k, k < n → t k ≠ 0 → b < k + h ∧ k < b + h := by
    intro k hk hne
    constructor
    · by_contra a; exact hne (U.zeroL k hk (by omega))
    · by_contra a; exact hne (U.zeroR k hk (by omega))
  rw [findLocalPeaks_strict, hlen]
  · -- a strict extremum at `i` lies inside the support, where the flanks leave only `i = b`
    apply peaks_filter_range'_single _ b (n - 2) 1 (by omega) (by omega)
    intro i hi1 hi2
    rw [hget _ (by omega), hget _ (by omega), hget _ (by omega), isPeak_map ψ h0 hψ _ _ _ (hnn i (by omega))]
    constructor
    · rintro ⟨p0, p1, p2⟩
      obtain ⟨s1, s2⟩ := hsupp i (by omega) (ne_of_gt p0)
      by_contra hne
      by_cases a : i < b
      · have := U.rise i (by omega) a; linarith
      · have := U.fall (i - 1) (by omega) (by omega) (by omega)
        rw [show i - 1 + 1 = i by omega] at this
        linarith
    · intro e
      subst e
      refine ⟨U.pos i (by omega) (by omega) (by omega), ?_, U.fall i (le_refl _) (by omega) (by omega)⟩
      have := U.rise (i - 1) (by omega) (by omega)
      rw [show i - 1 + 1 = i by omega] at this
      exact this
  · -- a plateau `t i = t (i + 1)` inside the support would contradict the strict flanks
    intro i hi
    rw [hlen] at hi
    rw [hget i (by omega), hget (i + 1) hi]
    intro e
    have e' : t i = t (i + 1) := hψ.elim (fun m => m.injective e) (fun m => m.injective e)
    by_contra hne
    obtain ⟨s1, s2⟩ := hsupp i (by omega) (fun z => hne (by rw [z, h0]))
    by_cases a : i < b
    · have := U.rise i (by omega) a; linarith
    · have := U.fall i (by omega) hi s2; linarith

theorem mul_strict {c : Rat} (hc : c ≠ 0) : StrictMono (c * ·) ∨ StrictAnti (c * ·) :=
  (lt_or_gt_of_ne hc).symm.imp strictMono_mul_left_of_pos strictAnti_mul_left

theorem tent_unimodal (h b n : Nat) : Unimodal (fun k => (tent h b k : Rat)) b n h where
  zeroL k _ hk := by rw [tent_zero_left h b k hk, Nat.cast_zero]
  zeroR k _ hk := by rw [tent_zero_right h b k hk, Nat.cast_zero]
  rise k hkb hk := Nat.cast_lt.mpr (tent_rising h b k hkb hk)
  fall k hk _ hkb := Nat.cast_lt.mpr (tent_falling h b k hk hkb)
  pos k _ h1 h2 := Nat.cast_pos.mpr (tent_pos h b k h1 h2)

theorem findLocalPeaks_tent (g : Rat → Rat) (hg : SignMono g) (s : Rat) (hs : s ≠ 0) (b n h : Nat)
    (h1 : 1 ≤ h) (hb : h ≤ b) (hn2 : b + 2 ≤ n) :
    findLocalPeaks ((List.range n).map (fun k => g (s * (tent h b k : Rat)))) = [b] :=
  (tent_unimodal h b n).peaks (fun x => g (s * x)) (by rw [mul_zero, hg.1])
    ((mul_strict hs).imp hg.strictMono.comp hg.strictMono.comp_strictAnti)
    h1 hb hn2

theorem findLocalPeaks_zero (n : Nat) : findLocalPeaks (List.replicate n 0) = [] := by
  have z : ∀ i, (List.replicate n (0 : Rat)).getD i 0 = 0 := fun i => by
    rw [List.getD_eq_getElem?_getD, List.getElem?_replicate]; split <;> rfl
  rw [findLocalPeaks_strict _ fun i _ _ => z i]
  exact List.filter_eq_nil_iff.mpr fun i _ => by rw [z, z, z]; decide

end CnvVerif.Haar
