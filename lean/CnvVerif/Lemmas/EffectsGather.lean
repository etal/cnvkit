/-
  The ordered gather of `Executor.map` (Model/Effects.lean (iii)) is the serial map, whatever the completion order: an
  instance of `gather_lookup`.
-/
import CnvVerif.Model.Effects
import CnvVerif.Lemmas.Basic
namespace CnvVerif.Effects

theorem poolMap_eq_map {α β : Type} (f : α → β) (xs : List α) (order : List Nat)
    (hall : ∀ i, i < xs.length → i ∈ order) : poolMap f xs order = xs.map (fun x => some (f x)) := by
  have := gather_lookup (order.filterMap (fun i => xs[i]?.map (fun x => (i, f x)))) (xs.map f)
    (fun d hd => by
      -- every record of task `i` was made from `xs[i]`
      obtain ⟨j, _, hj⟩ := List.mem_filterMap.mp hd
      obtain ⟨x, hx, rfl⟩ := Option.map_eq_some_iff.mp hj
      rw [List.getElem?_map, hx]; rfl)
    (fun i hi => by
      have hi : i < xs.length := by simpa using hi
      exact ⟨(i, f xs[i]), List.mem_filterMap.mpr ⟨i, hall i hi, by rw [List.getElem?_eq_getElem hi]; rfl⟩, rfl⟩)
  rw [List.length_map, List.map_map] at this
  exact this

end CnvVerif.Effects
