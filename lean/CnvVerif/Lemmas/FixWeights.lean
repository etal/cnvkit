/-
  C04, weights: the one-bin formula `weightOf` lies in [epsilon, 1] and is monotone in bin size and reference spread
  (`weightMix_mono`); `applyWeights` (the model of `fix.apply_weights`) computes it row by row (`applyWeights_eq`), hence
  range and monotonicity hold between the rows of one table.  The pooled-or-flat test `pooledRef` is the one `applyWeights`
  makes inline and `C04x.pooledCols` makes on two columns (`pooledRef_cols`).  Plus the exact values in the degenerate
  cases (flat or single-sample reference, a class with one bin, zero residual variance).
-/
import CnvVerif.Model.FixExt5
import Mathlib.Tactic.Linarith
namespace CnvVerif

theorem weight_eps_le_max : Generated.WEIGHT_EPSILON ≤ Generated.WEIGHT_MAX := by decide +kernel

theorem weight_eps_pos : 0 < Generated.WEIGHT_EPSILON := by decide +kernel

theorem weight_emphasis_pos : 0 < Generated.WEIGHT_REF_EMPHASIS := by decide +kernel

theorem weight_emphasis_lt_one : Generated.WEIGHT_REF_EMPHASIS < 1 := by decide +kernel

theorem clipQ_range (lo hi x : Rat) (h : lo ≤ hi) : lo ≤ clipQ lo hi x ∧ clipQ lo hi x ≤ hi := by
  unfold clipQ
  exact ⟨le_min h (le_max_left _ _), min_le_left _ _⟩

theorem clipQ_mono (lo hi x y : Rat) (h : x ≤ y) : clipQ lo hi x ≤ clipQ lo hi y := by
  unfold clipQ
  exact min_le_min le_rfl (max_le_max le_rfl h)

theorem applyWeights_length (rows : List (SRow × RRow × Rat)) (varT varA : Rat) :
    (applyWeights rows varT varA).length = rows.length := by
  unfold applyWeights
  exact List.length_map _

/-- the weight formula of one bin: `pooled` = the reference carries spreads, `m` = mean sqrt size of the
    bin's class, `v` = residual variance of its class -/
def weightOf (pooled : Bool) (spread sq m v : Rat) : Rat :=
  let x := Generated.WEIGHT_REF_EMPHASIS
  let simple := 1 - v / (sq / m)
  clipQ Generated.WEIGHT_EPSILON Generated.WEIGHT_MAX (if pooled then x * (1 - spread ^ 2) + (1 - x) * simple else simple)

/-- a mix with weights `x` and `1 - x`, `0 ≤ x ≤ 1`, is monotone in both terms: for `weightOf`, `a` is the
    reference-spread term, `b` the size/variance term and `x` the emphasis on the reference -/
theorem weightMix_mono (pooled : Bool) {x a a' b b' : Rat} (hx0 : 0 ≤ x) (hx1 : x ≤ 1) (ha : a ≤ a') (hb : b ≤ b') :
    (if pooled then x * a + (1 - x) * b else b) ≤ (if pooled then x * a' + (1 - x) * b' else b') := by
  cases pooled
  · exact hb
  · exact add_le_add (mul_le_mul_of_nonneg_left ha hx0) (mul_le_mul_of_nonneg_left hb (sub_nonneg.mpr hx1))

/-- within a class the weight never decreases with bin size (sqrt size `sq`) … -/
theorem weight_mono_size (pooled : Bool) (spread m v sq₁ sq₂ : Rat) (hm : 0 < m) (hv : 0 ≤ v)
    (h1 : 0 < sq₁) (h12 : sq₁ ≤ sq₂) :
    weightOf pooled spread sq₁ m v ≤ weightOf pooled spread sq₂ m v := by
  have hs : v / (sq₂ / m) ≤ v / (sq₁ / m) :=
    div_le_div_of_nonneg_left hv (div_pos h1 hm) (div_le_div_of_nonneg_right h12 hm.le)
  exact clipQ_mono _ _ _ _
    (weightMix_mono pooled weight_emphasis_pos.le weight_emphasis_lt_one.le le_rfl (sub_le_sub_left hs 1))

/-- … nor increases with the reference spread -/
theorem weight_antitone_spread (pooled : Bool) (sq m v s₁ s₂ : Rat) (h0 : 0 ≤ s₁) (h12 : s₁ ≤ s₂) :
    weightOf pooled s₂ sq m v ≤ weightOf pooled s₁ sq m v :=
  clipQ_mono _ _ _ _ (weightMix_mono pooled weight_emphasis_pos.le weight_emphasis_lt_one.le
    (sub_le_sub_left (pow_le_pow_left₀ h0 h12 2) 1) le_rfl)

/-- off-target bin? (`gene` is one of params.ANTITARGET_ALIASES) -/
def isAntiRow (r : SRow) : Bool := Generated.ANTITARGET_ALIASES.contains r.gene

/-- mean of `sqrt(size)` over the bins of one class (`bin_sz.mean()` / `anti_bin_sz.mean()`) -/
def classMean (rows : List (SRow × RRow × Rat)) (anti : Bool) : Rat :=
  if anti then sumR ((rows.filter (fun p => isAntiRow p.1)).map (·.2.2)) / ((rows.filter (fun p => isAntiRow p.1)).length : Rat)
  else sumR ((rows.filter (fun p => !isAntiRow p.1)).map (·.2.2)) / ((rows.filter (fun p => !isAntiRow p.1)).length : Rat)

/-- the pooled-or-flat test of `apply_weights`: some spread above epsilon AND some log2 that is not a whole number -/
def pooledRef (rows : List (SRow × RRow × Rat)) : Bool :=
  rows.any (fun p => decide (p.2.1.spread > Generated.WEIGHT_EPSILON)) &&
    rows.any (fun p => decide (absR (mod1 p.2.1.log2) > Generated.WEIGHT_EPSILON))

theorem pooledRef_cols (rows : List (SRow × RRow × Rat)) :
    pooledRef rows = C04x.pooledCols (rows.map (·.2.1.spread)) (rows.map (·.2.1.log2)) := by
  unfold pooledRef C04x.pooledCols
  simp [List.any_map, Function.comp_def]

theorem pooledRef_iff (rows : List (SRow × RRow × Rat)) :
    pooledRef rows = true ↔
      (∃ p ∈ rows, p.2.1.spread > Generated.WEIGHT_EPSILON) ∧ (∃ q ∈ rows, absR (mod1 q.2.1.log2) > Generated.WEIGHT_EPSILON) := by
  simp only [pooledRef, Bool.and_eq_true, List.any_eq_true, decide_eq_true_eq]

theorem applyWeights_eq (rows : List (SRow × RRow × Rat)) (varT varA : Rat) :
    applyWeights rows varT varA = rows.map (fun p =>
      weightOf (pooledRef rows) p.2.1.spread p.2.2 (classMean rows (isAntiRow p.1)) (if isAntiRow p.1 then varA else varT)) := by
  unfold applyWeights
  apply List.map_congr_left
  intro p _
  unfold weightOf classMean pooledRef isAntiRow
  cases h : Generated.ANTITARGET_ALIASES.contains p.1.gene <;> simp only [h, if_true, if_false, Bool.false_eq_true]

theorem applyWeights_getElem (rows : List (SRow × RRow × Rat)) (varT varA : Rat) (i : Nat) (hi : i < rows.length)
    (hi' : i < (applyWeights rows varT varA).length) :
    (applyWeights rows varT varA)[i] =
      weightOf (pooledRef rows) rows[i].2.1.spread rows[i].2.2 (classMean rows (isAntiRow rows[i].1))
        (if isAntiRow rows[i].1 then varA else varT) := by
  rw [List.getElem_of_eq (applyWeights_eq rows varT varA) hi', List.getElem_map]

theorem classMean_eq (rows : List (SRow × RRow × Rat)) (c : Bool) :
    classMean rows c = sumR ((rows.filter (fun p => isAntiRow p.1 == c)).map (·.2.2)) /
      ((rows.filter (fun p => isAntiRow p.1 == c)).length : Rat) := by
  cases c
  · have hf : (fun p : SRow × RRow × Rat => isAntiRow p.1 == false) = (fun p => !isAntiRow p.1) :=
      funext fun p => by cases isAntiRow p.1 <;> rfl
    rw [hf]; rfl
  · have hf : (fun p : SRow × RRow × Rat => isAntiRow p.1 == true) = (fun p => isAntiRow p.1) :=
      funext fun p => by cases isAntiRow p.1 <;> rfl
    rw [hf]; rfl

theorem foldl_add_pos (l : List Rat) (a : Rat) (ha : 0 ≤ a) (h : ∀ x ∈ l, 0 < x) (hne : l ≠ []) :
    0 < l.foldl (· + ·) a := by
  induction l generalizing a with
  | nil => exact absurd rfl hne
  | cons x xs ih =>
    simp only [List.foldl_cons]
    have hx := h x (List.mem_cons_self)
    by_cases hxs : xs = []
    · subst hxs; simp only [List.foldl_nil]; linarith
    · exact ih (a + x) (by linarith) (fun y hy => h y (List.mem_cons_of_mem _ hy)) hxs

theorem classMean_pos (rows : List (SRow × RRow × Rat)) (hpos : ∀ p ∈ rows, 0 < p.2.2)
    (p : SRow × RRow × Rat) (hp : p ∈ rows) : 0 < classMean rows (isAntiRow p.1) := by
  rw [classMean_eq]
  have hne : rows.filter (fun q => isAntiRow q.1 == isAntiRow p.1) ≠ [] :=
    List.ne_nil_of_mem (List.mem_filter.mpr ⟨hp, beq_self_eq_true _⟩)
  refine div_pos (foldl_add_pos _ 0 le_rfl ?_ fun h => hne (List.map_eq_nil_iff.mp h))
    (Nat.cast_pos.mpr (List.length_pos_iff.mpr hne))
  intro x hx
  obtain ⟨q, hq, rfl⟩ := List.mem_map.mp hx
  exact hpos q (List.mem_filter.mp hq).1

/-- a reference whose spreads are all (at most epsilon ≈) zero — a flat reference, or one built from a single sample —
    is never treated as pooled -/
theorem pooledRef_false_of_no_spread (rows : List (SRow × RRow × Rat))
    (h : ∀ p ∈ rows, p.2.1.spread ≤ Generated.WEIGHT_EPSILON) : pooledRef rows = false := by
  unfold pooledRef
  have : rows.any (fun p => decide (p.2.1.spread > Generated.WEIGHT_EPSILON)) = false := by
    rw [List.any_eq_false]
    intro p hp
    simpa using h p hp
  rw [this, Bool.false_and]

/-- … and neither is one whose log2 values are all whole numbers (0 / −1 of a flat reference), whatever the spreads -/
theorem pooledRef_false_of_whole_log2 (rows : List (SRow × RRow × Rat))
    (h : ∀ p ∈ rows, ∃ n : Int, p.2.1.log2 = (n : Rat)) : pooledRef rows = false := by
  unfold pooledRef
  have : rows.any (fun p => decide (absR (mod1 p.2.1.log2) > Generated.WEIGHT_EPSILON)) = false := by
    rw [List.any_eq_false]
    intro p hp
    obtain ⟨n, hn⟩ := h p hp
    have h0 : mod1 p.2.1.log2 = 0 := by
      unfold mod1; rw [hn, Rat.floor_intCast]; simp
    have : absR (mod1 p.2.1.log2) = 0 := by rw [h0]; decide +kernel
    rw [this]
    simpa using weight_eps_pos.le
  rw [this, Bool.and_false]

theorem weightOf_flat (spread sq m v : Rat) :
    weightOf false spread sq m v = clipQ Generated.WEIGHT_EPSILON Generated.WEIGHT_MAX (1 - v / (sq / m)) := by
  unfold weightOf; simp

theorem classMean_single (rows : List (SRow × RRow × Rat)) (p : SRow × RRow × Rat)
    (h : rows.filter (fun q => isAntiRow q.1 == isAntiRow p.1) = [p]) : classMean rows (isAntiRow p.1) = p.2.2 := by
  rw [classMean_eq, h]
  simp [sumR]

end CnvVerif
