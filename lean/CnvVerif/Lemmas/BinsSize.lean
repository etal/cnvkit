/-
  The size of the bins `_split_targets` cuts.  A region kept by the size filter is cut into
  `n = max 1 (round (span/avg))` bins of `⌊span/n⌋` or `⌊span/n⌋ + 1` bases, and half-to-even rounding
  puts `span` between `(n - 1/2)·avg` and `(n + 1/2)·avg` (`splitRow_mem`).  Every size bound is
  arithmetic on these two facts.
-/
import CnvVerif.Model.Bins
import CnvVerif.Lemmas.Bins
import Mathlib.Tactic.Linarith
import Mathlib.Tactic.NormNum
import Mathlib.Algebra.Order.Field.Basic
import Mathlib.Data.Rat.Floor
namespace CnvVerif

theorem nbinsOf_bounds {avg : Rat} (havg : 0 < avg) (r : Row) :
    ((r.e - r.s : Int) : Rat) ≤ ((nbinsOf avg r : Rat) + 1 / 2) * avg ∧
      (2 ≤ nbinsOf avg r → ((nbinsOf avg r : Rat) - 1 / 2) * avg ≤ ((r.e - r.s : Int) : Rat)) := by
  obtain ⟨hlo, hup⟩ := (roundHalfEven_nearest (((r.e - r.s : Int) : Rat) / avg)).imp sub_le_comm.mp
    sub_le_iff_le_add'.mp
  rw [le_div_iff₀ havg] at hlo
  rw [div_le_iff₀ havg] at hup
  have hc : ((nbinsOf avg r : Nat) : Int) = max 1 (roundHalfEven (((r.e - r.s : Int) : Rat) / avg)) := by
    unfold nbinsOf
    omega
  generalize roundHalfEven (((r.e - r.s : Int) : Rat) / avg) = R at hlo hup hc
  generalize nbinsOf avg r = n at hc
  constructor
  · have : (R : Rat) ≤ (n : Rat) := by exact_mod_cast (show R ≤ (n : Int) by omega)
    exact le_trans hup (mul_le_mul_of_nonneg_right (add_le_add_left this _) havg.le)
  · intro h2
    have : R = (n : Int) := by omega
    rw [this] at hlo
    exact_mod_cast hlo

/-- what a bin of `splitRow` is: the whole region, of at most 3/2·avg bases, or one of `n ≥ 2`
    near-equal pieces of a region of `(n ± 1/2)·avg` bases -/
theorem splitRow_mem {avg : Rat} (havg : 0 < avg) {m : Int} {r x : Row} (hr : r.s ≤ r.e)
    (hx : x ∈ splitRow avg m r) :
    m ≤ r.e - r.s ∧
      ((x = r ∧ ((r.e - r.s : Int) : Rat) ≤ 3 / 2 * avg) ∨
        ∃ n : Int, 2 ≤ n ∧ ((n : Rat) - 1 / 2) * avg ≤ ((r.e - r.s : Int) : Rat) ∧
          ((r.e - r.s : Int) : Rat) ≤ ((n : Rat) + 1 / 2) * avg ∧
          (r.e - r.s) / n ≤ x.e - x.s ∧ x.e - x.s ≤ (r.e - r.s) / n + 1) := by
  rw [splitRow_nbins avg havg m r hr] at hx
  split at hx
  · refine ⟨‹_›, ?_⟩
    obtain ⟨hup, hlo⟩ := nbinsOf_bounds havg r
    by_cases h1 : nbinsOf avg r = 1
    · have e : ((1 : Nat) : Rat) + 1 / 2 = 3 / 2 := by norm_num
      rw [h1, splitInto_one] at hx
      rw [h1, e] at hup
      exact .inl ⟨List.mem_singleton.mp hx, hup⟩
    · have h2 : 2 ≤ nbinsOf avg r := by have := nbinsOf_pos avg r; omega
      obtain ⟨s1, s2⟩ := splitInto_sizes r _ (nbinsOf_pos avg r) x hx
      exact .inr ⟨nbinsOf avg r, by exact_mod_cast h2, by exact_mod_cast hlo h2, by exact_mod_cast hup,
        s1, s2⟩
  · cases hx

/-- with `n ≥ 2` bins the half bin that rounding may add or take is at most a quarter of each bin -/
theorem half_le_quarter_mul {N avg : Rat} (hN : 2 ≤ N) (havg : 0 ≤ avg) :
    3 / 4 * N * avg ≤ (N - 1 / 2) * avg ∧ (N + 1 / 2) * avg ≤ 5 / 4 * N * avg :=
  ⟨mul_le_mul_of_nonneg_right (by linarith only [hN]) havg,
    mul_le_mul_of_nonneg_right (by linarith only [hN]) havg⟩

theorem quot_ge_of_le_three_quarters {span n m : Int} {avg : Rat} (hn : 2 ≤ n) (havg : 0 < avg)
    (h1 : ((n : Rat) - 1 / 2) * avg ≤ span) (hm : (m : Rat) ≤ 3 / 4 * avg) : m ≤ span / n := by
  have hn' : (2 : Rat) ≤ n := Int.cast_le.mpr hn
  have h3 : (m : Rat) * n ≤ 3 / 4 * n * avg := by
    rw [mul_right_comm]
    exact mul_le_mul_of_nonneg_right hm (le_trans zero_le_two hn')
  have h5 : ((m * n : Int) : Rat) ≤ span := by
    rw [Int.cast_mul]
    exact le_trans h3 (le_trans (half_le_quarter_mul hn' havg.le).1 h1)
  exact (Int.le_ediv_iff_mul_le (by omega)).mpr (Int.cast_le.mp h5)

theorem quot_le_five_quarters {span n : Int} {avg : Rat} (hn : 2 ≤ n) (havg : 0 < avg)
    (h1 : (span : Rat) ≤ ((n : Rat) + 1 / 2) * avg) : ((span / n : Int) : Rat) ≤ 5 / 4 * avg := by
  have hn' : (2 : Rat) ≤ n := Int.cast_le.mpr hn
  have h3 : ((span / n * n : Int) : Rat) ≤ span := Int.cast_le.mpr (Int.ediv_mul_le span (by omega))
  rw [Int.cast_mul] at h3
  have h4 : ((span / n : Int) : Rat) * n ≤ 5 / 4 * avg * n := by
    rw [mul_right_comm]
    exact le_trans h3 (le_trans h1 (half_le_quarter_mul hn' havg.le).2)
  exact le_of_mul_le_mul_right h4 (lt_of_lt_of_le zero_lt_two hn')

theorem quot_pos {span n : Int} {avg : Rat} (hn : 2 ≤ n) (havg : 1 ≤ avg)
    (h1 : ((n : Rat) - 1 / 2) * avg ≤ span) : 1 ≤ span / n := by
  have hn' : (2 : Rat) ≤ n := Int.cast_le.mpr hn
  have h2 : (n : Rat) - 1 / 2 ≤ span :=
    le_trans (le_mul_of_one_le_right (sub_nonneg.mpr (le_trans (by norm_num) hn')) havg) h1
  have h3 : ((n : Int) : Rat) < ((span + 1 : Int) : Rat) := by
    rw [Int.cast_add, Int.cast_one]
    linarith only [h2]
  have h4 : n < span + 1 := Int.cast_lt.mp h3
  exact (Int.le_ediv_iff_mul_le (by omega)).mpr (by omega)

theorem splitRow_size_lower_any (avg : Rat) (havg : 0 < avg) (m : Int) (r : Row) (hr : r.s ≤ r.e) :
    ∀ x ∈ splitRow avg m r, min m (3 / 4 * avg).floor ≤ x.e - x.s := by
  intro x hx
  obtain ⟨hm, ⟨rfl, _⟩ | ⟨n, hn, hlo, _, hsz, _⟩⟩ := splitRow_mem havg hr hx
  · omega
  · have := quot_ge_of_le_three_quarters hn havg hlo (Rat.floor_le (3 / 4 * avg))
    omega

theorem splitRow_size_lower (avg : Rat) (havg : 0 < avg) (minSize : Int)
    (hmin : (minSize : Rat) ≤ 3 / 4 * avg) (r : Row) (hr : r.s ≤ r.e) :
    ∀ x ∈ splitRow avg minSize r, minSize ≤ x.e - x.s := by
  intro x hx
  have := splitRow_size_lower_any avg havg minSize r hr x hx
  have : minSize ≤ (3 / 4 * avg).floor := Rat.le_floor_iff.mpr hmin
  omega

/-- the one extra base of an uneven cut comes on top of `⌊span/n⌋ ≤ 5/4·avg` -/
theorem splitRow_size_upper_any (avg : Rat) (havg0 : 0 < avg) (minSize : Int) (r : Row) (hr : r.s ≤ r.e) :
    ∀ x ∈ splitRow avg minSize r, ((x.e - x.s : Int) : Rat) ≤ max (3 / 2 * avg) (5 / 4 * avg + 1) := by
  intro x hx
  obtain ⟨_, ⟨rfl, h⟩ | ⟨n, hn, _, hup, _, hsz⟩⟩ := splitRow_mem havg0 hr hx
  · exact le_trans h (le_max_left _ _)
  · have h1 := quot_le_five_quarters hn havg0 hup
    have h2 : ((x.e - x.s : Int) : Rat) ≤ (((r.e - r.s) / n : Int) : Rat) + 1 := by exact_mod_cast hsz
    exact le_trans (le_trans h2 (add_le_add_left h1 1)) (le_max_right _ _)

/-- `avg ≥ 4`: the extra base fits into avg/4 -/
theorem splitRow_size_upper (avg : Rat) (havg : 4 ≤ avg) (minSize : Int) (r : Row) (hr : r.s ≤ r.e) :
    ∀ x ∈ splitRow avg minSize r, ((x.e - x.s : Int) : Rat) ≤ 3 / 2 * avg := by
  intro x hx
  have := splitRow_size_upper_any avg (lt_of_lt_of_le (by norm_num) havg) minSize r hr x hx
  rwa [max_eq_left (by linarith)] at this

/-- for an integer average size `a ≥ 2` (every `--avg-size` the command line accepts, except 1)
    no bin is longer than 3/2·a: sizes are integers, which absorbs the extra base at a = 2, 3 -/
theorem splitRow_size_upper_int (a : Int) (ha : 2 ≤ a) (minSize : Int) (r : Row) (hr : r.s ≤ r.e) :
    ∀ x ∈ splitRow (a : Rat) minSize r, 2 * (x.e - x.s) ≤ 3 * a := by
  intro x hx
  have ha0 : (0 : Rat) < (a : Rat) := by exact_mod_cast (show (0 : Int) < a by omega)
  rcases le_max_iff.mp (splitRow_size_upper_any (a : Rat) ha0 minSize r hr x hx) with h | h
  · have : ((2 * (x.e - x.s) : Int) : Rat) ≤ ((3 * a : Int) : Rat) := by push_cast at h ⊢; linarith only [h]
    exact_mod_cast this
  · have : ((4 * (x.e - x.s) : Int) : Rat) ≤ ((5 * a + 4 : Int) : Rat) := by push_cast at h ⊢; linarith only [h]
    have : 4 * (x.e - x.s) ≤ 5 * a + 4 := by exact_mod_cast this
    generalize x.e - x.s = t at this ⊢
    -- the size `t` is an integer: `4t ≤ 14` means `t ≤ 3` at `a = 2`; from `a = 3` on `4t ≤ 5a + 4` suffices
    rcases (show a = 2 ∨ 3 ≤ a by omega) with rfl | h3
    · omega
    · omega

/-- `avg ≥ 1`: never more bins than bases -/
theorem splitRow_positive (avg : Rat) (havg : 1 ≤ avg) (minSize : Int) (r : Row) (hr : r.s < r.e) :
    ∀ x ∈ splitRow avg minSize r, x.s < x.e := by
  intro x hx
  obtain ⟨_, ⟨rfl, _⟩ | ⟨n, hn, hlo, _, hsz, _⟩⟩ := splitRow_mem (lt_of_lt_of_le zero_lt_one havg) (Int.le_of_lt hr) hx
  · exact hr
  · have := quot_pos hn havg hlo
    omega

theorem splitInto_two (r : Row) :
    splitInto r 2 = [{ r with e := r.s + (r.e - r.s) / 2 }, { r with s := r.s + (r.e - r.s) / 2 }] := by
  have e1 : cutAt r 2 1 = r.s + (r.e - r.s) / 2 := by simp [cutAt]
  show [({ r with s := cutAt r 2 0, e := cutAt r 2 1 } : Row), { r with s := cutAt r 2 1, e := cutAt r 2 2 }] = _
  rw [cutAt_zero, cutAt_last r 2 (by decide), e1]

theorem roundHalfEven_three_halves : roundHalfEven (3 / 2) = 2 := by decide +kernel

/-- sharpness of the 3/4 bound: at avg = 4k a region of 6k bases gives two bins of exactly 3k bases,
    whatever the minimum size `m ≤ 6k` -/
theorem splitRow_three_quarters_sharp (k : Int) (hk : 1 ≤ k) (m : Int) (hm : m ≤ 6 * k)
    (c g : String) (s : Int) :
    splitRow ((4 * k : Int) : Rat) m ⟨c, s, s + 6 * k, g⟩ =
      [⟨c, s, s + 3 * k, g⟩, ⟨c, s + 3 * k, s + 6 * k, g⟩] := by
  have havg0 : (0 : Rat) < ((4 * k : Int) : Rat) := Int.cast_pos.mpr (by omega)
  have hspan : s + 6 * k - s = 6 * k := by omega
  have hq : ((6 * k : Int) : Rat) / ((4 * k : Int) : Rat) = 3 / 2 := by
    have hk0 : (k : Rat) ≠ 0 := Int.cast_ne_zero.mpr (by omega)
    rw [Int.cast_mul, Int.cast_mul, mul_div_mul_right _ _ hk0]
    norm_num
  -- a span of 6k at average 4k is 3/2 bins, which half-even rounding takes UP to 2: two bins of 3k = 3/4 of the average
  have hn : nbinsOf ((4 * k : Int) : Rat) ⟨c, s, s + 6 * k, g⟩ = 2 := by
    show (max 1 (roundHalfEven (((s + 6 * k - s : Int) : Rat) / ((4 * k : Int) : Rat)))).toNat = 2
    rw [hspan, hq, roundHalfEven_three_halves]
    rfl
  rw [splitRow_nbins ((4 * k : Int) : Rat) havg0 m ⟨c, s, s + 6 * k, g⟩ (show s ≤ s + 6 * k by omega),
    if_pos (show m ≤ s + 6 * k - s by omega), hn, splitInto_two]
  have e : s + (s + 6 * k - s) / 2 = s + 3 * k := by omega
  dsimp only
  rw [e]

end CnvVerif
