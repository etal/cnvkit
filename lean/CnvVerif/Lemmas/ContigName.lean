/-
  The contig-name rule `re_noncanonical.search` (cnvlib/antitarget.py, used by `access` and `antitarget`): what one
  alternative of anchors and atoms matches, and the rule read from the source in words (`noncanonical_iff`).
-/
import CnvVerif.Model.Access
namespace CnvVerif

theorem mem_suffixes (s n : List Char) : s ∈ suffixes n ↔ ∃ pre, n = pre ++ s := by
  induction n with
  | nil => simp [suffixes]
  | cons c cs ih =>
    simp only [suffixes, List.mem_cons, ih, List.cons_eq_append_iff, exists_or, exists_eq_left]
    exact or_congr Iff.rfl ⟨fun ⟨p, h⟩ => ⟨_, p, rfl, h⟩, fun ⟨_, p, _, h⟩ => ⟨p, h⟩⟩

/-- semantics of one alternative under `search`: the atoms match a prefix of some suffix `s` of the name, of the
    whole name if `^`-anchored, and nothing is left over if `$`-anchored -/
theorem altMatches_iff (aS aE : Bool) (atoms : List (Option Char)) (n : List Char) :
    altMatches (aS, atoms, aE) n = true ↔
      ∃ pre s rest, n = pre ++ s ∧ matchAtoms atoms s = some rest ∧
        (aS = true → pre = []) ∧ (aE = true → rest = []) := by
  unfold altMatches
  simp only [List.any_eq_true]
  constructor
  · rintro ⟨s, hs, hm⟩
    split at hm
    · rename_i rest hrest
      have hpre : ∃ pre, n = pre ++ s ∧ (aS = true → pre = []) := by
        cases aS with
        | true => exact ⟨[], by rw [List.mem_singleton.mp hs]; rfl, fun _ => rfl⟩
        | false => exact ((mem_suffixes s n).mp hs).imp fun _ h => ⟨h, Bool.noConfusion⟩
      obtain ⟨pre, hn, hp⟩ := hpre
      exact ⟨pre, s, rest, hn, hrest, hp, fun he => by subst he; simpa using hm⟩
    · cases hm
  · rintro ⟨pre, s, rest, hn, hrest, hp, he⟩
    refine ⟨s, ?_, ?_⟩
    · cases aS with
      | true => rw [hn, hp rfl]; exact List.mem_singleton.mpr rfl
      | false => exact (mem_suffixes s n).mpr ⟨pre, hn⟩
    · rw [hrest]
      cases aE with
      | true => rw [he rfl]; rfl
      | false => rfl

theorem matchAtoms_lits (lits s rest : List Char) :
    matchAtoms (lits.map some) s = some rest ↔ s = lits ++ rest := by
  induction lits generalizing s with
  | nil => simp [matchAtoms, eq_comm]
  | cons a as ih => cases s <;> simp [matchAtoms, atomOk, ih]

theorem matchAtoms_append (as bs : List (Option Char)) (s : List Char) :
    matchAtoms (as ++ bs) s = (matchAtoms as s).bind (matchAtoms bs) := by
  induction as generalizing s with
  | nil => rfl
  | cons a as ih =>
    cases s with
    | nil => cases bs <;> rfl
    | cons c cs =>
      simp only [List.cons_append, matchAtoms]
      split
      · exact ih cs
      · rfl

/-- `\d` -/
theorem matchAtoms_digit (s rest : List Char) :
    matchAtoms [none] s = some rest ↔ ∃ d, d.isDigit = true ∧ s = d :: rest := by
  cases s with
  | nil => simp [matchAtoms]
  | cons c cs =>
    by_cases hc : c.isDigit = true <;> simp only [matchAtoms, atomOk, hc, List.cons.injEq, if_true]
    · exact ⟨fun h => ⟨c, hc, rfl, Option.some.inj h⟩, fun ⟨d, _, _, h⟩ => by rw [h]⟩
    · exact ⟨nofun, fun ⟨d, hd, hcd, _⟩ => absurd (hcd ▸ hd) hc⟩

/-- literal atoms followed by `\d` -/
theorem matchAtoms_lits_digit (lits s rest : List Char) :
    matchAtoms (lits.map some ++ [none]) s = some rest ↔ ∃ d, d.isDigit = true ∧ s = lits ++ d :: rest := by
  simp only [matchAtoms_append, Option.bind_eq_some_iff, matchAtoms_lits, matchAtoms_digit]
  exact ⟨fun ⟨_, hs, d, hd, hr⟩ => ⟨d, hd, hr ▸ hs⟩, fun ⟨d, hd, hs⟩ => ⟨_, hs, d, hd, rfl⟩⟩

theorem alt_lits (aS aE : Bool) (lits n : List Char) :
    altMatches (aS, lits.map some, aE) n = true ↔
      ∃ pre post, n = pre ++ lits ++ post ∧ (aS = true → pre = []) ∧ (aE = true → post = []) := by
  rw [altMatches_iff]
  constructor
  · rintro ⟨pre, s, rest, hn, h, hp, he⟩
    exact ⟨pre, rest, by rw [hn, (matchAtoms_lits ..).mp h, List.append_assoc], hp, he⟩
  · rintro ⟨pre, post, hn, hp, he⟩
    exact ⟨pre, lits ++ post, post, by rw [hn, List.append_assoc], (matchAtoms_lits ..).mpr rfl, hp, he⟩

/-- `^lits` -/
theorem alt_prefix (lits n : List Char) :
    altMatches (true, lits.map some, false) n = true ↔ lits <+: n := by
  rw [alt_lits]
  exact ⟨fun ⟨pre, post, hn, hp, _⟩ => ⟨post, by rw [hn, hp rfl]; rfl⟩,
    fun ⟨t, ht⟩ => ⟨[], t, ht.symm, fun _ => rfl, Bool.noConfusion⟩⟩

/-- `^lits$` -/
theorem alt_exact (lits n : List Char) :
    altMatches (true, lits.map some, true) n = true ↔ n = lits := by
  simp [alt_lits]

/-- `lits$` -/
theorem alt_suffix (lits n : List Char) :
    altMatches (false, lits.map some, true) n = true ↔ lits <:+ n := by
  rw [alt_lits]
  exact ⟨fun ⟨pre, post, hn, _, he⟩ => ⟨pre, by rw [hn, he rfl, List.append_nil]⟩,
    fun ⟨t, ht⟩ => ⟨t, [], by rw [List.append_nil]; exact ht.symm, Bool.noConfusion, fun _ => rfl⟩⟩

/-- `lits` anywhere -/
theorem alt_infix (lits n : List Char) :
    altMatches (false, lits.map some, false) n = true ↔ lits <:+: n := by
  rw [alt_lits]
  exact ⟨fun ⟨pre, post, hn, _, _⟩ => ⟨pre, post, hn.symm⟩, fun ⟨s, t, h⟩ => ⟨s, t, h.symm, Bool.noConfusion, Bool.noConfusion⟩⟩

/-- `lits\d$` -/
theorem alt_suffix_digit (lits n : List Char) :
    altMatches (false, lits.map some ++ [none], true) n = true ↔
      ∃ d, d.isDigit = true ∧ (lits ++ [d]) <:+ n := by
  rw [altMatches_iff]
  constructor
  · rintro ⟨pre, s, rest, hn, h, _, he⟩
    obtain ⟨d, hd, hs⟩ := (matchAtoms_lits_digit ..).mp h
    exact ⟨d, hd, pre, by rw [hn, hs, he rfl]⟩
  · rintro ⟨d, hd, t, ht⟩
    exact ⟨t, lits ++ [d], [], ht.symm, (matchAtoms_lits_digit ..).mpr ⟨d, hd, rfl⟩, Bool.noConfusion,
      fun _ => rfl⟩

/-- the rule as the extractor read it from `re_noncanonical` -/
theorem noncanonical_rule_eq : Generated.NONCANONICAL_RULE =
    [(true, "chrEBV".toList.map some, true), (true, "NC".toList.map some, false),
     (false, "_random".toList.map some, true), (false, "Un_".toList.map some, false),
     (true, "HLA-".toList.map some, false), (false, "_alt".toList.map some, true),
     (false, "hap".toList.map some ++ [none], true), (false, "chrM".toList.map some, false),
     (false, "MT".toList.map some, false)] := by decide +kernel

theorem noncanonical_iff (n : List Char) :
    ruleMatches Generated.NONCANONICAL_RULE n = true ↔
      n = "chrEBV".toList ∨ "NC".toList <+: n ∨ "_random".toList <:+ n ∨ "Un_".toList <:+: n ∨
      "HLA-".toList <+: n ∨ "_alt".toList <:+ n ∨
      (∃ d, d.isDigit = true ∧ ("hap".toList ++ [d]) <:+ n) ∨
      "chrM".toList <:+: n ∨ "MT".toList <:+: n := by
  rw [noncanonical_rule_eq]
  simp only [ruleMatches, List.any_cons, List.any_nil, Bool.or_false, Bool.or_eq_true, alt_exact,
    alt_prefix, alt_suffix, alt_infix, alt_suffix_digit]

/-- the rule run on the contig names the documentation and the properties C12 and C13 mention -/
theorem isCanonicalName_examples :
    isCanonicalName "chr1" = true ∧ isCanonicalName "22" = true ∧ isCanonicalName "chrX" = true ∧
    isCanonicalName "chrM" = false ∧ isCanonicalName "MT" = false ∧
    isCanonicalName "chr6_GL000250v2_alt" = false ∧ isCanonicalName "chr1_KI270706v1_random" = false ∧
    isCanonicalName "chrUn_GL000195v1" = false ∧ isCanonicalName "chr6_cox_hap2" = false ∧
    isCanonicalName "HLA-A*01:01" = false ∧ isCanonicalName "chrEBV" = false ∧
    isCanonicalName "HLA-A*01:01:01:01" = false := by decide +kernel

end CnvVerif
