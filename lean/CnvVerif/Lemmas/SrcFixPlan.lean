/-
  C04: the model's pooled-or-flat test on two columns equals the expression re-read from the current source of
  `fix.apply_weights` (Generated/ExprsFixPlan.lean, regenerated from /repo on every run).  Proved through `simp`, so that a
  flipped comparison with swapped operands, a numpy alias (`np.absolute`, `np.remainder`) or a renamed local keeps the
  theorem, while a changed connective, reduction or constant breaks it.  (The `simp` arguments the present
  text does not need are what the linter switched off below would report.  The other decisions are tied in
  Props/C04SrcPlan.lean.)
-/
import CnvVerif.Generated.ExprsFixPlan
import CnvVerif.Model.FixExt5
import Mathlib.Tactic.Ring
import Mathlib.Tactic.NormNum
set_option linter.unusedSimpArgs false
namespace CnvVerif.C04x
open CnvVerif CnvVerif.Generated

theorem pooledCols_is_source (sp lg : List Rat) : pooledCols sp lg = src_pooled_test WEIGHT_EPSILON sp lg := by
  unfold pooledCols src_pooled_test
  simp [absR, mod1, div_one, mul_one]

end CnvVerif.C04x
