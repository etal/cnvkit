/-
  `_choose_samples` of skgenome/tabio/vcfio.py (property C18): candidate pairs, the `sample_id` filter, the salvage
  `[(sample_id, None)]` or `IndexError` when nothing is left, `_confirm_unique`, the first pair.  On a header whose names
  are distinct and whose declared names are sample columns (`PairsValid`) the answer is the first pair the filter leaves,
  else the given sample alone (`finishChoice_eq`), and the documented rule `specPair` is that same expression
  (`specPair_eq_first`): `chooseNames_spec`.  Two lemmas compare the final steps as `chooseNames` and `chooseNamesH`
  (Model/VcfPairs.lean, all three header conventions) write them, with the guard and the list left variables; the last
  two read `chooseSamplesH` without selectors on a header that declares pairs: `_confirm_unique` on every declared
  name, then the first declared pair.  Core Lean only.
-/
import CnvVerif.Model.VcfPairs
namespace CnvVerif.Vcf
open CnvVerif

theorem truthy_some {o : Option String} {x : String} (h : truthy o = some x) : o = some x := by
  cases o with
  | none => simp [truthy] at h
  | some s =>
    simp only [truthy] at h
    split at h
    · cases h
    · exact h

theorem selOk_mem {samples : List String} {o : Option String} {x : String}
    (h : selOk samples o = true) (ht : truthy o = some x) : x ∈ samples := by
  unfold selOk at h
  rw [ht] at h
  simpa using h

/-- every declared name is a sample column -/
def PedsValid (samples : List String) (peds : List (String × String)) : Prop :=
  ∀ p ∈ peds, p.1 ∈ samples ∧ p.2 ∈ samples

theorem candidatePairs_cons (samples : List String) (q : String × String) (qs : List (String × String))
    (nid : Option String) :
    candidatePairs samples (q :: qs) nid = (q :: qs).map (fun p => (some p.1, some p.2)) := rfl

theorem candidatePairs_nil_some (samples : List String) {nid : Option String} {y : String}
    (h : truthy nid = some y) :
    candidatePairs samples [] nid = (samples.filter (fun s => s != y)).map (fun o => (some o, some y)) := by
  simp [candidatePairs, h]

theorem candidatePairs_nil_none (samples : List String) {nid : Option String} (h : truthy nid = none) :
    candidatePairs samples [] nid = samples.map (fun s => (some s, none)) := by
  simp [candidatePairs, h]

/-- `[(s, n) for s, n in pairs if s == sample_id]`, when a sample id is given -/
def sidFilter (s : Option String) (ps : List (Option String × Option String)) :
    List (Option String × Option String) :=
  match s with
  | some x => ps.filter (fun p => p.1 == some x)
  | none => ps

theorem sidFilter_none (ps : List (Option String × Option String)) : sidFilter none ps = ps := rfl

theorem sidFilter_some (x : String) (ps : List (Option String × Option String)) :
    sidFilter (some x) ps = ps.filter (fun p => p.1 == some x) := rfl

/-- the last steps of `_choose_samples`, from the pairs that survived the `sample_id` filter -/
def finishChoice (samples : List String) (sid : Option String)
    (pairs1 : List (Option String × Option String)) : Except VErr (String × Option String) :=
  if pairs1.isEmpty && (truthy sid).isNone then .error .indexError else
  let pairs := if pairs1.isEmpty then [(sid, (none : Option String))] else pairs1
  if !((pairNames pairs).all (fun nm => samples.count nm == 1)) then .error .indexError else
  match pairs.head? with
  | some (some s, n) => .ok (s, n)
  | _ => .error .indexError

theorem chooseNames_eq (samples : List String) (peds : List (String × String)) (sid nid : Option String)
    (hs : selOk samples sid = true) (hn : selOk samples nid = true) :
    chooseNames samples peds sid nid =
      finishChoice samples sid (sidFilter (truthy sid) (candidatePairs samples peds nid)) := by
  unfold chooseNames finishChoice
  simp only [hs, hn, Bool.and_self, Bool.not_true, Bool.false_eq_true, if_false]
  rfl

theorem mem_pairNames {ps : List (Option String × Option String)} {x : String} :
    x ∈ pairNames ps ↔ ∃ p ∈ ps, p.1 = some x ∨ p.2 = some x := by
  simp only [pairNames, List.mem_flatMap, List.mem_append, Option.mem_toList]

/-- pairs as `_choose_samples` meets them on a header whose declared names are sample columns: each names a
    tumour, and every name is a sample column -/
def PairsValid (samples : List String) (ps : List (Option String × Option String)) : Prop :=
  ∀ p ∈ ps, (∃ s ∈ samples, p.1 = some s) ∧ ∀ y, p.2 = some y → y ∈ samples

/-- a candidate pair names a tumour: a declared one with its declared normal, or a sample column with no normal or
    the given one -/
theorem mem_candidatePairs {samples : List String} {peds : List (String × String)} {nid : Option String}
    {p : Option String × Option String} (hp : p ∈ candidatePairs samples peds nid) :
    ∃ o, p.1 = some o ∧ ((∃ q ∈ peds, q.1 = o ∧ p.2 = some q.2) ∨
      (o ∈ samples ∧ ∀ y, p.2 = some y → truthy nid = some y)) := by
  unfold candidatePairs at hp
  split at hp
  · obtain ⟨q, hq, rfl⟩ := List.mem_map.mp hp
    exact ⟨q.1, rfl, .inl ⟨q, hq, rfl, rfl⟩⟩
  · split at hp
    · rename_i n htn
      obtain ⟨o, ho, rfl⟩ := List.mem_map.mp hp
      exact ⟨o, rfl, .inr ⟨(List.mem_filter.mp ho).1, fun y hy => Option.some.inj hy ▸ htn⟩⟩
    · obtain ⟨o, ho, rfl⟩ := List.mem_map.mp hp
      exact ⟨o, rfl, .inr ⟨ho, fun y hy => nomatch hy⟩⟩

theorem candidatePairs_valid (samples : List String) (peds : List (String × String)) (nid : Option String)
    (hn : selOk samples nid = true) (hp : PedsValid samples peds) :
    PairsValid samples (candidatePairs samples peds nid) := by
  intro p hp'
  obtain ⟨o, e, ⟨q, hq, rfl, e2⟩ | ⟨ho, h2⟩⟩ := mem_candidatePairs hp'
  · exact ⟨⟨q.1, (hp q hq).1, e⟩, fun y hy => Option.some.inj (e2.symm.trans hy) ▸ (hp q hq).2⟩
  · exact ⟨⟨o, ho, e⟩, fun y hy => selOk_mem hn (h2 y hy)⟩

theorem PairsValid.sidFilter {samples : List String} {ps : List (Option String × Option String)}
    (h : PairsValid samples ps) (s : Option String) : PairsValid samples (sidFilter s ps) := by
  cases s with
  | none => exact h
  | some x => exact fun p hp => h p (List.mem_filter.mp hp).1

/-- `_confirm_unique` passes on valid pairs: every name is a sample column, and distinct columns count once -/
theorem PairsValid.count_names {samples : List String} {ps : List (Option String × Option String)}
    (h : PairsValid samples ps) (hnd : samples.Nodup) :
    (pairNames ps).all (fun nm => samples.count nm == 1) = true := by
  refine List.all_eq_true.mpr (fun x hx => ?_)
  have hx' : x ∈ samples := by
    obtain ⟨q, hq, h1 | h2⟩ := mem_pairNames.mp hx
    · obtain ⟨s', hs', e⟩ := (h q hq).1
      cases h1.symm.trans e
      exact hs'
    · exact (h q hq).2 x h2
  rw [hnd.count, if_pos hx']
  rfl

theorem finishChoice_eq (samples : List String) (hnd : samples.Nodup) (sid : Option String)
    (hs : selOk samples sid = true) (ps : List (Option String × Option String)) (h : PairsValid samples ps) :
    finishChoice samples sid ps =
      match (ps.head?.bind (fun p => p.1.map (·, p.2))).or ((truthy sid).map (·, none)) with
      | some r => .ok r
      | none => .error .indexError := by
  cases ps with
  | nil =>
    cases hts : truthy sid with
    | none => simp [finishChoice, hts]
    | some x =>
      -- the list checked is `[(sample_id, None)]`, valid because the id names a column
      cases truthy_some hts
      have hv : PairsValid samples [(some x, none)] := fun p hp => by
        rw [List.mem_singleton.mp hp]
        exact ⟨⟨x, selOk_mem hs hts, rfl⟩, fun y hy => nomatch hy⟩
      simp [finishChoice, hts, hv.count_names hnd]
  | cons p rest =>
    obtain ⟨⟨s, _, hs1⟩, _⟩ := h p (by simp)
    obtain ⟨a, n⟩ := p
    cases hs1
    simp [finishChoice, h.count_names hnd]

/-- the first pair of a list all of whose pairs name a tumour -/
theorem firstPair_map {β} (L : List β) (f : β → String) (g : β → Option String) :
    (L.map (fun q => (some (f q), g q))).head?.bind (fun p => p.1.map (·, p.2)) =
      L.head?.map (fun q => (f q, g q)) := by
  cases L <;> rfl

theorem firstPair_filter_map {β} (L : List β) (f : β → String) (g : β → Option String) (x : String) :
    ((L.map (fun q => (some (f q), g q))).filter (fun p => p.1 == some x)).head?.bind (fun p => p.1.map (·, p.2)) =
      (L.find? (fun q => f q == x)).map (fun q => (f q, g q)) := by
  have : (L.map (fun q => (some (f q), g q))).filter (fun p => p.1 == some x) =
      (L.filter (fun q => f q == x)).map (fun q => (some (f q), g q)) := by
    rw [List.filter_map]; rfl
  rw [this, firstPair_map, List.head?_filter]

theorem find?_eq_some_of_unique {α} (p : α → Bool) (l : List α) (x : α) (hx : x ∈ l) (hpx : p x = true)
    (hu : ∀ a, p a = true → a = x) : l.find? p = some x := by
  cases h : l.find? p with
  | none => exact absurd hpx (by simpa using List.find?_eq_none.mp h x hx)
  | some a => rw [hu a (List.find?_some h)]

theorem specPair_eq_first (samples : List String) (peds : List (String × String)) (s nid : Option String)
    (hs : ∀ x, s = some x → x ∈ samples) :
    specPair samples peds s (truthy nid) =
      ((sidFilter s (candidatePairs samples peds nid)).head?.bind (fun p => p.1.map (·, p.2))).or
        (s.map (·, none)) := by
  -- in each of the six cases of the rule the candidates are a `map` with the tumour in front: their first pair is
  -- `head?` resp. `find?` of the underlying list, which is what `specPair` writes down
  cases peds with
  | cons q qs =>
    rw [candidatePairs_cons]
    cases s with
    | none => rw [sidFilter_none, firstPair_map]; rfl
    | some x =>
      rw [sidFilter_some, firstPair_filter_map]
      simp only [specPair, List.isEmpty_cons, Bool.not_false, if_true]
      cases (q :: qs).find? (fun p => p.1 == x) <;> rfl
  | nil =>
    cases htn : truthy nid with
    | none =>
      rw [candidatePairs_nil_none samples htn]
      cases s with
      | none => rw [sidFilter_none, firstPair_map, Option.map_none, Option.or_none]; rfl
      | some x =>
        -- the id names a column, and only that column has its name: `find?` hits it
        rw [sidFilter_some, firstPair_filter_map,
          find?_eq_some_of_unique (fun q => q == x) samples x (hs x rfl) (beq_self_eq_true x)
            (fun a ha => eq_of_beq ha)]
        rfl
    | some y =>
      rw [candidatePairs_nil_some samples htn]
      cases s with
      | none => rw [sidFilter_none, firstPair_map, List.head?_filter, Option.map_none, Option.or_none]; rfl
      | some x =>
        rw [sidFilter_some, firstPair_filter_map]
        show (if (x != y) = true then some (x, some y) else some (x, none)) = _
        -- the others-than-the-normal list holds `x` exactly when `x` is not the normal
        by_cases hxy : x = y
        · subst hxy
          rw [if_neg (by simp), List.find?_eq_none.mpr (fun a ha hax => by
            simpa [eq_of_beq hax] using (List.mem_filter.mp ha).2)]
          rfl
        · rw [if_pos (by simpa using hxy), find?_eq_some_of_unique (fun q => q == x) _ x
            (List.mem_filter.mpr ⟨hs x rfl, by simpa using hxy⟩) (beq_self_eq_true x) (fun a ha => eq_of_beq ha)]
          rfl

theorem chooseNames_spec (samples : List String) (peds : List (String × String)) (sid nid : Option String)
    (hnd : samples.Nodup) (hs : selOk samples sid = true) (hn : selOk samples nid = true)
    (hp : PedsValid samples peds) :
    chooseNames samples peds sid nid =
      match specPair samples peds (truthy sid) (truthy nid) with
      | some p => .ok p
      | none => .error .indexError := by
  rw [chooseNames_eq samples peds sid nid hs hn, specPair_eq_first samples peds _ nid (fun x hx => selOk_mem hs hx),
    finishChoice_eq samples hnd sid hs _ ((candidatePairs_valid samples peds nid hn hp).sidFilter _)]

/-- `_confirm_unique` and `pairs[0]` as `chooseNamesH` and `chooseNames` write them agree -- behind any guard `c` -- on a
    list whose first pair names a tumour -/
theorem confirm_first_lift (samples : List String) (c : Bool) (ps : List (Option String × Option String))
    (h : c = false → ∀ p, ps.head? = some p → p.1.isSome = true) :
    (if c then (.error .indexError : Except VErr (Option String × Option String)) else
      if !((pairNames ps).all (fun nm => samples.count nm == 1)) then .error .indexError else
      match ps.head? with
      | some p => .ok p
      | none => .error .indexError) =
    (if c then (.error .indexError : Except VErr (String × Option String)) else
      if !((pairNames ps).all (fun nm => samples.count nm == 1)) then .error .indexError else
      match ps.head? with
      | some (some s, n) => .ok (s, n)
      | _ => .error .indexError).map (fun p => (some p.1, p.2)) := by
  cases c
  · cases (!(pairNames ps).all fun nm => samples.count nm == 1)
    · rcases hp : ps.head? with _ | ⟨_ | s, n⟩
      · rfl
      · exact absurd (h rfl _ hp) (by simp)
      · rfl
    · rfl
  · rfl

/-- the list the last steps see -- the pairs left, or `[(sample_id, None)]` when none is left and an id is given --
    starts with a tumour if the pairs left all name one -/
theorem salvage_tumour (sid : Option String) (pairs1 : List (Option String × Option String))
    (h1 : ∀ p ∈ pairs1, p.1.isSome = true) (hc : (pairs1.isEmpty && (truthy sid).isNone) = false)
    (p : Option String × Option String)
    (hp : (if pairs1.isEmpty then [(sid, (none : Option String))] else pairs1).head? = some p) : p.1.isSome = true := by
  cases pairs1 with
  | nil =>
    cases hp
    cases sid with
    | none => cases hc
    | some x => rfl
  | cons q rest =>
    cases hp
    exact h1 _ List.mem_cons_self

theorem selOk_none (samples : List String) : selOk samples none = true := rfl

/-- stated for a header already read (`hh`): with `headerPairs … >>= …` on the right the callers' unifier unfolds
    `chooseNamesH` -/
theorem chooseSamplesH_unset (samples : List String) (h : Hdr) (dp : List DPair)
    (hh : headerPairs samples h = .ok dp) :
    chooseSamplesH samples h .unset .unset = chooseNamesH samples dp none none := by
  show (headerPairs samples h).bind (fun dp => chooseNamesH samples dp none none) = _
  rw [hh]
  rfl

theorem chooseNamesH_declared (samples : List String) (p : DPair) (rest : List DPair) :
    chooseNamesH samples (p :: rest) none none =
      if !(pairNames ((p :: rest).map (fun p => (p.1, some p.2)))).all (fun nm => samples.count nm == 1)
      then .error .indexError else .ok (p.1, some p.2) := by
  simp only [chooseNamesH, candidatePairsH, selOk_none, truthy, List.isEmpty_cons, List.map_cons, Bool.and_self,
    Bool.not_true, Bool.not_false, Bool.false_and, Bool.false_eq_true, if_false, if_true, List.head?_cons]

end CnvVerif.Vcf
