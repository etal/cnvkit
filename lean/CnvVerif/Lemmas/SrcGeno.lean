/-
  How the atoms and leaves of the decision structures the translator reads off skgenome/tabio/vcfio.py
  (`_extract_genotype`, `_get_alt_count`, `_safesum`; Generated/VcfDecisions.lean, regenerated from /repo on every run;
  reading: harness/dectrans.py) are read on the model's data.  Props/C18SrcGeno.lean proves that `depthOf`, `zygosityOf`,
  `altCountOf`, `safesum` of Model/Vcf.lean are those structures under this reading.
-/
import CnvVerif.Generated.VcfDecisions
import CnvVerif.Model.Vcf
namespace CnvVerif.Src
open CnvVerif CnvVerif.Vcf CnvVerif.Generated

/-- `"AD" in sample` -/
def hasAD (s : Smp) : Bool := match s.ad with
  | .absent => false
  | _ => true

/-- `isinstance(sample["AD"], tuple)` -/
def adIsTuple (s : Smp) : Bool := match s.ad with
  | .tuple _ => true
  | _ => false

/-- `sample.get("AD") not in (None, (None,))` -/
def adGiven (s : Smp) : Bool := match s.ad with
  | .absent => false
  | .scalar none => false
  | .tuple [none] => false
  | _ => true

/-- `len(sample["AD"]) > 1` -/
def adHasSecond (s : Smp) : Bool := match s.ad with
  | .tuple l => decide (l.length > 1)
  | _ => false

/-- `len(set(sample["GT"])) > 1`: the genotype names more than one distinct allele ("." is one) -/
def severalAlleles (gt : List (Option Int)) : Bool := decide (gt.eraseDups.length > 1)

/-- `set(sample["GT"]).pop() == 0` for a genotype naming one allele: that allele is the reference -/
def onlyAlleleIsRef (gt : List (Option Int)) : Bool := gt.head? == some (some 0)

/-- the value each depth source stands for -/
def depthFrom (s : Smp) (r : Rec) : DepthSrc → Option Int
  | .sampleDP => s.dp
  | .sumAD => match s.ad with
    | .tuple l => some (safesum l)
    | _ => none
  | .infoDP => r.infoDP
  | .missing => none

/-- the value each alt-count source stands for; the CLCAD2 / AO sources do not occur in files with GT, AD, DP only -/
def altFrom (s : Smp) : AltSrc → Option Int
  | .adSecond => match s.ad with
    | .tuple l => (l[1]?).getD none
    | _ => none
  | .zero => some 0
  | .adScalar => match s.ad with
    | .scalar v => v
    | _ => none
  | .missing => none
  | _ => none

/-- `sum(filter(None, tup))`: the sum of the entries that are neither missing nor zero -/
def sumOfTruthy (l : List (Option Int)) : Int := ((l.filterMap id).filter (fun x => x != 0)).sum

def sumFrom (l : List (Option Int)) : SumSrc → Int
  | .sumOfTruthy => sumOfTruthy l

theorem safesum_eq_sumOfTruthy (l : List (Option Int)) : safesum l = sumOfTruthy l := by
  unfold safesum sumOfTruthy
  rw [← List.sum_eq_foldl]
  induction l with
  | nil => rfl
  | cons a t ih =>
    rcases a with _ | x
    · exact (Int.zero_add _).trans ih
    · by_cases hx : x = 0
      · subst hx
        exact (Int.zero_add _).trans ih
      · simp only [List.map_cons, Option.getD_some, List.sum_cons, List.filterMap_cons, id]
        simp [hx, ih]

end CnvVerif.Src
