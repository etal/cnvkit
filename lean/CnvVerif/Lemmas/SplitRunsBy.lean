/-
  `splitRunsBy` (Model/TileExt.lean: the runs behind `squash_by_groups` and `by_chromosome`) satisfies the relation
  `Runs` of Lemmas/Runs.lean; what its users need of the runs (they concatenate to the list, none is empty, a function
  that related neighbours agree on is constant on each) is read off the relation.  Core Lean only.
-/
import CnvVerif.Model.TileExt
import CnvVerif.Lemmas.Runs
namespace CnvVerif

theorem runs_splitRunsBy {α} (same : α → α → Bool) (l : List α) : Runs same l (splitRunsBy same l) := by
  induction l with
  | nil => exact .nil
  | cons a t ih =>
    cases t with
    | nil => exact .one a
    | cons b t =>
      obtain ⟨g, gs, e⟩ := ih.head
      rw [splitRunsBy, e]
      rw [e] at ih
      dsimp only
      split
      · exact .join ‹_› ih
      · exact .cut (Bool.eq_false_iff.mpr ‹_›) ih

theorem splitRunsBy_spec {α β} (same : α → α → Bool) (f : α → β)
    (hsame : ∀ a b, same a b = true → f a = f b) (l : List α) :
    (splitRunsBy same l).flatten = l ∧ (∀ g ∈ splitRunsBy same l, g ≠ []) ∧
      (∀ g ∈ splitRunsBy same l, ∀ x ∈ g, ∀ y ∈ g, f x = f y) :=
  have h := runs_splitRunsBy same l
  ⟨h.flatten, h.ne_nil, h.uniform f hsame⟩

end CnvVerif
