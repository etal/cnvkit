/-
  Lemmas behind Props/C14Sq.lean: how a cell of the one-row result is found by its name, what the reductions of a
  run of rows are on the columns `squash_region` reads, the maximum of a list (`Series.max`).
-/
import Mathlib.Tactic.FieldSimp
import Mathlib.Algebra.Order.Field.Rat
import CnvVerif.Model.SegFilterExt5
import CnvVerif.Lemmas.SegFilter
import CnvVerif.Lemmas.Basic
namespace CnvVerif.C14Sq
open CnvVerif

theorem rmax_eq_max (a b : Rat) : rmax a b = max a b := (max_def a b).symm

theorem maxL_spec (l : List Rat) (hne : l ≠ []) : (∀ y ∈ l, y ≤ maxL l) ∧ maxL l ∈ l := by
  cases l with
  | nil => exact absurd rfl hne
  | cons x xs =>
    -- `Series.max` is a fold with an operation that returns one of its arguments (Lemmas/Basic.lean)
    have hr := foldl_pick_rel rmax (fun a b => b ≤ a) le_refl (fun h1 h2 => le_trans h2 h1)
      (fun a b => rmax_eq_max a b ▸ le_max_left a b) (fun a b => rmax_eq_max a b ▸ le_max_right a b) xs x
    exact ⟨List.forall_mem_cons.mpr hr,
      (foldl_pick_mem rmax (fun a b => rmax_eq_max a b ▸ max_choice a b) xs x).elim
        (fun h => List.mem_cons.mpr (Or.inl h)) (List.mem_cons_of_mem _)⟩

theorem cellOf_cons (k k' : String) (b : Bool) (c : Cell) (l : List Col) :
    cellOf k ((k', b, c) :: l) = if k' = k ∧ b = true then some c else cellOf k l := by
  unfold cellOf
  rw [List.find?_cons]
  by_cases h : k' = k ∧ b = true
  · rw [if_pos h]; simp [h.1, h.2]
  · rw [if_neg h]
    have : ((k' == k) && b) = false := by
      rcases Classical.not_and_iff_not_or_not.mp h with h | h <;> simp [h]
    simp only [this]

theorem cellOf_of_not_mem (k : String) (l : List Col) (h : k ∉ l.map (·.1)) : cellOf k l = none := by
  induction l with
  | nil => rfl
  | cons x l ih =>
    obtain ⟨k', b, c⟩ := x
    rw [List.map_cons, List.mem_cons, not_or] at h
    rw [cellOf_cons, if_neg (fun h' => h.1 h'.1.symm), ih h.2]

/-- the names of the columns being distinct, the cell found under the name that stands at position `i` is the
    cell at position `i`, if that column exists -/
theorem cellOf_of_getElem? {l : List Col} (hnd : (l.map (·.1)).Nodup) {i : Nat} {k : String} {b : Bool} {c : Cell}
    (h : l[i]? = some (k, b, c)) : cellOf k l = if b = true then some c else none := by
  induction l generalizing i with
  | nil => simp at h
  | cons x l ih =>
    obtain ⟨k', b', c'⟩ := x
    rw [List.map_cons, List.nodup_cons] at hnd
    rw [cellOf_cons]
    cases i with
    | zero =>
      simp only [List.getElem?_cons_zero, Option.some.injEq, Prod.mk.injEq] at h
      obtain ⟨rfl, rfl, rfl⟩ := h
      cases b'
      · simp [cellOf_of_not_mem _ _ hnd.1]
      · simp
    | succ i =>
      rw [List.getElem?_cons_succ] at h
      have hk : k ∈ l.map (·.1) := List.mem_map.mpr ⟨(k, b, c), List.mem_of_getElem? h, rfl⟩
      rw [if_neg (fun h' : k' = k ∧ b' = true => hnd.1 (h'.1 ▸ hk)), ih hnd.2 h]

theorem squashCols_nodup (R : Reds) : ((squashCols R).map (·.1)).Nodup := by
  show ["chromosome", "start", "end", "log2", "gene", "probes", "weight", "depth", "baf", "cn", "cn1", "cn2",
    "p_bintest"].Nodup
  decide +kernel

/-- the cell of the squashed row under the name of the `i`-th column `squash_region` writes; the hypothesis is
    closed by `rfl` at a given `i` -/
theorem squashCols_cell (R : Reds) {i : Nat} {k : String} {b : Bool} {c : Cell}
    (h : (squashCols R)[i]? = some (k, b, c)) : cellOf k (squashCols R) = if b = true then some c else none :=
  cellOf_of_getElem? (squashCols_nodup R) h

theorem squashCols_cell_isSome (R : Reds) {i : Nat} {k : String} {b : Bool} {c : Cell}
    (h : (squashCols R)[i]? = some (k, b, c)) : (cellOf k (squashCols R)).isSome = b := by
  rw [squashCols_cell R h]
  cases b <;> rfl

theorem numCol_start : numCol "start" = fun r => (r.s : Rat) := by funext r; simp [numCol]
theorem numCol_end : numCol "end" = fun r => (r.e : Rat) := by funext r; simp [numCol]
theorem numCol_log2 : numCol "log2" = fun r => r.log2 := by funext r; simp [numCol]
theorem numCol_probes : numCol "probes" = fun r => (r.probes : Rat) := by funext r; simp [numCol]
theorem numCol_weight : numCol "weight" = fun r => r.weight := by funext r; simp [numCol]
theorem numCol_depth : numCol "depth" = fun r => r.depth := by funext r; simp [numCol]
theorem numCol_baf : numCol "baf" = fun r => r.baf := by funext r; simp [numCol]
theorem numCol_pb : numCol "p_bintest" = fun r => r.pb := by funext r; simp [numCol]
theorem strCol_gene : strCol "gene" = fun r => r.gene := by funext r; simp [strCol]
theorem strCol_chrom : strCol "chromosome" = fun r => r.chrom := by funext r; simp [strCol]

theorem redsOf_has (cols : List String) (rows : List XRow) (c : String) :
    (redsOf cols rows).has c = cols.contains c := rfl

theorem redsOf_first_cons (cols : List String) (a : XRow) (rest : List XRow) (c : String) :
    (redsOf cols (a :: rest)).first c = numCol c a := rfl

theorem redsOf_firstS_cons (cols : List String) (a : XRow) (rest : List XRow) (c : String) :
    (redsOf cols (a :: rest)).firstS c = strCol c a := rfl

theorem redsOf_sum (cols : List String) (rows : List XRow) (c : String) :
    (redsOf cols rows).sum c = sumRat (rows.map (numCol c)) := rfl

theorem redsOf_joinUniq (cols : List String) (rows : List XRow) (sep c : String) :
    (redsOf cols rows).joinUniq sep c = sep.intercalate (rows.map (strCol c)).eraseDups := rfl

theorem redsOf_last (cols : List String) (rows : List XRow) (hne : rows ≠ []) (c : String) :
    (redsOf cols rows).last c = numCol c (rows.getLast hne) := by
  show ((rows.getLast?).map (numCol c)).getD 0 = _
  rw [List.getLast?_eq_some_getLast hne]
  rfl

theorem wmeanCell_redsOf (cols : List String) (rows : List XRow) (k : String) :
    wmeanCell (redsOf cols rows) k =
      if sumRat (rows.map (·.weight)) > 0 then
        sumRat (rows.map (fun r => numCol k r * r.weight)) / sumRat (rows.map (·.weight))
      else sumRat (rows.map (numCol k)) / (rows.length : Rat) := by
  simp only [wmeanCell, redsOf, numCol_weight, decide_eq_true_eq]

/-- a weight-averaged optional column `k` (depth, baf): `hk` says which field of a row the column is, `hi` that entry `i` of
    the row `squash_region` writes is this column (closed by `rfl` at the column's position) -/
theorem wmean_cell_spec (cols : List String) (rows : List XRow) (k : String) (v : XRow → Rat) (hk : numCol k = v)
    {i : Nat} (hi : (squashCols (redsOf cols rows))[i]? =
      some (k, (redsOf cols rows).has k, Cell.num (wmeanCell (redsOf cols rows) k)))
    (hd : cols.contains k = true) (hw : sumRat (rows.map (·.weight)) > 0) :
    ∃ d : Rat, cellOf k (squashRowX cols rows) = some (.num d) ∧
      d * sumRat (rows.map (·.weight)) = sumRat (rows.map (fun r => v r * r.weight)) := by
  have hne : sumRat (rows.map (·.weight)) ≠ 0 := ne_of_gt hw
  refine ⟨sumRat (rows.map (fun r => v r * r.weight)) / sumRat (rows.map (·.weight)), ?_, ?_⟩
  · rw [squashRowX, squashCols_cell _ hi, redsOf_has, if_pos hd, wmeanCell_redsOf, if_pos hw, hk]
  · field_simp

theorem cast_sumInt (l : List Int) : ((sumInt l : Int) : Rat) = sumRat (l.map (fun (i : Int) => (i : Rat))) := by
  induction l with
  | nil => simp [sumInt, sumRat]
  | cons a l ih => rw [sumInt_cons, List.map_cons, sumRat_cons, ← ih]; push_cast; rfl

end CnvVerif.C14Sq
