/-
  Per-segment BAF (property C18): mirroring around 0.5 (`mirrorOne_sub`: `mirrorOne b v - 1/2 = ± |v - 1/2|`, the
  model's `absQ` read as `|·|`), the two branches of TumorBoost, the median read through Lemmas/OrderStat.lean
  (`sortQ_eq`: the model's insertion sort is Mathlib's; `median_eq`), and `baf_by_ranges` as one summary per range.
  The heterozygous rows are tagged with their positions, `iter_slices` hands out the tagged rows of each range
  (Lemmas/Ranges.lean; the ranges come regrouped by chromosome, which is `groupby` of Lemmas/GroupBy.lean and the
  identity on `ChromGrouped` ranges), and looking the tags up again gives the values of exactly the rows that overlap
  the range (`slice_of_segment`): `bafByRanges_eq`.
-/
import CnvVerif.Lemmas.VcfTable
import CnvVerif.Lemmas.Ranges
import CnvVerif.Lemmas.GroupBy
import CnvVerif.Lemmas.OrderStat
import Mathlib.Data.List.Basic
import Std.Data.String.ToNat
namespace CnvVerif.Vcf
open CnvVerif

theorem absQ_eq_abs (q : Rat) : absQ q = |q| := Desc.absR_eq_abs q

theorem mirrorOne_sub (b : Bool) (v : Rat) : mirrorOne b v - 1/2 = if b then |v - 1/2| else -|v - 1/2| := by
  cases b
  · simp only [mirrorOne, absQ_eq_abs, Bool.false_eq_true, if_false]
    rw [sub_sub_cancel_left]
  · exact (add_sub_cancel_left _ _).trans (absQ_eq_abs _)

theorem mirrorOne_side (b : Bool) (v : Rat) : if b then 1/2 ≤ mirrorOne b v else mirrorOne b v ≤ 1/2 := by
  cases b
  · exact sub_nonpos.mp (mirrorOne_sub false v ▸ neg_nonpos.mpr (abs_nonneg _))
  · exact sub_nonneg.mp (mirrorOne_sub true v ▸ abs_nonneg _)

theorem mirrorOne_fixed (v : Rat) : mirrorOne (decide (v > 1/2)) v = v := by
  rw [← sub_left_inj (a := 1/2), mirrorOne_sub]
  by_cases h : v > 1/2
  · rw [decide_eq_true h, if_pos rfl, abs_of_nonneg (sub_nonneg.mpr h.le)]
  · rw [decide_eq_false h, if_neg Bool.false_ne_true, abs_of_nonpos (sub_nonpos.mpr (not_lt.mp h)), neg_neg]

theorem mirroredBaf_length (vals : List (Option Rat)) (a : Option Bool) :
    (mirroredBaf vals a).length = vals.length := by
  simp [mirroredBaf]

theorem mem_mirroredBaf {vals : List (Option Rat)} {a : Option Bool} {q : Rat}
    (hq : some q ∈ mirroredBaf vals a) : ∃ x, some x ∈ vals ∧ q = mirrorOne (mirrorAbove vals a) x := by
  obtain ⟨v, hv, e⟩ := List.mem_map.mp hq
  cases v with
  | none => cases e
  | some x => exact ⟨x, hv, (Option.some.inj e).symm⟩

theorem sortQ_eq (l : List Rat) : sortQ l = l.insertionSort (· ≤ ·) := by
  have e : insertQ = List.orderedInsert (· ≤ ·) := by
    funext x l
    induction l with
    | nil => rfl
    | cons y ys ih => simp only [insertQ, List.orderedInsert_cons, ih]
  induction l with
  | nil => rfl
  | cons x xs ih => rw [sortQ, e, ih]; rfl

theorem sortQ_perm (l : List Rat) : (sortQ l).Perm l := sortQ_eq l ▸ List.perm_insertionSort _ l

theorem sortQ_sorted (l : List Rat) : (sortQ l).Pairwise (· ≤ ·) := sortQ_eq l ▸ List.pairwise_insertionSort _ l

theorem sortQ_eq_sortR (l : List Rat) : sortQ l = Desc.sortR l :=
  (Desc.sortR_unique (sortQ_sorted l) (sortQ_perm l)).symm

theorem median_eq (l : List Rat) : median l = if l = [] then none else some (Desc.median l) := by
  unfold median
  rw [sortQ_eq_sortR, Desc.median_def]
  by_cases hl : l = []
  · subst hl
    rw [Desc.sortR_of_sorted List.Pairwise.nil]
    rfl
  · have hpos : 0 < (Desc.sortR l).length := List.length_pos_iff.mpr (Desc.sortR_ne_nil hl)
    have hmid := Desc.half_lt hpos
    simp only [if_neg hl, if_neg (Nat.ne_of_gt hpos), Desc.nth_eq_getElem _ _ hmid,
      Desc.nth_eq_getElem _ _ (Nat.lt_of_le_of_lt (Nat.sub_le _ _) hmid), List.getElem?_eq_getElem hmid,
      List.getElem?_eq_getElem (Nat.lt_of_le_of_lt (Nat.sub_le _ _) hmid)]
    split <;> rfl

theorem median_eq_none (l : List Rat) : median l = none ↔ l = [] := by
  rw [median_eq]
  split <;> simp [*]

theorem median_single (x : Rat) : median [x] = some x := by
  rw [median_eq, if_neg (List.cons_ne_nil _ _), Desc.median_singleton]

/-- one value is its own mirrored median: the single-value shortcut of `into_ranges` agrees with
    the definition when the side is left to the data -/
theorem summarize_single (v : Option Rat) : summarize none [v] = v := by
  cases v with
  | none => simp [summarize, mirroredBaf, nanmedian, median, sortQ]
  | some x =>
    simp only [summarize, mirroredBaf, mirrorAbove, nanmedian, List.filterMap_cons, List.filterMap_nil,
      id_eq, List.map_cons, List.map_nil, Option.map_some, median_single]
    rw [mirrorOne_fixed]

theorem series2value_none (vs : List (Option Rat)) : series2value none vs = summarize none vs := by
  match vs with
  | [] => simp [series2value, summarize, mirroredBaf, nanmedian, median, sortQ]
  | [v] => simp [series2value, summarize_single]
  | _ :: _ :: _ => simp [series2value]

theorem tumorBoost_of_lt {t n : Rat} (h : t < n) :
    tumorBoost t n = if n = 0 then none else some (t / (2 * n)) := if_pos h

theorem tumorBoost_of_not_lt {t n : Rat} (h : ¬ t < n) :
    tumorBoost t n = if n = 1 then none else some (1 - (1 - t) / (2 * (1 - n))) := if_neg h

/-- the source writes `0.5 * a / b` where the model writes `a / (2 * b)` -/
theorem half_mul_div (a b : Rat) : 1/2 * a / b = a / (2 * b) := by
  rw [one_div_mul_eq_div, div_div]

/-- a variant table as every `tabio.read` returns it: in cnvkit's order, rows of positive length
    at non-negative coordinates -/
def WFRows (rows : List VRow) : Prop := SortedV rows ∧ ∀ r ∈ rows, 0 ≤ r.s ∧ r.s < r.e

theorem keyLe_same_chrom {a b : VRow} (h : keyLe a b = true) (hc : a.chrom = b.chrom) : a.s ≤ b.s := by
  rw [keyLe_iff, hc] at h
  rcases h with h | ⟨_, h⟩
  · rw [chromKeyLt_irrefl] at h
    exact absurd h (by simp)
  · omega

theorem WFRows.sublist {rows sub : List VRow} (h : WFRows rows) (hs : sub.Sublist rows) : WFRows sub :=
  ⟨List.Pairwise.sublist hs h.1, fun r hr => h.2 r (hs.subset hr)⟩

theorem WFRows.heterozygous {rows : List VRow} (h : WFRows rows) : WFRows (heterozygous rows) :=
  h.sublist (heterozygous_sublist rows)

theorem wf_tagged (H : List VRow) (h : WFRows H) (c : String) :
    WFTable ((H.zipIdx.map tagRow).filter (fun r => r.chrom == c)) := by
  constructor
  · have hz : (H.zipIdx.map tagRow).Pairwise (fun a b => a.chrom = b.chrom → a.s ≤ b.s) := by
      have : (H.zipIdx.map Prod.fst).Pairwise (fun a b => keyLe a b = true) := by
        rw [List.zipIdx_map_fst]
        exact h.1
      exact List.pairwise_map.mpr ((List.pairwise_map.mp this).imp (fun hle hc => keyLe_same_chrom hle hc))
    exact pairwise_rowsOf hz c
  · intro r hr
    obtain ⟨p, hp, rfl⟩ := List.mem_map.mp (List.mem_filter.mp hr).1
    exact h.2 p.1 (List.fst_mem_of_mem_zipIdx hp)

theorem sliceValues_tag (H : List VRow) (f : VRow → Option Rat) (l : List (VRow × Nat))
    (hl : ∀ p ∈ l, p ∈ H.zipIdx) :
    sliceValues (H.map f) (l.map tagRow) = l.map (fun p => f p.1) := by
  unfold sliceValues
  rw [List.filterMap_map, ← List.filterMap_eq_map (f := fun p : VRow × Nat => f p.1)]
  apply List.filterMap_congr
  intro p hp
  have := List.mem_zipIdx_iff_getElem?.mp (hl p hp)
  simp only [Function.comp, tagRow, Nat.toNat?_repr, List.getElem?_map, this, Option.map_some]

theorem zipIdx_filter_fst (H : List VRow) (Q : VRow → Bool) :
    (H.zipIdx.filter (fun p => Q p.1)).map (fun p => p.1) = H.filter Q := by
  have := @List.filter_map (VRow × Nat) VRow (fun p => p.1) Q H.zipIdx
  rw [List.zipIdx_map_fst] at this
  rw [this]
  rfl

/-- the values `into_ranges` collects for one range: those of the rows that overlap it -/
theorem slice_of_segment (H : List VRow) (h : WFRows H) (f : VRow → Option Rat)
    (g : String × Int × Int) :
    sliceValues (H.map f)
      (idxSelect ((H.zipIdx.map tagRow).filter (fun r => r.chrom == (segRow g).chrom))
        (some (segRow g).s) (some (segRow g).e) false) =
      (H.filter (overlaps g)).map f := by
  rw [idxSelect_eq_filter _ (wf_tagged H h _), selFilter_outer,
    List.filter_filter, List.filter_map, sliceValues_tag H f _ (fun p hp => (List.mem_filter.mp hp).1),
    ← zipIdx_filter_fst H (overlaps g), List.map_map]
  congr 1
  apply List.filter_congr
  intro p _
  show (decide (p.1.e > g.2.1) && decide (p.1.s < g.2.2) && (p.1.chrom == g.1)) = overlaps g p.1
  rw [Bool.and_comm, ← Bool.and_assoc]
  rfl

/-- segments regrouped by chromosome, in order of first appearance -/
def regroupSegs (segs : List (String × Int × Int)) : List (String × Int × Int) :=
  ((segs.map (fun g => g.1)).eraseDups).flatMap (fun c => segs.filter (fun g => g.1 == c))

theorem regroupSegs_eq (segs : List (String × Int × Int)) :
    regroupSegs segs = (groupByKey (fun g : String × Int × Int => g.1) segs).flatten :=
  List.flatMap_def ..

theorem queriesInOrder_segRow (segs : List (String × Int × Int)) :
    queriesInOrder (segs.map segRow) = (regroupSegs segs).map segRow := by
  rw [queriesInOrder_map, regroupSegs_eq]
  rfl

theorem regroupSegs_length (segs : List (String × Int × Int)) :
    (regroupSegs segs).length = segs.length :=
  (regroupSegs_eq segs ▸ groupByKey_flatten_perm _ segs).length_eq

/-- `baf_by_ranges`: for every range (handed out chromosome by chromosome) the summary of the
    frequencies of the heterozygous rows that overlap it -/
theorem bafByRanges_eq (tb : VTable) (segs : List (String × Int × Int)) (above : Option Bool) (boost : Bool)
    (hwf : WFRows tb.rows) :
    bafByRanges tb segs above boost =
      (regroupSegs segs).map (fun g =>
        series2value above (((heterozygous tb.rows).filter (overlaps g)).map (bafFreq tb.paired boost))) := by
  have hH := hwf.heterozygous
  unfold bafByRanges
  show (if _ then _ else _) = _
  split
  · -- the shortcut for an empty table or no ranges: all missing, which is what the summaries of nothing are
    rename_i hemp
    rw [List.map_map]
    rcases (Bool.or_eq_true _ _).mp hemp with h1 | h1
    · have hnil : heterozygous tb.rows = [] := by
        simpa [List.zipIdx_eq_nil_iff] using h1
      rw [hnil]
      simp only [List.filter_nil, List.map_nil, series2value]
      have e : ((fun _ => none : Row → Option Rat) ∘ segRow) = (fun _ => none) := rfl
      rw [e, List.map_const', List.map_const', regroupSegs_length]
    · have hnil : segs = [] := by simpa using h1
      subst hnil
      simp [regroupSegs]
  · -- one slice per range in visiting order; each slice holds the values of the rows overlapping its range
    rw [iterSlices_keep, queriesInOrder_segRow, List.map_map, List.map_map]
    apply List.map_congr_left
    intro g _
    have hmode : (Mode.outer == Mode.inner) = false := rfl
    simp only [Function.comp, hitsOf, hmode]
    rw [slice_of_segment _ hH _ g]

/-- each chromosome's ranges are adjacent (as in every table `tabio` reads): once the leading run
    of a chromosome is over, that chromosome does not come back -/
def ChromGrouped : List (String × Int × Int) → Prop
  | [] => True
  | g :: t => (∀ x ∈ t.dropWhile (fun y => y.1 == g.1), x.1 ≠ g.1) ∧ ChromGrouped t

theorem mem_dropWhile_of {α} (p : α → Bool) {l2 l3 : List α} {y z : α} (hz : z ∈ l2) (hp : p z = false) :
    y ∈ (l2 ++ y :: l3).dropWhile p := by
  induction l2 with
  | nil => cases hz
  | cons a l2 ih =>
    rw [List.cons_append, List.dropWhile_cons]
    split
    · rename_i ha
      rcases List.mem_cons.mp hz with rfl | hz
      · rw [hp] at ha; cases ha
      · exact ih hz
    · exact List.mem_cons_of_mem _ (List.mem_append_right _ List.mem_cons_self)

/-- between two ranges of one chromosome a range of another would end the leading run, and the chromosome would come
    back after it -/
theorem ChromGrouped.keysContig {segs : List (String × Int × Int)} (h : ChromGrouped segs) :
    KeysContig (fun g : String × Int × Int => g.1) segs := by
  intro l1 l2 l3 x y z hl hz hxy
  have e : segs = l1 ++ x :: (l2 ++ y :: l3) := by simpa using hl
  subst e
  have hs : ChromGrouped (x :: (l2 ++ y :: l3)) := by
    clear hl
    induction l1 with
    | nil => exact h
    | cons a l1 ih => exact ih h.2
  exact Decidable.byContradiction fun hne => hs.1 y (mem_dropWhile_of _ hz (by simpa using hne)) hxy.symm

theorem regroupSegs_of_grouped (segs : List (String × Int × Int)) (h : ChromGrouped segs) :
    regroupSegs segs = segs :=
  (regroupSegs_eq segs).trans (groupByKey_flatten_of_contig _ segs h.keysContig)

theorem summarize_eq_none (a : Option Bool) (vals : List (Option Rat)) :
    summarize a vals = none ↔ ∀ v ∈ vals, v = none := by
  unfold summarize nanmedian mirroredBaf
  rw [median_eq_none, List.filterMap_eq_nil_iff]
  constructor
  · intro h v hv
    have := h (v.map (mirrorOne (mirrorAbove vals a))) (List.mem_map.mpr ⟨v, hv, rfl⟩)
    cases v with
    | none => rfl
    | some x => simp at this
  · intro h w hw
    obtain ⟨v, hv, rfl⟩ := List.mem_map.mp hw
    rw [h v hv]
    rfl

end CnvVerif.Vcf
