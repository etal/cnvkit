/-
  The level loop of `haarSeg`, for any per-level convolution (the unweighted one here, the weighted one in
  HaarWeightedSeg): one peak `b` at every level gives the one breakpoint `b`, no peak at any level gives none; the
  segment table on a noise-free step and on a constant signal; the property's tolerances from the exact table.  From the
  convolution (Haar), the peaks (HaarPeaks), `UnifyLevels` (HaarUnify) and `SegmentByPeaks` (HaarSegs).
-/
import CnvVerif.Lemmas.Haar
import CnvVerif.Lemmas.HaarPeaks
import CnvVerif.Lemmas.HaarUnify
import CnvVerif.Lemmas.HaarSegs
import CnvVerif.Lemmas.Basic
namespace CnvVerif.Haar

theorem absQ_nonneg (x : Rat) : 0 ≤ absQ x := by
  unfold absQ
  split
  · linarith
  · linarith

/-- `FDRThres` with fewer than two peaks returns 0 (`if M < 2: return 0`) -/
theorem fdrThres_small (rnd : Rat → Rat) (x : List Rat) (q : Rat) (p : List Rat) (h : x.length < 2) :
    fdrThres rnd x q p = 0 := by
  unfold fdrThres
  simp [Generated.HAAR_FDR_MIN_M, Generated.HAAR_FDR_SMALL_T, h]

theorem levelStep_single (thr : List Rat → Rat) (hthr : ∀ x, x.length < 2 → thr x = 0)
    (conv : List Rat) (w : Nat) (bp : List Nat) (b : Nat) (hp : findLocalPeaks conv = [b]) :
    levelStep thr conv w bp = unifyLevels bp [b] w := by
  unfold levelStep
  simp only [hp, List.map_cons, List.map_nil]
  rw [hthr _ (by simp)]
  simp [absQ_nonneg]

theorem levelStep_none (thr : List Rat → Rat) (conv : List Rat) (w : Nat) (bp : List Nat)
    (hp : findLocalPeaks conv = []) : levelStep thr conv w bp = bp := by
  unfold levelStep
  simp [hp, unifyLevels_nil_addon]

/-- the first level puts `b` into the empty list, every later level finds it there again -/
theorem haarBreaks_single (conv : Nat → Nat → List Rat) (thr : Nat → List Rat → Rat)
    (table : List (Nat × Nat × Nat)) (b : Nat)
    (hthr : ∀ lv x, x.length < 2 → thr lv x = 0)
    (hpk : ∀ row ∈ table, findLocalPeaks (conv row.1 row.2.1) = [b]) (hne : table ≠ []) :
    haarBreaks conv thr table = [b] := by
  obtain ⟨row, rest, rfl⟩ := List.exists_cons_of_ne_nil hne
  have st : ∀ r ∈ row :: rest, ∀ bp, levelStep (thr r.1) (conv r.1 r.2.1) r.2.2 bp = unifyLevels bp [b] r.2.2 :=
    fun r hr bp => levelStep_single _ (hthr r.1) _ _ _ b (hpk r hr)
  unfold haarBreaks
  rw [List.foldl_cons, st row List.mem_cons_self, unifyLevels_nil_singleton]
  exact foldl_fixed_mem _ _ _ fun r hr => by rw [st r (List.mem_cons_of_mem _ hr), unifyLevels_same]

theorem haarBreaks_none (conv : Nat → Nat → List Rat) (thr : Nat → List Rat → Rat)
    (table : List (Nat × Nat × Nat))
    (hpk : ∀ row ∈ table, findLocalPeaks (conv row.1 row.2.1) = []) :
    haarBreaks conv thr table = [] :=
  foldl_fixed_mem _ _ _ fun row hrow => levelStep_none _ _ _ _ (hpk row hrow)

theorem slice_stepSig_left (lo hi : Rat) (b n : Nat) : slice (stepSig lo hi b n) 0 b = List.replicate b lo := by
  simp [slice, stepSig]

theorem slice_stepSig_right (lo hi : Rat) (b n : Nat) :
    slice (stepSig lo hi b n) b n = List.replicate (n - b) hi := by
  simp [slice, stepSig]

theorem segmentByPeaks_stepSig (lo hi : Rat) (b n : Nat) (hb : 1 ≤ b) (hn : b < n) (wt : Option (List Rat))
    (hw : ∀ ws, wt = some ws → ws.length = n) :
    segmentByPeaks (stepSig lo hi b n) [b] wt = stepSig lo hi b n := by
  have hlen := stepSig_length lo hi b n (by omega)
  rw [segmentByPeaks_eq _ _ _
    ⟨List.pairwise_singleton _ _, fun p hp => by rw [List.mem_singleton.mp hp, hlen]; omega⟩, hlen]
  simp only [bounds, List.cons_append, List.nil_append, List.zip_cons_cons, List.zip_nil_right, List.flatMap_cons,
    List.flatMap_nil, List.append_nil, Nat.sub_zero]
  rw [slice_stepSig_left, slice_stepSig_right,
    segValue_replicate lo b hb _ (slice_weights_length wt n 0 b hw (by omega)),
    segValue_replicate hi (n - b) (by omega) _ (slice_weights_length wt n b n hw (le_refl _))]
  rfl

theorem segTable_stepSig (lo hi : Rat) (b n : Nat) (hb : 1 ≤ b) (hn : b < n) (wt : Option (List Rat))
    (hw : ∀ ws, wt = some ws → ws.length = n) :
    segTable (stepSig lo hi b n) wt [b]
      = { start := [0, b], stop := [(b : Int) - 1, (n : Int) - 1],
          size := [(b : Int), (n : Int) - (b : Int)], mean := [lo, hi] } := by
  unfold segTable
  rw [segmentByPeaks_stepSig lo hi b n hb hn wt hw, stepSig_length lo hi b n (by omega)]
  simp only [List.map_cons, List.map_nil, nth_toArray, getD_stepSig_lt lo hi b n 0 hb,
    getD_stepSig_ge lo hi b n b (le_refl b) hn]
  simp

theorem segTable_const (c : Rat) (n : Nat) (hn : 1 ≤ n) (wt : Option (List Rat))
    (hw : ∀ ws, wt = some ws → ws.length = n) :
    segTable (List.replicate n c) wt []
      = { start := [0], stop := [(n : Int) - 1], size := [(n : Int)], mean := [c] } := by
  unfold segTable
  rw [segmentByPeaks_eq _ _ _ ⟨List.Pairwise.nil, fun _ h => nomatch h⟩]
  simp only [List.length_replicate, bounds, List.nil_append, List.zip_cons_cons, List.zip_nil_right,
    List.flatMap_cons, List.flatMap_nil, List.append_nil, Nat.sub_zero]
  rw [show slice (List.replicate n c) 0 n = List.replicate n c by simp [slice],
    segValue_replicate c n hn _ (slice_weights_length wt n 0 n hw (le_refl _))]
  obtain ⟨m, rfl⟩ : ∃ m, n = m + 1 := ⟨n - 1, by omega⟩
  simp [nth_toArray, List.replicate_succ]

theorem peaks_haarConv_step (rnd : Rat → Rat) (hr : SignMono rnd) (norm : Rat) (hnorm : 0 < norm)
    (lo hi : Rat) (hne : lo ≠ hi) (b n h : Nat) (h1 : 1 ≤ h) (hb : h ≤ b) (hn : b + h ≤ n) (hn2 : b + 2 ≤ n) :
    findLocalPeaks (haarConv rnd norm (stepSig lo hi b n) h) = [b] := by
  rw [haarConv_ideal_step rnd hr.1 norm lo hi b n h h1 hb hn]
  exact findLocalPeaks_tent (fun x => rnd (x / norm)) (signMono_div rnd hr norm hnorm) (hi - lo)
    (sub_ne_zero.mpr (Ne.symm hne)) b n h h1 hb hn2

theorem table_rows (row : Nat × Nat × Nat) (h : row ∈ Generated.HAAR_LEVEL_TABLE) :
    1 ≤ row.2.1 ∧ row.2.1 ≤ 32 := by
  simp [Generated.HAAR_LEVEL_TABLE] at h
  rcases h with rfl | rfl | rfl | rfl | rfl <;> simp

theorem haarSegWith_single_peak (conv : Nat → Nat → List Rat) (thr : Nat → List Rat → Rat)
    (table : List (Nat × Nat × Nat)) (hne : table ≠ [])
    (hthr : ∀ lv x, x.length < 2 → thr lv x = 0) (lo hi : Rat) (b n : Nat) (hb : 1 ≤ b) (hn : b < n)
    (hpk : ∀ row ∈ table, findLocalPeaks (conv row.1 row.2.1) = [b])
    (wt : Option (List Rat)) (hw : ∀ ws, wt = some ws → ws.length = n) :
    haarSegWith conv thr table (stepSig lo hi b n) wt
      = { start := [0, b], stop := [(b : Int) - 1, (n : Int) - 1],
          size := [(b : Int), (n : Int) - (b : Int)], mean := [lo, hi] } := by
  unfold haarSegWith
  rw [haarBreaks_single conv thr table b hthr hpk hne]
  exact segTable_stepSig lo hi b n hb hn wt hw

/-- **the noise-free step**: `haarSeg` (unweighted convolution, any q, any p-values, any strictly monotone
rounding, positive normalisers) reports exactly one breakpoint, at `b`, sizes `(b, n - b)`, means `(lo, hi)`,
as soon as the widest half-window (32) fits on both sides of the step -/
theorem haarSeg_ideal_step (rnd : Rat → Rat) (hr : SignMono rnd) (norm : Nat → Rat) (hnorm : ∀ h, 0 < norm h)
    (p : Nat → List Rat) (q lo hi : Rat) (hne : lo ≠ hi) (b n : Nat) (hb : 32 ≤ b) (hn : b + 32 ≤ n) :
    haarSeg rnd norm p q (stepSig lo hi b n)
      = { start := [0, b], stop := [(b : Int) - 1, (n : Int) - 1],
          size := [(b : Int), (n : Int) - (b : Int)], mean := [lo, hi] } := by
  unfold haarSeg
  refine haarSegWith_single_peak _ _ _ (by decide) (fun lv x hx => fdrThres_small rnd x q (p lv) hx) lo hi b n
    (by omega) (by omega) (fun row hrow => ?_) none (fun _ h => nomatch h)
  obtain ⟨h1, h32⟩ := table_rows row hrow
  exact peaks_haarConv_step rnd hr (norm row.2.1) (hnorm _) lo hi hne b n row.2.1 h1 (by omega) (by omega) (by omega)

/-- the property's tolerances (one breakpoint within 5 bins, means within 0.1) hold of the exact answer -/
theorem SegTable.clear_step {r : SegTable} {lo hi : Rat} {b : Nat} {stop size : List Int}
    (h : r = { start := [0, b], stop := stop, size := size, mean := [lo, hi] }) :
    ∃ bp m1 m2, r.start = [0, bp] ∧ r.mean = [m1, m2] ∧
      ((bp : Int) - (b : Int)).natAbs ≤ 5 ∧ absQ (m1 - lo) ≤ 1 / 10 ∧ absQ (m2 - hi) ≤ 1 / 10 := by
  subst h
  refine ⟨b, lo, hi, rfl, rfl, by simp, ?_, ?_⟩ <;> simp [absQ]

/-- the six level pairs of the property are steps -/
theorem property_levels_ne {lo hi : Rat}
    (hlv : (lo, hi) ∈ [((0 : Rat), (-1 : Rat)), (-1, 0), (0, 585 / 1000), (585 / 1000, 0), (0, 1), (1, 0)]) : lo ≠ hi := by
  simp only [List.mem_cons, Prod.mk.injEq, List.mem_nil_iff, or_false] at hlv
  rcases hlv with ⟨rfl, rfl⟩ | ⟨rfl, rfl⟩ | ⟨rfl, rfl⟩ | ⟨rfl, rfl⟩ | ⟨rfl, rfl⟩ | ⟨rfl, rfl⟩ <;> norm_num

/-- the counterpart of `haarSegWith_single_peak`: no peak at any level, one segment -/
theorem haarSegWith_no_peak (conv : Nat → Nat → List Rat) (thr : Nat → List Rat → Rat)
    (table : List (Nat × Nat × Nat)) (c : Rat) (n : Nat) (hn : 1 ≤ n)
    (hpk : ∀ row ∈ table, findLocalPeaks (conv row.1 row.2.1) = [])
    (wt : Option (List Rat)) (hw : ∀ ws, wt = some ws → ws.length = n) :
    haarSegWith conv thr table (List.replicate n c) wt
      = { start := [0], stop := [(n : Int) - 1], size := [(n : Int)], mean := [c] } := by
  unfold haarSegWith
  rw [haarBreaks_none conv thr table hpk]
  exact segTable_const c n hn wt hw

/-- **the flat profile**: a constant signal has no breakpoint: one segment with the constant as its mean -/
theorem haarSeg_flat (rnd : Rat → Rat) (hr : rnd 0 = 0) (norm : Nat → Rat) (p : Nat → List Rat) (q c : Rat)
    (n : Nat) (hn : 1 ≤ n) :
    haarSeg rnd norm p q (List.replicate n c)
      = { start := [0], stop := [(n : Int) - 1], size := [(n : Int)], mean := [c] } :=
  haarSegWith_no_peak _ _ _ c n hn (fun _ _ => by rw [haarConv_const rnd hr]; exact findLocalPeaks_zero n) none
    (fun _ h => nomatch h)

end CnvVerif.Haar
