/-
  Behind Props/C13Prog.lean (the interpreted body of `do_access`, `Generated.DO_ACCESS_PROG`, read from the source by
  harness/extractors/access_prog.py, equals the hand-written model `doAccess`): the library calls, the exclude loop
  (invariant: the accumulator holds the table minus the sorted rows of the files seen so far; `min_gap_size`
  untouched), and the program from `GA.from_rows` on.
-/
import CnvVerif.Model.AccessExt5
import CnvVerif.Generated.AccessProg
namespace CnvVerif.C13P
open CnvVerif

theorem foldlM_exclude (b : AStmt) (v acc : Nat) (frame : List Nat)
    (hstep : ∀ (env : Env) (t x : Table), env.lookup acc = some (.table t) →
      ∃ env', execS b ((v, .bedFile x) :: env) = .ok (env', none) ∧
        env'.lookup acc = some (.table (subtractTable t (sortTable x))) ∧
        ∀ n ∈ frame, env'.lookup n = env.lookup n)
    (l : List Table) (env : Env) (t : Table) (h : env.lookup acc = some (.table t)) :
    ∃ env', l.foldlM (fun e x => do let r ← execS b ((v, .bedFile x) :: e); pure r.1) env = .ok env' ∧
      env'.lookup acc = some (.table (l.foldl (fun a ex => subtractTable a (sortTable ex)) t)) ∧
      ∀ n ∈ frame, env'.lookup n = env.lookup n := by
  induction l generalizing env t with
  | nil => exact ⟨env, rfl, h, fun _ _ => rfl⟩
  | cons x xs ih =>
    obtain ⟨e1, h1, ha, hf⟩ := hstep env t x h
    obtain ⟨e2, h2, ha2, hf2⟩ := ih e1 _ ha
    refine ⟨e2, ?_, ha2, fun n hn => (hf2 n hn).trans (hf n hn)⟩
    rw [List.foldlM_cons, h1]
    exact h2

/-! the library calls of `do_access` on the kinds of value the program passes them; `simp` evaluates the
    calls of the program with these -/

@[simp] theorem callFn_getRegions (ls : List FLine) :
    callFn .getRegions [.fasta ls] = (match getRegions ls with | .ok r => .ok (.regs r) | .error e => .error e) := by
  simp only [callFn]; cases getRegions ls <;> rfl

@[simp] theorem callFn_drop (r : List Region) : callFn .dropNoncanonical [.regs r] = .ok (.regs (keepRegions true r)) := rfl

@[simp] theorem callFn_fromRows_regs (r : List Region) : callFn .fromRows [.regs r] = .ok (.table (r.map regionRow)) := rfl

@[simp] theorem callFn_fromRows_rows (t : Table) : callFn .fromRows [.rows t] = .ok (.table t) := rfl

@[simp] theorem callFn_read (t : Table) : callFn .tabioRead [.bedFile t, .text "bed3"] = .ok (.table (sortTable t)) := rfl

@[simp] theorem callFn_join (t : Table) (g : Option Int) :
    callFn .joinRegions [.table t, .gap g] = (match joinRegions g t with | .ok r => .ok (.rows r) | .error e => .error e) := by
  simp only [callFn]; cases joinRegions g t <;> rfl

theorem execS_forIn (v it : Nat) (b : AStmt) (env : Env) (l : List Table) (h : env.lookup it = some (.files l)) :
    execS (.forIn v it b) env =
      (do let env' ← l.foldlM (fun e x => do let r ← execS b ((v, .bedFile x) :: e); pure r.1) env
          pure (env', none)) := by
  simp [execS, h]

theorem execS_seq_none {a b : AStmt} {env e1 : Env} (h : execS a env = .ok (e1, none)) :
    execS (.seq a b) env = execS b e1 := by
  simp [execS, h, bind, Except.bind]

/-- the body of the exclude loop as the reader numbers it -/
def loopBody : AStmt :=
  .seq (.assign 7 (.call2 .tabioRead (.var 6) (.str "bed3"))) (.assign 5 (.subtract (.var 5) (.var 7)))

/-- `do_access` from `access_regions = GA.from_rows(fa_regions)` on -/
def tailProg : AStmt :=
  .seq (.assign 5 (.call1 .fromRows (.var 4)))
    (.seq (.forIn 6 1 loopBody) (.ret (.call1 .fromRows (.call2 .joinRegions (.var 5) (.var 2)))))

theorem loopBody_step (env : Env) (t x : Table) (h : env.lookup 5 = some (.table t)) :
    ∃ env', execS loopBody ((6, .bedFile x) :: env) = .ok (env', none) ∧
      env'.lookup 5 = some (.table (subtractTable t (sortTable x))) ∧
      ∀ n ∈ [2], env'.lookup n = env.lookup n := by
  refine ⟨(5, .table (subtractTable t (sortTable x))) :: (7, .table (sortTable x)) :: (6, .bedFile x) :: env,
    ?_, ?_, ?_⟩
  · simp [loopBody, execS, evalE, List.lookup, h, bind, Except.bind, pure, Except.pure]
  · simp [List.lookup]
  · intro n hn
    simp at hn
    subst hn
    simp [List.lookup]

/-- what `runDoAccess` makes of the outcome of the program -/
def retTable (x : Except String (Env × Option AVal)) : Except String Table := do
  let r ← x
  match r.2 with
  | some (.table t) => pure t
  | _ => .error "do_access did not return a table"

theorem runDoAccess_eq_retTable (p : AStmt) (lines : List FLine) (excl : List Table) (gap : Option Int)
    (skip : Bool) :
    runDoAccess p lines excl gap skip =
      retTable (execS p [(0, .fasta lines), (1, .files excl), (2, .gap gap), (3, .flag skip)]) := rfl

theorem tailProg_eq (excl : List Table) (gap : Option Int) (env : Env) (regs : List Region)
    (h4 : env.lookup 4 = some (.regs regs)) (h1 : env.lookup 1 = some (.files excl))
    (h2 : env.lookup 2 = some (.gap gap)) :
    retTable (execS tailProg env) =
      joinRegions gap (excl.foldl (fun acc ex => subtractTable acc (sortTable ex)) (regs.map regionRow)) := by
  have s1 : execS (.assign 5 (.call1 .fromRows (.var 4))) env =
      .ok ((5, .table (regs.map regionRow)) :: env, none) := by
    simp [execS, evalE, h4, bind, Except.bind, pure, Except.pure]
  unfold tailProg
  rw [execS_seq_none s1]
  obtain ⟨e2, hfold, hacc, hfr⟩ := foldlM_exclude loopBody 6 5 [2] loopBody_step excl
    ((5, .table (regs.map regionRow)) :: env) (regs.map regionRow) (by simp [List.lookup])
  have s2 : execS (.forIn 6 1 loopBody) ((5, .table (regs.map regionRow)) :: env) = .ok (e2, none) := by
    rw [execS_forIn _ _ _ _ excl (by simp [List.lookup, h1]), hfold]; rfl
  rw [execS_seq_none s2]
  have h2' : e2.lookup 2 = some (.gap gap) := by rw [hfr 2 (by simp)]; simp [List.lookup, h2]
  simp only [execS, evalE, hacc, h2', bind, Except.bind, pure, Except.pure, callFn_join]
  cases joinRegions gap _ <;> rfl

theorem prog_shape : Generated.DO_ACCESS_PROG =
    .seq (.assign 4 (.call1 .getRegions (.var 0)))
      (.seq (.ifVar 3 (.assign 4 (.call1 .dropNoncanonical (.var 4)))) tailProg) := rfl

theorem lookup_cons_ne {e : Env} {n k : Nat} {v : AVal} (w : AVal) (hn : n ≠ k) (hv : e.lookup n = some v) :
    List.lookup n ((k, w) :: e) = some v := by
  have : (n == k) = false := by simpa using hn
  simp [List.lookup, this, hv]

theorem prog_eq (lines : List FLine) (excl : List Table) (gap : Option Int) (skip : Bool) (env : Env)
    (h0 : env.lookup 0 = some (.fasta lines)) (h1 : env.lookup 1 = some (.files excl))
    (h2 : env.lookup 2 = some (.gap gap)) (h3 : env.lookup 3 = some (.flag skip)) :
    retTable (execS Generated.DO_ACCESS_PROG env) = doAccess lines excl gap skip := by
  rw [prog_shape]
  unfold doAccess
  cases hg : getRegions lines with
  | error e => simp [retTable, execS, evalE, h0, hg, bind, Except.bind, pure, Except.pure]
  | ok regs =>
    have s1 : execS (.assign 4 (.call1 .getRegions (.var 0))) env = .ok ((4, .regs regs) :: env, none) := by
      simp [execS, evalE, h0, hg, bind, Except.bind, pure, Except.pure]
    rw [execS_seq_none s1]
    have h3' := lookup_cons_ne (k := 4) (.regs regs) (by decide) h3
    have h1' := lookup_cons_ne (k := 4) (.regs regs) (by decide) h1
    have h2' := lookup_cons_ne (k := 4) (.regs regs) (by decide) h2
    cases skip
    · -- flag off: the `if` leaves the environment as it is
      have s2 : execS (.ifVar 3 (.assign 4 (.call1 .dropNoncanonical (.var 4)))) ((4, .regs regs) :: env) =
          .ok ((4, .regs regs) :: env, none) := by
        simp only [execS, h3']; rfl
      rw [execS_seq_none s2, tailProg_eq excl gap _ regs (by simp [List.lookup]) h1' h2']
      rfl
    · -- flag on: variable 4 is bound again, to the filtered regions, above its first binding
      have s2 : execS (.ifVar 3 (.assign 4 (.call1 .dropNoncanonical (.var 4)))) ((4, .regs regs) :: env) =
          .ok ((4, .regs (keepRegions true regs)) :: (4, .regs regs) :: env, none) := by
        simp [execS, evalE, List.lookup, h3, bind, Except.bind, pure, Except.pure]
      rw [execS_seq_none s2, tailProg_eq excl gap _ (keepRegions true regs) (by simp [List.lookup])
        (lookup_cons_ne (k := 4) _ (by decide) h1') (lookup_cons_ne (k := 4) _ (by decide) h2')]
      rfl

end CnvVerif.C13P
