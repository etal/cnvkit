/-
  C04, what the headline clause for a whole class of bins (Props/C04.lean, `fix_emits_exactly_good_bins_aligned`) rests
  on: after `load_adjust_coverages` (match by coordinate, drop bad bins, centre, any subset of the three corrections) the
  corrected sample rows are exactly the sample bins whose coordinate-matched reference bin is good, in genomic order, and
  the matched reference rows are aligned with them position by position.

  The idea: a list of coordinates in genomic order is determined by its multiset (`List.Perm.eq_of_pairwise`), every
  correction ends with a genomic sort and permutes the rows, so any run of corrections leaves the list of coordinates
  as it was (`fixTracks_runPlan`); and `loadAdjust` is "`prepare` (sort, match, mask, centre), then the run of the plan of
  Model/FixExt5, with the edge slack the plan gives" (`loadAdjust_eq`, `prepare_ok`).  `C04x` is the namespace of
  Model/FixExt5.lean: the decisions of `fix.py` (skip test, plan of corrections, pooled-or-flat test) as a model of their own.
-/
import CnvVerif.Lemmas.FixMatch
import CnvVerif.Lemmas.FixWindow
import CnvVerif.Lemmas.FixEdge
namespace CnvVerif

/-- the sample bins whose coordinate-matched reference bin passes the filters -/
def goodRows (samp : List SRow) (ref : List RRow) : List SRow :=
  samp.filter fun r => match ref.find? (fun q => rKey q == sKey r) with
    | some q => !badBin q
    | none => false

/-- genomic order determines the row: two rows that compare equal both ways are the same bin
    (no two chromosome names of the table share a sort key, e.g. not both "chr1" and "1") -/
def KeysSortable (samp : List SRow) : Prop :=
  ∀ a ∈ samp, ∀ b ∈ samp, sSortLe a b = true → sSortLe b a = true → sKey a = sKey b

theorem KeysSortable.mono {S S' : List SRow} (h : KeysSortable S) (hsub : ∀ a ∈ S', a ∈ S) : KeysSortable S' :=
  fun x hx y hy => h x (hsub x hx) y (hsub y hy)

/-- invariant of the chain of corrections: in genomic order, coordinates as after centring -/
def FixTracks (cn1 t : List SRow) : Prop :=
  t.Pairwise (fun a b => sSortLe a b = true) ∧ t.map sKey = cn1.map sKey

theorem FixTracks.length {cn1 t : List SRow} (h : FixTracks cn1 t) : t.length = cn1.length := by
  have := congrArg List.length h.2
  simpa using this

/-- one correction keeps the invariant: it permutes the rows and ends with a genomic sort, and a list of coordinates in
    genomic order is determined by its multiset as long as the order separates them (`KeysSortable`) -/
theorem fixTracks_cbw {S : List SRow} (hks : KeysSortable S) {cn1 : List SRow}
    (hsub : ∀ k ∈ cn1.map sKey, k ∈ S.map sKey) {perm : List Nat} (wing : Nat)
    (hp : IsPerm perm cn1.length) {t : List SRow} (ht : FixTracks cn1 t) (keys : List Rat)
    (hk : keys.length = cn1.length) : FixTracks cn1 (centerByWindow perm wing t keys) := by
  have hkp : ((centerByWindow perm wing t keys).map sKey).Perm (t.map sKey) :=
    centerByWindow_map_perm sKey (fun _ _ => rfl) perm wing t keys (ht.length ▸ hp) (hk.trans ht.length.symm)
  have hs := centerByWindow_sorted perm wing t keys
  refine ⟨hs, (List.Perm.eq_of_pairwise (le := fun a b => kLe a b = true) ?_ ((sorted_iff_keys sSortLe_eq_kLe _).mp hs)
    ((sorted_iff_keys sSortLe_eq_kLe _).mp ht.1) hkp).trans ht.2⟩
  intro a b ha hb hab hba
  obtain ⟨a', ha', rfl⟩ := List.mem_map.mp (hsub a (ht.2 ▸ hkp.mem_iff.mp ha))
  obtain ⟨b', hb', rfl⟩ := List.mem_map.mp (hsub b (ht.2 ▸ hb))
  rw [← sSortLe_eq_kLe] at hab hba
  exact hks a' ha' b' hb' hab hba

/-- whatever the plan (any keys, in any order, any number of times), the rows stay in genomic order on the
    coordinates they had after centring -/
theorem fixTracks_runPlan {S : List SRow} (hks : KeysSortable S) {cn1 : List SRow}
    (hsub : ∀ k ∈ cn1.map sKey, k ∈ S.map sKey) {perm : List Nat} (wing : Nat) (hp : IsPerm perm cn1.length)
    (rf : List RRow) (hrf : rf.length = cn1.length) (ek : Option (List Rat)) (plan : List String)
    (t : List SRow) (ht : FixTracks cn1 t) : FixTracks cn1 (C04x.runPlan perm wing rf ek plan t) := by
  induction plan generalizing t with
  | nil => exact ht
  | cons k ks ih =>
    refine ih _ ?_
    unfold C04x.stepCorrection
    split
    · exact fixTracks_cbw hks hsub wing hp ht _ (by rw [List.length_map, hrf])
    split
    · exact fixTracks_cbw hks hsub wing hp ht _ (by rw [edgeKeysOf_length, ht.length])
    split
    · exact fixTracks_cbw hks hsub wing hp ht _ (by rw [List.length_map, hrf])
    · exact ht

/-- the sample rows kept by the bad-bin mask of the matched reference rows -/
def maskRows (samp : List SRow) (refM : List RRow) : List SRow :=
  ((samp.zip (refM.map (fun r => !badBin r))).filter (·.2)).map (·.1)

/-- the corrections of `load_adjust_coverages`, from the centred good bins on: a copy of the chain of `let`s that ends
    `loadAdjust` (Model/Fix.lean), so that `loadAdjust_eq` can name it -/
def laCorr (cn1 : List SRow) (rf : List RRow) (fixGc fixEdge fixRmask : Bool)
    (perm : List Nat) (wing : Nat) (edgeKeys : Option (List Rat)) : Except FixErr (List SRow × List RRow × Rat) :=
  let nOk := (cn1.filter (fun r => decide (r.log2 > Generated.NULL_LOG2_COVERAGE - Generated.MIN_REF_COVERAGE))).length
  if nOk ≤ cn1.length / 2 then .ok (cn1, rf, 0) else
  let cn2 := if fixGc && rf.all (·.gc.isSome) && !rf.isEmpty then
      centerByWindow perm wing cn1 (rf.map (fun r => r.gc.getD 0)) else cn1
  let ekeys := match edgeKeys with
    | some ks => if ks.length == cn2.length then ks else edgeBias cn2 Generated.INSERT_SIZE
    | none => edgeBias cn2 Generated.INSERT_SIZE
  let cn3 := if fixEdge then centerByWindow perm wing cn2 ekeys else cn2
  let cn4 := if fixRmask && rf.all (·.rmask.isSome) && !rf.isEmpty then
      centerByWindow perm wing cn3 (rf.map (fun r => r.rmask.getD 0)) else cn3
  let exact := edgeBias cn2 Generated.INSERT_SIZE
  let slack := if fixEdge && ekeys.length == exact.length then
      ((ekeys.zip exact).map (fun p => absR (p.1 - p.2))).foldl max 0 else 0
  .ok (cn4, rf, slack)

/-- sort, match by coordinate, drop the bad bins, centre: what `load_adjust_coverages` does before it decides anything
    (`loadAdjust`, `C04x.loadAdjustPlanned` and `C04x.decisions` all start with it) -/
def prepare (samp : List SRow) (ref : List RRow) (skipLow : Bool) (par : Option String) :
    Except FixErr (List SRow × List RRow) :=
  (matchRef ref (sortS samp)).map fun refM =>
    (centerS skipLow par (maskRows (sortS samp) refM), refM.filter (fun r => !badBin r))

theorem skipCorrections_log2 (cn1 : List SRow) :
    C04x.skipCorrections (cn1.map (·.log2)) =
      decide ((cn1.filter (fun r => decide (r.log2 > Generated.NULL_LOG2_COVERAGE - Generated.MIN_REF_COVERAGE))).length
        ≤ cn1.length / 2) := by
  unfold C04x.skipCorrections
  rw [List.filter_map, List.length_map, List.length_map]
  rfl

theorem runPlan_append (perm : List Nat) (wing : Nat) (rf : List RRow) (ek : Option (List Rat))
    (p q : List String) (cn : List SRow) :
    C04x.runPlan perm wing rf ek (p ++ q) cn = C04x.runPlan perm wing rf ek q (C04x.runPlan perm wing rf ek p cn) :=
  List.foldl_append

theorem runPlan_ite (perm : List Nat) (wing : Nat) (rf : List RRow) (ek : Option (List Rat))
    (c : Bool) (k : String) (cn : List SRow) :
    C04x.runPlan perm wing rf ek (if c = true then [k] else []) cn =
      if c = true then C04x.stepCorrection perm wing rf ek cn k else cn := by
  cases c <;> rfl

theorem runPlan_correctionPlan (perm : List Nat) (wing : Nat) (rf : List RRow) (ek : Option (List Rat))
    (g e r : Bool) (cn1 : List SRow) :
    C04x.runPlan perm wing rf ek (C04x.correctionPlan false g e r (C04x.hasGcCol rf) (C04x.hasRmaskCol rf)) cn1 =
      let cn2 := if g && C04x.hasGcCol rf then centerByWindow perm wing cn1 (rf.map (fun r => r.gc.getD 0)) else cn1
      let cn3 := if e then centerByWindow perm wing cn2 (C04x.edgeKeysOf ek cn2) else cn2
      if r && C04x.hasRmaskCol rf then centerByWindow perm wing cn3 (rf.map (fun r => r.rmask.getD 0)) else cn3 := by
  unfold C04x.correctionPlan
  rw [if_neg Bool.false_ne_true, runPlan_append, runPlan_append, runPlan_ite, runPlan_ite, runPlan_ite]
  rfl

namespace C04x

theorem plan_table : ∀ s g e r a b : Bool,
    ("gc" ∈ correctionPlan s g e r a b ↔ (s = false ∧ g = true ∧ a = true)) ∧
    ("get_edge_bias" ∈ correctionPlan s g e r a b ↔ (s = false ∧ e = true)) ∧
    ("rmask" ∈ correctionPlan s g e r a b ↔ (s = false ∧ r = true ∧ b = true)) ∧
    (correctionPlan s g e r a b).Sublist ["gc", "get_edge_bias", "rmask"] := by decide +kernel

/-- the plan the decision table gives for a prepared class -/
def planOf (g e r : Bool) (p : List SRow × List RRow) : List String :=
  correctionPlan (skipCorrections (p.1.map (·.log2))) g e r (hasGcCol p.2) (hasRmaskCol p.2)

/-- largest deviation of the edge keys in use from the exact formula, on the rows as the edge correction finds them
    (after the GC correction, if the plan has one); 0 when the plan has no edge correction -/
def edgeSlack (perm : List Nat) (wing : Nat) (rf : List RRow) (ek : Option (List Rat)) (plan : List String)
    (cn1 : List SRow) : Rat :=
  if "get_edge_bias" ∈ plan then
    let cn2 := if "gc" ∈ plan then stepCorrection perm wing rf ek cn1 "gc" else cn1
    (((edgeKeysOf ek cn2).zip (edgeBias cn2 Generated.INSERT_SIZE)).map (fun p => absR (p.1 - p.2))).foldl max 0
  else 0

end C04x
open C04x in
theorem laCorr_eq (cn1 : List SRow) (rf : List RRow) (g e r : Bool) (perm : List Nat) (wing : Nat)
    (ek : Option (List Rat)) :
    laCorr cn1 rf g e r perm wing ek =
      .ok (runPlan perm wing rf ek (planOf g e r (cn1, rf)) cn1, rf, edgeSlack perm wing rf ek (planOf g e r (cn1, rf)) cn1) := by
  unfold laCorr planOf
  rw [skipCorrections_log2]
  by_cases hskip : (cn1.filter (fun r => decide (r.log2 > Generated.NULL_LOG2_COVERAGE - Generated.MIN_REF_COVERAGE))).length
      ≤ cn1.length / 2
  · rw [decide_eq_true hskip, if_pos hskip]; rfl
  · obtain ⟨h1, h2, -, -⟩ := plan_table false g e r (hasGcCol rf) (hasRmaskCol rf)
    rw [decide_eq_false hskip, if_neg hskip]
    refine congrArg Except.ok (Prod.ext ?_ (Prod.ext rfl ?_))
    · rw [runPlan_correctionPlan]
      unfold hasGcCol hasRmaskCol
      rw [← Bool.and_assoc, ← Bool.and_assoc]
      rfl
    · -- the plan has the edge correction iff it is switched on, and a GC correction before it iff switch and column
      have hl : ∀ cn2, ((edgeKeysOf ek cn2).length == (edgeBias cn2 Generated.INSERT_SIZE).length) = true := fun cn2 => by
        rw [edgeKeysOf_length, edgeBias_length]; exact beq_self_eq_true _
      have hg : ("gc" ∈ correctionPlan false g e r (hasGcCol rf) (hasRmaskCol rf)) ↔
          ((g && rf.all (·.gc.isSome) && !rf.isEmpty) = true) := by
        rw [h1, Bool.and_assoc, Bool.and_eq_true]; exact ⟨fun h => h.2, fun h => ⟨rfl, h⟩⟩
      unfold edgeSlack
      dsimp only
      cases e with
      | false => rw [if_neg (h2.not.mpr (by simp))]; rfl
      | true =>
        rw [if_pos (h2.mpr ⟨rfl, rfl⟩)]
        simp only [hg]
        show (if (true && (edgeKeysOf ek _).length == (edgeBias _ Generated.INSERT_SIZE).length) = true then _ else 0) = _
        rw [hl, Bool.and_true, if_pos rfl]
        rfl

open C04x in
theorem loadAdjust_eq (samp : List SRow) (ref : List RRow) (skipLow g e r : Bool)
    (par : Option String) (perm : List Nat) (wing : Nat) (ek : Option (List Rat)) :
    loadAdjust samp ref skipLow g e r par perm wing ek =
      if samp.isEmpty then .ok ([], [], 0)
      else (prepare samp ref skipLow par).map fun p =>
        (runPlan perm wing p.2 ek (planOf g e r p) p.1, p.2, edgeSlack perm wing p.2 ek (planOf g e r p) p.1) := by
  unfold loadAdjust prepare
  congr 1
  -- the model's chain of `let`s after the match is `laCorr`, a copy of it
  show (match matchRef ref (sortS samp) with
    | .error e => Except.error e
    | .ok refM => laCorr (centerS skipLow par (maskRows (sortS samp) refM)) (refM.filter (fun r => !badBin r))
        g e r perm wing ek) = _
  cases matchRef ref (sortS samp) with
  | error e => rfl
  | ok m => exact laCorr_eq _ _ g e r perm wing ek

theorem mask_eq_goodRows (ref : List RRow) (samp : List SRow) (m : List RRow)
    (h : samp.map (refFind ref) = m.map some) :
    maskRows samp m = goodRows samp ref ∧
    (m.filter (fun r => !badBin r)).map rKey = (goodRows samp ref).map sKey := by
  have hp := map_eq_map_iff_forall₂.mp h
  clear h
  -- along the pairing: a sample row is kept by the mask iff the reference row its lookup finds is good
  induction hp with
  | nil => exact ⟨rfl, rfl⟩
  | @cons a q t m hq _ ih =>
    obtain ⟨ih1, ih2⟩ := ih
    have hfind : ref.find? (fun q => rKey q == sKey a) = some q := hq
    have hkey : rKey q = sKey a := (refFind_some hq).1
    have hg : goodRows (a :: t) ref = if (!badBin q) = true then a :: goodRows t ref else goodRows t ref := by
      unfold goodRows
      rw [List.filter_cons, hfind]
    rw [hg]
    unfold maskRows at ih1 ⊢
    cases hb : badBin q with
    | true =>
      simp only [List.map_cons, List.zip_cons_cons, List.filter_cons, hb, Bool.not_true,
        Bool.false_eq_true, if_false]
      exact ⟨ih1, ih2⟩
    | false =>
      simp only [List.map_cons, List.zip_cons_cons, List.filter_cons, hb, Bool.not_false, if_true]
      rw [ih1, ih2, hkey]
      exact ⟨rfl, rfl⟩

theorem centerS_keys (skipLow : Bool) (par : Option String) (t : List SRow) :
    (centerS skipLow par t).map sKey = t.map sKey := by
  unfold centerS
  rw [List.map_map]
  rfl

theorem prepare_ok {samp : List SRow} {ref : List RRow} {skipLow : Bool} {par : Option String}
    {p : List SRow × List RRow} (h : prepare samp ref skipLow par = .ok p) :
    p.1 = centerS skipLow par (goodRows (sortS samp) ref) ∧ p.2.map rKey = (goodRows (sortS samp) ref).map sKey ∧
      ∀ q ∈ p.2, badBin q = false ∧ q ∈ ref := by
  unfold prepare at h
  cases hm : matchRef ref (sortS samp) with
  | error e => rw [hm] at h; cases h
  | ok refM =>
    rw [hm] at h
    cases h
    obtain ⟨hmask, hrf⟩ := mask_eq_goodRows ref _ refM (matchRef_ok_inv hm).2.2
    refine ⟨congrArg (centerS skipLow par) hmask, hrf, fun q hq => ?_⟩
    have := List.mem_filter.mp hq
    exact ⟨by simpa using this.2, (matchRef_ok ref _ refM hm).2 q this.1⟩

theorem loadAdjust_ok {samp : List SRow} {ref : List RRow} {skipLow g e r : Bool}
    {par : Option String} {perm : List Nat} {wing : Nat} {ek : Option (List Rat)}
    {cn : List SRow} {rf : List RRow} {sl : Rat} (hne : samp ≠ [])
    (h : loadAdjust samp ref skipLow g e r par perm wing ek = .ok (cn, rf, sl)) :
    cn = C04x.runPlan perm wing rf ek
      (C04x.correctionPlan (C04x.skipCorrections ((centerS skipLow par (goodRows (sortS samp) ref)).map (·.log2)))
        g e r (C04x.hasGcCol rf) (C04x.hasRmaskCol rf))
      (centerS skipLow par (goodRows (sortS samp) ref)) ∧
    rf.map rKey = (goodRows (sortS samp) ref).map sKey ∧ ∀ q ∈ rf, badBin q = false ∧ q ∈ ref := by
  rw [loadAdjust_eq, if_neg (by simpa using hne)] at h
  cases hp : prepare samp ref skipLow par with
  | error e => rw [hp] at h; cases h
  | ok p =>
    rw [hp] at h
    cases h
    obtain ⟨h1, h2, h3⟩ := prepare_ok hp
    exact ⟨by rw [C04x.planOf, h1], h2, h3⟩

theorem keysSortable_of_distinct_names (samp : List SRow)
    (h : ∀ a ∈ samp, ∀ b ∈ samp, sorterChrom a.chrom = sorterChrom b.chrom → a.chrom = b.chrom) :
    KeysSortable samp := by
  intro a ha b hb hab hba
  rw [sSortLe_eq_kLe] at hab hba
  obtain ⟨hc, hse⟩ := kLe_antisymm _ _ hab hba
  exact Prod.ext (h a ha b hb hc) hse

theorem keysSortable_of_one_chrom (samp : List SRow) (c : String) (h : ∀ r ∈ samp, r.chrom = c) :
    KeysSortable samp :=
  keysSortable_of_distinct_names samp (fun a ha b hb _ => (h a ha).trans (h b hb).symm)

end CnvVerif
