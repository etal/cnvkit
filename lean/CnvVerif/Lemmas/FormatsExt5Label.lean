/-
  C08: the backtracking semantics of `re_label` collapses to the deterministic parser `Fmt.fromLabel`.
  Key fact: a greedy class-star followed by a continuation that cannot succeed after giving a character back
  never backtracks, so `p* k` = `k (dropWhile p)`.  At the end, the whole of `from_label` (`fromLabelFull` of
  Model/FormatsExt5Label.lean) on `chrom:digits-digits` with either run possibly empty (`fromLabelFull_parts`).
-/
import CnvVerif.Model.FormatsExt5Label
import CnvVerif.Generated.RegexLabel
import CnvVerif.Lemmas.FormatsChars

namespace CnvVerif.Fmt.C08L
open CnvVerif CnvVerif.Generated

/-- giving back a character of the run never helps the continuation -/
def NoGiveBack (p : Char → Bool) (k : List Char → Option Caps) : Prop :=
  ∀ c t, p c = true → k (t.dropWhile p) = none → k (c :: t) = none

theorem starGo_eq (p : Char → Bool) (k : List Char → Option Caps) (h : NoGiveBack p k) (l : List Char) :
    starGo p l k = k (l.dropWhile p) := by
  induction l with
  | nil => simp [starGo]
  | cons c t ih =>
    unfold starGo
    by_cases hp : p c = true
    · simp only [hp, ↓reduceIte, List.dropWhile_cons_of_pos]
      rw [ih]
      cases hk : k (t.dropWhile p) with
      | some r => rfl
      | none => exact h c t hp hk
    · simp [hp]

theorem noGiveBack_total (p : Char → Bool) (k : List Char → Option Caps) (h : ∀ l, k l ≠ none) : NoGiveBack p k :=
  fun _ _ _ hk => absurd hk (h _)

theorem noGiveBack_block (p : Char → Bool) (k : List Char → Option Caps) (h : ∀ c t, p c = true → k (c :: t) = none) :
    NoGiveBack p k :=
  fun c t hp _ => h c t hp

theorem noGiveBack_map (p : Char → Bool) (k : List Char → Option Caps) (f : List Char → Caps → Caps)
    (h : NoGiveBack p k) : NoGiveBack p (fun l' => (k l').map (f l')) := by
  intro c t hp hk
  have : k (t.dropWhile p) = none := by
    cases hkk : k (t.dropWhile p) with
    | none => rfl
    | some r => simp [hkk] at hk
  simp [h c t hp this]

/-- what a group contributes: nothing when it took no part -/
def capsCons (n : Nat) (x : List Char) (caps : Caps) : Caps := if x.isEmpty then caps else (n, x) :: caps

theorem take_consumed (c : Char) (t : List Char) (p : Char → Bool) :
    (c :: t).take ((c :: t).length - (t.dropWhile p).length) = c :: t.takeWhile p := by
  have h : c :: t = (c :: t.takeWhile p) ++ t.dropWhile p := by simp
  have hl : (c :: t).length - (t.dropWhile p).length = (c :: t.takeWhile p).length := by
    have := congrArg List.length h
    simp only [List.length_append, List.length_cons] at this ⊢
    omega
  rw [hl]
  conv => lhs; rw [h]
  exact List.take_left' rfl

/-- `(p+)?` as capture group n, followed by a continuation to which giving back never helps -/
theorem run_opt_grp_plus (n : Nat) (c : Cls) (k : List Char → Option Caps) (h : NoGiveBack (clsTest c) k) (l : List Char) :
    (Re.opt (.grp n (.plus c))).run l k =
      (k (l.dropWhile (clsTest c))).map (capsCons n (l.takeWhile (clsTest c))) := by
  cases l with
  | nil =>
    simp only [Re.run, List.dropWhile_nil, List.takeWhile_nil]
    cases k [] <;> simp [capsCons]
  | cons x t =>
    by_cases hp : clsTest c x = true
    · simp only [Re.run, hp, ↓reduceIte, List.dropWhile_cons_of_pos, List.takeWhile_cons_of_pos]
      rw [starGo_eq _ _ (noGiveBack_map _ k _ h)]
      rw [take_consumed]
      cases hk : k (t.dropWhile (clsTest c)) with
      | some r => simp [capsCons]
      | none => simpa using h x t hp hk
    · have hp' : clsTest c x = false := by simpa using hp
      simp only [Re.run, hp', List.dropWhile_cons_of_neg, List.takeWhile_cons_of_neg, Bool.false_eq_true,
        ↓reduceIte, not_false_eq_true]
      cases k (x :: t) <;> simp [capsCons]

/-- `(p1 p2*)?` as capture group n with p1 ⊆ p2 -/
theorem run_opt_grp_one_star (n : Nat) (c1 c2 : Cls) (k : List Char → Option Caps)
    (hsub : ∀ x, clsTest c1 x = true → clsTest c2 x = true)
    (h : NoGiveBack (clsTest c2) k) (l : List Char) :
    (Re.opt (.grp n (.seq (.one c1) (.star c2)))).run l k =
      match l with
      | x :: t => if clsTest c1 x then (k (t.dropWhile (clsTest c2))).map (fun caps => (n, x :: t.takeWhile (clsTest c2)) :: caps)
                  else k (x :: t)
      | [] => k [] := by
  cases l with
  | nil => simp only [Re.run]
  | cons x t =>
    by_cases hp : clsTest c1 x = true
    · simp only [Re.run, hp, ↓reduceIte]
      rw [starGo_eq _ _ (noGiveBack_map _ k _ h)]
      rw [take_consumed]
      cases hk : k (t.dropWhile (clsTest c2)) with
      | some r => simp
      | none => simpa using h x t (hsub x hp) hk
    · have hp' : clsTest c1 x = false := by simpa using hp
      simp only [Re.run, hp', Bool.false_eq_true, ↓reduceIte]

theorem run_star (c : Cls) (k : List Char → Option Caps) (h : NoGiveBack (clsTest c) k) (l : List Char) :
    (Re.star c).run l k = k (l.dropWhile (clsTest c)) := by
  simp only [Re.run]; exact starGo_eq _ _ h l

/-! ## the pattern of `re_label`, stage by stage (continuations from the inside out) -/

namespace LabelRe

def acc : List Char → Option Caps := fun _ => some []
def k6 : List Char → Option Caps := fun l => (Re.opt (.grp 4 (.plus [.notSpace]))).run l acc
def k5 : List Char → Option Caps := fun l => (Re.star [.space]).run l k6
def k4 : List Char → Option Caps := fun l => (Re.opt (.grp 3 (.plus [.digit]))).run l k5
def k3 : List Char → Option Caps := fun l => (Re.one [.ch '-']).run l k4
def k2 : List Char → Option Caps := fun l => (Re.opt (.grp 2 (.plus [.digit]))).run l k3
def k1 : List Char → Option Caps := fun l => (Re.one [.ch ':']).run l k2
def k0 : List Char → Option Caps :=
  fun l => (Re.opt (.grp 1 (.seq (.one [.word]) (.star [.word, .ch '.'])))).run l k1

theorem reMatch_src (l : List Char) : reMatch src_re_label l = k0 l := rfl

theorem cls_digit : clsTest [.digit] = Char.isDigit := by funext c; simp [clsTest, Atom.test]
theorem cls_space : clsTest [.space] = isSpaceCh := by funext c; simp [clsTest, Atom.test]
theorem cls_notSpace : clsTest [.notSpace] = (fun c => !isSpaceCh c) := by funext c; simp [clsTest, Atom.test]
theorem cls_word : clsTest [.word] = isWordCh := by funext c; simp [clsTest, Atom.test]
theorem cls_wordDot : clsTest [.word, .ch '.'] = (fun c => isWordCh c || c == '.') := by
  funext c; simp [clsTest, Atom.test]

theorem k6_eq (l : List Char) : k6 l = some (capsCons 4 (l.takeWhile (fun c => !isSpaceCh c)) []) := by
  unfold k6
  rw [run_opt_grp_plus _ _ _ (noGiveBack_total _ _ (by intro l; simp [acc])), cls_notSpace]
  simp [acc]

theorem k5_eq (l : List Char) :
    k5 l = some (capsCons 4 ((l.dropWhile isSpaceCh).takeWhile (fun c => !isSpaceCh c)) []) := by
  unfold k5
  rw [run_star _ _ (noGiveBack_total _ _ (by intro l; simp [k6_eq])), cls_space, k6_eq]

theorem k4_eq (l : List Char) :
    k4 l = some (capsCons 3 (l.takeWhile Char.isDigit)
      (capsCons 4 (((l.dropWhile Char.isDigit).dropWhile isSpaceCh).takeWhile (fun c => !isSpaceCh c)) [])) := by
  unfold k4
  rw [run_opt_grp_plus _ _ _ (noGiveBack_total _ _ (by intro l; simp [k5_eq])), cls_digit, k5_eq]
  simp

theorem k3_eq (l : List Char) : k3 l = match l with
    | x :: t => if x == '-' then k4 t else none
    | [] => none := by
  unfold k3
  cases l <;> simp [Re.run, clsTest, Atom.test]

theorem beq_false_of_test {p : Char → Bool} {c x : Char} (hc : p c = true) (hx : p x = false) : (c == x) = false :=
  beq_eq_false_iff_ne.mpr (ne_of_test hc hx)

theorem k3_block (c : Char) (t : List Char) (h : Char.isDigit c = true) : k3 (c :: t) = none := by
  rw [k3_eq]
  simp [beq_false_of_test h (show Char.isDigit '-' = false by decide)]

theorem k2_eq (l : List Char) :
    k2 l = (k3 (l.dropWhile Char.isDigit)).map (capsCons 2 (l.takeWhile Char.isDigit)) := by
  unfold k2
  rw [run_opt_grp_plus _ _ _ (noGiveBack_block _ _ (by rw [cls_digit]; exact k3_block)), cls_digit]

theorem k1_eq (l : List Char) : k1 l = match l with
    | x :: t => if x == ':' then k2 t else none
    | [] => none := by
  unfold k1
  cases l <;> simp [Re.run, clsTest, Atom.test]

theorem k1_block (c : Char) (t : List Char) (h : (isWordCh c || c == '.') = true) : k1 (c :: t) = none := by
  rw [k1_eq]
  simp [beq_false_of_test (p := fun c => isWordCh c || c == '.') (x := ':') h (by decide)]

theorem k0_eq (l : List Char) : k0 l = match l with
    | x :: t => if isWordCh x
        then (k1 (t.dropWhile (fun c => isWordCh c || c == '.'))).map
               (fun caps => (1, x :: t.takeWhile (fun c => isWordCh c || c == '.')) :: caps)
        else k1 (x :: t)
    | [] => k1 [] := by
  unfold k0
  rw [run_opt_grp_one_star _ _ _ _ (by intro x; rw [cls_word, cls_wordDot]; intro h; simp [h])
    (noGiveBack_block _ _ (by rw [cls_wordDot]; exact k1_block)), cls_word, cls_wordDot]

theorem capOf_cons (n : Nat) (x : List Char) (caps : Caps) (k : Nat) :
    capOf ((n, x) :: caps) k = if k = n then x else capOf caps k := by
  unfold capOf
  rw [List.lookup_cons]
  by_cases h : k = n
  · rw [if_pos h, beq_iff_eq.mpr h]; rfl
  · rw [if_neg h, beq_eq_false_iff_ne.mpr h]

/-- an optional group that took no part leaves the captures alone: asking for it gives the empty text,
    as long as no group of that number was captured further in -/
theorem capOf_capsCons (n : Nat) (x : List Char) (caps : Caps) (k : Nat) (h : capOf caps n = []) :
    capOf (capsCons n x caps) k = if k = n then x else capOf caps k := by
  cases x with
  | nil =>
    by_cases hk : k = n
    · rw [if_pos hk, hk]; exact h
    · rw [if_neg hk]; rfl
  | cons c t => exact capOf_cons n (c :: t) caps k

theorem capOf_234 (a b c : List Char) :
    capOf (capsCons 2 a (capsCons 3 b (capsCons 4 c []))) 1 = [] ∧
    capOf (capsCons 2 a (capsCons 3 b (capsCons 4 c []))) 2 = a ∧
    capOf (capsCons 2 a (capsCons 3 b (capsCons 4 c []))) 3 = b ∧
    capOf (capsCons 2 a (capsCons 3 b (capsCons 4 c []))) 4 = c := by
  have h4 := fun k => capOf_capsCons 4 c [] k rfl
  have h3 := fun k => capOf_capsCons 3 b _ k (by rw [h4]; rfl)
  have h2 := fun k => capOf_capsCons 2 a _ k (by rw [h3, h4]; rfl)
  simp [h2, h3, h4, show ∀ k, capOf [] k = [] from fun _ => rfl]

theorem capOf_1234 (x a b c : List Char) :
    capOf ((1, x) :: capsCons 2 a (capsCons 3 b (capsCons 4 c []))) 1 = x ∧
    capOf ((1, x) :: capsCons 2 a (capsCons 3 b (capsCons 4 c []))) 2 = a ∧
    capOf ((1, x) :: capsCons 2 a (capsCons 3 b (capsCons 4 c []))) 3 = b ∧
    capOf ((1, x) :: capsCons 2 a (capsCons 3 b (capsCons 4 c []))) 4 = c := by
  simpa [capOf_cons] using (capOf_234 a b c).2

/-- what follows the chromosome part, as `Fmt.fromLabel` reads it -/
def tailOf (chrom : List Char) (m : List Char) : Except String (List Char × List Char × List Char × List Char) :=
  match m with
  | ':' :: r1 =>
    match r1.dropWhile Char.isDigit with
    | '-' :: r3 =>
      .ok (chrom, r1.takeWhile Char.isDigit, r3.takeWhile Char.isDigit,
           ((r3.dropWhile Char.isDigit).dropWhile isSpaceCh).takeWhile (fun c => !isSpaceCh c))
    | _ => .error "ValueError: Invalid range spec"
  | _ => .error "ValueError: Invalid range spec"

theorem fromLabel_tail (l : List Char) :
    fromLabel l = match l with
      | x :: t => if isWordCh x
          then tailOf (x :: t.takeWhile (fun c => isWordCh c || c == '.')) (t.dropWhile (fun c => isWordCh c || c == '.'))
          else tailOf [] (x :: t)
      | [] => tailOf [] [] := by
  cases l with
  | nil => rfl
  | cons x t =>
    by_cases hw : isWordCh x = true
    · have e1 : (x :: t).takeWhile (fun c => isWordCh c || c == '.') =
          x :: t.takeWhile (fun c => isWordCh c || c == '.') := by simp [hw]
      have e2 : (x :: t).dropWhile (fun c => isWordCh c || c == '.') =
          t.dropWhile (fun c => isWordCh c || c == '.') := by simp [hw]
      simp only [fromLabel, tailOf, hw, ↓reduceIte]
      rw [e1, e2]
      rfl
    · have hw' : isWordCh x = false := by simpa using hw
      simp only [fromLabel, tailOf, hw', Bool.false_eq_true, ↓reduceIte]
      rfl

/-- `pre` is what the part of the pattern before `:` adds to the captures (group 1, or nothing); `hpre` says that it
    answers `chrom` for group 1 and leaves groups 2 to 4 as the tail captured them -/
theorem k1_tail (pre : Caps → Caps) (chrom : List Char) (m : List Char)
    (hpre : ∀ a b c, capOf (pre (capsCons 2 a (capsCons 3 b (capsCons 4 c [])))) 1 = chrom ∧
      capOf (pre (capsCons 2 a (capsCons 3 b (capsCons 4 c [])))) 2 = a ∧
      capOf (pre (capsCons 2 a (capsCons 3 b (capsCons 4 c [])))) 3 = b ∧
      capOf (pre (capsCons 2 a (capsCons 3 b (capsCons 4 c [])))) 4 = c) :
    (match (k1 m).map pre with
      | some caps => Except.ok (capOf caps 1, capOf caps 2, capOf caps 3, capOf caps 4)
      | none => Except.error "ValueError: Invalid range spec") = tailOf chrom m := by
  cases m with
  | nil => simp [k1_eq, tailOf]
  | cons x t =>
    by_cases hx : x = ':'
    · subst hx
      simp only [k1_eq, k2_eq, tailOf, beq_self_eq_true, ↓reduceIte]
      cases hd : t.dropWhile Char.isDigit with
      | nil => simp [k3_eq]
      | cons y r3 =>
        by_cases hy : y = '-'
        · subst hy
          simp [k3_eq, k4_eq, hpre]
        · simp [k3_eq, hy]
    · simp [k1_eq, hx, tailOf]

theorem k1_tail_nil (m : List Char) :
    (match k1 m with
      | some caps => Except.ok (capOf caps 1, capOf caps 2, capOf caps 3, capOf caps 4)
      | none => Except.error "ValueError: Invalid range spec") = tailOf [] m := by
  have h := k1_tail id [] m capOf_234
  rwa [Option.map_id_fun, id] at h

end LabelRe

/-- `from_label` on `chrom:digits-digits`; either run of digits may be empty (an open-ended range) -/
theorem fromLabelFull_parts (c : String) (hc : LabelName c) (ds de : List Char)
    (hds : ∀ x ∈ ds, x.isDigit = true) (hde : ∀ x ∈ de, x.isDigit = true) (keepGene : Bool) :
    fromLabelFull (c.toList ++ ':' :: (ds ++ '-' :: de)) keepGene =
      .ok { chrom := some c,
            s := if ds.isEmpty then none else (parseInt (String.ofList ds)).map (· + READ_SHIFT_from_label),
            e := if de.isEmpty then none else parseInt (String.ofList de),
            gene := if keepGene then some "" else none } := by
  obtain ⟨⟨c0, rest, hc0, hw⟩, hall⟩ := hc
  have hne : c.toList.isEmpty = false := by rw [hc0]; rfl
  unfold fromLabelFull
  rw [fromLabel_parts c.toList ds de c0 rest hc0 hw hall hds hde]
  simp only [bind, Except.bind, hne, Bool.false_eq_true, ↓reduceIte, String.ofList_toList, pure, Except.pure]

end CnvVerif.Fmt.C08L
