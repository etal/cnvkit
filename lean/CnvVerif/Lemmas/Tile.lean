/-
  The glue of `_do_segmentation` / `transfer_fields` (model: `assembleUnit`) for EVERY partition of the surviving bins
  that a segmenter may return.  Every proof opens `assembleUnit` through one equation (`assembleUnit_eq`): the raw run
  segments `rawSegs`, then the end-point stretch `stretchEnds`, then `aggregate` on every row.  The tiling itself is
  proved once, for whole tables, in Lemmas/TileGenome.lean.
-/
import CnvVerif.Model.Tile
import CnvVerif.Model.TileBafExt5b
namespace CnvVerif
open C03Baf (rawSegs stretchEnds)

def sumI (l : List Int) : Int := l.foldl (· + ·) 0

theorem sumI_nil : sumI [] = 0 := rfl

theorem sumI_eq_sum (l : List Int) : sumI l = l.sum := List.sum_eq_foldl.symm

theorem sumI_cons (x : Int) (xs : List Int) : sumI (x :: xs) = x + sumI xs := by
  rw [sumI_eq_sum, sumI_eq_sum, List.sum_cons]

theorem setLast_cons_cons {α} (f : α → α) (x y : α) (t : List α) :
    setLast f (x :: y :: t) = x :: setLast f (y :: t) := rfl

theorem setFirst_map_inv {α β} (f : α → α) (p : α → β) (h : ∀ x, p (f x) = p x) (l : List α) :
    (setFirst f l).map p = l.map p := by
  cases l with
  | nil => rfl
  | cons x xs => simp [setFirst, h]

theorem setLast_map_inv {α β} (f : α → α) (p : α → β) (h : ∀ x, p (f x) = p x) (l : List α) :
    (setLast f l).map p = l.map p := by
  induction l with
  | nil => rfl
  | cons x xs ih =>
    cases xs with
    | nil => simp [setLast, h]
    | cons y t => rw [setLast_cons_cons, List.map_cons, ih]; rfl

theorem setFirst_eq_nil {α} (f : α → α) (l : List α) : setFirst f l = [] ↔ l = [] := by
  cases l <;> simp [setFirst]

theorem setLast_eq_nil {α} (f : α → α) (l : List α) : setLast f l = [] ↔ l = [] := by
  cases l with
  | nil => simp [setLast]
  | cons x xs => cases xs <;> simp [setLast]

theorem setFirst_head? {α} (f : α → α) (l : List α) : (setFirst f l).head? = l.head?.map f := by
  cases l <;> rfl

theorem setLast_getLast? {α} (f : α → α) (l : List α) : (setLast f l).getLast? = l.getLast?.map f := by
  induction l with
  | nil => rfl
  | cons x xs ih =>
    cases xs with
    | nil => simp [setLast]
    | cons y t =>
      rw [setLast_cons_cons]
      have : setLast f (y :: t) ≠ [] := by simp [setLast_eq_nil]
      obtain ⟨z, zs, hz⟩ := List.exists_cons_of_ne_nil this
      rw [hz, List.getLast?_cons_cons, ← hz, ih, List.getLast?_cons_cons]

theorem setLast_head?_inv {α β} (f : α → α) (p : α → β) (h : ∀ x, p (f x) = p x) (l : List α) :
    (setLast f l).head?.map p = l.head?.map p := by
  rw [← List.head?_map, setLast_map_inv f p h, List.head?_map]

theorem setLast_mem_inv {α β : Type _} (f : α → α) (p : α → β) (h : ∀ x, p (f x) = p x) (l : List α) :
    ∀ g ∈ setLast f l, ∃ g0 ∈ l, p g0 = p g := by
  intro g hg
  have this := List.mem_map_of_mem (f := p) hg
  rw [setLast_map_inv f p h] at this
  obtain ⟨g0, h0, h1⟩ := List.mem_map.mp this
  exact ⟨g0, h0, h1⟩

theorem splitLens_nil_left {α} (ns : List Nat) : splitLens ([] : List α) ns = [] := by
  cases ns <;> rfl

theorem splitLens_cons_succ {α} (a : α) (l : List α) (n : Nat) (ns : List Nat) :
    splitLens (a :: l) ((n + 1) :: ns) = (a :: l.take n) :: splitLens (l.drop n) ns := rfl

theorem splitLens_flatten {α} (l : List α) (ns : List Nat) : (splitLens l ns).flatten = l := by
  induction ns generalizing l with
  | nil => cases l <;> simp [splitLens]
  | cons n ns ih =>
    cases l with
    | nil => rfl
    | cons a l =>
      cases n with
      | zero => exact ih _
      | succ n => rw [splitLens_cons_succ, List.flatten_cons, ih, List.cons_append, List.take_append_drop]

theorem splitLens_nonempty {α} (l : List α) (ns : List Nat) : ∀ g ∈ splitLens l ns, g ≠ [] := by
  induction ns generalizing l with
  | nil => cases l <;> simp [splitLens]
  | cons n ns ih =>
    cases l with
    | nil => simp [splitLens]
    | cons a l =>
      cases n with
      | zero => exact ih _
      | succ n =>
        rw [splitLens_cons_succ]
        intro g hg
        rcases List.mem_cons.mp hg with rfl | hg
        · exact List.cons_ne_nil _ _
        · exact ih _ g hg

theorem splitLens_of_groups {α} (gs : List (List α)) (hne : ∀ g ∈ gs, g ≠ []) :
    splitLens gs.flatten (gs.map List.length) = gs := by
  induction gs with
  | nil => rfl
  | cons g gs ih =>
    cases g with
    | nil => exact absurd rfl (hne [] (List.mem_cons_self ..))
    | cons a t =>
      rw [List.flatten_cons, List.map_cons, List.cons_append, List.length_cons, splitLens_cons_succ,
        List.take_left' rfl, List.drop_left' rfl, ih (fun x hx => hne x (List.mem_cons_of_mem _ hx))]

theorem aggregate_keeps (u : List Bin) (g : SegO) :
    (aggregate u g).chrom = g.chrom ∧ (aggregate u g).s = g.s ∧ (aggregate u g).e = g.e ∧
      (aggregate u g).probes = g.probes := ⟨rfl, rfl, rfl, rfl⟩

theorem aggregate_idem (u : List Bin) (g : SegO) : aggregate u (aggregate u g) = aggregate u g := rfl

theorem segOfRun_spec (a : Bin) (t : List Bin) (last : Bin) (hl : (a :: t).getLast? = some last) :
    ∃ g, segOfRun (a :: t) = some g ∧ g.chrom = a.chrom ∧ g.s = a.s ∧ g.e = last.e ∧
      g.probes = ((a :: t).length : Int) := by
  refine ⟨_, rfl, rfl, rfl, ?_, rfl⟩
  show ((a :: t).getLast?.getD a).e = last.e
  rw [hl]; rfl

theorem assembleUnit_nil (runs : List Nat) : assembleUnit [] runs = [] := rfl

theorem exists_getLast_cons {α} (a : α) (t : List α) : ∃ last, (a :: t).getLast? = some last :=
  ⟨_, List.getLast?_eq_some_getLast (List.cons_ne_nil a t)⟩

/-- the end-point stretch of `transfer_fields` on one segment: its start, resp. end, becomes that of the bin `b` when
    the segment is on `b`'s chromosome -/
def stretchS (b : Bin) (g : SegO) : SegO := if g.chrom == b.chrom then { g with s := b.s } else g
def stretchE (b : Bin) (g : SegO) : SegO := if g.chrom == b.chrom then { g with e := b.e } else g

theorem stretchS_blind {β} (p : SegO → β) (hp : ∀ (g : SegO) (lo : Int), p { g with s := lo } = p g)
    (b : Bin) (g : SegO) : p (stretchS b g) = p g := by
  unfold stretchS
  split
  · exact hp g b.s
  · rfl

theorem stretchE_blind {β} (p : SegO → β) (hp : ∀ (g : SegO) (hi : Int), p { g with e := hi } = p g)
    (b : Bin) (g : SegO) : p (stretchE b g) = p g := by
  unfold stretchE
  split
  · exact hp g b.e
  · rfl

theorem stretchS_same {b : Bin} {g : SegO} (h : g.chrom = b.chrom) : stretchS b g = { g with s := b.s } :=
  if_pos (beq_iff_eq.mpr h)

theorem stretchE_same {b : Bin} {g : SegO} (h : g.chrom = b.chrom) : stretchE b g = { g with e := b.e } :=
  if_pos (beq_iff_eq.mpr h)

theorem stretch_map {β} (p : SegO → β) (hs : ∀ (g : SegO) (lo : Int), p { g with s := lo } = p g)
    (he : ∀ (g : SegO) (hi : Int), p { g with e := hi } = p g) (f l : Bin) (segs : List SegO) :
    (setLast (stretchE l) (setFirst (stretchS f) segs)).map p = segs.map p := by
  rw [setLast_map_inv _ p (stretchE_blind p he l), setFirst_map_inv _ p (stretchS_blind p hs f)]

theorem stretch_length (f l : Bin) (segs : List SegO) :
    (setLast (stretchE l) (setFirst (stretchS f) segs)).length = segs.length := by
  have h := congrArg List.length (stretch_map (fun _ => ()) (fun _ _ => rfl) (fun _ _ => rfl) f l segs)
  rwa [List.length_map, List.length_map] at h

theorem rawSegs_eq_nil_iff (u : List Bin) (runs : List Nat) : rawSegs u runs = [] ↔ u.filter (·.keep) = [] := by
  unfold rawSegs
  generalize u.filter (·.keep) = sv
  rw [List.filterMap_eq_nil_iff]
  refine ⟨fun h => ?_, fun h => by rw [h, splitLens_nil_left]; simp⟩
  -- no run is empty, so every run has a segment: there is no run, and the runs concatenate to the survivors
  have hnil : splitLens sv runs = [] := List.eq_nil_iff_forall_not_mem.mpr fun g hg => by
    cases g with
    | nil => exact splitLens_nonempty sv runs [] hg rfl
    | cons a t => exact absurd (h _ hg) (by simp [segOfRun])
  rw [← splitLens_flatten sv runs, hnil]; rfl

/-- `transfer_fields` after the segmenter: the raw run segments, the first stretched to the unit's first start, the
    last to its last end, then gene / weight / depth filled in (no segment at all when no bin survived) -/
theorem assembleUnit_eq (u : List Bin) (runs : List Nat) :
    assembleUnit u runs = (stretchEnds u (rawSegs u runs)).map (aggregate u) := by
  cases u with
  | nil => rfl
  | cons a t =>
    show (if ((a :: t).filter (·.keep)).isEmpty then [] else _) = _
    split
    · rename_i h
      rw [(rawSegs_eq_nil_iff _ runs).mpr (List.isEmpty_iff.mp h)]; rfl
    · rfl

theorem stretchEnds_cons (first : Bin) (t : List Bin) {last : Bin} (hl : (first :: t).getLast? = some last)
    (segs : List SegO) :
    stretchEnds (first :: t) segs = setLast (stretchE last) (setFirst (stretchS first) segs) := by
  show setLast (stretchE (((first :: t).getLast?).getD first)) _ = _
  rw [hl]; rfl

theorem assembleUnit_map {β} (p : SegO → β) (u : List Bin) (runs : List Nat)
    (hs : ∀ (g : SegO) (lo : Int), p { g with s := lo } = p g)
    (he : ∀ (g : SegO) (hi : Int), p { g with e := hi } = p g)
    (ha : ∀ g, p (aggregate u g) = p g) :
    (assembleUnit u runs).map p = (rawSegs u runs).map p := by
  rw [assembleUnit_eq, List.map_map, show p ∘ aggregate u = p from funext ha]
  cases u with
  | nil => rw [(rawSegs_eq_nil_iff [] runs).mpr rfl]; rfl
  | cons first t =>
    obtain ⟨last, hl⟩ := exists_getLast_cons first t
    rw [stretchEnds_cons first t hl, stretch_map p hs he]

theorem assembleUnit_length (u : List Bin) (runs : List Nat) : (assembleUnit u runs).length = (rawSegs u runs).length := by
  have h := congrArg List.length (assembleUnit_map (fun _ => ()) u runs (fun _ _ => rfl) (fun _ _ => rfl) (fun _ => rfl))
  rwa [List.length_map, List.length_map] at h

theorem assembleUnit_eq_nil_iff (u : List Bin) (runs : List Nat) :
    assembleUnit u runs = [] ↔ u.filter (·.keep) = [] := by
  rw [← List.length_eq_zero_iff, assembleUnit_length, List.length_eq_zero_iff, rawSegs_eq_nil_iff]

theorem assembleUnit_probes_sum (u : List Bin) (runs : List Nat) :
    sumI ((assembleUnit u runs).map (·.probes)) = ((u.filter (·.keep)).length : Int) := by
  have key : ∀ gs : List (List Bin),
      sumI ((gs.filterMap segOfRun).map (fun g : SegO => g.probes)) = (gs.flatten.length : Int) := by
    intro gs
    induction gs with
    | nil => rfl
    | cons grp gs ih =>
      cases grp with
      | nil =>
        rw [List.filterMap_cons_none (by rfl)]
        simpa using ih
      | cons a t' =>
        obtain ⟨last, hl⟩ := exists_getLast_cons a t'
        obtain ⟨g, hg, _, _, _, hgp⟩ := segOfRun_spec a t' last hl
        rw [List.filterMap_cons_some hg, List.map_cons, sumI_cons, ih, hgp, List.flatten_cons,
          List.length_append]
        simp
  rw [assembleUnit_map (·.probes) u runs (fun _ _ => rfl) (fun _ _ => rfl) (fun _ => rfl), rawSegs, key, splitLens_flatten]

end CnvVerif
