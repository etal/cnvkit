/-
  The real-number layer of C01: the docstring's inversion with `t = 2^v` for a real log2 value `v`, which the rational model
  takes as a hypothesis on its ratio input `t`.  (The Mathlib analysis imports of Props/C01*.lean and Props/C02*.lean come from here.)
-/
import Mathlib.Analysis.SpecialFunctions.Pow.Real
import Mathlib.Analysis.SpecialFunctions.Log.Base
namespace CnvVerif

/-- the docstring's algebra over ℝ: if `v = log2((p·n + (1-p)·x)/r)` then `(r·2^v − x(1−p))/p = n` -/
theorem clonal_inverts_real (n r x : ℕ) (p v : ℝ) (hp : 0 < p) (hr : 0 < r)
    (hm : 0 < p * n + (1 - p) * x)
    (hv : v = Real.logb 2 ((p * n + (1 - p) * x) / r)) :
    ((r : ℝ) * (2 : ℝ) ^ v - (x : ℝ) * (1 - p)) / p = (n : ℝ) := by
  have hr' : (0 : ℝ) < r := by exact_mod_cast hr
  have hpos : 0 < (p * n + (1 - p) * x) / (r : ℝ) := div_pos hm hr'
  rw [hv, Real.rpow_logb (by norm_num) (by norm_num) hpos]
  field_simp
  ring

end CnvVerif
