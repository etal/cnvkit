/-
  Behind Props/C13Text.lean, the TEXT layer of the FASTA scanner model (`splitLines`, `parseLine`, `parseFasta` of
  Model/Access.lean): a FASTA text written in the usual way (any line widths, LF or CRLF line ends, blanks/tabs after
  a sequence line, blank lines, a description after the sequence name) is its physical lines each followed by a
  newline, each physical line parses to its header or its sequence characters, and one more or one fewer final
  newline changes nothing.
-/
import CnvVerif.Lemmas.AccessFile
namespace CnvVerif

/-- one physical sequence line as written: the sequence characters, then trailing blanks (spaces,
    tabs, the '\r' of a CRLF line end) -/
structure TLine where
  body : List Char
  trail : List Char

/-- one FASTA record as written: `>name` + `desc` (empty, or whitespace followed by anything, e.g.
    " description\r") + '\n', then its lines -/
structure TRec where
  name : List Char
  desc : List Char
  lines : List TLine

def renderLine (l : TLine) : List Char := l.body ++ l.trail ++ ['\n']
def renderRec (r : TRec) : List Char :=
  ('>' :: r.name) ++ r.desc ++ ['\n'] ++ r.lines.flatMap renderLine
def renderText (recs : List TRec) : List Char := recs.flatMap renderRec

/-- a sequence line as a writer produces it: the trailing characters are blanks other than the newline, the sequence
    characters hold no newline, do not begin with '>' (that would be a header) and do not end in a blank (it would
    belong to the trail) -/
def WFLine (l : TLine) : Prop :=
  (∀ c ∈ l.trail, isPySpace c = true ∧ c ≠ '\n') ∧ '\n' ∉ l.body ∧ l.body.head? ≠ some '>' ∧
  (∀ c, l.body.getLast? = some c → isPySpace c = false)
/-- a record as a writer produces it: no blank inside the name, no newline inside the description, the description
    empty or beginning with a blank, every line well-formed -/
def WFRec (r : TRec) : Prop :=
  (∀ c ∈ r.name, isPySpace c = false) ∧ '\n' ∉ r.desc ∧
  (∀ c, r.desc.head? = some c → isPySpace c = true) ∧ ∀ l ∈ r.lines, WFLine l

/-- the records as the scanner-level theorems see them -/
def recordsOfText (recs : List TRec) : List (String × List (List Char)) :=
  recs.map (fun r => (String.ofList r.name, r.lines.map (·.body)))

theorem splitLinesGo_line (cur l rest : List Char) (h : '\n' ∉ l) :
    splitLinesGo cur (l ++ '\n' :: rest) = (cur.reverse ++ l) :: splitLinesGo [] rest := by
  induction l generalizing cur with
  | nil => simp [splitLinesGo]
  | cons c cs ih =>
    have hc : c ≠ '\n' := by intro e; apply h; simp [e]
    have hcs : '\n' ∉ cs := fun e => h (List.mem_cons_of_mem _ e)
    simp only [List.cons_append, splitLinesGo, hc, if_false]
    rw [ih _ hcs]; simp

theorem splitLines_line (l rest : List Char) (h : '\n' ∉ l) :
    splitLines (l ++ '\n' :: rest) = l :: splitLines rest := by
  simpa [splitLines] using splitLinesGo_line [] l rest h

theorem rstripChars_body_trail (body trail : List Char)
    (ht : ∀ c ∈ trail, isPySpace c = true)
    (hb : ∀ c, body.getLast? = some c → isPySpace c = false) :
    rstripChars (body ++ trail) = body := by
  unfold rstripChars
  rw [List.reverse_append, List.dropWhile_append_of_pos (by simpa using ht)]
  cases hr : body.reverse with
  | nil =>
    have : body = [] := by simpa using hr
    simp [this]
  | cons x xs =>
    have hx : isPySpace x = false := by
      apply hb
      rw [List.getLast?_eq_head?_reverse, hr]; rfl
    rw [List.dropWhile_cons_of_neg (by simp [hx]), ← hr, List.reverse_reverse]

theorem parseLine_header (name desc : List Char)
    (hn : ∀ c ∈ name, isPySpace c = false)
    (hd : ∀ c, desc.head? = some c → isPySpace c = true) :
    parseLine ('>' :: name ++ desc) = .header (String.ofList name) := by
  rw [List.cons_append, parseLine_gt,
    takeWhile_append_head _ name desc (fun c hc => by rw [hn c hc]; rfl) (fun c hc => by rw [hd c hc]; rfl)]

theorem parseLine_body (l : TLine) (h : WFLine l) : parseLine (l.body ++ l.trail) = .body l.body := by
  obtain ⟨ht, _, hgt, hlast⟩ := h
  have hhead : (l.body ++ l.trail).head? ≠ some '>' := by
    rw [List.head?_append]
    cases hb : l.body.head? with
    | some b => rw [hb] at hgt; exact hgt
    | none => exact fun e => absurd (ht '>' (List.mem_of_mem_head? e)).1 (by decide)
  rw [parseLine_not_gt _ hhead, rstripChars_body_trail _ _ (fun c hc => (ht c hc).1) hlast]

def textLines (recs : List TRec) : List (List Char) :=
  recs.flatMap (fun r => ('>' :: r.name ++ r.desc) :: r.lines.map (fun l => l.body ++ l.trail))

theorem splitLines_lines (ls : List (List Char)) (h : ∀ l ∈ ls, '\n' ∉ l) (rest : List Char) :
    splitLines (ls.flatMap (· ++ ['\n']) ++ rest) = ls ++ splitLines rest := by
  induction ls with
  | nil => rfl
  | cons l ls ih =>
    rw [List.flatMap_cons, List.append_assoc, List.append_assoc, List.singleton_append,
      splitLines_line _ _ (h l (List.mem_cons_self ..)), ih (fun x hx => h x (List.mem_cons_of_mem _ hx))]
    rfl

theorem renderText_eq_lines (recs : List TRec) :
    renderText recs = (textLines recs).flatMap (· ++ ['\n']) := by
  unfold renderText textLines
  rw [List.flatMap_assoc]
  congr 1
  funext r
  have hl : renderLine = fun a => a.body ++ (a.trail ++ ['\n']) := funext fun a => List.append_assoc ..
  simp [renderRec, hl, List.flatMap_map, List.append_assoc]

theorem textLines_noNewline (recs : List TRec) (h : ∀ r ∈ recs, WFRec r) : ∀ l ∈ textLines recs, '\n' ∉ l := by
  intro l hl hm
  obtain ⟨r, hr, hl⟩ := List.mem_flatMap.mp hl
  obtain ⟨hn, hd, _, hlines⟩ := h r hr
  rcases List.mem_cons.mp hl with rfl | hl
  · rcases List.mem_append.mp hm with hm | hm
    · rcases List.mem_cons.mp hm with hm | hm
      · exact absurd hm (by decide)
      · exact absurd (hn _ hm) (by decide)
    · exact hd hm
  · obtain ⟨x, hx, rfl⟩ := List.mem_map.mp hl
    obtain ⟨ht, hb, _, _⟩ := hlines x hx
    rcases List.mem_append.mp hm with hm | hm
    · exact hb hm
    · exact (ht _ hm).2 rfl

theorem splitLines_renderText (recs : List TRec) (h : ∀ r ∈ recs, WFRec r) :
    splitLines (renderText recs) = textLines recs := by
  have := splitLines_lines (textLines recs) (textLines_noNewline recs h) []
  rw [List.append_nil, ← renderText_eq_lines] at this
  rw [this]
  exact List.append_nil _

theorem map_parseLine_textLines (recs : List TRec) (h : ∀ r ∈ recs, WFRec r) :
    (textLines recs).map parseLine = renderRecords (recordsOfText recs) := by
  induction recs with
  | nil => rfl
  | cons r rs ih =>
    obtain ⟨hn, _, hd, hl⟩ := h r (by simp)
    have hlines : (r.lines.map (fun l => l.body ++ l.trail)).map parseLine =
        (r.lines.map (·.body)).map FLine.body := by
      rw [List.map_map, List.map_map]
      apply List.map_congr_left
      intro l hm
      exact parseLine_body l (hl l hm)
    have ih' := ih (fun x hx => h x (List.mem_cons_of_mem _ hx))
    simp only [textLines, recordsOfText, renderRecords, List.flatMap_cons, List.map_cons,
      List.map_append, List.cons_append] at ih' ⊢
    have hh := parseLine_header r.name r.desc hn hd
    rw [List.cons_append] at hh
    rw [hh, hlines, ih']

/-- one more '\n' at the end of a text adds at most one empty line -/
theorem splitLinesGo_append_newline (cur t : List Char) :
    ∃ b : Bool, splitLinesGo cur (t ++ ['\n']) = splitLinesGo cur t ++ (if b then [[]] else []) := by
  induction t generalizing cur with
  | nil =>
    cases cur with
    | nil => exact ⟨true, by simp [splitLinesGo]⟩
    | cons c cs => exact ⟨false, by simp [splitLinesGo]⟩
  | cons c cs ih =>
    by_cases hc : c = '\n'
    · obtain ⟨b, hb⟩ := ih []
      exact ⟨b, by simp only [List.cons_append, splitLinesGo, hc, if_true, hb]⟩
    · obtain ⟨b, hb⟩ := ih (c :: cur)
      exact ⟨b, by simp only [List.cons_append, splitLinesGo, hc, if_false, hb]⟩

theorem getRegions_append_newline (t : List Char) :
    getRegions (parseFasta (String.ofList (t ++ ['\n']))) =
      getRegions (parseFasta (String.ofList t)) := by
  unfold parseFasta getRegions splitLines
  rw [String.toList_ofList, String.toList_ofList]
  obtain ⟨b, hb⟩ := splitLinesGo_append_newline [] t
  rw [hb]
  cases b with
  | false => simp
  | true =>
    have e : parseLine [] = FLine.body [] := rfl
    simp only [if_true, List.map_append, List.map_cons, List.map_nil, e]
    exact scanFile_append_blank _ _ _

theorem flatMap_ends {α β : Type} {t : β} (f : α → List β) (l : List α) (hl : l ≠ [])
    (hf : ∀ x ∈ l, ∃ X, f x = X ++ [t]) : ∃ X, l.flatMap f = X ++ [t] := by
  induction l with
  | nil => exact absurd rfl hl
  | cons x xs ih =>
    by_cases hxs : xs = []
    · obtain ⟨X, hX⟩ := hf x (List.mem_cons_self ..)
      exact ⟨X, by simp [hxs, hX]⟩
    · obtain ⟨X, hX⟩ := ih hxs (fun y hy => hf y (List.mem_cons_of_mem _ hy))
      exact ⟨f x ++ X, by simp [hX]⟩

theorem renderRec_ends (r : TRec) : ∃ X, renderRec r = X ++ ['\n'] := by
  by_cases hls : r.lines = []
  · exact ⟨'>' :: r.name ++ r.desc, by simp [renderRec, hls]⟩
  · obtain ⟨X, hX⟩ := flatMap_ends renderLine r.lines hls (fun l _ => ⟨l.body ++ l.trail, rfl⟩)
    exact ⟨'>' :: r.name ++ r.desc ++ ['\n'] ++ X, by simp [renderRec, hX]⟩

theorem renderText_ends (recs : List TRec) (h : recs ≠ []) : ∃ X, renderText recs = X ++ ['\n'] :=
  flatMap_ends renderRec recs h (fun r _ => renderRec_ends r)

/-! ### non-vacuity: a concrete text -/

/-- two records: CRLF line ends, a header description, a trailing tab, a blank line, a '>' inside a
    sequence line, interior blank in a sequence line, LF line ends in the second record -/
def exampleRecs : List TRec :=
  [ { name := "chr1".toList, desc := " desc one\r".toList,
      lines := [⟨"ACGT>NN".toList, "\t\r".toList⟩, ⟨[], "\r".toList⟩, ⟨"NNAC".toList, "\r".toList⟩] },
    { name := "chr2".toList, desc := [],
      lines := [⟨"AC GT".toList, []⟩, ⟨[], []⟩] } ]

example : ∀ r ∈ exampleRecs, WFRec r := by
  unfold WFRec WFLine
  decide +kernel

example : String.ofList (renderText exampleRecs) =
    ">chr1 desc one\r\nACGT>NN\t\r\n\r\nNNAC\r\n>chr2\nAC GT\n\n" := by
  decide +kernel

example : recordsOfText exampleRecs =
    [("chr1", ["ACGT>NN".toList, [], "NNAC".toList]), ("chr2", ["AC GT".toList, []])] := by
  decide +kernel

attribute [local instance] exceptDecEq

example : getRegions (parseFasta ">chr1 desc one\r\nACGT>NN\t\r\n\r\nNNAC\r\n>chr2\nAC GT\n\n") =
    .ok [("chr1", 0, 5), ("chr1", 9, 11), ("chr2", 0, 5)] := by
  decide +kernel

end CnvVerif
