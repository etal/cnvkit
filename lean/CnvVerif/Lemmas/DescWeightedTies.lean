/-
  Lemmas behind Props/C19.lean: the weighted median does not depend on the order `argsort` gives
  to tied values (through the lower and upper weighted medians, which do not mention the order).
-/
import CnvVerif.Lemmas.DescWeighted
namespace CnvVerif.Desc

/-- total weight of the values `≤ v` -/
def wLE (v : Rat) (p : List (Rat × Rat)) : Rat := ((p.filter (fun q => decide (q.1 ≤ v))).map (·.2)).sum

theorem wLE_perm {p₁ p₂ : List (Rat × Rat)} (h : p₁.Perm p₂) (v : Rat) : wLE v p₁ = wLE v p₂ :=
  ((h.filter _).map _).sum_eq

theorem wLE_split (v : Rat) (p : List (Rat × Rat)) (k : Nat) :
    wLE v p = wLE v (p.take k) + wLE v (p.drop k) := by
  unfold wLE
  conv_lhs => rw [← List.take_append_drop k p]
  rw [List.filter_append, List.map_append, List.sum_append]

theorem wLE_nonneg (v : Rat) (p : List (Rat × Rat)) (hw : ∀ q ∈ p, 0 ≤ q.2) : 0 ≤ wLE v p :=
  sum_weights_nonneg _ (fun q hq => hw q (List.mem_filter.mp hq).1)

theorem wLE_all (v : Rat) (p : List (Rat × Rat)) (h : ∀ q ∈ p, q.1 ≤ v) : wLE v p = (p.map (·.2)).sum := by
  unfold wLE
  rw [List.filter_eq_self.mpr (fun q hq => by simpa using h q hq)]

theorem wLE_none (v : Rat) (p : List (Rat × Rat)) (h : ∀ q ∈ p, v < q.1) : wLE v p = 0 := by
  unfold wLE
  rw [List.filter_eq_nil_iff.mpr (fun q hq => by simpa using h q hq)]
  rfl

theorem cum_le_wLE (p : List (Rat × Rat)) (hs : SortedByValue p) (hw : ∀ q ∈ p, 0 ≤ q.2) (i : Nat) (hi : i < p.length) :
    cumAt (p.map (·.2)) i ≤ wLE (nth (p.map (·.1)) i) p := by
  rw [cumAt_eq, wLE_split _ p (i + 1), wLE_all _ (p.take (i + 1)) (sorted_take_le p hs i hi)]
  exact le_add_of_nonneg_right (wLE_nonneg _ _ (fun q hq => hw q (List.mem_of_mem_drop hq)))

/-- in a value-sorted table a value strictly below the `i`-th one has all its weight within the first `i` rows -/
theorem wLE_le_take (p : List (Rat × Rat)) (hs : SortedByValue p) (hw : ∀ q ∈ p, 0 ≤ q.2) (i : Nat) (hi : i < p.length)
    (v : Rat) (hv : v < nth (p.map (·.1)) i) : wLE v p ≤ ((p.take i).map (·.2)).sum := by
  rw [wLE_split _ p i, wLE_none v (p.drop i) (fun q hq => lt_of_lt_of_le hv (sorted_drop_ge p hs i hi q hq)), add_zero]
  exact sum_filter_le _ (fun q hq => hw q (List.mem_of_mem_take hq)) _

def IsLeastWith (P : Rat → Prop) (vals : List Rat) (v : Rat) : Prop := v ∈ vals ∧ P v ∧ ∀ u ∈ vals, P u → v ≤ u

theorem IsLeastWith.unique {P : Rat → Prop} {vals : List Rat} {v₁ v₂ : Rat}
    (h₁ : IsLeastWith P vals v₁) (h₂ : IsLeastWith P vals v₂) : v₁ = v₂ :=
  le_antisymm (h₁.2.2 v₂ h₂.1 h₂.2.1) (h₂.2.2 v₁ h₁.1 h₁.2.1)

theorem IsLeastWith.congr {P Q : Rat → Prop} {l₁ l₂ : List Rat} {v : Rat} (h : IsLeastWith P l₁ v)
    (hP : ∀ u, P u ↔ Q u) (hl : ∀ u, u ∈ l₁ ↔ u ∈ l₂) : IsLeastWith Q l₂ v :=
  ⟨(hl v).mp h.1, (hP v).mp h.2.1, fun u hu hq => h.2.2 u ((hl u).mpr hu) ((hP u).mpr hq)⟩

theorem sorted_first_le (p : List (Rat × Rat)) (hs : SortedByValue p) (hne : 0 < p.length) :
    ∀ u ∈ p.map (·.1), nth (p.map (·.1)) 0 ≤ u :=
  List.forall_mem_map.mpr (fun q hq => sorted_drop_ge p hs 0 hne q (by simpa using hq))

theorem sorted_last_ge (p : List (Rat × Rat)) (hs : SortedByValue p) (hne : 0 < p.length) :
    ∀ u ∈ p.map (·.1), u ≤ nth (p.map (·.1)) (p.length - 1) :=
  List.forall_mem_map.mpr (fun q hq => sorted_take_le p hs (p.length - 1) (Nat.sub_lt hne Nat.one_pos) q
    (by rw [Nat.sub_add_cancel hne, List.take_length]; exact hq))

section first
variable (U : Rat → Prop) [DecidablePred U] (hU : ∀ x y, x ≤ y → U x → U y) (p : List (Rat × Rat))
include hU

/-- **lower and upper weighted median**: the row where the cumulative weight first enters an upward-closed set `U`
    carries the least value whose weight-at-or-below lies in `U`.  `U = {x | t ≤ x}` gives the lower, `{x | t < x}` the
    upper weighted median at threshold `t` -/
theorem first_is_least (hs : SortedByValue p) (hw : ∀ q ∈ p, 0 ≤ q.2)
    (hlt : firstIdx (fun i => decide (U (cumAt (p.map (·.2)) i))) p.length < p.length) :
    IsLeastWith (fun v => U (wLE v p)) (p.map (·.1))
      (nth (p.map (·.1)) (firstIdx (fun i => decide (U (cumAt (p.map (·.2)) i))) p.length)) := by
  generalize hk : firstIdx (fun i => decide (U (cumAt (p.map (·.2)) i))) p.length = k at hlt
  refine ⟨nth_fst_mem p k hlt, hU _ _ (cum_le_wLE p hs hw k hlt) ?_, fun u hu hPu => ?_⟩
  · rw [← hk]; exact of_decide_eq_true (firstIdx_spec_at _ _ (by rw [hk]; exact hlt))
  · rcases Nat.eq_zero_or_pos k with h0 | hpos
    · rw [h0]; exact sorted_first_le p hs (Nat.zero_lt_of_lt hlt) u hu
    · -- a smaller value has its weight within the first `k` rows, whose cumulative weight is not yet in `U`
      by_contra hcon
      have h2 := of_decide_eq_false (firstIdx_spec_lt (fun i => decide (U (cumAt (p.map (·.2)) i))) p.length (k - 1)
        (by rw [hk]; exact Nat.sub_lt hpos Nat.one_pos))
      rw [cumAt_eq, Nat.sub_add_cancel hpos] at h2
      exact h2 (hU _ _ (wLE_le_take p hs hw k hlt u (not_le.mp hcon)) hPu)

theorem firstIdx_cum_lt_iff (hw : ∀ q ∈ p, 0 ≤ q.2) (hne : p ≠ []) :
    firstIdx (fun i => decide (U (cumAt (p.map (·.2)) i))) p.length < p.length ↔ U (totalW p) := by
  refine ⟨fun h => ?_, firstIdx_cum_lt U hne⟩
  have hat := of_decide_eq_true (firstIdx_spec_at _ _ h)
  rw [cumAt_eq] at hat
  refine hU _ _ ?_ hat
  rw [← sum_take_add_drop p (firstIdx (fun i => decide (U (cumAt (p.map (·.2)) i))) p.length + 1)]
  exact le_add_of_nonneg_right (sum_weights_nonneg _ (fun q hq => hw q (List.mem_of_mem_drop hq)))

theorem first_value_perm {p₁ p₂ : List (Rat × Rat)} (hperm : p₁.Perm p₂) (hs₁ : SortedByValue p₁) (hs₂ : SortedByValue p₂)
    (hw : ∀ q ∈ p₁, 0 ≤ q.2) (hne : p₁ ≠ []) (hin : U (totalW p₁)) :
    nth (p₁.map (·.1)) (firstIdx (fun i => decide (U (cumAt (p₁.map (·.2)) i))) p₁.length) =
      nth (p₂.map (·.1)) (firstIdx (fun i => decide (U (cumAt (p₂.map (·.2)) i))) p₂.length) := by
  have hw₂ : ∀ q ∈ p₂, 0 ≤ q.2 := fun q hq => hw q (hperm.mem_iff.mpr hq)
  have hne₂ : p₂ ≠ [] := fun h => hne (List.perm_nil.mp (h ▸ hperm))
  have h1 := first_is_least U hU p₁ hs₁ hw ((firstIdx_cum_lt_iff U hU p₁ hw hne).mpr hin)
  have h2 := first_is_least U hU p₂ hs₂ hw₂ ((firstIdx_cum_lt_iff U hU p₂ hw₂ hne₂).mpr (totalW_perm hperm ▸ hin))
  exact h1.unique (h2.congr (fun v => by rw [wLE_perm hperm]) (fun u => ((hperm.map _).mem_iff).symm))

end first

theorem mem_two_le_sum (l : List (Rat × Rat)) (hw : ∀ q ∈ l, 0 ≤ q.2) (a b : Rat × Rat) (ha : a ∈ l) (hb : b ∈ l) (hab : a ≠ b) :
    a.2 + b.2 ≤ (l.map (·.2)).sum := by
  obtain ⟨l', hperm, hsub⟩ := List.subperm_of_subset (l₁ := [a, b])
    (List.nodup_cons.mpr ⟨by simpa using hab, List.nodup_singleton b⟩)
    (List.cons_subset.mpr ⟨ha, List.cons_subset.mpr ⟨hb, List.nil_subset l⟩⟩)
  have := (hsub.map (·.2)).sum_le_sum (List.forall_mem_map.mpr hw)
  rwa [(hperm.map (·.2)).sum_eq, List.map_cons, List.map_singleton, List.sum_cons, List.sum_singleton] at this

/-- **tie order is unobservable**: two value-sorted arrangements of the same weighted sample (whatever order `argsort`
    gives to equal values) have the same weighted median -/
theorem wmedSorted_perm (tol : Rat) (p₁ p₂ : List (Rat × Rat)) (hperm : p₁.Perm p₂)
    (hs₁ : SortedByValue p₁) (hs₂ : SortedByValue p₂) (hw : ∀ q ∈ p₁, 0 ≤ q.2) (htol : 0 ≤ tol) :
    wmedSorted tol p₁ = wmedSorted tol p₂ := by
  have hw₂ : ∀ q ∈ p₂, 0 ≤ q.2 := fun q hq => hw q (hperm.mem_iff.mpr hq)
  by_cases hne : p₁ = []
  · subst hne; rw [List.nil_perm.mp hperm]
  have hne₂ : p₂ ≠ [] := fun h => hne (List.perm_nil.mp (h ▸ hperm))
  have hW := totalW_perm hperm
  have hW0 : 0 ≤ totalW p₁ := sum_weights_nonneg p₁ hw
  have hn1 := List.length_pos_of_ne_nil hne
  have hn2 := List.length_pos_of_ne_nil hne₂
  have hvals : ∀ u, u ∈ p₁.map (·.1) ↔ u ∈ p₂.map (·.1) := fun u => (hperm.map _).mem_iff
  have hdom : dominated p₂ = dominated p₁ := by
    unfold dominated
    rw [← hW, Bool.eq_iff_iff, List.any_eq_true, List.any_eq_true]
    exact exists_congr (fun x => and_congr_left (fun _ => ((hperm.map _).mem_iff).symm))
  rw [wmedSorted_def, wmedSorted_def, hdom]
  split
  · -- two rows of non-negative weights cannot both hold more than half of the total
    rename_i hd
    obtain ⟨q₁, hq₁, hv₁, hb₁⟩ := dominated_row hne hd
    obtain ⟨q₂, hq₂, hv₂, hb₂⟩ := dominated_row hne₂ (hdom ▸ hd)
    rw [← hv₁, ← hv₂]
    by_contra hneq
    have := mem_two_le_sum p₂ hw₂ q₁ q₂ (hperm.mem_iff.mp hq₁) hq₂ (fun h => hneq (by rw [h]))
    rw [show (p₂.map (·.2)).sum = totalW p₁ from hW.symm] at this
    rw [← hW] at hb₂
    linarith
  · have hlo : nth (p₁.map (·.1)) (loIdx tol p₁) = nth (p₂.map (·.1)) (loIdx tol p₂) := by
      unfold loIdx
      rw [← hW]
      exact first_value_perm (fun x => totalW p₁ / 2 - tol ≤ x) (fun x y hxy hx => le_trans hx hxy) hperm hs₁ hs₂ hw hne
        (by linarith)
    have hhi : nth (p₁.map (·.1)) (hiIdx tol p₁) = nth (p₂.map (·.1)) (hiIdx tol p₂) := by
      have hup : ∀ x y : Rat, x ≤ y → totalW p₁ / 2 + tol < x → totalW p₁ / 2 + tol < y :=
        fun x y hxy hx => lt_of_lt_of_le hx hxy
      unfold hiIdx
      rw [← hW]
      by_cases hex : totalW p₁ / 2 + tol < totalW p₁
      · have e1 := (firstIdx_cum_lt_iff (fun x => totalW p₁ / 2 + tol < x) hup p₁ hw hne).mpr hex
        have e2 := (firstIdx_cum_lt_iff (fun x => totalW p₁ / 2 + tol < x) hup p₂ hw₂ hne₂).mpr (hW ▸ hex)
        rw [min_eq_left (Nat.le_sub_one_of_lt e1), min_eq_left (Nat.le_sub_one_of_lt e2)]
        exact first_value_perm _ hup hperm hs₁ hs₂ hw hne hex
      · -- no cumulative weight exceeds the midpoint: both take the greatest value
        have e1 := le_antisymm (firstIdx_le _ _) (not_lt.mp (mt (firstIdx_cum_lt_iff _ hup p₁ hw hne).mp hex))
        have e2 := le_antisymm (firstIdx_le _ _) (not_lt.mp (mt (firstIdx_cum_lt_iff _ hup p₂ hw₂ hne₂).mp (hW ▸ hex)))
        rw [e1, e2, min_eq_right (Nat.sub_le _ _), min_eq_right (Nat.sub_le _ _)]
        exact le_antisymm
          (sorted_last_ge p₂ hs₂ hn2 _ ((hvals _).mp (nth_fst_mem p₁ _ (Nat.sub_lt hn1 Nat.one_pos))))
          (sorted_last_ge p₁ hs₁ hn1 _ ((hvals _).mpr (nth_fst_mem p₂ _ (Nat.sub_lt hn2 Nat.one_pos))))
    rw [hlo, hhi]

/-- what `argsort` promises: a permutation of the row indices that puts the values in ascending order -/
def ValidOrder (order : List Nat) (p : List (Rat × Rat)) : Prop :=
  order.Perm (List.range p.length) ∧ SortedByValue (permute order p)

theorem ValidOrder.idx {order : List Nat} {p : List (Rat × Rat)} (h : ValidOrder order p) : ∀ i ∈ order, i < p.length :=
  fun _ hi => List.mem_range.mp (h.1.mem_iff.mp hi)

theorem ValidOrder.ne_nil {order : List Nat} {p : List (Rat × Rat)} (h : ValidOrder order p) (hp : p ≠ []) : order ≠ [] :=
  fun ho => hp (List.length_eq_zero_iff.mp (by simpa [ho] using h.1.length_eq.symm))

theorem ValidOrder.mapV {order : List Nat} {p : List (Rat × Rat)} (h : ValidOrder order p) (f : Rat → Rat)
    (hf : Monotone f) : ValidOrder order (mapV f p) := by
  refine ⟨by rw [length_mapV]; exact h.1, ?_⟩
  rw [permute_mapV f order p (Or.inl h.idx)]
  exact List.pairwise_map.mpr (h.2.imp (fun hab => hf hab))

theorem ValidOrder.shift {order : List Nat} {p : List (Rat × Rat)} (h : ValidOrder order p) (c : Rat) :
    ValidOrder order (shiftP c p) := shiftP_eq_mapV c p ▸ h.mapV (· + c) (affine_mono (add_affine c) zero_le_one)

theorem ValidOrder.unshift {order : List Nat} {p : List (Rat × Rat)} (c : Rat) (h : ValidOrder order (shiftP c p)) :
    ValidOrder order p := by
  have : shiftP (-c) (shiftP c p) = p := by
    unfold shiftP
    rw [List.map_map]
    exact (List.map_congr_left (fun q _ => by simp)).trans (List.map_id p)
  exact this ▸ h.shift (-c)

theorem weightedMedianCore_order_independent (o o' : List Nat) (p : List (Rat × Rat)) (hw : ∀ q ∈ p, 0 ≤ q.2)
    (h : ValidOrder o p) (h' : ValidOrder o' p) : weightedMedianCore false o p = weightedMedianCore false o' p := by
  have hp := permute_perm o p h.1
  have hp' := permute_perm o' p h'.1
  have hw1 : ∀ q ∈ permute o p, 0 ≤ q.2 := fun q hq => hw q (hp.mem_iff.mp hq)
  rw [weightedMedianCore_def, weightedMedianCore_def, wmedTol_perm hp, wmedTol_perm hp']
  exact wmedSorted_perm _ _ _ (hp.trans hp'.symm) h.2 h'.2 hw1 (wmedTol_nonneg p hw)

theorem weightedMadCore_order_independent (o1 o2 o1' o2' : List Nat) (p : List (Rat × Rat)) (b : Bool) (hw : ∀ q ∈ p, 0 ≤ q.2)
    (h1 : ValidOrder o1 p) (h1' : ValidOrder o1' p)
    (h2 : ValidOrder o2 (devP (weightedMedianCore false o1 p) p))
    (h2' : ValidOrder o2' (devP (weightedMedianCore false o1' p) p)) :
    weightedMadCore false o1 o2 p b = weightedMadCore false o1' o2' p b := by
  have hm := weightedMedianCore_order_independent o1 o1' p hw h1 h1'
  rw [← hm] at h2'
  rw [weightedMadCore_def, weightedMadCore_def, ← hm, weightedMedianCore_order_independent o2 o2' _ (weights_devP hw) h2 h2']

/-- the weighted median is equivariant under `x ↦ k·x + c`, `k ≥ 0`, whatever sorting permutations `argsort` returns
    before and after -/
theorem weightedMedianCore_mapV_any_order (f : Rat → Rat) (k c : Rat) (hf : ∀ x, f x = k * x + c) (hk : 0 ≤ k)
    (o o' : List Nat) (p : List (Rat × Rat)) (h0 : p ≠ [] ∨ f 0 = 0) (hw : ∀ q ∈ p, 0 ≤ q.2)
    (h : ValidOrder o p) (h' : ValidOrder o' (mapV f p)) :
    weightedMedianCore false o' (mapV f p) = f (weightedMedianCore false o p) := by
  rw [weightedMedianCore_order_independent o' o (mapV f p) (weights_mapV hw) h' (h.mapV f (affine_mono hf hk))]
  exact weightedMedianCore_mapV f k c hf o p (h0.imp_left (fun hp => ⟨h.ne_nil hp, h.idx, hw⟩))

theorem weightedMadCore_mapV_any_order (f : Rat → Rat) (k c : Rat) (hf : ∀ x, f x = k * x + c) (hk : 0 ≤ k)
    (o1 o2 o1' o2' : List Nat) (p : List (Rat × Rat)) (b : Bool) (h0 : p ≠ [] ∨ f 0 = 0) (hw : ∀ q ∈ p, 0 ≤ q.2)
    (h1 : ValidOrder o1 p) (h2 : ValidOrder o2 (devP (weightedMedianCore false o1 p) p))
    (h1' : ValidOrder o1' (mapV f p))
    (h2' : ValidOrder o2' (devP (weightedMedianCore false o1' (mapV f p)) (mapV f p))) :
    weightedMadCore false o1' o2' (mapV f p) b = k * weightedMadCore false o1 o2 p b := by
  have e1 := weightedMedianCore_mapV_any_order f k c hf hk o1 o1' p h0 hw h1 h1'
  rw [e1, devP_mapV hf hk] at h2'
  rw [weightedMadCore_def, weightedMadCore_def, e1, devP_mapV hf hk,
    weightedMedianCore_mapV_any_order _ k 0 (mul_affine k) hk o2 o2' _ (Or.inr (mul_zero k)) (weights_devP hw) h2 h2']
  exact mul_ite_scale b k _ _

end CnvVerif.Desc
