/-
  C08 — format auto-detection (`tabio.sniff_region_format`) recognises what the writers print.
  Only the first data line decides; `sniffLine_cascade` spells out the tests in the order `SNIFF_ORDER`
  gives them, so a reordered cascade (or a changed pattern predicate) breaks the proofs.
-/
import CnvVerif.Lemmas.FormatsTab
namespace CnvVerif.Fmt
open CnvVerif CnvVerif.Generated

/-- the file name carries no (mis-sliced) format hint: `ext[1:]` is not a key of `format_patterns` -/
def NoHint (ext : String) : Prop :=
  (SNIFF_PATTERNS.map (·.1)).contains (String.ofList (ext.toList.drop 1)) = false

/-- chromosome names made of letters, digits and underscores — the alphabet of `\w`, for which the
    property claims auto-detection — that do not read as a `track` / `browser` line -/
def WordName (c : String) : Prop := isWord c = true ∧ NoTrackName c

/-- rows have non-negative coordinates (so that they print as digit strings) -/
def NonNegRows (t : FTab) : Prop := ∀ r ∈ t.rows, 0 ≤ r.s ∧ 0 ≤ r.e

/-- interval lists: the strand column is `+`, `-` or `.` and the gene label has no white space -/
def WFIntervalSniff (t : FTab) : Prop :=
  ∀ r ∈ t.rows, (∃ g, (colCell t "gene" r).getD (.str "-") = .str g ∧ isNonSpace g = true) ∧
    (∃ s, (colCell t "strand" r).getD (.str "+") = .str s ∧ isOneOf ['.', '+', '-'] s = true)

theorem word_not_space {c : Char} (h : isWordCh c = true) : isSpaceCh c = false :=
  Bool.eq_false_iff.mpr fun hs => by rw [(space_not_digit_word hs).2] at h; exact absurd h (by decide)

theorem isWord_iff (s : String) :
    isWord s = true ↔ s.toList ≠ [] ∧ ∀ x ∈ s.toList, isWordCh x = true := by
  unfold isWord
  simp only [Bool.and_eq_true, Bool.not_eq_true', List.isEmpty_eq_false_iff, List.all_eq_true]

theorem isNonSpace_iff (s : String) :
    isNonSpace s = true ↔ s.toList ≠ [] ∧ ∀ x ∈ s.toList, isSpaceCh x = false := by
  unfold isNonSpace
  simp only [Bool.and_eq_true, Bool.not_eq_true', List.isEmpty_eq_false_iff, List.all_eq_true]

theorem isNonSpace_of_isWord {s : String} (h : isWord s = true) : isNonSpace s = true := by
  obtain ⟨hne, hall⟩ := (isWord_iff s).mp h
  exact (isNonSpace_iff s).mpr ⟨hne, fun x hx => word_not_space (hall x hx)⟩

/-- the field starts with a word character (the first clause of `LabelName`): all the sniffer's literal-prefix
    tests (`#`, `@`, `##gff-version`, …) look no further -/
def FirstWord (s : String) : Prop := ∃ c0 r, s.toList = c0 :: r ∧ isWordCh c0 = true

theorem firstWord_of_isWord {s : String} (h : isWord s = true) : FirstWord s := by
  obtain ⟨hne, hall⟩ := (isWord_iff s).mp h
  cases hs : s.toList with
  | nil => exact absurd hs hne
  | cons c0 r => exact ⟨c0, r, hs, hall c0 (by rw [hs]; exact List.mem_cons_self)⟩

theorem FirstWord.sw_false {s : String} (h : FirstWord s) (p : String)
    (hp : p.toList.head?.map isWordCh = some false) : sw p s = false := by
  obtain ⟨c0, r, hs, hw⟩ := h
  obtain ⟨d, hd, hdw⟩ := Option.map_eq_some_iff.mp hp
  refine sw_false_of_head_ne p s d hd fun c hc hcd => ?_
  rw [hs] at hc
  cases hc
  rw [hcd, hdw] at hw
  exact absurd hw (by decide)

theorem FirstWord.beq_false {s : String} (h : FirstWord s) (p : String)
    (hp : p.toList.head?.map isWordCh = some false) : (s == p) = false := by
  refine beq_eq_false_iff_ne.mpr fun hsp => ?_
  subst hsp
  have h2 : sw s s = true := List.isPrefixOf_iff_prefix.mpr (List.prefix_refl _)
  rw [h.sw_false s hp] at h2
  exact absurd h2 (by decide)

theorem FirstWord.not_allSpace {s : String} (h : FirstWord s) : s.toList.all isSpaceCh = false := by
  obtain ⟨c0, r, hs, hw⟩ := h
  rw [hs]
  simp only [List.all_cons, word_not_space hw, Bool.false_and]

theorem isPrefixOf_append_stop (p a : List Char) (y : Char) (b : List Char) (hy : y ∉ p)
    (h : p.isPrefixOf (a ++ y :: b) = true) : p.isPrefixOf a = true := by
  induction p generalizing a with
  | nil => simp [List.isPrefixOf]
  | cons x p' ih =>
    cases a with
    | nil =>
      simp only [List.nil_append, List.isPrefixOf, Bool.and_eq_true, beq_iff_eq] at h
      exact absurd (by rw [h.1]; exact List.mem_cons_self) hy
    | cons a0 a' =>
      simp only [List.cons_append, List.isPrefixOf, Bool.and_eq_true] at h ⊢
      exact ⟨h.1, ih a' (fun hm => hy (List.mem_cons_of_mem _ hm)) h.2⟩

theorem steps_eq :
    (SNIFF_ORDER.flatMap (fun k => if k == "gff" then ["gff", "vcf", "#"] else [k])) =
      ["gff", "vcf", "#", "text", "tab", "interval", "refflat", "bed"] := by
  decide +kernel

theorem go_gff (f : Line) (f0 : String) (ks : List String) :
    sniffLine.go f f0 ("gff" :: ks) =
      if sw "##gff-version" f0 || patMatch "gff" f then .found "gff" else sniffLine.go f f0 ks := by
  rw [sniffLine.go]; simp only [String.reduceBEq, ↓reduceIte]

theorem go_vcf (f : Line) (f0 : String) (ks : List String) :
    sniffLine.go f f0 ("vcf" :: ks) =
      if sw "##fileformat=VCF" f0 || (f0 == "#CHROM" && f.getD 1 "" == "POS" && sw "ID" (f.getD 2 "")) then
        .found "vcf" else sniffLine.go f f0 ks := by
  rw [sniffLine.go]; simp only [String.reduceBEq, Bool.false_eq_true, ↓reduceIte]

theorem go_hash (f : Line) (f0 : String) (ks : List String) :
    sniffLine.go f f0 ("#" :: ks) = if sw "#" f0 then .skip else sniffLine.go f f0 ks := by
  rw [sniffLine.go]; simp only [String.reduceBEq, Bool.false_eq_true, ↓reduceIte]

theorem go_interval (f : Line) (f0 : String) (ks : List String) :
    sniffLine.go f f0 ("interval" :: ks) =
      if sw "@" f0 || patMatch "interval" f then .found "interval" else sniffLine.go f f0 ks := by
  rw [sniffLine.go]; simp only [String.reduceBEq, Bool.false_eq_true, ↓reduceIte]

/-- a key without a test of its own: the regular expression alone decides -/
theorem go_plain (f : Line) (f0 k : String) (ks : List String)
    (h : (k == "gff") = false ∧ (k == "vcf") = false ∧ (k == "#") = false ∧ (k == "interval") = false) :
    sniffLine.go f f0 (k :: ks) = if patMatch k f then .found k else sniffLine.go f f0 ks := by
  rw [sniffLine.go]; simp only [h.1, h.2.1, h.2.2.1, h.2.2.2, Bool.false_eq_true, ↓reduceIte]

/-- the tests applied to a data line when the file name gives no hint, in order -/
theorem sniffLine_cascade (f : Line) : sniffLine SNIFF_ORDER none f =
    if sw "##gff-version" (f.headD "") || patMatch "gff" f then .found "gff"
    else if sw "##fileformat=VCF" (f.headD "") ||
        (f.headD "" == "#CHROM" && f.getD 1 "" == "POS" && sw "ID" (f.getD 2 "")) then .found "vcf"
    else if sw "#" (f.headD "") then .skip
    else if patMatch "text" f then .found "text"
    else if patMatch "tab" f then .found "tab"
    else if sw "@" (f.headD "") || patMatch "interval" f then .found "interval"
    else if patMatch "refflat" f then .found "refflat"
    else if patMatch "bed" f then .found "bed"
    else .fail := by
  unfold sniffLine
  simp only [steps_eq]
  rw [go_gff, go_vcf, go_hash, go_plain _ _ "text" _ (by decide +kernel), go_plain _ _ "tab" _ (by decide +kernel),
    go_interval, go_plain _ _ "refflat" _ (by decide +kernel), go_plain _ _ "bed" _ (by decide +kernel),
    sniffLine.go]

/-- a line whose first field starts with a word character and that is not a GFF record: the tests for
    GFF, VCF, `#` comments and the `@` of an interval-list header fail -/
theorem sniffLine_word (f0 : String) (rest : List String) (hfw : FirstWord f0)
    (hgff : patMatch "gff" (f0 :: rest) = false) :
    sniffLine SNIFF_ORDER none (f0 :: rest) =
      if patMatch "text" (f0 :: rest) then .found "text"
      else if patMatch "tab" (f0 :: rest) then .found "tab"
      else if patMatch "interval" (f0 :: rest) then .found "interval"
      else if patMatch "refflat" (f0 :: rest) then .found "refflat"
      else if patMatch "bed" (f0 :: rest) then .found "bed"
      else .fail := by
  simp only [sniffLine_cascade, List.headD_cons, hfw.sw_false "##gff-version" (by decide +kernel),
    hfw.sw_false "##fileformat=VCF" (by decide +kernel), hfw.beq_false "#CHROM" (by decide +kernel),
    hfw.sw_false "#" (by decide +kernel), hfw.sw_false "@" (by decide +kernel), hgff, Bool.or_self,
    Bool.false_or, Bool.false_and, Bool.false_eq_true, ↓reduceIte]

theorem patMatch_gff_eq (f : Line) : patMatch "gff" f =
    (decide (f.length ≥ 9) && isWord (f.getD 0 "") && isNonSpace (f.getD 1 "") && isWord (f.getD 2 "")
      && isDigits (f.getD 3 "") && isDigits (f.getD 4 "") && isNonSpace (f.getD 5 "")
      && isOneOf ['.', '?', '+', '-'] (f.getD 6 "") && isOneOf ['0', '1', '2', '.'] (f.getD 7 "")) := by
  simp only [patMatch]

theorem patMatch_gff_short (f : Line) (h : f.length < 9) : patMatch "gff" f = false := by
  have hd : decide (f.length ≥ 9) = false := decide_eq_false (by omega)
  rw [patMatch_gff_eq, hd]
  simp only [Bool.false_and]

theorem patMatch_gff_nodigits (f : Line) (h : isDigits (f.getD 3 "") = false) :
    patMatch "gff" f = false := by
  rw [patMatch_gff_eq, h]
  simp only [Bool.false_and, Bool.and_false]

theorem patMatch_text_eq (f : Line) : patMatch "text" f =
    (!((f.getD 0 "").toList.takeWhile isWordCh).isEmpty &&
      (match (f.getD 0 "").toList.dropWhile isWordCh with
        | ':' :: r => (match r.dropWhile Char.isDigit with
          | '-' :: _ => true
          | _ => false)
        | _ => false)) := by
  simp only [patMatch]; rfl

/-- `\w+:` does not match a field made of word characters only -/
theorem patMatch_text_word (f : Line) (h : ∀ x ∈ (f.getD 0 "").toList, isWordCh x = true) :
    patMatch "text" f = false := by
  rw [patMatch_text_eq, dropWhile_eq_nil_of_all _ _ h]
  simp only [Bool.and_false]

/-- `\w+:\d*-` matches `chrom:digits-…` -/
theorem patMatch_text_label (f : Line) (w ds rest : List Char) (hne : w ≠ [])
    (hw : ∀ x ∈ w, isWordCh x = true) (hds : ∀ x ∈ ds, x.isDigit = true)
    (h : (f.getD 0 "").toList = w ++ ':' :: (ds ++ '-' :: rest)) : patMatch "text" f = true := by
  have hcolon : isWordCh ':' = false := by decide
  have hminus : Char.isDigit '-' = false := by decide
  rw [patMatch_text_eq, h, takeWhile_append_stop _ w ':' _ hw hcolon,
    dropWhile_append_stop _ w ':' _ hw hcolon]
  simp only [dropWhile_append_stop _ ds '-' rest hds hminus, Bool.and_true, Bool.not_eq_true',
    List.isEmpty_eq_false_iff]
  exact hne

theorem patMatch_tab_eq (f : Line) : patMatch "tab" f =
    (decide (f.length ≥ 3) && f.getD 0 "" == "chromosome" && f.getD 1 "" == "start" &&
      sw "end" (f.getD 2 "")) := by
  simp only [patMatch]

theorem patMatch_tab_nostart (f : Line) (h : (f.getD 1 "" == "start") = false) :
    patMatch "tab" f = false := by
  rw [patMatch_tab_eq, h]
  simp only [Bool.false_and, Bool.and_false]

theorem patMatch_interval_eq (f : Line) : patMatch "interval" f =
    (f.length == 5 && isWord (f.getD 0 "") && isDigits (f.getD 1 "") && isDigits (f.getD 2 "")
      && isOneOf ['.', '+', '-'] (f.getD 3 "") && isNonSpace (f.getD 4 "")) := by
  simp only [patMatch]

theorem patMatch_interval_len (f : Line) (h : f.length ≠ 5) : patMatch "interval" f = false := by
  rw [patMatch_interval_eq, beq_eq_false_iff_ne.mpr h]
  rfl

theorem patMatch_refflat_len (f : Line) (h : f.length ≠ 11) : patMatch "refflat" f = false := by
  have he : patMatch "refflat" f =
    (f.length == 11 && isNonSpace (f.getD 0 "") && isNonSpace (f.getD 1 "") && isWord (f.getD 2 "")
      && isOneOf ['+', '-'] (f.getD 3 "") && isDigits (f.getD 4 "") && isDigits (f.getD 5 "")
      && isDigits (f.getD 6 "") && isDigits (f.getD 7 "") && isDigits (f.getD 8 "")
      && isCommaDigits (f.getD 9 "").toList && isCommaDigits (f.getD 10 "").toList) := by
    simp only [patMatch]
  rw [he, beq_eq_false_iff_ne.mpr h]
  rfl

theorem patMatch_bed_eq (f : Line) : patMatch "bed" f =
    (decide (f.length ≥ 3) && isNonSpace (f.getD 0 "") && isDigits (f.getD 1 "") &&
      (match (f.getD 2 "").toList with
       | c :: _ => c.isDigit
       | [] => false)) := by
  simp only [patMatch]; rfl

theorem patMatch_bed_of (f : Line) (hlen : 3 ≤ f.length) (h0 : isNonSpace (f.getD 0 "") = true)
    (h1 : isDigits (f.getD 1 "") = true) (h2 : isDigits (f.getD 2 "") = true) :
    patMatch "bed" f = true := by
  have hd : decide (f.length ≥ 3) = true := decide_eq_true hlen
  obtain ⟨hne, hall⟩ := (isDigits_iff _).mp h2
  rw [patMatch_bed_eq, hd, h0, h1]
  cases hs : (f.getD 2 "").toList with
  | nil => exact absurd hs hne
  | cons c r =>
    simp only [Bool.and_self, Bool.true_and]
    exact hall c (by rw [hs]; exact List.mem_cons_self)

theorem autoFormat_first (ext : String) (hx : NoHint ext) (f : Line) (rest : List Line) (k : String)
    (h1 : f.all (fun x => x.toList.all isSpaceCh) = false)
    (h2 : sw "track" (f.headD "") = false) (h3 : sw "browser " (f.headD "") = false)
    (h4 : sniffLine SNIFF_ORDER none f = .found k) :
    autoFormat ext (f :: rest) = .ok k := by
  unfold NoHint at hx
  unfold autoFormat sniff
  simp only [hx, Bool.false_eq_true, ↓reduceIte]
  rw [sniff.go]
  simp only [h1, h2, h3, h4, Bool.or_self, Bool.false_eq_true, ↓reduceIte]
  rfl

theorem autoFormat_rows {α} (ext : String) (hx : NoHint ext) (rows : List α) (line : α → Line) (k : String)
    (hne : rows ≠ [])
    (h : ∀ r ∈ rows, ((line r).all (fun x => x.toList.all isSpaceCh) = false ∧
        sw "track" ((line r).headD "") = false ∧ sw "browser " ((line r).headD "") = false) ∧
      sniffLine SNIFF_ORDER none (line r) = .found k) :
    autoFormat ext (rows.map line) = .ok k := by
  cases rows with
  | nil => exact absurd rfl hne
  | cons r rs =>
    obtain ⟨⟨h1, h2, h3⟩, h4⟩ := h r List.mem_cons_self
    exact autoFormat_first ext hx _ _ k h1 h2 h3 h4

theorem sniffLine_coords (c ds : String) (rest : List String) (hc : isWord c = true)
    (hds : isDigits ds = true) (hlen : rest.length < 7) :
    sniffLine SNIFF_ORDER none (c :: ds :: rest) =
      if patMatch "interval" (c :: ds :: rest) then .found "interval"
      else if patMatch "refflat" (c :: ds :: rest) then .found "refflat"
      else if patMatch "bed" (c :: ds :: rest) then .found "bed"
      else .fail := by
  have p1 : patMatch "gff" (c :: ds :: rest) = false :=
    patMatch_gff_short _ (by simp only [List.length_cons]; omega)
  have p2 : patMatch "text" (c :: ds :: rest) = false := patMatch_text_word _ ((isWord_iff c).mp hc).2
  have p3 : patMatch "tab" (c :: ds :: rest) = false := patMatch_tab_nostart _ (beq_eq_false_iff_ne.mpr (ne_of_test hds (by decide)))
  rw [sniffLine_word c _ (firstWord_of_isWord hc) p1, p2, p3]
  rfl

theorem sniffLine_bed (c ds de : String) (rest : List String) (hlen : rest.length < 2)
    (hc : isWord c = true) (hds : isDigits ds = true) (hde : isDigits de = true) :
    sniffLine SNIFF_ORDER none (c :: ds :: de :: rest) = .found "bed" := by
  have p1 : patMatch "interval" (c :: ds :: de :: rest) = false :=
    patMatch_interval_len _ (by simp only [List.length_cons]; omega)
  have p2 : patMatch "refflat" (c :: ds :: de :: rest) = false :=
    patMatch_refflat_len _ (by simp only [List.length_cons]; omega)
  have p3 : patMatch "bed" (c :: ds :: de :: rest) = true :=
    patMatch_bed_of _ (by simp only [List.length_cons]; omega) (isNonSpace_of_isWord hc) hds hde
  rw [sniffLine_coords c ds (de :: rest) hc hds (by simp only [List.length_cons]; omega), p1, p2, p3]
  rfl

theorem sniffLine_interval (c ds de st g : String)
    (hc : isWord c = true) (hds : isDigits ds = true) (hde : isDigits de = true)
    (hst : isOneOf ['.', '+', '-'] st = true) (hg : isNonSpace g = true) :
    sniffLine SNIFF_ORDER none [c, ds, de, st, g] = .found "interval" := by
  have p1 : patMatch "interval" [c, ds, de, st, g] = true := by
    rw [patMatch_interval_eq]
    show ((5 == 5) && isWord c && isDigits ds && isDigits de && isOneOf ['.', '+', '-'] st
      && isNonSpace g) = true
    rw [hc, hds, hde, hst, hg]
    rfl
  rw [sniffLine_coords c ds [de, st, g] hc hds (by simp only [List.length_cons, List.length_nil]; omega), p1]
  rfl

theorem skip_conds (c : String) (rest : List String) (hw : WordName c) :
    (c :: rest).all (fun x => x.toList.all isSpaceCh) = false ∧
    sw "track" ((c :: rest).headD "") = false ∧ sw "browser " ((c :: rest).headD "") = false := by
  refine ⟨?_, hw.2.1, hw.2.2⟩
  simp only [List.all_cons, (firstWord_of_isWord hw.1).not_allSpace, Bool.false_and]

theorem sniff_written_bed3 (t : FTab) (ext : String) (hx : NoHint ext) (hne : t.rows ≠ [])
    (hw : ∀ r ∈ t.rows, WordName r.chrom) (hp : NonNegRows t) :
    autoFormat ext (renderLines (writeBed3 t)) = .ok "bed" := by
  rw [renderLines_writeBed3]
  refine autoFormat_rows ext hx _ _ "bed" hne fun r hr => ⟨skip_conds _ _ (hw r hr), ?_⟩
  have hpr := hp r hr
  exact sniffLine_bed _ _ _ [] (by decide) (hw r hr).1
    (isDigits_toString _ (by simp only [WRITE_SHIFT_bed3]; omega)) (isDigits_toString _ hpr.2)

theorem sniff_written_bed4 (t : FTab) (ext : String) (hx : NoHint ext) (hne : t.rows ≠ [])
    (hw : ∀ r ∈ t.rows, WordName r.chrom) (hp : NonNegRows t) (hg : WFGene t) :
    autoFormat ext (renderLines (writeBed4 t)) = .ok "bed" := by
  rw [renderLines_writeBed4 t hg]
  refine autoFormat_rows ext hx _ _ "bed" hne fun r hr => ⟨skip_conds _ _ (hw r hr), ?_⟩
  have hpr := hp r hr
  exact sniffLine_bed _ _ _ [geneStr t r] (Nat.lt_succ_self 1) (hw r hr).1
    (isDigits_toString _ (by simp only [WRITE_SHIFT_bed4]; omega)) (isDigits_toString _ hpr.2)

/-- an empty file, whatever its extension, is read with the 3-column BED reader (the blank-file branch of
    `read_auto`, `tabio/__init__.py`) -/
theorem sniff_empty (ext : String) : autoFormat ext [] = .ok "bed3" := rfl

theorem sniff_written_interval (t : FTab) (ext : String) (hx : NoHint ext) (hne : t.rows ≠ [])
    (hw : ∀ r ∈ t.rows, WordName r.chrom) (hp : NonNegRows t) (hi : WFIntervalSniff t) :
    autoFormat ext (renderLines (writeInterval t)) = .ok "interval" := by
  rw [renderLines_writeInterval t (fun r hr => (hi r hr).1.imp fun _ h => h.1)
    (fun r hr => (hi r hr).2.imp fun _ h => h.1)]
  refine autoFormat_rows ext hx _ _ "interval" hne fun r hr => ⟨skip_conds _ _ (hw r hr), ?_⟩
  have hpr := hp r hr
  obtain ⟨⟨g, hg, hgs⟩, ⟨st, hst, hsts⟩⟩ := hi r hr
  rw [geneStr_of hg, strandStr_of hst]
  exact sniffLine_interval _ _ _ _ _ (hw r hr).1
    (isDigits_toString _ (by simp only [WRITE_SHIFT_interval]; omega)) (isDigits_toString _ hpr.2) hsts hgs

theorem firstWord_toLabel (c : String) (a b : Int) (hc : isWord c = true) : FirstWord (toLabel c a b) := by
  obtain ⟨c0, r, hs, hw0⟩ := firstWord_of_isWord hc
  exact ⟨c0, _, by rw [toLabel_toList, hs]; rfl, hw0⟩

theorem sniffLine_text (c : String) (a b : Int) (hc : isWord c = true)
    (ha : 0 ≤ a + WRITE_SHIFT_to_label) :
    sniffLine SNIFF_ORDER none [toLabel c a b] = .found "text" := by
  obtain ⟨hcne, hcall⟩ := (isWord_iff c).mp hc
  have p1 : patMatch "gff" [toLabel c a b] = false := patMatch_gff_short _ (by simp)
  have p2 : patMatch "text" [toLabel c a b] = true :=
    patMatch_text_label _ c.toList (toString (a + WRITE_SHIFT_to_label)).toList (toString b).toList
      hcne hcall (toString_digits _ ha).2 (toLabel_toList c a b)
  rw [sniffLine_word _ [] (firstWord_toLabel c a b hc) p1, p2]
  rfl

theorem sw_toLabel (p c : String) (a b : Int) (hp : ':' ∉ p.toList) (h : sw p c = false) :
    sw p (toLabel c a b) = false := by
  refine Bool.eq_false_iff.mpr fun ht => ?_
  unfold sw at h ht
  rw [toLabel_toList] at ht
  rw [isPrefixOf_append_stop _ _ ':' _ hp ht] at h
  exact absurd h (by decide)

theorem sniff_written_text (t : FTab) (ext : String) (hx : NoHint ext) (hne : t.rows ≠ [])
    (hw : ∀ r ∈ t.rows, WordName r.chrom) (hp : NonNegRows t) :
    autoFormat ext (renderLines (writeText t)) = .ok "text" := by
  rw [renderLines_writeText]
  refine autoFormat_rows ext hx _ _ "text" hne fun r hr => ?_
  obtain ⟨hc, ht, hb⟩ := hw r hr
  have hpr := hp r hr
  refine ⟨⟨?_, sw_toLabel "track" _ _ _ (by decide +kernel) ht, sw_toLabel "browser " _ _ _ (by decide +kernel) hb⟩,
    sniffLine_text _ _ _ hc (by simp only [WRITE_SHIFT_text_writer, WRITE_SHIFT_to_label]; omega)⟩
  simp only [List.all_cons, (firstWord_toLabel _ _ _ hc).not_allSpace, Bool.false_and]

theorem wordName_chromosome : WordName "chromosome" := by unfold WordName NoTrackName; decide +kernel

theorem sniffLine_tab_header (names : List String) (hn : ∀ n ∈ names, isDigits n = false) :
    sniffLine SNIFF_ORDER none ("chromosome" :: "start" :: "end" :: names) = .found "tab" := by
  have p1 : patMatch "gff" ("chromosome" :: "start" :: "end" :: names) = false := by
    cases names with
    | nil => exact patMatch_gff_short _ (by decide)
    | cons n ns => exact patMatch_gff_nodigits _ (hn n List.mem_cons_self)
  have p3 : patMatch "tab" ("chromosome" :: "start" :: "end" :: names) = true := by
    rw [patMatch_tab_eq, decide_eq_true (by simp only [List.length_cons]; omega)]
    show (true && "chromosome" == "chromosome" && "start" == "start" && sw "end" "end") = true
    decide +kernel
  have p2 : patMatch "text" ("chromosome" :: "start" :: "end" :: names) = false :=
    patMatch_text_word _ ((isWord_iff _).mp wordName_chromosome.1).2
  rw [sniffLine_word "chromosome" _ (firstWord_of_isWord wordName_chromosome.1) p1, p2, p3]
  rfl

/-- tab files are recognised by their header, whatever the rows (column names are not all-digit strings) -/
theorem sniff_written_tab (t : FTab) (ext : String) (hx : NoHint ext)
    (hn : ∀ n ∈ t.names, isDigits n = false) :
    autoFormat ext (renderLines (writeTab t)) = .ok "tab" := by
  rw [renderLines_writeTab]
  obtain ⟨h1, h2, h3⟩ := skip_conds "chromosome" ("start" :: "end" :: t.names) wordName_chromosome
  exact autoFormat_first ext hx _ _ "tab" h1 h2 h3 (sniffLine_tab_header _ hn)

end CnvVerif.Fmt
