/-
  `do_call` as a whole (Model/CallExt5.lean): the outcomes of the method test, what an accepted call returns, and
  membership in an `if`-guarded list (`mem_ite`), which is what the blocks of the step plan are.
-/
import CnvVerif.Model.CallExt5
namespace CnvVerif
open Generated (DoCallStep)

theorem mem_ite {α : Type} (p : Prop) [Decidable p] (l m : List α) (x : α) :
    x ∈ (if p then l else m) ↔ (p ∧ x ∈ l) ∨ (¬ p ∧ x ∈ m) := by
  by_cases h : p <;> simp [h]

theorem c01wMethod_cases (s : String) :
    (s = "threshold" ∧ c01wMethod s = some .threshold) ∨ (s = "clonal" ∧ c01wMethod s = some .clonal) ∨
    (s = "none" ∧ c01wMethod s = some .none) ∨
    ((s ≠ "threshold" ∧ s ≠ "clonal" ∧ s ≠ "none") ∧ c01wMethod s = none) := by
  unfold c01wMethod
  by_cases h1 : s = "threshold"
  · exact .inl ⟨h1, by rw [h1]; rfl⟩
  · by_cases h2 : s = "clonal"
    · exact .inr (.inl ⟨h2, by rw [h2]; rfl⟩)
    · by_cases h3 : s = "none"
      · exact .inr (.inr (.inl ⟨h3, by rw [h3]; rfl⟩))
      · exact .inr (.inr (.inr ⟨⟨h1, h2, h3⟩, by simp only [beq_iff_eq, h1, h2, h3, if_false]⟩))

theorem c01wDoCall_ok {F : String → List SegRow → List SegRow} {a : C01wArgs} {rows : List SegRow} {o : C01wOut}
    (h : c01wDoCall F a rows = .ok o) :
    ∃ m, c01wMethod a.method = some m ∧
      o = { pre := c01wPre a.filters, post := c01wPost a.filters,
            calls := callTable a.cfg m a.thr (a.variants || a.bafCol)
              (((c01wPre a.filters).foldl (fun r f => F f r) rows).map (bafForCall a.cfg a.variants)),
            steps := c01wSteps a } := by
  unfold c01wDoCall at h
  cases hm : c01wMethod a.method with
  | none => rw [hm] at h; cases h
  | some m => rw [hm] at h; exact ⟨m, rfl, (Except.ok.inj h).symm⟩

theorem c01wDoCall_of_method {F : String → List SegRow → List SegRow} {a : C01wArgs} {m : Method} (rows : List SegRow)
    (hm : c01wMethod a.method = some m) :
    c01wDoCall F a rows = .ok
      { pre := c01wPre a.filters, post := c01wPost a.filters,
        calls := callTable a.cfg m a.thr (a.variants || a.bafCol)
          (((c01wPre a.filters).foldl (fun r f => F f r) rows).map (bafForCall a.cfg a.variants)),
        steps := c01wSteps a } := by
  unfold c01wDoCall
  rw [hm]

end CnvVerif
