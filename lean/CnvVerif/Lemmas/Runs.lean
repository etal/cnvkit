/-
  Maximal runs of a list under a relation `same` between neighbours.  `Runs same l gs` lists what one element does to the
  runs of the elements after it: it opens the list, joins the next run, or is cut off as a run of its own.  This module
  holds the relation and what follows from it by induction: partition, non-emptiness, a constant key per run,
  maximality, and that two functions satisfying it agree (`Runs.unique`).  That a function satisfies it is proved beside
  the function: `runs_splitRuns` (Lemmas/SegFilter), `runs_splitRunsBy` (Lemmas/SplitRunsBy), pandas `groupby` on
  contiguous keys (`runs_groupByKey_zip`, `runs_groupByKey`, Lemmas/GroupBy).  Core Lean only, no model.
-/
namespace CnvVerif

/-- `gs` are the maximal runs of `l`: neighbours related by `same` share a run, others are cut apart -/
inductive Runs {α} (same : α → α → Bool) : List α → List (List α) → Prop
  | nil : Runs same [] []
  | one (a : α) : Runs same [a] [[a]]
  | join {a b : α} {t g : List α} {gs : List (List α)} : same a b = true →
      Runs same (b :: t) ((b :: g) :: gs) → Runs same (a :: b :: t) ((a :: b :: g) :: gs)
  | cut {a b : α} {t g : List α} {gs : List (List α)} : same a b = false →
      Runs same (b :: t) ((b :: g) :: gs) → Runs same (a :: b :: t) ([a] :: (b :: g) :: gs)

namespace Runs
variable {α : Type _} {same : α → α → Bool} {l : List α} {gs : List (List α)}

theorem head {a : α} {t : List α} (h : Runs same (a :: t) gs) : ∃ g gs', gs = (a :: g) :: gs' := by
  cases h <;> exact ⟨_, _, rfl⟩

theorem unique {gs' : List (List α)} (h : Runs same l gs) (h' : Runs same l gs') : gs = gs' := by
  induction h generalizing gs' with
  | nil => cases h'; rfl
  | one a => cases h'; rfl
  | join hs _ ih =>
    cases h' with
    | join _ h2 => cases ih h2; rfl
    | cut hs' _ => rw [hs] at hs'; cases hs'
  | cut hs _ ih =>
    cases h' with
    | join hs' _ => rw [hs] at hs'; cases hs'
    | cut _ h2 => cases ih h2; rfl

theorem flatten (h : Runs same l gs) : gs.flatten = l := by
  induction h with
  | nil => rfl
  | one a => rfl
  | join _ _ ih => exact congrArg (_ :: ·) ih
  | cut _ _ ih => exact congrArg (_ :: ·) ih

theorem forall_mem (Q : List α → Prop) (h1 : ∀ a, Q [a])
    (h2 : ∀ a b g, same a b = true → Q (b :: g) → Q (a :: b :: g)) (h : Runs same l gs) : ∀ g ∈ gs, Q g := by
  induction h with
  | nil => exact fun _ hg => nomatch hg
  | one a => exact List.forall_mem_singleton.mpr (h1 a)
  | join hs _ ih =>
    obtain ⟨ih0, ihs⟩ := List.forall_mem_cons.mp ih
    exact List.forall_mem_cons.mpr ⟨h2 _ _ _ hs ih0, ihs⟩
  | cut _ _ ih => exact List.forall_mem_cons.mpr ⟨h1 _, ih⟩

theorem ne_nil (h : Runs same l gs) : ∀ g ∈ gs, g ≠ [] :=
  h.forall_mem (· ≠ []) (fun _ => List.cons_ne_nil _ _) (fun _ _ _ _ _ => List.cons_ne_nil _ _)

theorem uniform {β} (f : α → β) (hf : ∀ a b, same a b = true → f a = f b) (h : Runs same l gs) :
    ∀ g ∈ gs, ∀ x ∈ g, ∀ y ∈ g, f x = f y := by
  refine h.forall_mem (fun g => ∀ x ∈ g, ∀ y ∈ g, f x = f y) (fun a x hx y hy => ?_) (fun a b g hs ih => ?_)
  · rw [List.mem_singleton.mp hx, List.mem_singleton.mp hy]
  · -- every member of the longer run carries the `f` of `b`
    have hb : ∀ y ∈ a :: b :: g, f y = f b :=
      List.forall_mem_cons.mpr ⟨hf a b hs, fun y hy => ih y hy b List.mem_cons_self⟩
    exact fun x hx y hy => (hb x hx).trans (hb y hy).symm

/-- runs are maximal: the last element of a run and the first of the next are not related -/
theorem maximal (h : Runs same l gs) {pre post : List (List α)} {g1 g2 : List α} (hgs : gs = pre ++ g1 :: g2 :: post)
    {a b : α} (ha : g1.getLast? = some a) (hb : g2.head? = some b) : same a b = false := by
  induction h generalizing pre g1 with
  | nil => cases pre <;> cases hgs
  | one a => cases pre <;> simp at hgs
  | join _ _ ih =>
    rcases List.cons_eq_append_iff.mp hgs with ⟨rfl, h'⟩ | ⟨pre', rfl, h'⟩
    · cases h'
      exact ih (pre := []) rfl (by rwa [List.getLast?_cons_cons] at ha)
    · exact ih (pre := _ :: pre') (by rw [h']; rfl) ha
  | cut hs _ ih =>
    rcases List.cons_eq_append_iff.mp hgs with ⟨rfl, h'⟩ | ⟨pre', rfl, h'⟩
    · cases h'
      cases Option.some.inj ha
      cases Option.some.inj hb
      exact hs
    · exact ih h' ha

end Runs
end CnvVerif
