/-
  The window sums `lowWin` / `highWin` (Model/HaarExt.lean) follow the recurrence of the `HaarConv` loop, mirror rule
  included; both loops rest on that.  Without weights the loop stores, on a signal `lo + d * U`, `d` times the
  high-window sum of `U` minus its low-window sum: a constant is `d = 0`, and on a noise-free step `U` is the indicator
  of the upper plateau, whose two window sums differ by the tent.
-/
import CnvVerif.Model.HaarExt
import Mathlib.Tactic.Linarith
import Mathlib.Tactic.Ring
import Mathlib.Tactic.FieldSimp
import Mathlib.Tactic.NormNum
namespace CnvVerif.Haar

/-- the noise-free step: `lo` on bins `[0, b)`, `hi` on bins `[b, n)` -/
def stepSig (lo hi : Rat) (b n : Nat) : List Rat := List.replicate b lo ++ List.replicate (n - b) hi

/-- `max(0, h - |k - b|)` -/
def tent (h b k : Nat) : Nat := h - (if k ≤ b then b - k else k - b)

/-- a normalisation / rounding that keeps 0 and the strict order (exact division by a positive constant does) -/
def SignMono (g : Rat → Rat) : Prop := g 0 = 0 ∧ ∀ x y, x < y → g x < g y

theorem SignMono.strictMono {g : Rat → Rat} (hg : SignMono g) : StrictMono g := fun _ _ => hg.2 _ _

theorem signMono_id : SignMono id := ⟨rfl, fun _ _ h => h⟩

theorem signMono_div (rnd : Rat → Rat) (hr : SignMono rnd) (norm : Rat) (hn : 0 < norm) :
    SignMono (fun x => rnd (x / norm)) := by
  constructor
  · simp [hr.1]
  · intro x y hxy
    exact hr.2 _ _ (div_lt_div_of_pos_right hxy hn)

theorem nth_toArray (l : List Rat) (i : Nat) : nth l.toArray i = l.getD i 0 := by
  simp only [nth, Array.getD_eq_getD_getElem?, List.getElem?_toArray, List.getD_eq_getElem?_getD]

theorem pre_succ (x : Nat → Rat) (i : Nat) : pre x (i + 1) = pre x i + x i := rfl

/-- at `k = h` the two branches of `lowWin` agree -/
theorem lowWin_ge (x : Nat → Rat) (h k : Nat) (hk : h ≤ k) : lowWin x h k = pre x k - pre x (k - h) := by
  unfold lowWin
  split
  · obtain rfl : k = h := by omega
    simp [pre]
  · rfl

/-- at `k + h = n` the two branches of `highWin` agree -/
theorem highWin_ge (x : Nat → Rat) (n h k : Nat) (hk : n ≤ k + h) :
    highWin x n h k = 2 * pre x n - pre x k - pre x (2 * n - k - h) := by
  unfold highWin
  split
  · obtain rfl : n = k + h := by omega
    rw [show 2 * (k + h) - k - h = k + h by omega]
    ring
  · rfl

/-- `lowWeightSum += weight[k-1] - weight[lowEnd]` keeps the low-window sum -/
theorem lowWin_step (x : Nat → Rat) (h k : Nat) (hk : 1 ≤ k) :
    lowWin x h k = lowWin x h (k - 1) + (x (k - 1) - x (loIdx h k)) := by
  obtain ⟨j, rfl⟩ : ∃ j, k = j + 1 := ⟨k - 1, by omega⟩
  rw [Nat.add_sub_cancel]
  by_cases c : j < h
  · -- the mirrored part of the window loses its last element `h - j - 1`
    unfold lowWin loIdx
    rw [if_pos (by omega), if_pos (by omega), if_neg (by omega), show h - j = (h - (j + 1)) + 1 by omega,
      pre_succ, pre_succ]
    ring
  · unfold loIdx
    rw [lowWin_ge x h (j + 1) (by omega), lowWin_ge x h j (by omega), if_pos (by omega),
      show j + 1 - h = (j - h) + 1 by omega, Nat.add_sub_cancel, pre_succ, pre_succ]
    ring

/-- `highWeightSum += weight[highEnd] - weight[k-1]` keeps the high-window sum -/
theorem highWin_step (x : Nat → Rat) (n h k : Nat) (hk : 1 ≤ k) (hkn : k < n) (hh : h ≤ n) :
    highWin x n h k = highWin x n h (k - 1) + (x (hiIdx n h k) - x (k - 1)) := by
  rcases Nat.eq_zero_or_pos h with rfl | h1
  · simp [highWin, hiIdx, show k ≤ n by omega, show k - 1 ≤ n by omega, show ¬ n ≤ k - 1 by omega]
  obtain ⟨j, rfl⟩ : ∃ j, k = j + 1 := ⟨k - 1, by omega⟩
  rw [Nat.add_sub_cancel]
  by_cases c : j + 1 + h ≤ n
  · unfold highWin hiIdx
    rw [if_pos c, if_pos (by omega), if_neg (by omega), show j + 1 + h - 1 = j + h by omega,
      show j + 1 + h = (j + h) + 1 by omega, pre_succ, pre_succ]
    ring
  · -- the mirrored part of the window gains the element `2n - (j + 1) - h`
    unfold hiIdx
    rw [highWin_ge x n h (j + 1) (by omega), highWin_ge x n h j (by omega), if_pos (by omega),
      show n - 1 - (j + 1 + h - 1 - n) = 2 * n - (j + 1) - h by omega,
      show 2 * n - j - h = (2 * n - (j + 1) - h) + 1 by omega, pre_succ, pre_succ]
    ring

theorem haarRawGo_length (a : Array Rat) (n h fuel k : Nat) (prev : Rat) :
    (haarRawGo a n h fuel k prev).length = fuel := by
  induction fuel generalizing k prev with
  | zero => rfl
  | succ f ih => simp [haarRawGo, ih]

theorem haarConvRaw_length (sig : List Rat) (h : Nat) : (haarConvRaw sig h).length = sig.length := by
  unfold haarConvRaw
  split
  · simp
  · split
    · rename_i h0; simp [h0]
    · rename_i m hm; simp [haarRawGo_length, hm]

theorem haarRawGo_eq (a : Array Rat) (n h : Nat) (f : Nat → Rat) (fuel k0 : Nat) (prev : Rat)
    (hprev : prev = f (k0 - 1))
    (hf : ∀ k, k0 ≤ k → k < k0 + fuel →
      f k = f (k - 1) + nth a (hiIdx n h k) + nth a (loIdx h k) - 2 * nth a (k - 1)) :
    haarRawGo a n h fuel k0 prev = (List.range' k0 fuel).map f := by
  induction fuel generalizing k0 prev with
  | zero => simp [haarRawGo]
  | succ fu ih =>
    have hv : prev + nth a (hiIdx n h k0) + nth a (loIdx h k0) - 2 * nth a (k0 - 1) = f k0 := by
      rw [hprev]; exact (hf k0 (Nat.le_refl _) (by omega)).symm
    simp only [haarRawGo, List.range'_succ, List.map_cons, hv]
    congr 1
    apply ih
    · simp
    · intro k hk1 hk2
      exact hf k (by omega) (by omega)

/-- `f` may be any solution of the loop's recurrence that starts at 0 -/
theorem haarConvRaw_eq (sig : List Rat) (n h : Nat) (hlen : sig.length = n) (hh : h ≤ n) (f : Nat → Rat)
    (h0 : f 0 = 0)
    (hf : ∀ k, 1 ≤ k → k < n →
      f k = f (k - 1) + sig.getD (hiIdx n h k) 0 + sig.getD (loIdx h k) 0 - 2 * sig.getD (k - 1) 0) :
    haarConvRaw sig h = (List.range n).map f := by
  unfold haarConvRaw
  rw [hlen, if_neg (by omega)]
  cases n with
  | zero => rfl
  | succ m =>
    show 0 :: haarRawGo sig.toArray (m + 1) h m 1 0 = _
    rw [haarRawGo_eq _ _ _ f m 1 0 h0.symm, List.range_eq_range', List.range'_succ, List.map_cons, h0]
    intro k hk1 hk2
    rw [nth_toArray, nth_toArray, nth_toArray]
    exact hf k hk1 (by omega)

/-- the final `result[1:] /= stepNorm` is a map over the whole result, since `result[0] = 0` -/
theorem haarConv_eq_map (rnd : Rat → Rat) (hr : rnd 0 = 0) (norm : Rat) (sig : List Rat) (h : Nat) :
    haarConv rnd norm sig h = (haarConvRaw sig h).map (fun x => rnd (x / norm)) := by
  have g0 : rnd (0 / norm) = 0 := by rw [zero_div, hr]
  unfold haarConv haarConvRaw
  by_cases hh : sig.length < h
  · rw [if_pos hh, if_pos hh, List.map_replicate, g0]
  · rw [if_neg hh, if_neg hh]
    cases sig.length with
    | zero => rfl
    | succ m => exact (congrArg (· :: _) g0).symm

theorem hiIdx_lt (n h k : Nat) (hk : k < n) : hiIdx n h k < n := by
  unfold hiIdx; split <;> omega

theorem loIdx_lt (n h k : Nat) (hh : h ≤ n) (hk1 : 1 ≤ k) (hk : k < n) : loIdx h k < n := by
  unfold loIdx; split <;> omega

/-- on a signal that is `lo + d * U` on its bins the loop stores `d` times the high-window sum of `U` minus its
low-window sum (mirrored ends): the response is linear and blind to constants.  `lo = 0`, `d = 1` is the closed form
for any signal, `d = 0` a constant. -/
theorem haarConvRaw_affine (sig : List Rat) (n h : Nat) (hlen : sig.length = n) (hh : h ≤ n) (lo d : Rat)
    (U : Nat → Rat) (hsig : ∀ i, i < n → sig.getD i 0 = lo + d * U i) :
    haarConvRaw sig h = (List.range n).map fun k => d * (highWin U n h k - lowWin U h k) := by
  refine haarConvRaw_eq sig n h hlen hh _ ?_ fun k hk1 hkn => ?_
  · simp [highWin, lowWin, pre, hh]
  · rw [highWin_step U n h k hk1 hkn hh, lowWin_step U h k hk1, hsig _ (hiIdx_lt n h k hkn),
      hsig _ (loIdx_lt n h k hh hk1 hkn), hsig (k - 1) (by omega)]
    ring

theorem haarConvRaw_const (c : Rat) (n h : Nat) : haarConvRaw (List.replicate n c) h = List.replicate n 0 := by
  by_cases hh : n < h
  · unfold haarConvRaw
    rw [List.length_replicate, if_pos hh]
  · rw [haarConvRaw_affine _ n h List.length_replicate (by omega) c 0 (fun _ => 0)
      fun i hi => by simp [List.getD_eq_getElem?_getD, hi]]
    simp

theorem haarConv_const (rnd : Rat → Rat) (hr : rnd 0 = 0) (norm c : Rat) (n h : Nat) :
    haarConv rnd norm (List.replicate n c) h = List.replicate n 0 := by
  rw [haarConv_eq_map rnd hr, haarConvRaw_const, List.map_replicate, zero_div, hr]

theorem getD_stepSig_lt (lo hi : Rat) (b n i : Nat) (hib : i < b) : (stepSig lo hi b n).getD i 0 = lo := by
  simp [stepSig, List.getD_eq_getElem?_getD, List.getElem?_append, hib]

theorem getD_stepSig_ge (lo hi : Rat) (b n i : Nat) (hbi : b ≤ i) (hin : i < n) :
    (stepSig lo hi b n).getD i 0 = hi := by
  have h3 : i - b < n - b := by omega
  simp [stepSig, List.getD_eq_getElem?_getD, List.getElem?_append, Nat.not_lt.mpr hbi, h3]

theorem getD_stepSig (lo hi : Rat) (b n i : Nat) (hi' : i < n) :
    (stepSig lo hi b n).getD i 0 = lo + (hi - lo) * upperW (fun _ => 1) b i := by
  unfold upperW
  split
  · rw [getD_stepSig_ge lo hi b n i ‹_› hi', mul_one, add_sub_cancel]
  · rw [getD_stepSig_lt lo hi b n i (by omega), mul_zero, add_zero]

theorem stepSig_length (lo hi : Rat) (b n : Nat) (hbn : b ≤ n) : (stepSig lo hi b n).length = n := by
  simp [stepSig]; omega

/-- the number of bins of `[0, i)` at or beyond `b` -/
theorem pre_upper_one (b i : Nat) : pre (upperW (fun _ => 1) b) i = ((i - b : Nat) : Rat) := by
  induction i with
  | zero => simp [pre]
  | succ m ih =>
    rw [pre_succ, ih, upperW]
    split
    · rw [show m + 1 - b = m - b + 1 by omega, Nat.cast_succ]
    · rw [show m + 1 - b = m - b by omega, add_zero]

/-- the window sums of the indicator of the upper plateau differ by the tent, as soon as the half-window fits on both
sides of the step -/
theorem win_upper_one (b n h k : Nat) (hb : h ≤ b) (hn : b + h ≤ n) (hk : k < n) :
    highWin (upperW (fun _ => 1) b) n h k - lowWin (upperW (fun _ => 1) b) h k = (tent h b k : Rat) := by
  simp only [highWin, lowWin, tent, pre_upper_one]
  -- in `Int`, with every truncated difference an atom, each branch is linear
  split_ifs <;>
    simp only [← Int.cast_natCast (R := Rat), ← Int.cast_sub, ← Int.cast_add, ← Int.cast_mul, ← Int.cast_ofNat (R := Rat),
      Int.cast_inj] <;>
    omega

theorem tent_zero_left (h b k : Nat) (hk : k + h ≤ b) : tent h b k = 0 := by
  unfold tent; split <;> omega

theorem tent_zero_right (h b k : Nat) (hk : b + h ≤ k) : tent h b k = 0 := by
  unfold tent; split <;> omega

theorem tent_rising (h b k : Nat) (hkb : b ≤ k + h) (hk : k < b) : tent h b k < tent h b (k + 1) := by
  unfold tent; rw [if_pos (by omega), if_pos (by omega)]; omega

theorem tent_falling (h b k : Nat) (hk : b ≤ k) (hkb : k < b + h) : tent h b (k + 1) < tent h b k := by
  unfold tent; rw [if_neg (by omega)]; split <;> omega

theorem tent_pos (h b k : Nat) (h1 : b < k + h) (h2 : k < b + h) : 0 < tent h b k := by
  unfold tent; split <;> omega

theorem haarConvRaw_ideal_step (lo hi : Rat) (b n h : Nat) (hb : h ≤ b) (hn : b + h ≤ n) :
    haarConvRaw (stepSig lo hi b n) h = (List.range n).map (fun k => (hi - lo) * (tent h b k : Rat)) := by
  rw [haarConvRaw_affine _ n h (stepSig_length lo hi b n (by omega)) (by omega) lo (hi - lo) _ (getD_stepSig lo hi b n)]
  exact List.map_congr_left fun k hk => by rw [win_upper_one b n h k hb hn (List.mem_range.mp hk)]

/-- the response to a step wherever it is (no `h ≤ b`, no `b + h ≤ n`), in window sums of the indicator of the upper
plateau -/
theorem haarConv_step_any (rnd : Rat → Rat) (hr : rnd 0 = 0) (norm lo hi : Rat) (b n h : Nat) (hbn : b ≤ n)
    (hh : h ≤ n) :
    haarConv rnd norm (stepSig lo hi b n) h = (List.range n).map fun k =>
      rnd ((hi - lo) * (highWin (upperW (fun _ => 1) b) n h k - lowWin (upperW (fun _ => 1) b) h k) / norm) := by
  rw [haarConv_eq_map rnd hr, haarConvRaw_affine _ n h (stepSig_length lo hi b n hbn) hh lo (hi - lo) _
    (getD_stepSig lo hi b n), List.map_map]
  rfl

theorem haarConv_ideal_step (rnd : Rat → Rat) (hr : rnd 0 = 0) (norm lo hi : Rat) (b n h : Nat)
    (h1 : 1 ≤ h) (hb : h ≤ b) (hn : b + h ≤ n) :
    haarConv rnd norm (stepSig lo hi b n) h
      = (List.range n).map (fun k => rnd ((hi - lo) * (tent h b k : Rat) / norm)) := by
  rw [haarConv_eq_map rnd hr, haarConvRaw_ideal_step lo hi b n h hb hn, List.map_map]
  rfl

end CnvVerif.Haar
