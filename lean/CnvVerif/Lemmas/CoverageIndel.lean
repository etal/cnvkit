/-
  Lemmas behind Props/C09Indel.lean: CIGAR operations that consume no reference (I, S, H, P) change nothing.
  (What each algorithm reports when reads carry deletions and reference skips: Lemmas/CoveragePositions.lean read by
  read, Lemmas/Coverage.lean bin by bin.)
  Core Lean only.
-/
import CnvVerif.Lemmas.CoveragePositions
namespace CnvVerif.Cov
open CnvVerif

/-- the CIGAR without the operations that consume no reference base (I, S, H, P, …) -/
def refOps (cigar : List (Nat × Nat)) : List (Nat × Nat) := cigar.filter (fun c => isAlignOp c.1 || isGapOp c.1)

theorem refOps_cons_keep {op : Nat} (l : Nat) (t : List (Nat × Nat)) (h : (isAlignOp op || isGapOp op) = true) :
    refOps ((op, l) :: t) = (op, l) :: refOps t :=
  List.filter_cons_of_pos h

theorem refOps_cons_drop {op : Nat} (l : Nat) (t : List (Nat × Nat)) (h : (isAlignOp op || isGapOp op) = false) :
    refOps ((op, l) :: t) = refOps t :=
  List.filter_cons_of_neg (by rw [h]; exact Bool.false_ne_true)

theorem blocksFrom_refOps (p : Int) (cigar : List (Nat × Nat)) :
    blocksFrom p (refOps cigar) = blocksFrom p cigar := by
  induction cigar generalizing p with
  | nil => rfl
  | cons c t ih =>
    obtain ⟨op, l⟩ := c
    rcases op_cases op with ⟨ha, hg⟩ | ⟨ha, hg⟩ | ⟨ha, hg⟩
    · rw [refOps_cons_keep l t (by rw [ha]; rfl)]
      simp only [blocksFrom, ha, if_true, ih]
    · rw [refOps_cons_keep l t (by rw [ha, hg]; rfl)]
      simp only [blocksFrom, ha, hg, Bool.false_eq_true, if_false, if_true, ih]
    · rw [refOps_cons_drop l t (by rw [ha, hg]; rfl)]
      simp only [blocksFrom, ha, hg, Bool.false_eq_true, if_false, ih]

theorem refLen_refOps (cigar : List (Nat × Nat)) : refLen (refOps cigar) = refLen cigar := by
  induction cigar with
  | nil => rfl
  | cons c t ih =>
    obtain ⟨op, l⟩ := c
    cases h : isAlignOp op || isGapOp op
    · rw [refOps_cons_drop l t h, ih]
      simp only [refLen, h, Bool.false_eq_true, if_false, Nat.zero_add]
    · rw [refOps_cons_keep l t h]
      simp only [refLen, h, if_true, ih]

theorem align_refOps (r : Read) : align { r with cigar := refOps r.cigar } = align r := by
  unfold align
  simp only [blocksFrom_refOps, refLen_refOps]

theorem map_align_refOps (rs : List Read) :
    (rs.map (fun r => { r with cigar := refOps r.cigar })).map align = rs.map align := by
  rw [List.map_map]
  exact List.map_congr_left (fun r _ => align_refOps r)

end CnvVerif.Cov
