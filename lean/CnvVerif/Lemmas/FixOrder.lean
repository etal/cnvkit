/-
  C04, the genomic order as a total preorder on coordinates: `kLe` is `sortLe` of Basic.lean read on (chromosome, start,
  end); `sSortLe` and `rSortLe` are `kLe` on the coordinates of a sample row, resp. a reference row, so both genomic sorts
  are the same sort of the list of coordinates (Lemmas/Basic.lean, key sorts).  Core Lean only.
-/
import CnvVerif.Model.Fix
import CnvVerif.Lemmas.Basic
namespace CnvVerif

/-- coordinates as a row of the basic vocabulary (no payload) -/
def keyRow (k : String × Int × Int) : Row := ⟨k.1, k.2.1, k.2.2, ""⟩

/-- the genomic order on coordinates: `GenomicArray.sort`'s comparison (`sortLe`) read on the coordinates alone -/
def kLe (a b : String × Int × Int) : Bool := sortLe (keyRow a) (keyRow b)

-- (a bare `rfl` makes the unifier wander into `sorterChrom`)
theorem sSortLe_eq_kLe (a b : SRow) : sSortLe a b = kLe (sKey a) (sKey b) := by
  simp only [sSortLe, kLe, sortLe, keyRow, sKey]
  rfl

theorem rSortLe_eq_kLe (a b : RRow) : rSortLe a b = kLe (rKey a) (rKey b) := by
  simp only [rSortLe, kLe, sortLe, keyRow, rKey]
  rfl

theorem kLe_iff (a b : String × Int × Int) :
    kLe a b = true ↔ chromKeyLt (sorterChrom a.1) (sorterChrom b.1) = true ∨
      (sorterChrom a.1 = sorterChrom b.1 ∧ (a.2.1 < b.2.1 ∨ (a.2.1 = b.2.1 ∧ a.2.2 ≤ b.2.2))) :=
  sortLe_iff _ _

/-- coordinates that tie in the genomic order have the same chromosome sort key, start and end -/
theorem kLe_antisymm (a b : String × Int × Int) (h1 : kLe a b = true) (h2 : kLe b a = true) :
    sorterChrom a.1 = sorterChrom b.1 ∧ a.2 = b.2 := by
  have irr : ∀ {k}, chromKeyLt k k = true → False := fun h => by simp [chromKeyLt_irrefl] at h
  rw [kLe_iff] at *
  rcases h1 with h1 | ⟨k1, h1⟩ <;> rcases h2 with h2 | ⟨k2, h2⟩
  · exact (irr (chromKeyLt_trans h1 h2)).elim
  · rw [k2] at h1; exact (irr h1).elim
  · rw [k1] at h2; exact (irr h2).elim
  · refine ⟨k1, Prod.ext ?_ ?_⟩
    · rcases h1 with h1 | ⟨h1, _⟩ <;> rcases h2 with h2 | ⟨h2, _⟩ <;> omega
    · rcases h1 with h1 | ⟨h1, h1'⟩ <;> rcases h2 with h2 | ⟨h2, h2'⟩ <;> omega

theorem sortS_sorted (t : List SRow) : (sortS t).Pairwise (fun a b => sSortLe a b = true) :=
  mergeSort_sorted_of_key sSortLe_eq_kLe (fun _ _ _ => sortLe_trans _ _ _) (fun _ _ => sortLe_total _ _) t

theorem sortR_keys_eq_sortS_keys {rows : List SRow} {refs : List RRow} (h : refs.map rKey = rows.map sKey) :
    (sortR refs).map rKey = (sortS rows).map sKey := by
  unfold sortR sortS
  rw [map_mergeSort_of_key rSortLe_eq_kLe, map_mergeSort_of_key sSortLe_eq_kLe, h]

theorem sorted_of_keys_eq {l l' : List SRow} (hk : l'.map sKey = l.map sKey)
    (h : l.Pairwise (fun a b => sSortLe a b = true)) : l'.Pairwise (fun a b => sSortLe a b = true) := by
  rw [sorted_iff_keys sSortLe_eq_kLe] at h ⊢
  rwa [hk]

end CnvVerif
