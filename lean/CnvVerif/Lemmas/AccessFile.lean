/-
  The file loop of `get_regions` (`scanFile`): header lines switch sequences, every sequence line under a header does
  what `stepLine` does, and a file given as records yields per record the maximal non-'N' runs of its sequence
  (`getRegions_records`; `renderRecords`: the records as header and sequence lines, `tagRuns`: runs as the yielded
  triples); a trailing blank line changes nothing.  Also what `parseLine` makes of a raw line, and `exceptDecEq`, by which
  the examples compare results of `get_regions`.
-/
import CnvVerif.Lemmas.AccessScan
namespace CnvVerif

/-- equality of results of `get_regions` (regions or an exception) is decidable; the examples that compare
    such results by evaluation make it a local instance -/
@[instance_reducible] def exceptDecEq {ε α} [DecidableEq ε] [DecidableEq α] : DecidableEq (Except ε α)
  | .ok a, .ok b => if h : a = b then isTrue (h ▸ rfl) else isFalse (fun e => h (Except.ok.inj e))
  | .error a, .error b =>
    if h : a = b then isTrue (h ▸ rfl) else isFalse (fun e => h (Except.error.inj e))
  | .ok _, .error _ => isFalse nofun
  | .error _, .ok _ => isFalse nofun

theorem parseLine_gt (rest : List Char) :
    parseLine ('>' :: rest) = .header (String.ofList (rest.takeWhile (fun c => !isPySpace c))) := rfl

theorem parseLine_not_gt (l : List Char) (h : l.head? ≠ some '>') :
    parseLine l = .body (rstripChars l) := by
  unfold parseLine
  split
  · exact absurd rfl h
  · rfl

/-- a FASTA file as the scanner sees it: a header, then that sequence's lines -/
def renderRecords (recs : List (String × List (List Char))) : List FLine :=
  recs.flatMap (fun r => FLine.header r.1 :: r.2.map FLine.body)

theorem renderRecords_cons (r : String × List (List Char)) (rs : List (String × List (List Char))) :
    renderRecords (r :: rs) = FLine.header r.1 :: (r.2.map FLine.body ++ renderRecords rs) := by
  simp [renderRecords]

/-- the runs of one sequence as the triples `get_regions` yields -/
def tagRuns (c : String) (l : List Run) : List Region := l.map (fun x => (c, x.1, x.2))

theorem mem_tagRuns (c : String) (l : List Run) (reg : Region) :
    reg ∈ tagRuns c l ↔ reg.1 = c ∧ (reg.2.1, reg.2.2) ∈ l := by
  constructor
  · intro h
    obtain ⟨x, hx, rfl⟩ := List.mem_map.mp h
    exact ⟨rfl, hx⟩
  · rintro ⟨rfl, h⟩
    exact List.mem_map.mpr ⟨_, h, rfl⟩

/-- a sequence line under a header: blank or not, the file loop does what `stepLine` does -/
theorem scanFile_body (c : String) (st : Scan) (l : List Char) (rest : List FLine) :
    scanFile (some c) st (.body l :: rest) =
      (scanFile (some c) (stepLine st l).2 rest).map (tagRuns c (stepLine st l).1 ++ ·) := by
  by_cases hl : l = []
  · subst hl
    simp only [scanFile, List.isEmpty_nil, if_true, stepLine_nil, tagRuns, List.map_nil]
    cases scanFile (some c) st rest <;> rfl
  · simp only [scanFile, mt List.isEmpty_iff.mp hl]
    cases scanFile (some c) (stepLine st l).2 rest <;> rfl

theorem scanFile_bodies (c : String) (st : Scan) (ls : List (List Char)) (rest : List FLine) :
    scanFile (some c) st (ls.map FLine.body ++ rest) =
      (scanFile (some c) (scanLines st ls).2 rest).map (tagRuns c (scanLines st ls).1 ++ ·) := by
  induction ls generalizing st with
  | nil => cases h : scanFile (some c) st rest <;> simp [scanLines, tagRuns, Except.map, h]
  | cons l ls ih =>
    rw [List.map_cons, List.cons_append, scanFile_body, ih, scanLines]
    cases scanFile (some c) (scanLines (stepLine st l).2 ls).2 rest <;>
      simp [Except.map, tagRuns, List.map_append, List.append_assoc]

theorem scanFile_records (chrom : Option String) (st : Scan)
    (recs : List (String × List (List Char))) :
    scanFile chrom st (renderRecords recs) =
      .ok (tagRuns (chrom.getD "") (emitOpen st.runStart st.cursor) ++
           recs.flatMap (fun r => tagRuns r.1 (scanSeq r.2))) := by
  induction recs generalizing chrom st with
  | nil => simp [renderRecords, scanFile, tagRuns]; rfl
  | cons r rs ih =>
    rw [renderRecords_cons]
    simp only [scanFile]
    rw [scanFile_bodies, ih]
    simp only [List.flatMap_cons, scanSeq, tagRuns, List.map_append, List.append_assoc,
      Option.getD_some]
    rfl

theorem getRegions_records (recs : List (String × List (List Char))) :
    getRegions (renderRecords recs) = .ok (recs.flatMap (fun r => tagRuns r.1 (maxRuns r.2.flatten))) := by
  unfold getRegions
  rw [scanFile_records]
  simp only [emitOpen, tagRuns, List.map_nil, List.nil_append, scanSeq_eq_maxRuns]

theorem scanFile_append_blank (chrom : Option String) (st : Scan) (ls : List FLine) :
    scanFile chrom st (ls ++ [FLine.body []]) = scanFile chrom st ls := by
  induction ls generalizing chrom st with
  | nil => simp [scanFile]
  | cons x xs ih =>
    cases x with
    | header name => simp only [List.cons_append, scanFile, ih]
    | body line =>
      cases hl : line.isEmpty with
      | true => simp only [List.cons_append, scanFile, hl, if_true, ih]
      | false =>
        cases chrom with
        | none => simp only [List.cons_append, scanFile, hl, Bool.false_eq_true, if_false]
        | some c => simp only [List.cons_append, scanFile, hl, Bool.false_eq_true, if_false, ih]

end CnvVerif
