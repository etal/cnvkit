/-
  The clipped bound of a step −1 slice (`clipRev`, Model/PadExt5.lean) in closed form, by the sign of the bound.
-/
import CnvVerif.Model.PadExt5
namespace CnvVerif.C19Pad

theorem clipRev_of_nonneg (n v : Int) (hv : 0 ≤ v) : clipRev n v = min v (n - 1) := by
  simp only [clipRev, if_neg (Int.not_lt.mpr hv)]
  split <;> omega

/-- a negative bound counts from the end and can only fall off the front -/
theorem clipRev_of_neg (n v : Int) (hv : v < 0) : clipRev n v = max (v + n) (-1) := by
  simp only [clipRev, if_pos hv]
  split
  · omega
  · rw [if_neg (by omega)]; omega

end CnvVerif.C19Pad
