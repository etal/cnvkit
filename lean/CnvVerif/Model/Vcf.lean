/-
  Model of skgenome/tabio/vcfio.py (read_vcf, _choose_samples, _parse_pedigrees, _parse_records,
  _extract_genotype, _get_alt_count, _get_end), of tabio.read(..., "vcf") (sort), of
  cnvlib/cmdutil.py load_het_snps, of cnvlib/vary.py (heterozygous, zygosity_from_freq,
  _mirrored_baf, baf_by_ranges, tumor_boost) and of cnvlib/call.py rescale_baf.

  The VCF header (sample names, PEDIGREE tags) and the records *as pysam presents them* are data;
  pysam's parsing of the text is a trusted contract exercised by the correspondence run.
  Numbers are exact (`Rat`/`Int`); a pandas NaN is `none` / `Freq.nan`.  Core Lean only.
-/
import CnvVerif.Basic
import CnvVerif.Model.Ranges
namespace CnvVerif.Vcf
open CnvVerif

/-! ## header and records as pysam presents them -/

/-- the kinds of exception the reader raises -/
inductive VErr | indexError | keyError | assertionError | valueError
  | typeError   -- `record.samples[None]` (a MuTect header naming no tumour sample, Model/VcfPairs.lean)
deriving Repr, DecidableEq, Inhabited

/-- a `sample_id` / `normal_id` argument: `None`, a name, or an integer position -/
inductive Sel
  | unset
  | name (s : String)
  | idx (i : Int)
deriving Repr, DecidableEq, Inhabited

/-- `sample["AD"]`: FORMAT key absent, a tuple (Number=R/.), or a scalar (Number=1, VarScan) -/
inductive AD
  | absent
  | tuple (l : List (Option Int))
  | scalar (v : Option Int)
deriving Repr, DecidableEq, Inhabited

/-- one sample column of one record -/
structure Smp where
  gt : List (Option Int)        -- `sample["GT"]`, `none` = "."
  hasDP : Bool                  -- `"DP" in sample`
  dp : Option Int               -- `sample["DP"]`
  ad : AD
deriving Repr, DecidableEq, Inhabited

/-- one VCF record -/
structure Rec where
  chrom : String
  pos : Int                     -- POS as written in the file (1-based)
  ref : String
  alts : List String            -- `record.alts` (empty when ALT is ".")
  filt : List String            -- `list(record.filter)`
  infoDP : Option Int           -- INFO/DP
  somatic : Bool                -- INFO/SOMATIC flag
  smps : List Smp               -- one per header sample, in header order
deriving Repr, DecidableEq, Inhabited

/-- a header `##PEDIGREE=<k=v,...>` line -/
abbrev PedTag := List (String × String)

/-! ## sample choice -/

/-- Python truthiness of an optional string -/
def truthy : Option String → Option String
  | some s => if s.isEmpty then none else some s
  | none => none

/-- `vcf_samples[i]` with Python's negative indexing -/
def pyIndex (l : List String) (i : Int) : Except VErr String :=
  let n : Int := l.length
  let j := if i < 0 then i + n else i
  if j < 0 ∨ j ≥ n then .error .indexError
  else match l[j.toNat]? with
    | some s => .ok s
    | none => .error .indexError

def resolveSel (samples : List String) : Sel → Except VErr (Option String)
  | .unset => .ok none
  | .name s => .ok (some s)
  | .idx i => do pure (some (← pyIndex samples i))

/-- `_parse_pedigrees` for PEDIGREE tags: every tag with a `Derived` key yields
    `(Derived, Original)`; a missing `Original` is a `KeyError` -/
def parsePedigrees : List PedTag → Except VErr (List (String × String))
  | [] => .ok []
  | tag :: rest =>
    match tag.lookup "Derived" with
    | none => parsePedigrees rest
    | some d =>
      match tag.lookup "Original" with
      | none => .error .keyError
      | some o => do
        let r ← parsePedigrees rest
        pure ((d, o) :: r)

/-- the candidate (tumour, normal) pairs before the `sample_id` filter -/
def candidatePairs (samples : List String) (peds : List (String × String)) (nid : Option String) :
    List (Option String × Option String) :=
  if !peds.isEmpty then peds.map (fun p => (some p.1, some p.2))
  else match truthy nid with
    | some n => (samples.filter (fun s => s != n)).map (fun o => (some o, some n))
    | none => samples.map (fun s => (some s, none))

def pairNames (pairs : List (Option String × Option String)) : List String :=
  pairs.flatMap (fun p => p.1.toList ++ p.2.toList)

/-- a given id must name a sample column (`IndexError` otherwise); `None` and "" pass -/
def selOk (samples : List String) (x : Option String) : Bool :=
  match truthy x with
  | some s => samples.contains s
  | none => true

/-- the body of `_choose_samples` once integer selectors are resolved and the PEDIGREE tags read.
    Repaired code (finding AG): when no pair is left and no `sample_id` was given either (a normal id on a
    file without any other sample), the `IndexError` the source always meant to raise is raised; its
    `except StopIteration` could never fire, and the reader went on with no sample at all, filling
    the rows from INFO. -/
def chooseNames (samples : List String) (peds : List (String × String)) (sid nid : Option String) :
    Except VErr (String × Option String) :=
  if !(selOk samples sid && selOk samples nid) then .error .indexError else
  let pairs0 := candidatePairs samples peds nid
  let pairs1 := match truthy sid with
    | some s => pairs0.filter (fun p => p.1 == some s)
    | none => pairs0
  if pairs1.isEmpty && (truthy sid).isNone then .error .indexError else
  let pairs := if pairs1.isEmpty then [(sid, (none : Option String))] else pairs1
  -- `_confirm_unique` for every name in the remaining pairs
  if !((pairNames pairs).all (fun nm => samples.count nm == 1)) then .error .indexError else
  match pairs.head? with
  | some (some s, n) => .ok (s, n)
  | _ => .error .indexError

/-- `_choose_samples` -/
def chooseSamples (samples : List String) (tags : List PedTag) (sidSel nidSel : Sel) :
    Except VErr (String × Option String) := do
  let sid ← resolveSel samples sidSel
  let nid ← resolveSel samples nidSel
  if !(selOk samples sid && selOk samples nid) then throw .indexError
  let peds ← parsePedigrees tags
  chooseNames samples peds sid nid

/-! ## one record -/

/-- `_safesum`: `sum(filter(None, tup))` -/
def safesum (l : List (Option Int)) : Int := (l.map (fun x => x.getD 0)).foldl (· + ·) 0

/-- depth of `_extract_genotype`: FORMAT DP, else the sum of a tuple AD, else INFO DP, else NaN -/
def depthOf (s : Smp) (r : Rec) : Option Int :=
  if s.hasDP then s.dp
  else match s.ad with
    | .tuple l => some (safesum l)
    | _ => r.infoDP

/-- zygosity of `_extract_genotype`: 0.5 when the genotype names more than one distinct allele
    (a "." counts as one), 0 when its only allele is the reference, 1 otherwise -/
def zygosityOf (gt : List (Option Int)) : Rat :=
  if gt.eraseDups.length > 1 then 1/2
  else if gt.head? == some (some 0) then 0
  else 1

/-- `_get_alt_count` (GT/AD/DP files: no CLCAD2 / AO fields): second entry of a tuple AD, 0 for a
    one-entry tuple, the scalar itself, NaN when AD is absent or entirely missing -/
def altCountOf (s : Smp) : Option Int :=
  match s.ad with
  | .absent => none
  | .scalar v => v
  | .tuple [none] => none
  | .tuple l => match l with
    | _ :: b :: _ => b
    | _ => some 0

/-- a float column entry after `fillna(0)` that may still be infinite, or (after TumorBoost) NaN -/
inductive Freq
  | fin (q : Rat)
  | inf
  | nan
deriving Repr, DecidableEq, Inhabited

/-- `alt_count / depth` followed by `fillna(0.0)` -/
def freqOf (ac dp : Option Int) : Freq :=
  match ac, dp with
  | some a, some d =>
    if d = 0 then (if a = 0 then .fin 0 else .inf) else .fin ((a : Rat) / (d : Rat))
  | _, _ => .fin 0

/-- the genotype columns of one sample in one row, after `fillna(0.0)`.  Repaired code (finding AH): the
    columns are numeric whatever the file lacks (a field missing from every record used to leave an
    object-typed column behind, on which `_tumor_boost` raised `TypeError`). -/
structure Geno where
  zyg : Rat
  depth : Rat
  altCount : Rat
  altFreq : Freq
deriving Repr, DecidableEq, Inhabited

def genoOf (s : Smp) (r : Rec) : Geno :=
  let d := depthOf s r
  let a := altCountOf s
  { zyg := zygosityOf s.gt, depth := ((d.getD 0 : Int) : Rat), altCount := ((a.getD 0 : Int) : Rat),
    altFreq := freqOf a d }

/-- a row of the table `read_vcf` returns -/
structure VRow where
  chrom : String
  s : Int
  e : Int
  ref : String
  alt : String
  somatic : Bool
  t : Geno                      -- the chosen (tumour / test) sample
  n : Option Geno               -- the paired normal, if any
deriving Repr, DecidableEq, Inhabited

/-- `skip_reject`: some FILTER entry other than ".", "PASS", "KEEP" -/
def rejected (r : Rec) : Bool := r.filt.any (fun f => !(f == "." || f == "PASS" || f == "KEEP"))

/-- `_get_end` without INFO/END: `posn + len(alt)` -/
def endOf (start : Int) (alt : String) : Int := start + alt.length

/-- the rows `_parse_records` yields for one record: one per ALT allele (the gVCF placeholder
    `<NON_REF>` skipped), all carrying the same genotype columns; `record.start` = POS − 1 -/
def rowsOfRec (si : Nat) (ni : Option Nat) (r : Rec) : List VRow :=
  let ts := r.smps[si]?.getD default
  let tg := genoOf ts r
  let ng := ni.map (fun j => genoOf (r.smps[j]?.getD default) r)
  let start := r.pos - 1
  (r.alts.filter (fun a => a != "<NON_REF>")).map fun a =>
    { chrom := r.chrom, s := start, e := endOf start a, ref := r.ref, alt := a,
      somatic := r.somatic, t := tg, n := ng }

def parseRecords (si : Nat) (ni : Option Nat) (skipReject : Bool) (recs : List Rec) : List VRow :=
  (recs.filter (fun r => !(skipReject && rejected r))).flatMap (rowsOfRec si ni)

/-! ## the table -/

/-- the depth the `min_depth` filter looks at: the normal's when there is one -/
def filterDepth (r : VRow) : Rat := match r.n with
  | some g => g.depth
  | none => r.t.depth

/-- `if min_depth: if table["depth"].any(): table = table[table[dkey] >= min_depth]` -/
def depthFilter (minDepth : Option Int) (rows : List VRow) : List VRow :=
  match minDepth with
  | none => rows
  | some m =>
    if m = 0 then rows
    else if rows.any (fun r => r.t.depth != 0) then rows.filter (fun r => decide (filterDepth r ≥ (m : Rat)))
    else rows

def somaticFilter (skipSomatic : Bool) (rows : List VRow) : List VRow :=
  if skipSomatic then rows.filter (fun r => !r.somatic) else rows

def VRow.key (r : VRow) : Row := ⟨r.chrom, r.s, r.e, ""⟩

/-- `GenomicArray.sort()` as called by `tabio.read`: stable, by (chromosome key, start, end) -/
def sortV (rows : List VRow) : List VRow := rows.mergeSort (fun a b => sortLe a.key b.key)

/-- a `VariantArray`: whether the n_* columns exist, and the rows -/
structure VTable where
  paired : Bool
  rows : List VRow
deriving Repr, DecidableEq, Inhabited

structure ReadOpts where
  sid : Sel := .unset
  nid : Sel := .unset
  minDepth : Option Int := none
  skipReject : Bool := false
  skipSomatic : Bool := false
deriving Repr, Inhabited

/-- `tabio.read(fname, "vcf", sample_id, normal_id, min_depth, skip_reject, skip_somatic)` on a file
    with at least one sample column -/
def readVcf (samples : List String) (tags : List PedTag) (recs : List Rec) (o : ReadOpts) :
    Except VErr VTable := do
  let (sid, nid) ← chooseSamples samples tags o.sid o.nid
  let si := samples.idxOf sid
  let nidT := truthy nid
  let ni := nidT.map (fun n => samples.idxOf n)
  let rows0 := parseRecords si ni o.skipReject recs
  let rows := depthFilter o.minDepth rows0
  let rows := somaticFilter o.skipSomatic rows
  -- a table without any row has object-typed columns; `table[~table["somatic"]]` then selects no
  -- *columns*, and the blank VariantArray built from it has lost the n_* columns
  pure { paired := nidT.isSome && !(o.skipSomatic && rows0.isEmpty), rows := sortV rows }

/-! ## load_het_snps -/

/-- `zygosity_from_freq`: 0 below `het`, 1 from `hom` on, 0.5 between -/
def zygFromFreq (het hom : Rat) : Freq → Rat
  | .fin q => if q < het then 0 else if q ≥ hom then 1 else 1/2
  | .inf => 1
  | .nan => 1/2

def reZyg (het hom : Rat) (g : Geno) : Geno := { g with zyg := zygFromFreq het hom g.altFreq }

def zygosityFromFreq (het hom : Rat) (rows : List VRow) : List VRow :=
  rows.map (fun r => { r with t := reZyg het hom r.t, n := r.n.map (reZyg het hom) })

/-- the zygosity the germline genotype is read from: the normal's when there is one -/
def germZyg (r : VRow) : Rat := match r.n with
  | some g => g.zyg
  | none => r.t.zyg

def isHet (r : VRow) : Bool := germZyg r != 0 && germZyg r != 1

/-- `VariantArray.heterozygous()`: the heterozygous subset — unless it is empty, then everything -/
def heterozygous (rows : List VRow) : List VRow :=
  if rows.any isHet then rows.filter isHet else rows

/-- `_tumor_boost` for one locus; NaN (`none`) at n = 1 (where t = 1 as well) -/
def tumorBoost (t n : Rat) : Option Rat :=
  if t < n then (if n = 0 then none else some (t / (2 * n)))
  else if n = 1 then none
  else some (1 - (1 - t) / (2 * (1 - n)))

def Freq.toOpt : Freq → Option Rat
  | .fin q => some q
  | _ => none

def ofOpt : Option Rat → Freq
  | some q => .fin q
  | none => .nan

/-- the TumorBoost-ed frequency of one row.  Repaired code (finding AF): the value belongs to the row
    it was computed from (the source assigned a freshly numbered Series to a filtered table, so
    pandas aligned row k of the result with the row *labelled* k). -/
def boostRow (r : VRow) : Freq :=
  match r.n with
  | none => r.t.altFreq
  | some g => match r.t.altFreq.toOpt, g.altFreq.toOpt with
    | some t, some n =>
      -- 1 − 0.5·(1 − t)/0 : NaN at t = 1, +∞ for a (mis-counted) tumour frequency above 1
      if n = 1 ∧ t > 1 then .inf else ofOpt (tumorBoost t n)
    | _, _ => .nan

structure HetOpts where
  sid : Sel := .unset
  nid : Sel := .unset
  minDepth : Option Int := some 20
  zygFreq : Option (Rat × Rat) := none     -- (zygosity_freq, 1 - zygosity_freq) as Python computes them
  tumorBoost : Bool := false
deriving Repr, Inhabited

/-- "the normal sample's genotypes are all 0/0 or missing": no row has a non-zero `n_zygosity` -/
def normalUntyped (rows : List VRow) : Bool :=
  !(rows.any (fun r => (r.n.map (fun g => g.zyg != 0)).getD false))

/-- the thresholds in force: those asked for, else 0.25 / 0.75 when the normal carries no genotype -/
def effectiveZygFreq (o : HetOpts) (tb : VTable) : Option (Rat × Rat) :=
  match o.zygFreq with
  | some z => some z
  | none => if tb.paired && normalUntyped tb.rows then some (1/4, 3/4) else none

/-- `zygosity_from_freq` when thresholds are in force (with its `assert`) -/
def retype (zf : Option (Rat × Rat)) (rows : List VRow) : Except VErr (List VRow) :=
  match zf with
  | some (het, hom) =>
    if 0 ≤ het ∧ het ≤ hom ∧ hom ≤ 1 then .ok (zygosityFromFreq het hom rows)
    else .error VErr.assertionError
  | none => .ok rows

/-- "somatic based on T/N genotypes": the tumour shows the variant, the normal is 0/0 -/
def keepTN (r : VRow) : Bool := !(r.t.zyg != 0 && (r.n.map (fun g => g.zyg == 0)).getD false)

/-- drop the T/N-somatic rows (paired tables), then take the heterozygous subset -/
def hetStage (paired : Bool) (rows : List VRow) : List VRow :=
  heterozygous (if paired then rows.filter keepTN else rows)

/-- `varr["alt_freq"] = varr.tumor_boost()` (needs the normal's columns) -/
def boostStage (boost paired : Bool) (rows : List VRow) : Except VErr (List VRow) :=
  if boost then
    if paired then .ok (rows.map (fun r => { r with t := { r.t with altFreq := boostRow r } }))
    else .error VErr.valueError
  else .ok rows

/-- `cmdutil.load_het_snps` -/
def loadHetSnps (samples : List String) (tags : List PedTag) (recs : List Rec) (o : HetOpts) :
    Except VErr VTable := do
  let tb ← readVcf samples tags recs
    { sid := o.sid, nid := o.nid, minDepth := o.minDepth, skipReject := false, skipSomatic := true }
  let rows ← retype (effectiveZygFreq o tb) tb.rows
  let rows ← boostStage o.tumorBoost tb.paired (hetStage tb.paired rows)
  pure { paired := tb.paired, rows := rows }

/-! ## BAF -/

def absQ (q : Rat) : Rat := if q < 0 then -q else q

def insertQ (x : Rat) : List Rat → List Rat
  | [] => [x]
  | y :: ys => if x ≤ y then x :: y :: ys else y :: insertQ x ys

def sortQ : List Rat → List Rat
  | [] => []
  | x :: xs => insertQ x (sortQ xs)

/-- `numpy.median` / `Series.median` of finite numbers: middle of the sorted values, the mean of
    the two middle ones for an even count; `none` (NaN) for no values -/
def median (l : List Rat) : Option Rat :=
  let s := sortQ l
  let n := s.length
  if n = 0 then none
  else if n % 2 = 1 then s[n / 2]?
  else match s[n / 2 - 1]?, s[n / 2]? with
    | some a, some b => some ((a + b) / 2)
    | _, _ => none

/-- NaN-skipping median (`Series.median()`, `np.nanmedian`) -/
def nanmedian (l : List (Option Rat)) : Option Rat := median (l.filterMap id)

/-- which side `_mirrored_baf` flips to: as told, else the side of the median (`> 0.5`) -/
def mirrorAbove (vals : List (Option Rat)) : Option Bool → Bool
  | some b => b
  | none => match nanmedian vals with
    | some m => decide (m > 1/2)
    | none => false

def mirrorOne (above : Bool) (v : Rat) : Rat :=
  if above then 1/2 + absQ (v - 1/2) else 1/2 - absQ (v - 1/2)

/-- `_mirrored_baf(vals, above_half)` -/
def mirroredBaf (vals : List (Option Rat)) (aboveHalf : Option Bool) : List (Option Rat) :=
  let above := mirrorAbove vals aboveHalf
  vals.map (fun v => v.map (mirrorOne above))

/-- `summarize` of `baf_by_ranges`: `np.nanmedian(_mirrored_baf(vals, above_half))` -/
def summarize (aboveHalf : Option Bool) (vals : List (Option Rat)) : Option Rat :=
  nanmedian (mirroredBaf vals aboveHalf)

/-- `series2value` of `into_ranges`: default for nothing, the value itself for one, else `summarize` -/
def series2value (aboveHalf : Option Bool) : List (Option Rat) → Option Rat
  | [] => none
  | [v] => v
  | vs => summarize aboveHalf vs

/-- the frequency `baf_by_ranges` aggregates for a row -/
def bafFreq (paired boost : Bool) (r : VRow) : Option Rat :=
  if boost && paired then (boostRow r).toOpt else r.t.altFreq.toOpt

/-- a variant row as a C07 table row; `gene` carries the row's position in the list, the way
    pandas index labels identify the selected rows -/
def tagRow (p : VRow × Nat) : Row := ⟨p.1.chrom, p.1.s, p.1.e, Nat.repr p.2⟩

def segRow (g : String × Int × Int) : Row := ⟨g.1, g.2.1, g.2.2, ""⟩

/-- values of the selected rows, looked up by their labels -/
def sliceValues (vals : List (Option Rat)) (sel : Table) : List (Option Rat) :=
  sel.filterMap (fun r => match r.gene.toNat? with
    | some i => vals[i]?
    | none => none)

/-- `VariantArray.baf_by_ranges(ranges, above_half=…, tumor_boost=…)`: one value per range,
    `none` = NaN.  `into_ranges(…, "alt_freq", NaN, summarize)` over the heterozygous rows. -/
def bafByRanges (tb : VTable) (segs : List (String × Int × Int)) (aboveHalf : Option Bool)
    (boost : Bool) : List (Option Rat) :=
  let hets := heterozygous tb.rows
  let vals := hets.map (bafFreq tb.paired boost)
  let src : Table := hets.zipIdx.map tagRow
  let dest : Table := segs.map segRow
  if src.isEmpty || dest.isEmpty then dest.map (fun _ => none)
  else (iterSlices src dest .outer true).map (fun sel => series2value aboveHalf (sliceValues vals sel))

/-- `VariantArray.mirrored_baf(above_half, tumor_boost)` over the whole array -/
def mirroredBafOf (tb : VTable) (aboveHalf : Option Bool) (boost : Bool) : List (Option Rat) :=
  mirroredBaf (tb.rows.map (bafFreq tb.paired boost)) aboveHalf

/-- `call.rescale_baf(purity, observed_baf, normal_baf=0.5)` -/
def rescaleBaf (purity obs : Rat) (normal : Rat := 1/2) : Rat :=
  (obs - normal * (1 - purity)) / purity

/-! ## the property's wording, as decidable checks (evaluated on the real output by the driver) -/

/-- "PEDIGREE-declared pairs first, else the given tumour and normal ids, else the first sample":
    `s`, `n` are the selectors resolved to names (`none` = not given).  A tumour id that no
    declared pair has as its tumour is read alone; a normal id that leaves no other sample to be
    the tumour admits no choice. -/
def specPair (samples : List String) (peds : List (String × String)) (s n : Option String) :
    Option (String × Option String) :=
  if !peds.isEmpty then
    match s with
    | some x => match peds.find? (fun p => p.1 == x) with
      | some p => some (p.1, some p.2)
      | none => some (x, none)
    | none => peds.head?.map (fun p => (p.1, some p.2))
  else match n with
    | some y => match s with
      | some x => if x != y then some (x, some y) else some (x, none)
      | none => (samples.find? (fun o => o != y)).map (fun o => (o, some y))
    | none => match s with
      | some x => some (x, none)
      | none => samples.head?.map (fun x => (x, none))

/-- zygosity "from the genotype": with every allele called, 0 = all reference, 1 = all the same
    non-reference allele, 0.5 = differing alleles; a genotype with a "." is only required to get one
    of the three values -/
def specZygOk (gt : List (Option Int)) (z : Rat) : Bool :=
  if gt.all (fun a => a.isSome) && !gt.isEmpty then
    if gt.all (fun a => a == some 0) then z == 0
    else if gt.all (fun a => a == gt.head?.getD none) then z == 1
    else z == 1/2
  else z == 0 || z == 1/2 || z == 1

/-- a record's row lies inside a range: same chromosome, intervals overlap -/
def overlaps (g : String × Int × Int) (r : VRow) : Bool :=
  r.chrom == g.1 && decide (r.e > g.2.1) && decide (r.s < g.2.2)

/-- the BAF of one range in the property's words: the heterozygous rows inside it, their
    frequencies mirrored to one side of 0.5, the median of those; `none` where there are none -/
def specBaf (paired boost : Bool) (aboveHalf : Option Bool) (rows : List VRow)
    (g : String × Int × Int) : Option Rat :=
  summarize aboveHalf (((rows.filter isHet).filter (overlaps g)).map (bafFreq paired boost))

end CnvVerif.Vcf
