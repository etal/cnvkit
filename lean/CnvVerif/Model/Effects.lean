/-
  C10 -- effects rather than values.  Executable models (core Lean only) of

  (i)   the file system seen by `cnvlib.core.ensure_path` + `tabio.write` (a finite map name ↦ content),
  (ii)  the global numpy generator as a state machine, the op skeletons of the functions that reach
        `np.random.*` (the skeletons themselves are generated from the source by
        harness/extractors/effects.py) and the abstract "re-seeds before the first draw" analysis,
  (iii) the ordered gather of `Executor.map` over any completion order,
  (iv)  the caller-owned list arguments of `do_call` (filters) and of `by_gene` / `squash_genes` /
        `transfer_fields` / `get_gene_intervals` / `gene_coords_by_range` (ignore) as a heap of list
        objects threaded through the calls: the code as it was (`…Prefix`, fix J not applied) and as it is,
  (v)   a history of pipeline steps on shared argument objects: the result of a step is a function of its
        arguments only (value supplied by the harness from a call on fresh copies), the heap is threaded.
-/
namespace CnvVerif.Effects

/-! ## (i) file system: `core.ensure_path`, `open(path, "w")` -/

/-- name ↦ content; the first entry of a name is the file (writes keep names unique) -/
abbrev FS := List (String × String)

/-- `os.path.isfile` -/
def isFile (fs : FS) (n : String) : Bool := fs.any (fun f => f.1 == n)

def readFile (fs : FS) (n : String) : Option String := (fs.find? (fun f => f.1 == n)).map (·.2)

def removeFile (fs : FS) (n : String) : FS := fs.filter (fun f => f.1 != n)

/-- `open(n, "w")` + write + close: create or truncate -/
def writeFile (fs : FS) (n c : String) : FS := (n, c) :: removeFile fs n

/-- `os.rename(a, b)`: replaces `b` if it exists; no-op model when `a` is missing -/
def renameFile (fs : FS) (a b : String) : FS :=
  match readFile fs a with
  | none => fs
  | some c => (b, c) :: removeFile (removeFile fs a) b

/-- `f"{fname}.{cnt}"` -/
def bakName (p : String) (k : Nat) : String := p ++ "." ++ toString k

/-- `cnt = 1; while os.path.isfile(bak_fname): cnt += 1` -- the loop ends within `fuel` rounds because
    only finitely many files exist (proved in Lemmas/EffectsFs.lean: `firstFree_free`) -/
def firstFree (fs : FS) (p : String) : Nat → Nat → Nat
  | 0, cnt => cnt
  | fuel + 1, cnt => if isFile fs (bakName p cnt) then firstFree fs p fuel (cnt + 1) else cnt

/-- `cnvlib.core.ensure_path` (the directory part is outside the model: one directory) -/
def ensurePath (fs : FS) (p : String) : FS :=
  if isFile fs p then renameFile fs p (bakName p (firstFree fs p fs.length 1)) else fs

/-- `core.ensure_path(p); tabio.write(table, p)` -/
def guardedWrite (fs : FS) (p c : String) : FS := writeFile (ensurePath fs p) p c

/-- k guarded writes to one path -/
def guardedWrites (fs : FS) (p : String) (ws : List String) : FS :=
  ws.foldl (fun fs c => guardedWrite fs p c) fs

/-- an unguarded writer (what `ensure_path` protects against), for the contrast theorem -/
def plainWrites (fs : FS) (p : String) (ws : List String) : FS :=
  ws.foldl (fun fs c => writeFile fs p c) fs

def contents (fs : FS) : List String := fs.map (·.2)
def names (fs : FS) : List String := fs.map (·.1)

/-! ## (ii) the global random generator -/

/-- one call into `np.random`: `seed(c)` with a literal constant (`some c`), `seed(<anything else>)`
    (`none`), or a draw (`permutation`, `randint`, `randn`, `shuffle`, …) -/
inductive ROp where
  | seed (c : Option Nat)
  | draw (kind : String)
deriving Repr, DecidableEq, Inhabited

/-- control-flow skeleton of a function body restricted to its RNG operations (calls into the package
    are inlined by the extractor): sequence, branch, loop -/
inductive Sk where
  | nop
  | op (o : ROp)
  | seq (a b : Sk)
  | alt (a b : Sk)
  | star (a : Sk)
deriving Repr, Inhabited

/-- a generator: state after `seed(c)`, the state an unknown re-seeding leaves (may depend on anything,
    in particular on the state before), and one draw -/
structure Gen (σ ν : Type) where
  reseed : Nat → σ
  other : σ → σ
  draw : String → σ → ν × σ

/-- the values drawn along a straight-line op sequence started in state `s` -/
def draws {σ ν : Type} (g : Gen σ ν) : List ROp → σ → List ν
  | [], _ => []
  | .seed (some c) :: r, _ => draws g r (g.reseed c)
  | .seed none :: r, s => draws g r (g.other s)
  | .draw k :: r, s => (g.draw k s).1 :: draws g r (g.draw k s).2

/-- the generator state left behind -/
def finalState {σ ν : Type} (g : Gen σ ν) : List ROp → σ → σ
  | [], s => s
  | .seed (some c) :: r, _ => finalState g r (g.reseed c)
  | .seed none :: r, s => finalState g r (g.other s)
  | .draw k :: r, s => finalState g r (g.draw k s).2

/-- abstract state: has the generator been set to a constant seed on this path? -/
def flagAfter : List ROp → Bool → Bool
  | [], b => b
  | .seed (some _) :: r, _ => flagAfter r true
  | .seed none :: r, _ => flagAfter r false
  | .draw _ :: r, b => flagAfter r b

/-- every draw of the sequence happens after a constant re-seeding (`b` = seeded on entry) -/
def safeOps : List ROp → Bool → Bool
  | [], _ => true
  | .seed (some _) :: r, _ => safeOps r true
  | .seed none :: r, _ => safeOps r false
  | .draw _ :: r, b => b && safeOps r b

/-- the same analysis on the control-flow skeleton, for all paths at once: `none` = some path draws before
    a constant re-seeding, `some b` = safe, and `b` tells whether every path leaves the generator seeded -/
def safeSk : Sk → Bool → Option Bool
  | .nop, b => some b
  | .op (.seed (some _)), _ => some true
  | .op (.seed none), _ => some false
  | .op (.draw _), b => if b then some true else none
  | .seq x y, b => match safeSk x b with
    | none => none
    | some b1 => safeSk y b1
  | .alt x y, b => match safeSk x b, safeSk y b with
    | some b1, some b2 => some (b1 && b2)
    | _, _ => none
  | .star x, b => match safeSk x b with
    | none => none
    | some b1 => match safeSk x (b && b1) with
      | none => none
      | some _ => some (b && b1)

/-- the complete op sequences a skeleton can produce -/
inductive Path : Sk → List ROp → Prop where
  | nop : Path .nop []
  | op (o : ROp) : Path (.op o) [o]
  | seq {a b l₁ l₂} : Path a l₁ → Path b l₂ → Path (.seq a b) (l₁ ++ l₂)
  | altL {a b l} : Path a l → Path (.alt a b) l
  | altR {a b l} : Path b l → Path (.alt a b) l
  | starNil {a} : Path (.star a) []
  | starCons {a l₁ l₂} : Path a l₁ → Path (.star a) l₂ → Path (.star a) (l₁ ++ l₂)

/-- does a recorded op equal the op of the skeleton? -/
def opMatches (o x : ROp) : Bool := o == x

/-- loop matcher, breadth first: `seen` = the remainders reached so far, `frontier` = those reached in the last
    round; a round that reaches nothing new ends the search (remainders are suffixes of the trace, so there are at
    most `length + 1` of them and the search is polynomial, whatever the trace) -/
def starLoop (f : List ROp → List (List ROp)) : Nat → List (List ROp) → List (List ROp) → List (List ROp)
  | 0, _, seen => seen
  | n + 1, frontier, seen =>
    let next := ((frontier.flatMap f).eraseDups).filter (fun r => !seen.contains r)
    if next.isEmpty then seen else starLoop f n next (seen ++ next)

/-- all remainders after 0..n passes through `f` -/
def starRes (f : List ROp → List (List ROp)) (n : Nat) (t : List ROp) : List (List ROp) :=
  starLoop f (n + 1) [t] [t]

/-- remainders of a recorded trace after one pass through the skeleton; a trace that ends early (return,
    exception) matches: run-time traces are prefixes of paths -/
def residuals : Sk → List ROp → List (List ROp)
  | _, [] => [[]]
  | .nop, t => [t]
  | .op o, x :: t => if opMatches o x then [t] else []
  | .seq a b, t => ((residuals a t).flatMap (residuals b)).eraseDups
  | .alt a b, t => (residuals a t ++ residuals b t).eraseDups
  | .star a, t => (starRes (residuals a) t.length t).eraseDups

/-- the recorded trace is a prefix of a path of the skeleton -/
def accepts (sk : Sk) (trace : List ROp) : Bool := (residuals sk trace).contains []

/-! ## (iii) ordered gather (`Executor.map`) -/

/-- results are collected by task index, whatever the order in which workers finish -/
def gatherOrdered {β : Type} (n : Nat) (done : List (Nat × β)) : List (Option β) :=
  (List.range n).map (fun i => (done.find? (fun d => d.1 == i)).map (·.2))

/-- `pool.map(f, xs)` when the tasks finish in the order `order` -/
def poolMap {α β : Type} (f : α → β) (xs : List α) (order : List Nat) : List (Option β) :=
  gatherOrdered xs.length (order.filterMap (fun i => xs[i]?.map (fun x => (i, f x))))

/-- the unordered alternative (`as_completed`): results in completion order -/
def asCompleted {α β : Type} (f : α → β) (xs : List α) (order : List Nat) : List (Option β) :=
  order.map (fun i => xs[i]?.map f)

/-! ## (iv) caller-owned list arguments -/

/-- object store of Python lists: a reference is a position -/
abbrev Heap := List (List String)

def hget (h : Heap) (r : Nat) : List String := h.getD r []
def hset (h : Heap) (r : Nat) (v : List String) : Heap := h.set r v
/-- `list(x)`: a new object at the end of the store -/
def halloc (h : Heap) (v : List String) : Heap × Nat := (h ++ [v], h.length)

/-- the loop `for filt in ("ci", "sem"): if filt in filters: apply; filters.remove(filt)` on the object at
    `r`: returns the heap and the filters applied before calling -/
def earlyFilters (h : Heap) (r : Nat) : Heap × List String :=
  ["ci", "sem"].foldl (fun (st : Heap × List String) filt =>
    if (hget st.1 r).contains filt then (hset st.1 r ((hget st.1 r).erase filt), st.2 ++ [filt]) else st) (h, [])

/-- what `do_call` does with its `filters` argument (a list object at `arg`, or `None`):
    (heap afterwards, filters applied before calling, filters applied after calling).
    As the code is (fix J): `filters = list(filters)` first. -/
def doCallFilters (h : Heap) (arg : Option Nat) : Heap × List String × List String :=
  match arg with
  | none => (h, [], [])
  | some r =>
    if (hget h r).isEmpty then (h, [], []) else
    let (h1, loc) := halloc h (hget h r)
    let (h2, early) := earlyFilters h1 loc
    (h2, early, hget h2 loc)

/-- the code before fix J: the loop runs on the caller's object -/
def doCallFiltersPrefix (h : Heap) (arg : Option Nat) : Heap × List String × List String :=
  match arg with
  | none => (h, [], [])
  | some r =>
    if (hget h r).isEmpty then (h, [], []) else
    let (h2, early) := earlyFilters h r
    (h2, early, hget h2 r)

/-- `params.ANTITARGET_ALIASES` -/
def antitargetAliases : List String := ["Antitarget", "Background"]

/-- an `ignore` argument: a list object, or an immutable tuple -/
inductive IgnoreArg where
  | list (r : Nat)
  | tuple (v : List String)
deriving Repr, Inhabited

/-- `ignore = tuple(ignore) + params.ANTITARGET_ALIASES` (as the code is): heap untouched, local value -/
def extendIgnore (h : Heap) : IgnoreArg → Heap × List String
  | .list r => (h, hget h r ++ antitargetAliases)
  | .tuple v => (h, v ++ antitargetAliases)

/-- `ignore += params.ANTITARGET_ALIASES` (before fix J): in-place `list.extend` on a list object -/
def extendIgnorePrefix (h : Heap) : IgnoreArg → Heap × List String
  | .list r => (hset h r (hget h r ++ antitargetAliases), hget h r ++ antitargetAliases)
  | .tuple v => (h, v ++ antitargetAliases)

/-! ## (v) histories on shared arguments -/

/-- how a step uses a small list argument -/
inductive Role where
  | filters      -- `do_call(filters=<list at ref>)`
  | ignoreList   -- `by_gene` / `squash_genes` / `transfer_fields` / `get_gene_intervals` (ignore=<list at ref>)
  | ignoreTuple  -- the same with a tuple
  | readOnly     -- any other list argument (thresholds, statistic names)
deriving Repr, DecidableEq, Inhabited

structure Use where
  role : Role
  ref : Nat
deriving Repr, Inhabited

structure Step where
  name : String
  procs : Nat              -- worker processes asked for
  uses : List Use
  fresh : String           -- the value of this call on fresh copies of the arguments (from the harness)
deriving Repr, Inhabited

def useHeap (pre : Bool) (h : Heap) (u : Use) : Heap :=
  match u.role with
  | .filters => if pre then (doCallFiltersPrefix h (some u.ref)).1.take h.length else (doCallFilters h (some u.ref)).1.take h.length
  | .ignoreList => if pre then (extendIgnorePrefix h (.list u.ref)).1 else (extendIgnore h (.list u.ref)).1
  | .ignoreTuple => (extendIgnore h (.tuple (hget h u.ref))).1
  | .readOnly => h

/-- the caller-visible heap after one step (`.take h.length`: objects the callee allocated are its own) -/
def stepHeap (pre : Bool) (h : Heap) (s : Step) : Heap := s.uses.foldl (useHeap pre) h

/-- the model of a history: every step returns the value it has on fresh copies; the heap is threaded -/
def runHistory (pre : Bool) : Heap → List Step → List (String × Heap)
  | _, [] => []
  | h, s :: rest => (s.fresh, stepHeap pre h s) :: runHistory pre (stepHeap pre h s) rest

end CnvVerif.Effects
