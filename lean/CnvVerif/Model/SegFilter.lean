/-
  Model of cnvlib/segfilters.py: enumerate_changes, squash_by_groups, squash_region and the
  level functions of the `cn`, `ci`, `sem`, `ampdel` filters.  Core Lean only.
-/
import CnvVerif.Basic
import CnvVerif.Generated.CallConsts
import CnvVerif.Model.Descriptives
namespace CnvVerif

/-- a segment row (`.cns`) with the columns the filters read -/
structure Seg where
  chrom : String
  s : Int
  e : Int
  gene : String
  log2 : Rat
  probes : Int
  weight : Rat
  cn : Option Rat := none      -- integer calls; a squashed row may carry a weighted median
  cn1 : Option Rat := none
  cn2 : Option Rat := none
  ciLo : Option Rat := none
  ciHi : Option Rat := none
  sem : Option Rat := none
deriving Repr, Inhabited, DecidableEq

def ratAbs (q : Rat) : Rat := if q < 0 then -q else q

/-- `enumerate_changes` as it was before the repair proposed in
    `proposed_fixes/C14-fractional-levels-merged.diff`:
    `levels.diff().fillna(0).abs().cumsum().astype(int)` -- the SIZES of the changes are accumulated and the
    sum is truncated, so levels less than 1 apart (a weighted-median cn of 5.5 next to 5) share a key.
    Kept for `Props/C14.lean: enumerate_changes_prefix_counterexample`. -/
def enumChangesPrefixGo (acc : Rat) (prev : Option Rat) : List (Option Rat) → List Int
  | [] => []
  | x :: xs =>
    let d : Rat := match prev, x with
      | some a, some b => ratAbs (b - a)
      | _, _ => 0
    let acc' := acc + d
    -- astype(int): truncation toward zero of a non-negative number = floor
    acc'.floor :: enumChangesPrefixGo acc' x xs

def enumChangesPrefix : List (Option Rat) → List Int
  | [] => []
  | x :: xs => 0 :: enumChangesPrefixGo 0 x xs

/-- `enumerate_changes` (repaired): `levels.diff().fillna(0).ne(0).cumsum()` -- the running COUNT of the
    changes; a missing value (NaN) makes the differences next to it NaN, which `fillna(0)` turns into
    "no change" -/
def enumChangesGo (acc : Int) (prev : Option Rat) : List (Option Rat) → List Int
  | [] => []
  | x :: xs =>
    let d : Int := match prev, x with
      | some a, some b => if a = b then 0 else 1
      | _, _ => 0
    (acc + d) :: enumChangesGo (acc + d) x xs

def enumChanges : List (Option Rat) → List Int
  | [] => []
  | x :: xs => 0 :: enumChangesGo 0 x xs

/-- position of the row's chromosome among `cnarr["chromosome"].unique()` -/
def chromOrdinal (names : List String) (c : String) : Int := (names.idxOf c : Nat)

def sumRat (l : List Rat) : Rat := l.foldl (· + ·) 0
def sumInt (l : List Int) : Int := l.foldl (· + ·) 0

/-- `squash_region` (columns chromosome, start, end, log2, gene, probes, weight, and `cn`/`cn1` as the
    weighted median of the run's values) -/
def squashRegion (rows : List Seg) : Option Seg :=
  match rows with
  | [] => none
  | first :: _ =>
    let last := rows.getLast?.getD first
    let w := sumRat (rows.map (·.weight))
    let log2 := if w > 0 then sumRat (rows.map (fun r => r.log2 * r.weight)) / w
                else sumRat (rows.map (·.log2)) / (rows.length : Rat)
    -- `weighted_median(values, weights)` (np.median when the run carries no weight): the common value when all
    -- members agree (every filter but `ampdel` only squashes such runs); otherwise C19's model of the repaired
    -- function on the pairs sorted by value (any order among equal values gives the same answer:
    -- C19 `wmedian_tie_order_unobservable`); missing when a member has no value
    let agree (f : Seg → Option Rat) : Option Rat :=
      if rows.all (fun r => f r == f first) then f first
      else match rows.mapM f with
        | none => none
        | some vals =>
          if w > 0 then
            let pairs := (vals.zip (rows.map (·.weight))).mergeSort (fun a b => decide (a.1 ≤ b.1))
            some (Desc.wmedSorted (Desc.wmedTol pairs) pairs)
          else some (Desc.median vals)
    let cn := agree (·.cn)
    let cn1 := agree (·.cn1)
    some { chrom := first.chrom, s := first.s, e := last.e,
           gene := joinStrings (rows.map (·.gene)), log2 := log2,
           probes := sumInt (rows.map (·.probes)), weight := w,
           cn := cn, cn1 := cn1,
           cn2 := match cn, cn1 with | some a, some b => some (a - b) | _, _ => none }

/-- `squash_by_groups(cnarr, levels)` (by_arm = False).  Repaired code (fix T): a missing
    allele-specific copy number (`fillna(-1)`) is a level of its own. -/
def squashByGroups (hasCn1 : Bool) (t : List Seg) (levels : List (Option Rat)) : List Seg :=
  let names := (t.map (·.chrom)).eraseDups
  let change := enumChanges levels
  let keys : List Int := (change.zip t).map (fun p => p.1 + chromOrdinal names p.2.chrom)
  let g1 := if hasCn1 then enumChanges (t.map (fun r => some (r.cn1.getD (-1)))) else t.map (fun _ => 0)
  let g2 := if hasCn1 then enumChanges (t.map (fun r => some (r.cn2.getD (-1)))) else t.map (fun _ => 0)
  let tagged : List ((Int × Int × Int) × Seg) := (keys.zip (g1.zip g2)).zip t
  (groupByKey (·.1) tagged).filterMap (fun g => squashRegion (g.map (·.2)))

/-! ### level functions -/

def levelCn (r : Seg) : Option Rat := r.cn

/-- `ci`: 1 when ci_lo > 0, −1 when ci_hi < 0 (the second assignment wins), else 0 -/
def levelCi (r : Seg) : Option Rat :=
  let lo := r.ciLo.getD 0
  let hi := r.ciHi.getD 0
  some (if hi < 0 then -1 else if lo > 0 then 1 else 0)

/-- `sem`: log2 ± zscore·sem, zscore read from the source (round 4: a missing sem gives the neutral level, as numpy's
    comparisons with NaN do; before, the model read it as sem = 0) -/
def levelSem (r : Seg) : Option Rat :=
  match r.sem with
  | none => some 0     -- a missing sem (NaN): both comparisons `log2 ± NaN ≷ 0` are False, the row stays neutral
  | some s =>
    let m := s * Generated.SEM_ZSCORE
    some (if r.log2 + m < 0 then -1 else if r.log2 - m > 0 then 1 else 0)

/-- `ampdel`: −1 for cn = 0, +1 for cn ≥ 5 (cut-offs read from the source), else 0 -/
def levelAmpdel (r : Seg) : Option Rat :=
  let c := r.cn.getD 0
  let amp := Generated.AMPDEL_AMP_MIN.all (fun k => decide (c ≥ (k : Rat)))
  let del := Generated.AMPDEL_DEL_EQ.all (fun k => decide (c = (k : Rat)))
  some (if amp then 1 else if del then -1 else 0)

def filterCn (h : Bool) (t : List Seg) : List Seg := squashByGroups h t (t.map levelCn)
def filterCi (h : Bool) (t : List Seg) : List Seg := squashByGroups h t (t.map levelCi)
def filterSem (h : Bool) (t : List Seg) : List Seg := squashByGroups h t (t.map levelSem)

/-- `ampdel` squashes by level and keeps the runs whose level is not neutral (every member of a
    kept run has cn = 0, resp. cn ≥ 5, hence so has their weighted median) -/
def filterAmpdel (hasCn1 : Bool) (t : List Seg) : List Seg :=
  let names := (t.map (·.chrom)).eraseDups
  let levels := t.map levelAmpdel
  let change := enumChanges levels
  let keys : List Int := (change.zip t).map (fun p => p.1 + chromOrdinal names p.2.chrom)
  let g1 := if hasCn1 then enumChanges (t.map (fun r => some (r.cn1.getD (-1)))) else t.map (fun _ => 0)
  let g2 := if hasCn1 then enumChanges (t.map (fun r => some (r.cn2.getD (-1)))) else t.map (fun _ => 0)
  let tagged : List ((Int × Int × Int) × Seg) := (keys.zip (g1.zip g2)).zip t
  (groupByKey (·.1) tagged).filterMap (fun g =>
    match g with
    | [] => none
    | x :: _ => if levelAmpdel x.2 == some 0 then none else squashRegion (g.map (·.2)))

/-! ### specification in the property's words -/

/-- maximal runs of consecutive rows on one chromosome sharing the level `lv` -/
def splitRuns {κ} [BEq κ] (lv : Seg → κ) : List Seg → List (List Seg)
  | [] => []
  | x :: xs =>
    match splitRuns lv xs with
    | [] => [[x]]
    | (y :: ys) :: rest =>
      if x.chrom == y.chrom && lv x == lv y then (x :: y :: ys) :: rest else [x] :: (y :: ys) :: rest
    | [] :: rest => [x] :: rest

/-- full level of a row for a filter: the filter's own level plus the allele-specific copy
    numbers when the table carries them -/
def fullLevel (hasCn1 : Bool) (f : Seg → Option Rat) (r : Seg) : Option Rat × Option Rat × Option Rat :=
  if hasCn1 then (f r, r.cn1, r.cn2) else (f r, none, none)

def specSquash (hasCn1 : Bool) (f : Seg → Option Rat) (t : List Seg) : List Seg :=
  (splitRuns (fullLevel hasCn1 f) t).filterMap squashRegion

/-- what `ampdel` makes of one group: nothing when its first row is neutral, the squashed run otherwise -/
def ampdelPick (g' : List Seg) : Option Seg :=
  match g' with
  | [] => none
  | x :: _ => if levelAmpdel x == some 0 then none else squashRegion g'

/-- a run `ampdel` keeps: its first (hence every) member is deleted or amplified -/
def ampdelKeep (g : List Seg) : Bool :=
  match g with
  | [] => false
  | x :: _ => levelAmpdel x != some 0

/-- the run-based wording of `ampdel`: the maximal runs of equal amplified / deleted / neutral status (and equal
    allele-specific copy numbers), the neutral ones dropped, each of the others squashed to one row -/
def specAmpdel (h : Bool) (t : List Seg) : List Seg :=
  ((splitRuns (fullLevel h levelAmpdel) t).filter ampdelKeep).filterMap squashRegion

end CnvVerif
