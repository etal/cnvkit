/-
  Model of cnvlib/target.py (`do_target`, `shorten_labels`, `filter_names`, `shortest_name`) and
  cnvlib/antitarget.py (`do_antitarget`, `get_antitargets`, `drop_noncanonical_contigs`,
  `compare_chrom_names`, `guess_chromosome_regions`).  The interval operations are the models of
  Model/Interval.lean (`mergeTable`, `subtractTable`, `subdivideTable`, `resizeTable`), the contig-name
  rule is `isCanonicalName` of Model/Access.lean, `into_ranges` is `intoRangesStr` of Model/Ranges.lean.

  Repaired code (fix AC, proposed_fixes/C12-U.diff): `do_target` resets the row index after dropping
  zero-width baits, so the labels returned by `into_ranges` (a fresh 0..n-1 index) are assigned by
  position.  Before the fix they were aligned on the *old* row labels: every bait after a dropped
  zero-width row received the label of a later row, the last ones NaN, and `--short-names` then died
  with `AttributeError: 'float' object has no attribute 'rstrip'`.
-/
import CnvVerif.Basic
import CnvVerif.Model.Ranges
import CnvVerif.Model.Interval
import CnvVerif.Model.IntervalSpec
import CnvVerif.Model.Access
import CnvVerif.Generated.Consts
import CnvVerif.Generated.BinsConsts
namespace CnvVerif

/-! ### `shorten_labels` -/

/-- `str.split(",")` on characters -/
def splitCommaGo (cur : List Char) : List Char → List (List Char)
  | [] => [cur.reverse]
  | c :: cs => if c = ',' then cur.reverse :: splitCommaGo [] cs else splitCommaGo (c :: cur) cs

/-- `set(label.rstrip().split(","))` as a duplicate-free list -/
def labelNames (label : String) : List String :=
  ((splitCommaGo [] (rstripChars label.toList)).map String.ofList).eraseDups

/-- `filter_names(names, exclude=("mRNA",))` -/
def filterNames (names : List String) : List String :=
  if names.length > 1 then
    let ok := names.filter (fun n => !(Generated.SHORTEN_EXCLUDE.any (fun ex => n.startsWith ex)))
    if ok.isEmpty then names else ok
  else names

/-- `name.split("|")[-1]` -/
def lastPipeSegment (cs : List Char) : List Char :=
  (cs.reverse.takeWhile (· != '|')).reverse

/-- the tail of `shortest_name`: `if len(name) > 2 and "|" in name[1:-1]: name = name.split("|")[-1]` -/
def pipeTrim (name : String) : String :=
  let cs := name.toList
  if cs.length > 2 && ((cs.drop 1).dropLast).contains '|' then String.ofList (lastPipeSegment cs)
  else name

/-- `shortest_name(names)`: `min(filter_names(names), key=len)` iterates a Python `set`, whose order
    is not defined; the model returns every name of minimal length (after the `|` trimming), the
    implementation's answer has to be one of them. -/
def shortestNames (names : List String) : List String :=
  let f := filterNames names
  let m := (f.map String.length).foldl min (f.headD "").length
  ((f.filter (fun n => n.length == m)).map pipeTrim).eraseDups

/-- the loop of `shorten_labels`: `cur` = `curr_names`, `cnt` = `curr_gene_count`.  One candidate
    list per input label. -/
def shortenGo (cur : List String) (cnt : Nat) : List String → List (List String)
  | [] => List.replicate cnt (shortestNames cur)
  | label :: rest =>
    let next := labelNames label
    let ov := cur.filter (fun n => next.contains n)
    if !ov.isEmpty then shortenGo (filterNames ov) (cnt + 1) rest
    else List.replicate cnt (shortestNames cur) ++ shortenGo next 1 rest

def shortenLabels (labels : List String) : List (List String) := shortenGo [] 0 labels

/-! ### `do_target` -/

/-- `compare_chrom_names(a, b)` raises `ValueError` when `a` has chromosomes and shares none with `b` -/
def chromNamesClash (a b : Table) : Bool :=
  let ac := chromsInOrder a
  let bc := chromsInOrder b
  !ac.isEmpty && ac.all (fun c => !bc.contains c)

/-- `tgt_arr[tgt_arr.start != tgt_arr.end]` then optional `subdivide(avg_size, 0)`:
    the bins, before any relabelling -/
def doTargetCore (baits : Table) (split : Bool) (avg : Rat) : Table :=
  let t := baits.filter (fun r => r.s != r.e)
  if split then subdivideTable avg Generated.TARGET_SPLIT_MIN t else t

/-- `tgt_arr["gene"] = values`: pandas raises `ValueError` unless there is one value per row -/
def setGenes (t : Table) (genes : List String) : Except String Table :=
  if genes.length == t.length then
    pure ((t.zip genes).map (fun p => { p.1 with gene := p.2 }))
  else throw "ValueError"

/-- `do_target(bait_arr, annotate, do_short_names, do_split, avg_size)`; `annot` = the rows of the
    annotation file as `tabio.read_auto` returns them.  Second component: for `--short-names` the
    candidate labels per bin (see `shortestNames`); the rows carry the first candidate. -/
def doTarget (baits : Table) (annot : Option Table) (short split : Bool) (avg : Rat) :
    Except String (Table × Option (List (List String))) := do
  let t0 := doTargetCore baits split avg
  let t1 ← match annot with
    | none => pure t0
    | some a =>
      if chromNamesClash t0 a then throw "ValueError"
      else setGenes t0 (intoRangesStr (sortTable a) t0 "-")
  if short then
    let cands := shortenLabels (t1.map (·.gene))
    let t2 ← setGenes t1 (cands.map (fun c => c.headD ""))
    pure (t2, some cands)
  else pure (t1, none)

/-! ### `do_antitarget` -/

/-- `drop_noncanonical_contigs(accessible, targets)` -/
def dropNoncanonical (acc tg : Table) : Except String Table :=
  if chromNamesClash acc tg then throw "ValueError"
  else
    let ac := chromsInOrder acc
    let tc := chromsInOrder tg
    let untgt := ac.filter (fun c => !tc.contains c)
    let skip :=
      if tc.any isCanonicalName then untgt.filter (fun c => !isCanonicalName c)
      else
        -- `max(map(len, target_chroms))`; `tc` is not empty here (an empty one clashes above)
        let mx := (tc.map String.length).foldl max 0
        untgt.filter (fun c => c.length > mx)
    pure (acc.filter (fun r => !skip.contains r.chrom))

/-- `guess_chromosome_regions(targets, TELOMERE_SIZE)`: per chromosome (order of first appearance)
    from `TELOMERE_SIZE` to the end of its *last* row -/
def guessRegions (tg : Table) : Table :=
  (groupByChrom tg).map fun g =>
    { chrom := g.1, s := Generated.TELOMERE_SIZE, e := (g.2.getLast?.map (·.e)).getD 0, gene := "" }

def noSizes : String → Option Int := fun _ => none

/-- the accessible table `get_antitargets` works on: `if accessible:` is false for `None` and for an
    empty table -/
def effectiveAccess (tg : Table) (acc : Option Table) : Except String Table :=
  match acc with
  | some a => if a.isEmpty then pure (guessRegions tg) else dropNoncanonical a tg
  | none => pure (guessRegions tg)

/-- regions left for antitargets: shrunk access minus grown targets -/
def antiRegions (a tg : Table) : Table :=
  subtractTable
    (resizeTable (Generated.ANTI_ACCESS_RESIZE_SIGN * Generated.ANTI_PAD) noSizes a)
    (resizeTable (Generated.ANTI_TARGET_RESIZE_SIGN * Generated.ANTI_PAD) noSizes tg)

def nameAnti (t : Table) : Table := t.map (fun r => { r with gene := Generated.ANTITARGET_NAME })

/-- `get_antitargets(targets, accessible, avg_bin_size, min_bin_size)` -/
def getAntitargets (tg : Table) (acc : Option Table) (avg : Rat) (minSize : Int) :
    Except String Table := do
  let a ← effectiveAccess tg acc
  pure (nameAnti (subdivideTable avg minSize (antiRegions a tg)))

/-- Python `int(x)` of a real: truncation toward zero -/
def truncRat (q : Rat) : Int := if q ≥ 0 then q.floor else q.ceil

/-- `2 * int(avg_bin_size * (2**MIN_REF_COVERAGE))` -/
def defaultMinSize (avg : Rat) : Int :=
  Generated.ANTI_MIN_FACTOR * truncRat (avg * Generated.ANTI_MIN_SCALE)

/-- `do_antitarget(targets, access, avg_bin_size, min_bin_size)`; `if not min_bin_size:` is true for
    `None` and for 0 -/
def doAntitarget (tg : Table) (acc : Option Table) (avg : Rat) (minSize : Option Int) :
    Except String Table :=
  let m := match minSize with
    | some m => if m == 0 then defaultMinSize avg else m
    | none => defaultMinSize avg
  getAntitargets tg acc avg m

/-! ### one chromosome, as the theorems see it

    `acc`, `tg` are the rows of one chromosome (in table order); `merge` sorts by (start, end)
    before grouping, which is `sortSE` here. -/

def seLe (a b : Row) : Bool := a.s < b.s || (a.s == b.s && a.e ≤ b.e)

def sortSE (l : List Row) : List Row := l.mergeSort seLe

/-- `merge(bp=0)` of one chromosome's rows -/
def mergeSorted (l : List Row) : List Row := mergeChrom 0 (sortSE l)

/-- the bins of one chromosome of `do_target --split` -/
def targetChrom (avg : Rat) (baits : List Row) : List Row :=
  (mergeSorted (baits.filter (fun r => r.s != r.e))).flatMap (splitRow avg Generated.TARGET_SPLIT_MIN)

/-- `resize_ranges(-pad)`: both ends move inward, clipped at 0, empty rows dropped -/
def shrinkRows (pad : Int) (acc : List Row) : List Row :=
  (acc.map fun r => { r with s := max 0 (r.s + pad), e := max 0 (r.e - pad) }).filter
    (fun r => r.e - r.s > 0)

/-- `resize_ranges(pad)`: both ends move outward, clipped at 0 -/
def growRows (pad : Int) (tg : List Row) : List Row :=
  tg.map fun r => { r with s := max 0 (r.s - pad), e := max 0 (r.e + pad) }

/-- shrunk access minus grown targets on one chromosome: per keeper, the merged grown targets that
    overlap it (the `outer` query) are cut out by `subtractRow` -/
def antiRegionsChrom (pad : Int) (acc tg : List Row) : List Row :=
  (shrinkRows pad acc).flatMap fun k =>
    subtractRow k (overlapping k (mergeSorted (growRows pad tg)))

/-- the antitarget bins of one chromosome -/
def antiChrom (pad : Int) (avg : Rat) (minSize : Int) (acc tg : List Row) : List Row :=
  nameAnti ((mergeSorted (antiRegionsChrom pad acc tg)).flatMap (splitRow avg minSize))

end CnvVerif
