/-
  Model of cnvlib/export.py (export_bed, export_vcf/segments2vcf, export_seg, merge_samples,
  fmt_cdt, fmt_jtv, export_nexus_basic) and skgenome/tabio/seg.py (write_seg, format_seg,
  create_chrom_ids), as the code is after the two proposed repairs Z (export_bed takes the reference
  copies from the class table, like export_vcf) and AA (merge_samples keeps sample columns apart from
  the bin columns); the pre-repair behaviour is kept as `ncopiesBedPrefix`, `mergeSamplesPrefix`,
  `fmtJtvPrefix`.  The copy-number tables (chromosome class, reference and
  expected copies, half-even rounding) are those of Model/Call.lean.  Ratio space: a segment
  carries `t`, the exact rational of the double `2**log2`, next to `v`, the double `log2`.
  Core Lean only.
-/
import CnvVerif.Basic
import CnvVerif.Model.Call
import CnvVerif.Generated.ExportConsts
namespace CnvVerif.Export
open CnvVerif

/-! ### segment tables -/

/-- one row of a segment table (.cns) as the exporters see it -/
structure Seg where
  chrom : String
  s : Int
  e : Int
  gene : String
  v : Rat          -- log2
  t : Rat          -- the double `2**log2` as an exact rational
  probes : Int     -- read only when the table has a `probes` column
  cn : Int         -- read only when the table has a `cn` column
deriving Repr, Inhabited, DecidableEq

/-- the arguments shared by `export_bed` and `export_vcf`, plus which optional columns exist -/
structure Cfg where
  ploidy : Nat
  hapX : Bool            -- is_haploid_x_reference
  female : Bool          -- is_sample_female
  par : Option String    -- diploid_parx_genome
  hasCn : Bool           -- `"cn" in segments`
  hasProbes : Bool       -- `"probes" in segments`
deriving Repr, Inhabited

/-- the first row's chromosome decides the naming style (`chr_x_label`) -/
def firstChrom (rows : List Seg) : String := (rows.head?.map (·.chrom)).getD ""

/-- `call.absolute_expect`: the `expect` column of
    `get_as_dframe_and_set_reference_and_expect_copies` (called with a haploid-X reference:
    the reference sex does not enter the expected copies) -/
def expectOf (cfg : Cfg) (first : String) (r : Seg) : Int :=
  ((refExpect cfg.ploidy true cfg.female (classOf first cfg.par r.chrom r.s r.e)).2 : Nat)

def expectCol (cfg : Cfg) (rows : List Seg) : List Int :=
  rows.map (expectOf cfg (firstChrom rows))

/-! ### export_bed -/

inductive ShowMode | all | ploidy | variant
deriving Repr, DecidableEq, Inhabited

structure BedRow where
  chrom : String
  s : Int
  e : Int
  label : String
  ncopies : Int
deriving Repr, DecidableEq, Inhabited

/-- the copy number both exporters state: `segments["cn"]` when the table has that column, else
    `absolute_clonal(segments, ploidy, 1.0, ...)` / `absolute_dataframe(...)["absolute"]` rounded
    half-even: `r * 2^log2` with `r` the reference copies of the segment's class (naming style of the
    first row, PAR).  (Repaired code, fix Z: `export_bed` used to take `r` from the chromosome name
    alone, `ncopiesBedPrefix`.) -/
def ncopiesOf (cfg : Cfg) (first : String) (r : Seg) : Int :=
  if cfg.hasCn then r.cn
  else
    let re := refExpect cfg.ploidy cfg.hapX cfg.female (classOf first cfg.par r.chrom r.s r.e)
    roundHE (absoluteOf re.1 re.2 (some 1) r.t)

/-- `export_bed` before fix Z: `absolute_pure(segments, ploidy, is_haploid_x_reference)` knows
    nothing of the PAR genome the same call uses for the expected copies -/
def ncopiesBedPrefix (cfg : Cfg) (r : Seg) : Int :=
  if cfg.hasCn then r.cn
  else roundHE ((refCopiesPure r.chrom cfg.ploidy cfg.hapX : Rat) * r.t)

/-- `label if label else segments["gene"]` (Python truthiness: `None` and `""` fall through) -/
def bedLabel (label : Option String) (r : Seg) : String :=
  match label with
  | some l => if l.isEmpty then r.gene else l
  | none => r.gene

def bedRowOf (cfg : Cfg) (first : String) (label : Option String) (r : Seg) : BedRow :=
  { chrom := r.chrom, s := r.s, e := r.e, label := bedLabel label r, ncopies := ncopiesOf cfg first r }

/-- boolean-mask row selection `frame[mask]` -/
def maskSelect {α} : List α → List Bool → List α
  | a :: as, b :: bs => if b then a :: maskSelect as bs else maskSelect as bs
  | _, _ => []

/-- `export_bed`: build the five columns, then drop rows by the `show` mode -/
def exportBed (cfg : Cfg) (label : Option String) (sh : ShowMode) (rows : List Seg) : List BedRow :=
  let out := rows.map (bedRowOf cfg (firstChrom rows) label)
  match sh with
  | .all => out
  | .ploidy => maskSelect out (out.map (fun b => b.ncopies != (cfg.ploidy : Int)))
  | .variant =>
    let exp := expectCol cfg rows
    maskSelect out (List.zipWith (fun (b : BedRow) x => b.ncopies != x) out exp)

/-! ### export_vcf / segments2vcf -/

structure VcfRec where
  chrom : String
  pos : Int
  id : String
  ref : String
  alt : String
  qual : String
  filt : String
  infoKeys : List String
  svtype : String
  endp : Int
  svlen : Int
  fold : Rat
  foldLog : Rat
  probes : Int
  formatKeys : List String
  sample : List String
deriving Repr, DecidableEq, Inhabited

/-- the per-row columns `segments2vcf` prepares before its loop -/
structure VcfCols where
  seg : Seg
  start' : Int      -- `segments.start.replace(0, 1)`
  ncopies : Int
  expect : Int
  loss : Bool       -- idx_losses
  svlen : Int
  svtype : String
  format : List String
deriving Repr, Inhabited

/-- with a `cn` column `abs_expect = absolute_expect(...)`, else the `expect` column of the same
    dataframe the absolute value came from -/
def expectVcf (cfg : Cfg) (first : String) (r : Seg) : Int :=
  if cfg.hasCn then expectOf cfg first r
  else ((refExpect cfg.ploidy cfg.hapX cfg.female (classOf first cfg.par r.chrom r.s r.e)).2 : Nat)

def vcfCols (cfg : Cfg) (first : String) (r : Seg) : VcfCols :=
  let nc := ncopiesOf cfg first r
  let ex := expectVcf cfg first r
  let loss := decide (nc < ex)
  { seg := r
    start' := if r.s == Generated.VCF_POS_REPLACE_FROM then Generated.VCF_POS_REPLACE_TO else r.s
    ncopies := nc
    expect := ex
    loss := loss
    svlen := if loss then (r.e - r.s) * Generated.VCF_SVLEN_LOSS_FACTOR else r.e - r.s
    svtype := if loss then Generated.VCF_SVTYPE_LOSS else Generated.VCF_SVTYPE_GAIN
    format := if loss then Generated.VCF_FORMAT_LOSS else Generated.VCF_FORMAT_GAIN }

/-- `str(out_row.probes).isdigit()`: an integer prints as digits only iff it is not negative; a
    table without the column has NaN there after `reindex` -/
def probesDigit (cfg : Cfg) (r : Seg) : Bool := cfg.hasProbes && decide (0 ≤ r.probes)

def infoKeys : List String :=
  ["IMPRECISE", "SVTYPE", "END", "SVLEN", "FOLD_CHANGE", "FOLD_CHANGE_LOG", "PROBES"]

/-- the body of the loop in `segments2vcf` for one row -/
def vcfEmit (cfg : Cfg) (c : VcfCols) : Option VcfRec :=
  if c.ncopies == c.expect || !(probesDigit cfg c.seg) then none
  else
    let genotype : List String :=
      if c.ncopies > c.expect then ["0/1", "0", toString c.ncopies, toString c.seg.probes]
      else if c.ncopies < c.expect then
        [if c.ncopies == 0 then "1/1" else "0/1", toString c.seg.probes]
      else []
    some { chrom := c.seg.chrom, pos := c.start', id := ".", ref := "N",
           alt := "<" ++ c.svtype ++ ">", qual := ".", filt := ".",
           infoKeys := infoKeys, svtype := c.svtype, endp := c.seg.e, svlen := c.svlen,
           fold := c.seg.t, foldLog := c.seg.v, probes := c.seg.probes,
           formatKeys := c.format, sample := genotype }

def segments2vcf (cfg : Cfg) (rows : List Seg) : List VcfRec :=
  let first := firstChrom rows
  (rows.map (vcfCols cfg first)).filterMap (vcfEmit cfg)

/-- the last header column of `export_vcf`: `sample_id or segments.sample_id` -/
def vcfSampleColumn (sampleArg : Option String) (segId : String) : String :=
  match sampleArg with
  | some s => if s.isEmpty then segId else s
  | none => segId

/-! ### export_seg / write_seg -/

structure SegSample where
  id : String
  hasProbes : Bool
  rows : List Seg
deriving Repr, Inhabited

structure SegOut where
  id : String
  chrom : String          -- renumbered chromosomes are rendered with `str`
  start : Int
  endp : Int
  probes : Option Int     -- none: the sample has no `probes` column (NaN after `concat`)
  mean : Rat
deriving Repr, DecidableEq, Inhabited

/-- `create_chrom_ids`: chromosomes in order of first appearance numbered from 1, leaving out a
    chromosome whose name already is its number -/
def createChromIds (first : List Seg) : List (String × Nat) :=
  ((first.map (·.chrom)).eraseDups.zipIdx).filterMap
    (fun (c, i) => if toString (i + 1) != c then some (c, i + 1) else none)

/-- `Series.replace(mapping)`: names not in the mapping stay -/
def renameChrom (ids : List (String × Nat)) (c : String) : String :=
  match ids.find? (fun p => p.1 == c) with
  | some p => toString p.2
  | none => c

/-- `format_seg` -/
def formatSeg (ids : List (String × Nat)) (sm : SegSample) : List SegOut :=
  sm.rows.map fun r =>
    { id := sm.id, chrom := renameChrom ids r.chrom, start := r.s + Generated.SEG_START_SHIFT, endp := r.e,
      probes := if sm.hasProbes then some r.probes else none, mean := r.v }

/-- `export_seg` → `write_seg(dframes, sample_ids, chrom_ids)`; `chrom_ids` is `False` or `True`
    (`--enumerate-chroms`): `True` numbers the chromosomes of the *first* sample -/
def exportSeg (enumerate : Bool) (samples : List SegSample) : List SegOut :=
  match samples with
  | [] => []
  | first :: _ =>
    let ids := if enumerate then createChromIds first.rows else []
    samples.flatMap (formatSeg ids)

/-! ### merge_samples, fmt_cdt, fmt_jtv, export_nexus_basic -/

structure Bin where
  chrom : String
  s : Int
  e : Int
  gene : String
  v : Rat
deriving Repr, DecidableEq, Inhabited

structure BinSample where
  id : String
  bins : List Bin
deriving Repr, Inhabited

inductive Cell
  | str (s : String)
  | int (i : Int)
  | num (q : Rat)
deriving Repr, DecidableEq, Inhabited

/-- a DataFrame with the default index: named columns in order -/
abbrev Frame := List (String × List Cell)

def Frame.has (f : Frame) (k : String) : Bool := f.any (fun c => c.1 == k)

def Frame.col (f : Frame) (k : String) : Option (List Cell) :=
  (f.find? (fun c => c.1 == k)).map (·.2)

/-- `frame[k] = column`: overwrite in place when the name exists, else append -/
def Frame.set (f : Frame) (k : String) (col : List Cell) : Frame :=
  if f.has k then f.map (fun c => if c.1 == k then (k, col) else c) else f ++ [(k, col)]

/-- `frame.drop(names, axis=1)` -/
def Frame.drop (f : Frame) (ks : List String) : Frame := f.filter (fun c => !(ks.contains c.1))

/-- `label_with_gene`: `f"{chromosome}:{start}-{end}:{gene}"` -/
def labelWithGene (b : Bin) : String :=
  b.chrom ++ ":" ++ toString b.s ++ "-" ++ toString b.e ++ ":" ++ b.gene

/-- `rangelabel.to_label`: `f"{chromosome}:{start + 1}-{end}"` -/
def toLabel (b : Bin) : String :=
  b.chrom ++ ":" ++ toString (b.s + 1) ++ "-" ++ toString b.e

def reservedCols : List String := ["chromosome", "start", "end", "gene", "label"]

inductive MergeErr
  | mismatch (fileIdx : Nat)     -- ValueError("Mismatched row coordinates in ...")
  | duplicate (id : String)      -- ValueError("Duplicate sample ID: ...")
deriving Repr, DecidableEq, Inhabited

def log2Col (sm : BinSample) : List Cell := sm.bins.map (fun b => Cell.num b.v)
def labelCol (sm : BinSample) : List Cell := sm.bins.map (fun b => Cell.str (labelWithGene b))

/-- the loop of `merge_samples` over the second and later samples; `labels` is
    `out_table["label"]`, `cols` the sample columns collected so far (repaired code, fix AA: they
    are kept apart from the five bin columns, so a sample named "gene" or "start" is still a sample) -/
def mergeLoop (labels : List Cell) : Frame → Nat → List BinSample → Except MergeErr Frame
  | cols, _, [] => .ok cols
  | cols, k, sm :: rest =>
    -- `len(cnarr) == len(out_table) and (label_with_gene(cnarr) == out_table["label"]).all()`
    if labels != labelCol sm then .error (.mismatch k)
    else if cols.has sm.id then .error (.duplicate sm.id)
    else mergeLoop labels (cols ++ [(sm.id, log2Col sm)]) (k + 1) rest

/-- the five bin columns of the merged table -/
def binCols (first : BinSample) : Frame :=
  [("chromosome", first.bins.map (fun b => Cell.str b.chrom)),
   ("start", first.bins.map (fun b => Cell.int b.s)),
   ("end", first.bins.map (fun b => Cell.int b.e)),
   ("gene", first.bins.map (fun b => Cell.str b.gene)),
   ("label", labelCol first)]

/-- `merge_samples` (at least one file): bin columns, then one column per sample -/
def mergeSamples : List BinSample → Except MergeErr Frame
  | [] => .ok []
  | first :: rest =>
    match mergeLoop (labelCol first) [(first.id, log2Col first)] 1 rest with
    | .ok cols => .ok (binCols first ++ cols)
    | .error e => .error e

/-- `merge_samples` before fix AA: every sample column was written into the one table *by name*
    (`out_table[sample_id] = log2`), after the five bin columns -/
def mergeLoopPrefix : Frame → Nat → List BinSample → Except MergeErr Frame
  | f, _, [] => .ok f
  | f, k, sm :: rest =>
    if (f.col "label") != some (labelCol sm) then .error (.mismatch k)
    else if f.has sm.id then .error (.duplicate sm.id)
    else mergeLoopPrefix (f.set sm.id (log2Col sm)) (k + 1) rest

def mergeSamplesPrefix : List BinSample → Except MergeErr Frame
  | [] => .ok []
  | first :: rest => mergeLoopPrefix ((binCols first).set first.id (log2Col first)) 1 rest

/-- number of rows of a frame (all columns are equally long) -/
def Frame.nrows (f : Frame) : Nat := (f.head?.map (·.2.length)).getD 0

/-- `itertuples(index=False)` of the listed columns -/
def rowsOf (n : Nat) (cols : List (List Cell)) : List (List Cell) :=
  (List.range n).map fun i => cols.map fun c => c.getD i (Cell.str "")

/-- `fmt_jtv`: (header, rows) -/
def fmtJtv (ids : List String) (f : Frame) : List String × List (List Cell) :=
  let n := f.nrows
  let name := ((f[4]?).map (·.2)).getD []      -- `table.iloc[:, 4]`
  let rest := (List.drop 5 f).map (·.2)        -- `table.iloc[:, 5:]`
  (["CloneID", "Name"] ++ ids,
   rowsOf n ([List.replicate n (Cell.str "IMAGE:"), name] ++ rest))

/-- `fmt_jtv` before fix AA: bin columns found and dropped *by name* -/
def fmtJtvPrefix (ids : List String) (f : Frame) : List String × List (List Cell) :=
  let n := f.nrows
  let name := (f.col "label").getD []
  let rest := (f.drop reservedCols).map (·.2)
  (["CloneID", "Name"] ++ ids,
   rowsOf n ([List.replicate n (Cell.str "IMAGE:"), name] ++ rest))

/-- `str(i).zfill(3)` -/
def zfill3 (i : Nat) : String :=
  let s := toString i
  String.ofList (List.replicate (3 - s.length) '0') ++ s

/-- `fmt_cdt`: (header, rows); the first two rows are the AID / EWEIGHT header rows -/
def fmtCdt (ids : List String) (f : Frame) : List String × List (List Cell) :=
  let n := f.nrows
  let name := ((f[4]?).map (·.2)).getD []
  let rest := (List.drop 5 f).map (·.2)
  let gid := (List.range n).map (fun i => Cell.str ("GENE" ++ toString i ++ "X"))
  let clid := (List.range n).map (fun i => Cell.str ("IMAGE:" ++ toString i))
  let header2 := (["AID", "", "", ""] ++ (List.range ids.length).map (fun i => "ARRY" ++ zfill3 i ++ "X")).map Cell.str
  let header3 := (["EWEIGHT", "", "", ""] ++ List.replicate ids.length "1").map Cell.str
  (["GID", "CLID", "NAME", "GWEIGHT"] ++ ids,
   [header2, header3] ++ rowsOf n ([gid, clid, name, List.replicate n (Cell.int 1)] ++ rest))

/-- `export_nexus_basic`: chromosome, start, end, gene, log2, probe (= `labels()`) -/
def nexusBasic (bins : List Bin) : List (List Cell) :=
  bins.map fun b => [Cell.str b.chrom, Cell.int b.s, Cell.int b.e, Cell.str b.gene, Cell.num b.v,
                     Cell.str (toLabel b)]

/-! ### the property's wording, as decidable specifications (evaluated by the driver on the
    implementation's output, and proved of the model in Lemmas/Export.lean) -/

/-- the copy number expected for the segment's chromosome and the sample's sex -/
def expectedCopies (cfg : Cfg) (first : String) (r : Seg) : Int :=
  match classOf first cfg.par r.chrom r.s r.e with
  | .auto => cfg.ploidy
  | .parx => cfg.ploidy
  | .x => if cfg.female then (cfg.ploidy : Int) else ((cfg.ploidy / 2 : Nat) : Int)
  | .y => if cfg.female then 0 else ((cfg.ploidy / 2 : Nat) : Int)
  | .pary => 0

/-- BED: every segment / those whose copy number differs from the ploidy / from the expected one -/
def bedKeep (cfg : Cfg) (first : String) (sh : ShowMode) (r : Seg) : Bool :=
  match sh with
  | .all => true
  | .ploidy => ncopiesOf cfg first r != (cfg.ploidy : Int)
  | .variant => ncopiesOf cfg first r != expectedCopies cfg first r

def bedSpec (cfg : Cfg) (label : Option String) (sh : ShowMode) (rows : List Seg) : List BedRow :=
  (rows.filter (bedKeep cfg (firstChrom rows) sh)).map (bedRowOf cfg (firstChrom rows) label)

/-- VCF: a segment is reported iff its copy number differs from the expected one -/
def vcfKeep (cfg : Cfg) (first : String) (r : Seg) : Bool :=
  ncopiesOf cfg first r != expectedCopies cfg first r

/-- the record the property describes for a reported segment -/
def vcfRecOf (cfg : Cfg) (first : String) (r : Seg) : VcfRec :=
  let nc := ncopiesOf cfg first r
  let loss := decide (nc < expectedCopies cfg first r)
  let ty := if loss then "DEL" else "DUP"
  { chrom := r.chrom, pos := if r.s = 0 then 1 else r.s, id := ".", ref := "N",
    alt := "<" ++ ty ++ ">", qual := ".", filt := ".", infoKeys := infoKeys, svtype := ty,
    endp := r.e, svlen := if loss then -(r.e - r.s) else r.e - r.s,
    fold := r.t, foldLog := r.v, probes := r.probes,
    formatKeys := if loss then ["GT", "GQ"] else ["GT", "GQ", "CN", "CNQ"],
    sample := if loss then [if nc = 0 then "1/1" else "0/1", toString r.probes]
              else ["0/1", "0", toString nc, toString r.probes] }

def vcfSpec (cfg : Cfg) (rows : List Seg) : List VcfRec :=
  (rows.filter (vcfKeep cfg (firstChrom rows))).map (vcfRecOf cfg (firstChrom rows))

/-- the value of a FORMAT key in the sample field -/
def sampleField (r : VcfRec) (key : String) : Option String :=
  ((r.formatKeys.zip r.sample).find? (fun p => p.1 == key)).map (·.2)

/-- SEG: every sample's segments, in order, under its ID, start + 1 -/
def segSpecRow (sm : SegSample) (r : Seg) : SegOut :=
  { id := sm.id, chrom := r.chrom, start := r.s + 1, endp := r.e,
    probes := if sm.hasProbes then some r.probes else none, mean := r.v }

def segSpec (samples : List SegSample) : List SegOut :=
  samples.flatMap (fun sm => sm.rows.map (segSpecRow sm))

/-- bins of two samples agree (coordinates and gene) -/
def sameBins (a b : BinSample) : Bool :=
  a.bins.map (fun x => (x.chrom, x.s, x.e, x.gene)) == b.bins.map (fun x => (x.chrom, x.s, x.e, x.gene))

/-- the table rows the property describes: one per bin of the first sample, carrying the bin's
    label and every sample's log2 of that bin, in sample order -/
def tableBody (samples : List BinSample) : List (String × List Rat) :=
  match samples with
  | [] => []
  | first :: _ =>
    first.bins.zipIdx.map fun (b, i) =>
      (labelWithGene b, samples.map (fun sm => ((sm.bins.map (·.v)).getD i 0)))

end CnvVerif.Export
