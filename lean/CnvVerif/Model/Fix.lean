/-
  Model of cnvlib/fix.py: match_ref_to_sample, mask_bad_bins, load_adjust_coverages
  (center_all + center_by_window corrections), get_edge_bias / edge_losses / edge_gains,
  the reference subtraction, apply_weights and the final centring of do_fix.
  Parameters supplied by the harness (third-party numerics): the seeded numpy permutation of
  center_by_window, the rolling-median half-window, sqrt(bin size) and the two residual
  variances (biweight midvariance², C19's subject).  Core Lean only.
-/
import CnvVerif.Basic
import CnvVerif.Generated.Consts
import CnvVerif.Generated.FixConsts
import CnvVerif.Model.Center
namespace CnvVerif

/-- a sample coverage row (`.targetcoverage.cnn` / `.antitargetcoverage.cnn`) -/
structure SRow where
  chrom : String
  s : Int
  e : Int
  gene : String
  log2 : Rat
  depth : Rat
deriving Repr, Inhabited, DecidableEq

/-- a reference row (`reference.cnn`) -/
structure RRow where
  chrom : String
  s : Int
  e : Int
  gene : String
  log2 : Rat
  depth : Rat
  gc : Option Rat      -- `none` = the reference has no gc column
  rmask : Option Rat
  spread : Rat
deriving Repr, Inhabited, DecidableEq

inductive FixErr | dupSample | dupRef | missing (n : Nat)
deriving Repr, DecidableEq, Inhabited

def sKey (r : SRow) : String × Int × Int := (r.chrom, r.s, r.e)
def rKey (r : RRow) : String × Int × Int := (r.chrom, r.s, r.e)

def hasDup {α} [BEq α] : List α → Bool
  | [] => false
  | x :: xs => xs.contains x || hasDup xs

/-- `match_ref_to_sample`: the reference rows with the sample's coordinates, in sample order -/
def matchRef (ref : List RRow) (samp : List SRow) : Except FixErr (List RRow) :=
  if hasDup (samp.map sKey) then .error .dupSample
  else if hasDup (ref.map rKey) then .error .dupRef
  else
    let found := samp.map (fun r => ref.find? (fun q => rKey q == sKey r))
    let miss := (found.filter (·.isNone)).length
    if miss > 0 then .error (.missing miss) else .ok (found.filterMap id)

/-- `mask_bad_bins` with the thresholds of params.py -/
def badBin (r : RRow) : Bool :=
  decide (r.log2 < Generated.MIN_REF_COVERAGE) || decide (r.log2 > -Generated.MIN_REF_COVERAGE) ||
  decide (r.spread > Generated.MAX_REF_SPREAD) || decide (r.depth = 0) ||
  (match r.gc with
   | some g =>
     let lo := min Generated.GC_MIN_FRACTION Generated.GC_MAX_FRACTION
     let hi := max Generated.GC_MIN_FRACTION Generated.GC_MAX_FRACTION
     decide (g > hi) || decide (g < lo)
   | none => false)

def toCBin (r : SRow) : CBin := { chrom := r.chrom, s := r.s, e := r.e, log2 := r.log2, depth := some r.depth }

/-- `cnarr.center_all(skip_low=…)` with the default estimator (median, per chromosome first) -/
def centerS (skipLow : Bool) (par : Option String) (t : List SRow) : List SRow :=
  let sh := centerShift medianR true skipLow par (t.map toCBin)
  t.map fun r => { r with log2 := r.log2 + sh }

/-! ### rolling median with mirrored edges -/

/-- `_pad_array(x, wing)`: `x[wing-1::-1] ++ x ++ x[:-wing-1:-1]` -/
def padMirror (x : List Rat) (wing : Nat) : List Rat :=
  (x.take wing).reverse ++ x ++ (x.reverse.take wing)

/-- `rolling(2*wing+1, 1, center=True).median()[wing:-wing]` on the padded signal: every window
    is complete, so each value is the median of `2*wing+1` consecutive padded values -/
def rollingMedian (x : List Rat) (wing : Nat) : List Rat :=
  let p := padMirror x wing
  (List.range x.length).map fun i => medianR ((p.drop i).take (2 * wing + 1))

/-- stable argsort (`np.argsort(kind="mergesort")`) applied to the rows themselves -/
def sortByKey {α} (key : α → Rat) (l : List α) : List α := l.mergeSort (fun a b => key a ≤ key b)

def sSortLe (a b : SRow) : Bool :=
  let ka := sorterChrom a.chrom
  let kb := sorterChrom b.chrom
  chromKeyLt ka kb || (ka == kb && (a.s < b.s || (a.s == b.s && a.e ≤ b.e)))

def sortS (t : List SRow) : List SRow := t.mergeSort sSortLe

def rSortLe (a b : RRow) : Bool :=
  let ka := sorterChrom a.chrom
  let kb := sorterChrom b.chrom
  chromKeyLt ka kb || (ka == kb && (a.s < b.s || (a.s == b.s && a.e ≤ b.e)))

def sortR (t : List RRow) : List RRow := t.mergeSort rSortLe

/-- `center_by_window(cnarr, fraction, sort_key)`: shuffle rows and keys by the seeded
    permutation, stable-sort by key, subtract the rolling median of log2, re-sort genomically.
    `keys` are positional (row i of `t` has key `keys[i]`). -/
def centerByWindow (perm : List Nat) (wing : Nat) (t : List SRow) (keys : List Rat) : List SRow :=
  let tagged := t.zip keys
  let shuffled := perm.filterMap (fun i => tagged[i]?)
  let ordered := sortByKey (·.2) shuffled
  let biases := rollingMedian (ordered.map (·.1.log2)) wing
  let fixed := (ordered.zip biases).map fun p => { p.1.1 with log2 := p.1.1.log2 - p.2 }
  sortS fixed

/-! ### edge bias -/

/-- `edge_losses` for one tile: `i/2t`, minus `(i-t)²/2it` when `t < i` -/
def edgeLoss (t i : Rat) : Rat :=
  let l := i / (2 * t)
  if t < i then l - (i - t) ^ 2 / (2 * i * t) else l

/-- `edge_gains` for one tile and one neighbour at gap `g < i`:
    `(i-g)²/4it`, minus `(i-t-g)²/4it` when `t + g < i` (overlap = gap 0) -/
def edgeGain (t g i : Rat) : Rat :=
  let g' := max 0 g
  let x := (i - g') ^ 2 / (4 * i * t)
  if t + g' < i then x - (i - t - g') ^ 2 / (4 * i * t) else x

/-- `get_edge_bias` for one chromosome's tiles (in table order) -/
def edgeBiasChrom (tiles : List (Int × Int)) (margin : Int) : List Rat :=
  let n := tiles.length
  (List.range n).map fun k =>
    let (s, e) := tiles.getD k (0, 1)
    let t : Rat := ((e - s : Int) : Rat)
    let i : Rat := (margin : Rat)
    let left : Rat := if k = 0 then 0 else
      let (_, pe) := tiles.getD (k - 1) (0, 0)
      let gap := s - pe
      if gap < margin then edgeGain t (gap : Rat) i else 0
    let right : Rat := if k + 1 < n then
      let (ns, _) := tiles.getD (k + 1) (0, 0)
      let gap := ns - e
      if gap < margin then edgeGain t (gap : Rat) i else 0
      else 0
    left + right - edgeLoss t i

/-- `get_edge_bias(cnarr, margin)`: per chromosome in order of first appearance, concatenated
    (the code then attaches the values positionally to `cnarr`) -/
def edgeBias (t : List SRow) (margin : Int) : List Rat :=
  ((t.map (·.chrom)).eraseDups).flatMap fun c =>
    edgeBiasChrom ((t.filter (·.chrom == c)).map (fun r => (r.s, r.e))) margin

/-- smallest positive difference between two values of a list (1 if none) -/
def minPosGap (l : List Rat) : Rat :=
  let s := l.mergeSort (· ≤ ·)
  ((s.zip (s.drop 1)).map (fun p => p.2 - p.1)).foldl (fun m d => if d > 0 && d < m then d else m) 1

/-! ### one class of bins (targets or antitargets) -/

structure FixCfg where
  gc : Bool
  edge : Bool
  rmask : Bool
  par : Option String
deriving Repr, Inhabited

/-- `load_adjust_coverages` (repaired code, fix D: the sample rows are brought into genomic order
    first, so that the positional keys taken from the matched reference stay attached).
    Returns the corrected sample rows, the matched reference rows, position-aligned, and the largest deviation of
    the supplied edge keys from the exact formula. -/
def loadAdjust (samp : List SRow) (ref : List RRow) (skipLow fixGc fixEdge fixRmask : Bool)
    (par : Option String) (perm : List Nat) (wing : Nat) (edgeKeys : Option (List Rat) := none) :
    Except FixErr (List SRow × List RRow × Rat) :=
  if samp.isEmpty then .ok ([], [], 0) else
  let samp := sortS samp
  match matchRef ref samp with
  | .error e => .error e
  | .ok refM =>
    let keep := refM.map (fun r => !badBin r)
    let cn0 := ((samp.zip keep).filter (·.2)).map (·.1)
    let rf := refM.filter (fun r => !badBin r)
    let cn1 := centerS skipLow par cn0
    let nOk := (cn1.filter (fun r => decide (r.log2 > Generated.NULL_LOG2_COVERAGE - Generated.MIN_REF_COVERAGE))).length
    if nOk ≤ cn1.length / 2 then .ok (cn1, rf, 0) else
    let cn2 := if fixGc && rf.all (·.gc.isSome) && !rf.isEmpty then
        centerByWindow perm wing cn1 (rf.map (fun r => r.gc.getD 0)) else cn1
    -- sort keys of the edge correction: the exact formula, or (when supplied) the doubles numpy computed
    -- for it, so that ties / near-ties are ordered as in the real run
    let ekeys := match edgeKeys with
      | some ks => if ks.length == cn2.length then ks else edgeBias cn2 Generated.INSERT_SIZE
      | none => edgeBias cn2 Generated.INSERT_SIZE
    let cn3 := if fixEdge then centerByWindow perm wing cn2 ekeys else cn2
    let cn4 := if fixRmask && rf.all (·.rmask.isSome) && !rf.isEmpty then
        centerByWindow perm wing cn3 (rf.map (fun r => r.rmask.getD 0)) else cn3
    -- knife-edge indicator: smallest positive gap between two edge-bias sort keys (computed in floats by the code)
    -- largest deviation of the supplied float keys from the exact edge-bias formula
    let exact := edgeBias cn2 Generated.INSERT_SIZE
    let slack := if fixEdge && ekeys.length == exact.length then
        ((ekeys.zip exact).map (fun p => absR (p.1 - p.2))).foldl max 0 else 0
    .ok (cn4, rf, slack)

/-! ### weights -/

def clipQ (lo hi x : Rat) : Rat := min hi (max lo x)

/-- exact rational `np.mod(x, 1)` -/
def mod1 (x : Rat) : Rat := x - x.floor

/-- `apply_weights`; `sqrtSize` = numpy's sqrt(end − start) per row, `varT`/`varA` the squared
    biweight midvariances of the target / antitarget residuals -/
def applyWeights (rows : List (SRow × RRow × Rat)) (varT varA : Rat) : List Rat :=
  let eps := Generated.WEIGHT_EPSILON
  let isAnti (r : SRow) : Bool := Generated.ANTITARGET_ALIASES.contains r.gene
  let tg := rows.filter (fun p => !isAnti p.1)
  let an := rows.filter (fun p => isAnti p.1)
  let meanT := sumR (tg.map (·.2.2)) / (tg.length : Rat)
  let meanA := sumR (an.map (·.2.2)) / (an.length : Rat)
  let simple (p : SRow × RRow × Rat) : Rat :=
    if isAnti p.1 then 1 - varA / (p.2.2 / meanA) else 1 - varT / (p.2.2 / meanT)
  let pooled := rows.any (fun p => decide (p.2.1.spread > eps)) &&
                rows.any (fun p => decide (absR (mod1 p.2.1.log2) > eps))
  rows.map fun p =>
    let x := Generated.WEIGHT_REF_EMPHASIS
    let w := if pooled then x * (1 - p.2.1.spread ^ 2) + (1 - x) * simple p else simple p
    clipQ eps Generated.WEIGHT_MAX w

/-! ### do_fix -/

structure FixParams where
  permT : List Nat
  wingT : Nat
  permA : List Nat
  wingA : Nat
  sqrtSize : List ((String × Int × Int) × Rat)   -- numpy sqrt(end - start) by bin coordinates
  varT : Rat
  varA : Rat
  edgeKeysT : Option (List Rat) := none
deriving Repr, Inhabited

structure FixOut where
  row : SRow
  weight : Rat
deriving Repr, Inhabited

/-- `do_fix` (do_cluster = False) once the two sample tables are known to share no bin -/
def doFixCore (tgt anti : List SRow) (ref : List RRow) (cfg : FixCfg) (P : FixParams) :
    Except FixErr (List FixOut) := do
  let (cnT, rfT, _) ← loadAdjust tgt ref true cfg.gc cfg.edge false cfg.par P.permT P.wingT P.edgeKeysT
  let (cnA, rfA, _) ← loadAdjust anti ref false cfg.gc false cfg.rmask cfg.par P.permA P.wingA
  let rows := if cnA.isEmpty then cnT else sortS (cnT ++ cnA)
  let refs := if cnA.isEmpty then rfT else sortR (rfT ++ rfA)
  let sub := (rows.zip refs).map fun p => { p.1 with log2 := p.1.log2 - p.2.log2 }
  let sq (r : SRow) : Rat := ((P.sqrtSize.find? (fun kv => kv.1 == sKey r)).map (·.2)).getD 1
  let ws := applyWeights ((sub.zip refs).map fun p => (p.1, p.2, sq p.1)) P.varT P.varA
  let final := centerS true cfg.par sub
  pure ((final.zip ws).map fun p => { row := p.1, weight := p.2 })

/-- `do_fix` (repaired code, finding BA): a bin that occurs in both the target and the antitarget table is refused
    like any other duplicated coordinate (each table is also checked on its own, in `matchRef`) -/
def doFix (tgt anti : List SRow) (ref : List RRow) (cfg : FixCfg) (P : FixParams) :
    Except FixErr (List FixOut) :=
  if (tgt.map sKey).any (fun k => (anti.map sKey).contains k) then .error .dupSample
  else doFixCore tgt anti ref cfg P

/-- largest deviation of the supplied edge-bias doubles from the exact formula (must be ~1e-16) -/
def doFixSlack (tgt : List SRow) (ref : List RRow) (cfg : FixCfg) (P : FixParams) : Rat :=
  match loadAdjust tgt ref true cfg.gc cfg.edge false cfg.par P.permT P.wingT P.edgeKeysT with
  | .ok (_, _, s) => s
  | .error _ => 0

end CnvVerif
