/-
  Model of cnvlib/coverage.py (do_coverage -> interval_coverages -> interval_coverages_count /
  interval_coverages_pileup, region_depth_count, bedcov post-processing) and of
  cnvlib/parallel.py (to_chunks), as the code is.

  Contracts taken from third parties (exercised for real by the correspondence, not proved):
    * htslib: reference positions of a CIGAR (`AlignedSegment.positions`, reference_end),
      `AlignmentFile.fetch(contig, start, end)` = the records whose reference span meets [start, end),
      `samtools bedcov` = per input line, the number of (position, read) pairs with the position in
      [start, end) and inside the reference span of a read that passes htslib's default filter
      (UNMAP, SECONDARY, QCFAIL, DUP) and `-Q`;  deletions and reference skips count as covered (no `-j`).
    * concurrent.futures `Executor.map`: results come back in submission order whatever the
      completion order of the workers.
  Core Lean only; exact arithmetic (`Int`, `Rat`).
-/
import CnvVerif.Basic
import CnvVerif.Generated.Consts
import CnvVerif.Generated.CoverageConsts
namespace CnvVerif.Cov
open CnvVerif

/-! ## reads -/

/-- one BAM record as data: contig id, leftmost reference position, CIGAR as (op, length) with the
    BAM op codes 0 M, 1 I, 2 D, 3 N, 4 S, 5 H, 6 P, 7 =, 8 X, FLAG and MAPQ -/
structure Read where
  tid : Nat
  pos : Int
  cigar : List (Nat × Nat)
  flag : Nat
  mapq : Nat
deriving Repr, DecidableEq, Inhabited

/-- CIGAR ops that align a read base to a reference base (M, =, X) -/
def isAlignOp (op : Nat) : Bool := op == 0 || op == 7 || op == 8
/-- CIGAR ops that consume reference without a read base (D, N) -/
def isGapOp (op : Nat) : Bool := op == 2 || op == 3

/-- aligned blocks of a CIGAR starting at `p` (`AlignedSegment.get_blocks`): half-open reference
    intervals of the M/=/X operations; `read.positions` enumerates exactly their positions -/
def blocksFrom (p : Int) : List (Nat × Nat) → List (Int × Int)
  | [] => []
  | (op, l) :: t =>
    if isAlignOp op then (p, p + (l : Int)) :: blocksFrom (p + (l : Int)) t
    else if isGapOp op then blocksFrom (p + (l : Int)) t
    else blocksFrom p t

/-- reference length of a CIGAR (`bam_cigar2rlen`): M, D, N, =, X -/
def refLen : List (Nat × Nat) → Nat
  | [] => 0
  | (op, l) :: t => (if isAlignOp op || isGapOp op then l else 0) + refLen t

/-- a record with its alignment worked out once: reference span `[s, e)` and aligned blocks -/
structure ARead where
  tid : Nat
  s : Int
  e : Int
  blocks : List (Int × Int)
  flag : Nat
  mapq : Nat
deriving Repr, DecidableEq, Inhabited

def align (r : Read) : ARead :=
  { tid := r.tid, s := r.pos, e := r.pos + (refLen r.cigar : Int),
    blocks := blocksFrom r.pos r.cigar, flag := r.flag, mapq := r.mapq }

/-- FLAG bit test; `bit` is a power of two -/
def flagSet (flag bit : Nat) : Bool := (flag / bit) % 2 == 1

/-- the pysam `AlignedSegment` flag properties -/
def attrBit : String → Option Nat
  | "is_paired" => some 1
  | "is_proper_pair" => some 2
  | "is_unmapped" => some 4
  | "mate_is_unmapped" => some 8
  | "is_reverse" => some 16
  | "mate_is_reverse" => some 32
  | "is_read1" => some 64
  | "is_read2" => some 128
  | "is_secondary" => some 256
  | "is_qcfail" => some 512
  | "is_duplicate" => some 1024
  | "is_supplementary" => some 2048
  | _ => none

def attrSet (flag : Nat) (a : String) : Bool :=
  match attrBit a with
  | some b => flagSet flag b
  | none => false

/-- a Python comparison operator by its `ast` name -/
def cmpOp (op : String) (a b : Nat) : Bool :=
  match op with
  | "Lt" => a < b
  | "LtE" => a ≤ b
  | "Gt" => a > b
  | "GtE" => a ≥ b
  | _ => false

/-- `region_depth_count.filter_read` with the attribute list and comparison read from the source -/
def countedBy (attrs : List String) (op : String) (q flag mapq : Nat) : Bool :=
  !(attrs.any (attrSet flag) || cmpOp op mapq q)

/-- `filter_read(read)` of the working tree -/
def counted (q : Nat) (r : ARead) : Bool :=
  countedBy Generated.COUNT_FILTER_ATTRS Generated.COUNT_MAPQ_OP q r.flag r.mapq

/-- htslib's filter inside `samtools bedcov [-Q q]`: default excluded flags UNMAP, SECONDARY, QCFAIL, DUP;
    a record with `qual < min_mapQ` is skipped -/
def bedcovCounted (q : Nat) (r : ARead) : Bool :=
  !(flagSet r.flag 4 || flagSet r.flag 256 || flagSet r.flag 512 || flagSet r.flag 1024) && !(r.mapq < q)

/-- the filter in the property's words: not duplicate / secondary / unmapped / QC-fail, and mapping
    quality not below the cut-off -/
def propCounted (q : Nat) (r : ARead) : Bool :=
  !flagSet r.flag 1024 && !flagSet r.flag 256 && !flagSet r.flag 4 && !flagSet r.flag 512 && decide (q ≤ r.mapq)

/-! ## interval arithmetic -/

/-- number of integers in `[a, b) ∩ [s, e)` -/
def ovl (a b s e : Int) : Int := max 0 (min b e - max a s)

/-- `sum(1 for p in read.positions if start <= p < end)` in closed form (see `Lemmas/CoveragePositions.lean`,
    `basesIn_eq_count_positions`) -/
def basesIn (r : ARead) (s e : Int) : Int := (r.blocks.map (fun b => ovl b.1 b.2 s e)).sum

/-- reference positions of `[s, e)` inside the span of the read -/
def spanIn (r : ARead) (s e : Int) : Int := ovl r.s r.e s e

/-- `bamfile.fetch(reference=chrom, start=start, end=end)`: the records on the contig whose
    reference span meets `[start, end)`; an unknown contig never gets here (see `validate`) -/
def fetch (reads : List ARead) (tid : Option Nat) (s e : Int) : List ARead :=
  match tid with
  | none => []
  | some t => reads.filter (fun r => r.tid == t && decide (r.s < e) && decide (s < r.e))

def tidOf (contigs : List (String × Nat)) (name : String) : Option Nat :=
  contigs.findIdx? (fun c => c.1 == name)

/-! ## regions file -/

/-- one record of the BED file: the three coordinates and the remaining columns -/
structure BedRec where
  chrom : String
  s : Int
  e : Int
  rest : List String
deriving Repr, DecidableEq, Inhabited

/-- a line of the regions file: a `#` comment or a record -/
inductive BedLine
  | comment
  | record (r : BedRec)
deriving Repr, DecidableEq, Inhabited

def BedLine.isComment : BedLine → Bool
  | .comment => true
  | .record _ => false

def BedLine.rec? : BedLine → Option BedRec
  | .comment => none
  | .record r => some r

/-- the records of a file, comments dropped -/
def records (lines : List BedLine) : List BedRec := lines.filterMap BedLine.rec?

/-- name column: `fields[3]` when present, else `"-"` (`read_bed`; `table["gene"] = "-"` in the pileup path).
    (Repaired code, fix C09-W: `bedcov` reads the name column as text; before, `read_csv` turned names such as
    `007`, `12`, `1e3`, `NA` into `7.0`, `12.0`, `1000.0`, `-`, and differently from chunk to chunk.) -/
def BedRec.gene (r : BedRec) : String := r.rest.head?.getD "-"

def BedRec.toRow (r : BedRec) : Row := { chrom := r.chrom, s := r.s, e := r.e, gene := r.gene }

/-! ## output rows -/

structure OutRow where
  chrom : String
  s : Int
  e : Int
  gene : String
  depth : Rat
  /-- `some NULL_LOG2_COVERAGE` for an empty bin; `none` stands for the real number `log2(depth)` -/
  log2 : Option Rat
deriving Repr, DecidableEq, Inhabited

def OutRow.key (o : OutRow) : Row := { chrom := o.chrom, s := o.s, e := o.e, gene := o.gene }

/-- `math.log(depth, 2) if depth else NULL_LOG2_COVERAGE` / the `depth > 0` mask of the pileup path -/
def mkRow (b : Row) (depth : Rat) : OutRow :=
  { chrom := b.chrom, s := b.s, e := b.e, gene := b.gene, depth := depth,
    log2 := if depth == 0 then some Generated.NULL_LOG2_COVERAGE else none }

/-- `bases / (end - start) if end > start else 0` -/
def depthOf (bases : Int) (s e : Int) : Rat :=
  if e > s then (bases : Rat) / ((e - s : Int) : Rat) else 0

/-! ## --count -/

/-- `region_depth_count`: fetch, filter, count the aligned positions inside the bin -/
def countBases (reads : List ARead) (q : Nat) (tid : Option Nat) (s e : Int) : Int :=
  (((fetch reads tid s e).filter (counted q)).map (fun r => basesIn r s e)).sum

def regionDepthCount (reads : List ARead) (q : Nat) (tid : Option Nat) (b : Row) : OutRow :=
  mkRow b (depthOf (countBases reads q tid b.s b.e) b.s b.e)

/-- `_rdc_chunk`: the bins of one chromosome, in table order -/
def rdcChunk (contigs : List (String × Nat)) (reads : List ARead) (q : Nat) (sub : Table) : List OutRow :=
  sub.map (fun b => regionDepthCount reads q (tidOf contigs b.chrom) b)

/-! ## ordered gather of a process pool -/

/-- the order in which workers finish: any rearrangement of the (index, result) pairs; `order` is an
    arbitrary priority list supplied from outside (stable sort by `order[i]`, missing = 0) -/
def completion {β} (order : List Nat) (xs : List (Nat × β)) : List (Nat × β) :=
  xs.mergeSort (fun a b => order.getD a.1 0 ≤ order.getD b.1 0)

/-- `Executor.map` hands results back by submission index -/
def orderedGather {β} (n : Nat) (done : List (Nat × β)) : List β :=
  (List.range n).filterMap (fun i => (done.find? (fun p => p.1 == i)).map (·.2))

/-- `pool.map(f, xs)` with workers finishing in the order given by `order` -/
def poolMap {α β} (f : α → β) (xs : List α) (order : List Nat) : List β :=
  orderedGather xs.length (completion order ((List.range xs.length).zip (xs.map f)))

/-- `interval_coverages_count`: regions read with `tabio.read_auto` (sorted by chromosome key, start,
    end), one task per chromosome in order of appearance, rows yielded task by task.
    (Repaired code, fix C09-X: `read_bed` skips `#` lines, as `to_chunks` and samtools do.) -/
def countTable (contigs : List (String × Nat)) (reads : List ARead) (q : Nat) (lines : List BedLine)
    (procs : Nat) (order : List Nat) : List OutRow :=
  let regions := sortTable ((records lines).map BedRec.toRow)
  let groups := (groupByChrom regions).map (·.2)
  if procs == 1 then groups.flatMap (rdcChunk contigs reads q)
  else (poolMap (rdcChunk contigs reads q) groups order).flatten

/-! ## pileup -/

/-- `to_chunks(bed_fname, chunk_size)`: the generator, line by line.  `k` = records written so far,
    `cur` = the open chunk (reversed).  A chunk is yielded when `k % chunk_size == 0`, the last partial
    chunk when `k % chunk_size` is non-zero at the end. -/
def toChunksGo {α} (isC : α → Bool) (size : Nat) : Nat → List α → List α → List (List α)
  | k, cur, [] => if k % size != 0 then [cur.reverse] else []
  | k, cur, x :: xs =>
    if isC x then toChunksGo isC size k cur xs
    else if (k + 1) % size == 0 then (x :: cur).reverse :: toChunksGo isC size (k + 1) [] xs
    else toChunksGo isC size (k + 1) (x :: cur) xs

def toChunks {α} (isC : α → Bool) (size : Nat) (lines : List α) : List (List α) :=
  toChunksGo isC size 0 [] lines

/-- base count of one region by `samtools bedcov` in closed form (see `bedcovCount_eq_pileup_sum`) -/
def bedcovCount (reads : List ARead) (q : Nat) (tid : Option Nat) (s e : Int) : Int :=
  match tid with
  | none => 0
  | some t => ((reads.filter (fun r => r.tid == t && bedcovCounted q r)).map (fun r => spanIn r s e)).sum

/-- `bedcov(bed_fname, bam_fname, min_mapq)`: one row per non-comment line, input order, base count appended -/
def bedcov (contigs : List (String × Nat)) (reads : List ARead) (q : Nat) (lines : List BedLine) :
    List (BedRec × Int) :=
  (records lines).map (fun r => (r, bedcovCount reads q (tidOf contigs r.chrom) r.s r.e))

/-- the tail of `interval_coverages_pileup`: name column filled, `depth = basecount / span` where the
    span is positive, `log2` where depth is positive -/
def pileupPost (p : BedRec × Int) : OutRow :=
  mkRow p.1.toRow (depthOf p.2 p.1.s p.1.e)

/-- `interval_coverages_pileup`: the whole file in one `bedcov` call, or one call per chunk gathered in
    chunk order and concatenated -/
def pileupTable (contigs : List (String × Nat)) (reads : List ARead) (q : Nat) (lines : List BedLine)
    (procs size : Nat) (order : List Nat) : List OutRow :=
  let raw :=
    if procs == 1 then bedcov contigs reads q lines
    else (poolMap (bedcov contigs reads q) (toChunks BedLine.isComment size lines) order).flatten
  raw.map pileupPost

/-! ## the command -/

inductive Algo | count | pileup
deriving Repr, DecidableEq, Inhabited

/-- what makes both `pysam.fetch` and `samtools bedcov` refuse a regions file (both surface as
    `ValueError`): a record with `end < start`, a contig the BAM header does not have; and a file with
    lines but no record at all -/
def validate (contigs : List (String × Nat)) (lines : List BedLine) : Option String :=
  let recs := records lines
  if recs.any (fun r => r.e < r.s) then some "reversed"
  else if recs.any (fun r => (tidOf contigs r.chrom).isNone) then some "unknown_contig"
  else if recs.isEmpty && !lines.isEmpty then some "no_records"
  else none

/-- `do_coverage(bed, bam, by_count, min_mapq, processes)` -/
def coverage (contigs : List (String × Nat)) (reads : List Read) (q : Nat) (lines : List BedLine)
    (algo : Algo) (procs size : Nat) (order : List Nat) : Except String (List OutRow) :=
  match validate contigs lines with
  | some e => .error e
  | none =>
    let ar := reads.map align
    match algo with
    | .count => .ok (countTable contigs ar q lines procs order)
    | .pileup => .ok (pileupTable contigs ar q lines procs size order)

/-! ## the property's own words, for the checker that is evaluated on the real output -/

/-- aligned bases of the counted reads (property's filter, every read of the BAM on that contig —
    no reliance on `fetch`) that fall inside `[s, e)` -/
def alignedBasesInBin (contigs : List (String × Nat)) (reads : List ARead) (q : Nat)
    (chrom : String) (s e : Int) : Int :=
  match tidOf contigs chrom with
  | none => 0
  | some t => ((reads.filter (fun r => r.tid == t && propCounted q r)).map (fun r => basesIn r s e)).sum

/-- the same with reference spans instead of aligned blocks (what a pileup sees when reads carry
    deletions or reference skips) -/
def spannedBasesInBin (contigs : List (String × Nat)) (reads : List ARead) (q : Nat)
    (chrom : String) (s e : Int) : Int :=
  match tidOf contigs chrom with
  | none => 0
  | some t => ((reads.filter (fun r => r.tid == t && propCounted q r)).map (fun r => spanIn r s e)).sum

/-- depth the property demands for a bin -/
def truthDepth (contigs : List (String × Nat)) (reads : List ARead) (q : Nat) (b : Row) : Rat :=
  depthOf (alignedBasesInBin contigs reads q b.chrom b.s b.e) b.s b.e

/-- no deletion / reference skip in the CIGAR (insertions and clips do not move reference positions) -/
def noRefGap (cigar : List (Nat × Nat)) : Bool := cigar.all (fun c => !isGapOp c.1)

end CnvVerif.Cov
