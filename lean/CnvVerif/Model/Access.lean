/-
  Model of cnvlib/access.py (`get_regions`, `join_regions`, `drop_noncanonical_contigs`,
  `do_access`) and of the contig-name rule `cnvlib/antitarget.py:is_canonical_contig_name`.
  The interval subtraction `GenomicArray.subtract` is the model of Model/Interval.lean.

  Repaired code (fix V, proposed_fixes/C13-V.diff): a line that is empty after `rstrip()` is
  skipped.  Before the fix a blank line met while no run was open opened a run of length zero
  (`run_start = cursor`), which the next 'N', header or end of file emitted as `(c, k, k)`.
-/
import CnvVerif.Basic
import CnvVerif.Model.Ranges
import CnvVerif.Model.Interval
import CnvVerif.Model.IntervalSpec
import CnvVerif.Generated.AccessConsts
namespace CnvVerif

/-! ### the FASTA scanner `get_regions` -/

/-- a run of sequence positions, 0-based half-open -/
abbrev Run := Nat × Nat

/-- scanner state inside one sequence: `cursor`, `run_start` -/
structure Scan where
  cursor : Nat
  runStart : Option Nat
deriving Repr, DecidableEq

/-- positions `k + i` with `line[i] == 'N'` -/
def nIdxFrom (k : Nat) : List Char → List Nat
  | [] => []
  | c :: cs => if c = 'N' then k :: nIdxFrom (k + 1) cs else nIdxFrom (k + 1) cs

/-- `np.where(line_chars == b"N")[0]` -/
abbrev nIndices (line : List Char) : List Nat := nIdxFrom 0 line

/-- `if run_start is not None: yield (chrom, run_start, end)` -/
def emitOpen (rs : Option Nat) (e : Nat) : List Run :=
  match rs with
  | some s => [(s, e)]
  | none => []

/-- one sequence line (already `rstrip`ped) of `get_regions`, branch for branch -/
def stepLine (st : Scan) (line : List Char) : List Run × Scan :=
  if line.isEmpty then ([], st)                       -- fix V: blank line skipped
  else if line.contains 'N' then
    if line.all (· == 'N') then
      -- shortcut: the line is all N
      (emitOpen st.runStart st.cursor, ⟨st.cursor + line.length, none⟩)
    else
      -- slow route: mixed line
      let idx := nIndices line
      let n0 := idx.headD 0
      let nl := idx.getLastD 0
      let first : List Run :=
        match st.runStart with
        | some s => [(s, st.cursor + n0)]
        | none => if n0 != 0 then [(st.cursor, st.cursor + n0)] else []
      let mid : List Run :=
        ((idx.zip (idx.drop 1)).filter (fun p => p.2 - p.1 > 1)).map
          (fun p => (p.1 + 1 + st.cursor, p.2 + st.cursor))
      let rs := if nl + 1 < line.length then some (st.cursor + nl + 1) else none
      (first ++ mid, ⟨st.cursor + line.length, rs⟩)
  else
    ([], ⟨st.cursor + line.length,
          match st.runStart with
          | none => some st.cursor
          | some s => some s⟩)

/-- the lines of one sequence, in order -/
def scanLines (st : Scan) : List (List Char) → List Run × Scan
  | [] => ([], st)
  | l :: ls =>
    let r := stepLine st l
    let r' := scanLines r.2 ls
    (r.1 ++ r'.1, r'.2)

/-- all runs reported for one sequence given as lines (any widths) -/
def scanSeq (lines : List (List Char)) : List Run :=
  let r := scanLines ⟨0, none⟩ lines
  r.1 ++ emitOpen r.2.runStart r.2.cursor

/-- a line of the FASTA file: header (`>name ...`) or sequence text (after `rstrip`) -/
inductive FLine
  | header (name : String)
  | body (chars : List Char)
deriving Repr

abbrev Region := String × Nat × Nat

/-- the whole file loop of `get_regions`.  A non-blank sequence line before the first header
    raises `TypeError` (`cursor` is `None`). -/
def scanFile (chrom : Option String) (st : Scan) : List FLine → Except String (List Region)
  | [] => pure ((emitOpen st.runStart st.cursor).map (fun r => (chrom.getD "", r.1, r.2)))
  | .header name :: rest => do
    let tail ← scanFile (some name) ⟨0, none⟩ rest
    pure ((emitOpen st.runStart st.cursor).map (fun r => (chrom.getD "", r.1, r.2)) ++ tail)
  | .body line :: rest =>
    if line.isEmpty then scanFile chrom st rest
    else
      match chrom with
      | none => throw "TypeError"
      | some c =>
        let r := stepLine st line
        do
          let tail ← scanFile chrom r.2 rest
          pure (r.1.map (fun x => (c, x.1, x.2)) ++ tail)

def getRegions (lines : List FLine) : Except String (List Region) := scanFile none ⟨0, none⟩ lines

/-! #### text → lines (`for line in infile`, `startswith(">")`, `split(None, 1)[0][1:]`, `rstrip()`) -/

/-- ASCII characters for which `str.isspace()` holds -/
def isPySpace (c : Char) : Bool :=
  c == ' ' || c == '\t' || c == '\n' || c == '\r' || c.toNat == 11 || c.toNat == 12 ||
  (28 ≤ c.toNat && c.toNat ≤ 31)

def rstripChars (l : List Char) : List Char := (l.reverse.dropWhile isPySpace).reverse

/-- split at `'\n'`; the text after the last newline is a line only when it is not empty -/
def splitLinesGo (cur : List Char) : List Char → List (List Char)
  | [] => if cur.isEmpty then [] else [cur.reverse]
  | c :: cs => if c = '\n' then cur.reverse :: splitLinesGo [] cs else splitLinesGo (c :: cur) cs

def splitLines (text : List Char) : List (List Char) := splitLinesGo [] text

def parseLine (l : List Char) : FLine :=
  match l with
  | '>' :: rest => .header (String.ofList (rest.takeWhile (fun c => !isPySpace c)))
  | _ => .body (rstripChars l)

def parseFasta (text : String) : List FLine := (splitLines text.toList).map parseLine

/-! ### contig-name rule -/

/-- one atom of the rule against one character: `some x` = the literal `x`, `none` = `\d` -/
def atomOk (a : Option Char) (c : Char) : Bool :=
  match a with
  | some x => c == x
  | none => c.isDigit

/-- do the atoms match a prefix of `s`?  returns the rest -/
def matchAtoms : List (Option Char) → List Char → Option (List Char)
  | [], s => some s
  | _ :: _, [] => none
  | a :: as, c :: cs => if atomOk a c then matchAtoms as cs else none

/-- the suffixes of `s`, longest first (`re.search` tries every start position) -/
def suffixes : List Char → List (List Char)
  | [] => [[]]
  | c :: cs => (c :: cs) :: suffixes cs

def altMatches (alt : Bool × List (Option Char) × Bool) (name : List Char) : Bool :=
  let starts := if alt.1 then [name] else suffixes name
  starts.any fun s =>
    match matchAtoms alt.2.1 s with
    | some rest => !alt.2.2 || rest.isEmpty
    | none => false

def ruleMatches (rule : List (Bool × List (Option Char) × Bool)) (name : List Char) : Bool :=
  rule.any (fun alt => altMatches alt name)

/-- `is_canonical_contig_name(name) = not re_noncanonical.search(name)` -/
def isCanonicalName (name : String) : Bool := !ruleMatches Generated.NONCANONICAL_RULE name.toList

/-! ### `join_regions` -/

/-- the loop over one chromosome's rows; `prev` = (`prev_start`, `prev_end`) -/
def joinGo (minGap : Int) (prev : Row) : List Row → List Row
  | [] => [prev]
  | x :: xs =>
    if x.s - prev.e < minGap then joinGo minGap { prev with e := x.e } xs
    else prev :: joinGo minGap x xs

def joinChrom (minGap : Int) : List Row → List Row
  | [] => []
  | x :: xs => joinGo minGap x xs

/-- `assert gap > 0` for every pair of consecutive rows (`prev_end` is always the previous
    row's end) -/
def gapsPositive : List Row → Bool
  | a :: b :: t => decide (b.s - a.e > 0) && gapsPositive (b :: t)
  | _ => true

/-- `join_regions(regions, min_gap_size)`; `min_gap_size or 0` -/
def joinRegions (minGap : Option Int) (t : Table) : Except String Table :=
  let g := minGap.getD 0
  let groups := groupByChrom t
  if groups.all (fun p => gapsPositive p.2) then
    .ok (groups.flatMap (fun p => joinChrom g p.2))
  else .error "AssertionError"

/-! ### `do_access` -/

def regionRow (r : Region) : Row := ⟨r.1, (r.2.1 : Int), (r.2.2 : Int), ""⟩

/-- `if skip_noncanonical: fa_regions = drop_noncanonical_contigs(fa_regions)` -/
def keepRegions (skip : Bool) (regs : List Region) : List Region :=
  if skip then regs.filter (fun r => isCanonicalName r.1) else regs

/-- `excludes` are the BED rows in file order; `tabio.read` sorts them -/
def doAccess (lines : List FLine) (excludes : List Table) (minGap : Option Int) (skip : Bool) :
    Except String Table := do
  let regs ← getRegions lines
  let t : Table := (keepRegions skip regs).map regionRow
  let t' := excludes.foldl (fun acc ex => subtractTable acc (sortTable ex)) t
  joinRegions minGap t'

/-! ### one chromosome, as the theorems see it -/

/-- the rows of the merged exclusion table `b` that the `outer` query of keeper `k` selects -/
def overlapping (k : Row) (b : List Row) : List Row := b.filter (fun x => x.e > k.s && x.s < k.e)

/-- `subtract` restricted to one chromosome: `b` = that chromosome's rows of one exclude file,
    sorted by start -/
def subtractChrom (t b : List Row) : List Row :=
  t.flatMap (fun k => subtractRow k (overlapping k (mergeChrom 0 b)))

/-- scan → subtract every exclude file → join, for one sequence -/
def accessChrom (name : String) (lines : List (List Char)) (excl : List (List Row)) (minGap : Int) :
    List Row :=
  let runs : List Row := (scanSeq lines).map (fun r => regionRow (name, r.1, r.2))
  joinChrom minGap (excl.foldl subtractChrom runs)

/-! ### the property's wording, decidable, evaluated on the implementation's output

    Ground truth comes from the generator: `seqs` = (name, sequence) before it was rendered as
    text with some line width.  Nothing below uses the scanner, `subtract` or `join`. -/

def charAt (w : List Char) (p : Nat) : Option Char := w[p]?

/-- is position `p` of `w` a character other than 'N'? -/
def nonN (w : List Char) (p : Nat) : Bool :=
  match w[p]? with
  | some c => c != 'N'
  | none => false

/-- `(s, e)` is a maximal run of characters other than 'N' in `w` -/
def isMaxRunB (w : List Char) (s e : Nat) : Bool :=
  decide (s < e) && ((List.range (e - s)).all fun i => nonN w (s + i)) &&
  (s == 0 || !nonN w (s - 1)) && !nonN w e

def posRange (s e : Int) : List Int := (List.range (e - s).toNat).map (fun (i : Nat) => s + (i : Int))

/-- clauses for `get_regions`, per sequence (the order in which sequences are listed is not
    constrained by the property) -/
def scanSpecB (seqs : List (String × List Char)) (out : List Region) : List String :=
  let names := seqs.map (·.1)
  let perSeq (f : String → List Char → List Region → Bool) : Bool :=
    seqs.all fun sq => f sq.1 sq.2 (out.filter (fun r => r.1 == sq.1))
  (if out.all (fun r => names.contains r.1) then [] else ["scan_known_sequences"]) ++
  (if perSeq (fun _ w rs => rs.all (fun r => isMaxRunB w r.2.1 r.2.2)) then []
   else ["scan_each_is_maximal_run"]) ++
  (if perSeq (fun _ _ rs => pairwiseB (fun a b => a.2.2 < b.2.1) rs) then []
   else ["scan_sorted_separated"]) ++
  (if perSeq (fun _ w rs => (List.range w.length).all fun p =>
        !nonN w p || rs.any (fun r => r.2.1 ≤ p && p < r.2.2)) then []
   else ["scan_covers_every_nonN"])

structure AccessIn where
  seqs : List (String × List Char)
  excl : List Table
  minGap : Int
  skip : Bool

/-- base `p` of sequence `c` is neither 'N' nor in a region of any exclude file -/
def accessibleB (inp : AccessIn) (c : String) (w : List Char) (p : Int) : Bool :=
  decide (0 ≤ p) && nonN w p.toNat && inp.excl.all (fun t => !covb t c p)

/-- maximal runs of accessible bases of one sequence, by position -/
def accRunsGo (f : Nat → Bool) : Nat → Nat → Option Nat → List Run
  | 0, pos, rs => emitOpen rs pos
  | k + 1, pos, rs =>
    if f pos then accRunsGo f k (pos + 1) (match rs with | none => some pos | some s => some s)
    else emitOpen rs pos ++ accRunsGo f k (pos + 1) none

def accRuns (inp : AccessIn) (c : String) (w : List Char) : List Run :=
  accRunsGo (fun p => accessibleB inp c w (p : Int)) w.length 0 none

def consecPairs {α} (l : List α) : List (α × α) := l.zip (l.drop 1)

/-- the classes of names the property itself lists as non-canonical (alt, random, Un, HLA, EBV,
    mitochondrial), written out independently of the rule read from the source -/
def propertyNoncanonicalClasses : List (Bool × List (Option Char) × Bool) :=
  [(false, "_alt".toList.map some, true), (false, "_random".toList.map some, true),
   (false, "Un_".toList.map some, false), (true, "HLA-".toList.map some, false),
   (true, "chrEBV".toList.map some, true), (false, "chrM".toList.map some, false),
   (false, "MT".toList.map some, false)]

/-- clauses for `do_access` -/
def accessSpecB (inp : AccessIn) (out : Table) : List String :=
  let kept := inp.seqs.filter (fun sq => !inp.skip || isCanonicalName sq.1)
  let dropped := inp.seqs.filter (fun sq => inp.skip && !isCanonicalName sq.1)
  let rowsFor (c : String) := out.filter (fun r => r.chrom == c)
  let perKept (f : String → List Char → List Run → List Row → Bool) : Bool :=
    kept.all fun sq => f sq.1 sq.2 (accRuns inp sq.1 sq.2) (rowsFor sq.1)
  let smallGap (runs : List Run) (p : Int) : Bool :=
    (consecPairs runs).any fun ab =>
      ((ab.1.2 : Int) ≤ p && p < (ab.2.1 : Int)) && ((ab.2.1 : Int) - (ab.1.2 : Int) < inp.minGap)
  (if out.all (fun r => r.s < r.e) then [] else ["access_regions_nonempty"]) ++
  (if inp.seqs.all (fun sq => pairwiseB (fun a b => a.e < b.s) (rowsFor sq.1)) then []
   else ["access_sorted_separated"]) ++
  (if out.all (fun r => inp.seqs.any (fun sq => sq.1 == r.chrom && 0 ≤ r.s && r.e ≤ (sq.2.length : Int)))
   then [] else ["access_inside_known_sequences"]) ++
  (if dropped.all (fun sq => (rowsFor sq.1).isEmpty) then [] else ["access_noncanonical_dropped_iff_on"]) ++
  (if inp.seqs.all (fun sq => !(inp.skip && ruleMatches propertyNoncanonicalClasses sq.1.toList) ||
        (rowsFor sq.1).isEmpty) then [] else ["access_named_classes_dropped"]) ++
  (if perKept (fun c w runs rows => rows.all fun r => (posRange r.s r.e).all fun p =>
        accessibleB inp c w p || smallGap runs p) then []
   else ["access_no_N_or_excluded_unless_bridged"]) ++
  (if perKept (fun _ _ runs rows => runs.all fun a =>
        rows.any (fun r => r.s ≤ (a.1 : Int) && (a.2 : Int) ≤ r.e)) then []
   else ["access_covers_all_accessible"]) ++
  (if perKept (fun _ _ runs rows => (consecPairs runs).all fun ab =>
        !((ab.2.1 : Int) - (ab.1.2 : Int) < inp.minGap) ||
        rows.any (fun r => r.s ≤ (ab.1.1 : Int) && (ab.2.2 : Int) ≤ r.e)) then []
   else ["access_small_gaps_joined"]) ++
  (if perKept (fun _ _ runs rows => (consecPairs runs).all fun ab =>
        ((ab.2.1 : Int) - (ab.1.2 : Int) < inp.minGap) ||
        rows.all (fun r => !(r.s < (ab.2.1 : Int) && (ab.1.2 : Int) < r.e))) then []
   else ["access_large_gaps_kept"])

end CnvVerif
