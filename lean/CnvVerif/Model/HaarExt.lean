/-
  Extension of the C11 model (cnvlib/segmentation/haar.py): the WEIGHTED path of `haarSeg` -- the one
  `segment_haar` / `one_chrom` really take (`W = cnarr["weight"].values`) -- and the closed form of the weighted
  `HaarConv` response to a noise-free step.

  `HaarConv(signal, weight, h)` keeps four running sums; at position `k` they are the sums of `weight` and of
  `signal * weight` over the low window (extended indices `k-h .. k-1`) and the high window (`k .. k+h-1`) of the
  signal extended by mirroring at both ends (`lowEnd < 0 -> -lowEnd - 1`, `highEnd >= n -> 2n - 1 - highEnd`).
  `lowWin` / `highWin` state those window sums through prefix sums; `Lemmas/HaarWeightedLoop.lean` proves that the loop
  computes exactly them.  Core Lean only.
-/
import CnvVerif.Model.Haar
namespace CnvVerif.Haar

/-- prefix sums `x 0 + ... + x (i-1)` -/
def pre (x : Nat → Rat) : Nat → Rat
  | 0 => 0
  | i + 1 => pre x i + x i

/-- sum of `x` over the low window of `HaarConv` at position `k`: indices `k-h .. k-1`, the negative ones mirrored
(`-j-1`) -/
def lowWin (x : Nat → Rat) (h k : Nat) : Rat :=
  if k ≤ h then pre x k + pre x (h - k) else pre x k - pre x (k - h)

/-- sum of `x` over the high window at position `k`: indices `k .. k+h-1`, those `>= n` mirrored (`2n-1-j`) -/
def highWin (x : Nat → Rat) (n h k : Nat) : Rat :=
  if k + h ≤ n then pre x (k + h) - pre x k else 2 * pre x n - pre x k - pre x (2 * n - k - h)

/-- the part of the weights that lies on the upper plateau of a step at `b` -/
def upperW (w : Nat → Rat) (b : Nat) : Nat → Rat := fun i => if b ≤ i then w i else 0

/-- share of the high window's weight that lies at or beyond `b`, minus the same share of the low window: the
weighted `HaarConv` response to a unit step at `b`, before the factor `sqrt(h/2)` -/
def stepShareW (w : Nat → Rat) (b n h k : Nat) : Rat :=
  highWin (upperW w b) n h k / highWin w n h k - lowWin (upperW w b) h k / lowWin w h k

/-- the weights as a function of the bin index (0 beyond the end) -/
def wfun (wt : List Rat) : Nat → Rat := fun i => wt.getD i 0

/-- closed form of `HaarConv(step, W, h)` for the noise-free step `lo | hi` at `b` -/
def stepRespW (fac lo hi : Rat) (wt : List Rat) (b n h : Nat) : List Rat :=
  (List.range n).map fun k => fac * (hi - lo) * stepShareW (wfun wt) b n h k

/-- `haarSeg(I, q, W)` with weights, as `one_chrom` calls it: every level uses `HaarConv(I, W, 2**level)`
(`fac h` = the double `math.sqrt(h / 2)`), the thresholds come from `FDRThres`, the segment means are the weighted
means.  A zero weight sum (numpy: inf / nan) leaves the level without a convolution. -/
def haarSegW (rnd : Rat → Rat) (fac : Nat → Rat) (p : Nat → List Rat) (q : Rat) (I W : List Rat) : SegTable :=
  haarSegWith (fun _ h => (haarConvW (fac h) I W h).getD []) (fun lv x => fdrThres rnd x q (p lv))
    Generated.HAAR_LEVEL_TABLE I (some W)

/-! ### one iteration of the `HaarConv` loop, as the model runs it (tied to the source text in Props/C11Src.lean) -/

/-- `result[k] = result[k-1] + signal[highEnd] + signal[lowEnd] - 2*signal[k-1]` -/
def rawUpdate (prev sHi sLo sK : Rat) : Rat := prev + sHi + sLo - 2 * sK

/-- the four running sums after one iteration of the weighted branch -/
def wStep (acc : WAcc) (sLo wLo sHi wHi sK wK : Rat) : WAcc :=
  { lowN := acc.lowN + (sLo * wLo - sK * wK), highN := acc.highN + (sHi * wHi - sK * wK),
    lowW := acc.lowW + (wK - wLo), highW := acc.highW + (wHi - wK) }

/-- `result[k] = sqrt(h/2) * (lowNonNormed / lowWeightSum + highNonNormed / highWeightSum)` -/
def wValue (fac : Rat) (acc : WAcc) : Rat := fac * (acc.lowN / acc.lowW + acc.highN / acc.highW)

/-! ### the initial HMM of `hmm_get_model` (Generated/HmmConsts.lean), as decidable shape predicates -/

def sumQ (l : List Rat) : Rat := l.foldl (· + ·) 0

/-- start probabilities: a distribution, symmetric under exchanging losses and gains, every state possible, the
middle (neutral) state strictly the likeliest -/
def startPrefersNeutral (s : List Rat) : Bool :=
  let mid := s.length / 2
  decide (s.length % 2 = 1) && decide (sumQ s = 1) && (s == s.reverse) && s.all (fun x => decide (0 < x)) &&
    (List.range s.length).all (fun i => i == mid || decide (s.getD i 0 < s.getD mid 0))

/-- transition weights: square, one common diagonal value `d`, one common positive off-diagonal value `o`, and
staying is at least `k` times as likely as any single move (`k * o <= d`) -/
def stickyMatrix (k : Rat) (t : List (List Rat)) : Bool :=
  let n := t.length
  let d := (t.headD []).headD 0
  let o := (t.headD []).getD 1 0
  t.all (fun r => r.length == n) && decide (0 < o) && decide (k * o ≤ d) &&
    (List.range n).all (fun i => (List.range n).all (fun j =>
      let v := (t.getD i []).getD j 0
      if i == j then v == d else v == o))

end CnvVerif.Haar
