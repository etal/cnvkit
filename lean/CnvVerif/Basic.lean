/-
  Basic vocabulary shared by every model: rows of a genomic table, chromosome sort key,
  stable sorts / groupings that mirror the pandas calls used by skgenome and cnvlib.
  Core Lean only (no Mathlib): the JSON driver imports these files.
-/
namespace CnvVerif

/-- A row of a `GenomicArray`: chromosome, 0-based half-open interval, and one payload
    column (`gene`) standing for "the other fields of the row". -/
structure Row where
  chrom : String
  s : Int
  e : Int
  gene : String
deriving Repr, DecidableEq, Inhabited

abbrev Table := List Row

/-- `skgenome.chromsort.sorter_chrom`. -/
def sorterChrom (label : String) : Nat × String :=
  let chrom : String :=
    if label.toLower.startsWith "chr" then (label.drop 3).toString else label
  if chrom == "X" || chrom == "Y" then (1000, chrom)
  else
    let nums := (chrom.takeWhile Char.isDigit).toString
    let chars := (chrom.drop nums.length).toString
    let n := nums.toNat?.getD 0
    if chars.isEmpty then (n, "")
    else if chars.length == 1 then (2000 + n, chars)
    else (3000 + n, chars)

/-- Python tuple comparison `(int, str) <= (int, str)`. -/
def chromKeyLe (a b : Nat × String) : Bool :=
  a.1 < b.1 || (a.1 == b.1 && decide (a.2 ≤ b.2))

def chromKeyLt (a b : Nat × String) : Bool :=
  a.1 < b.1 || (a.1 == b.1 && decide (a.2 < b.2))

/-- `GenomicArray.sort`: stable sort by (`sorter_chrom`, start, end). -/
def sortLe (a b : Row) : Bool :=
  let ka := sorterChrom a.chrom
  let kb := sorterChrom b.chrom
  chromKeyLt ka kb || (ka == kb && (a.s < b.s || (a.s == b.s && a.e ≤ b.e)))

def sortTable (t : Table) : Table := t.mergeSort sortLe

/-- `DataFrame.sort_values(["chromosome","start","end"])` (lexicographic chromosome). -/
def lexLe (a b : Row) : Bool :=
  decide (a.chrom < b.chrom) || (a.chrom == b.chrom && (a.s < b.s || (a.s == b.s && a.e ≤ b.e)))

def sortLex (t : Table) : Table := t.mergeSort lexLe

/-- Re-sort chromosomes "cleverly": stable sort on `sorter_chrom` only. -/
def chromOnlyLe (a b : Row) : Bool := chromKeyLe (sorterChrom a.chrom) (sorterChrom b.chrom)

def resortChrom (t : Table) : Table := t.mergeSort chromOnlyLe

/-- Chromosome names in order of first appearance (`groupby(..., sort=False)` keys). -/
def chromsInOrder (t : Table) : List String := (t.map (·.chrom)).eraseDups

/-- `groupby("chromosome", sort=False)`. -/
def groupByChrom (t : Table) : List (String × Table) :=
  (chromsInOrder t).map (fun c => (c, t.filter (fun r => r.chrom == c)))

/-- `",".join(pd.unique(elems))`. -/
def joinStrings (l : List String) : String := ",".intercalate l.eraseDups

/-- numpy `searchsorted(col, v, side="left")` on a monotone column = number of entries `< v`. -/
def ssLeft (col : List Int) (v : Int) : Nat := col.countP (fun x => x < v)
/-- numpy `searchsorted(col, v, side="right")` on a monotone column = number of entries `≤ v`. -/
def ssRight (col : List Int) (v : Int) : Nat := col.countP (fun x => x ≤ v)

/-- `Series.is_monotonic_increasing` (non-strict). -/
def isMonotone : List Int → Bool
  | [] => true
  | [_] => true
  | a :: b :: t => a ≤ b && isMonotone (b :: t)

/-- running maximum (`Series.cummax`). -/
def cummaxGo (m : Int) : List Int → List Int
  | [] => []
  | x :: xs => max m x :: cummaxGo (max m x) xs

def cummax : List Int → List Int
  | [] => []
  | x :: xs => x :: cummaxGo x xs

/-- pandas `groupby(keys, sort=False)`: groups in order of first appearance of the key,
    members in table order (not assumed consecutive) -/
def groupByKey {α κ} [BEq κ] (key : α → κ) (l : List α) : List (List α) :=
  ((l.map key).eraseDups).map (fun k => l.filter (fun x => key x == k))

end CnvVerif
