import CnvVerif.Basic
import CnvVerif.Model.Ranges
import CnvVerif.Model.Interval
import CnvVerif.Model.IntervalSpec
import CnvVerif.Driver.Json
import CnvVerif.Driver.Interval
import CnvVerif.Model.IntervalExt5
import CnvVerif.Driver.IntervalExt5
import CnvVerif.Generated.Consts
import CnvVerif.Generated.ExprsAbs
import CnvVerif.Generated.ExprsBaf
import CnvVerif.Generated.ExprsEdge
import CnvVerif.Generated.ExprsFixMask
import CnvVerif.Generated.ExprsFixPlan
import CnvVerif.Generated.ExprsFixWeight
import CnvVerif.Generated.ExprsInterval
import CnvVerif.Generated.ExprsSplitLoop
import CnvVerif.Generated.ExprsSubLoop
import CnvVerif.Generated.ExprsMirror
import CnvVerif.Generated.ExprsRef
import CnvVerif.Generated.ExprsWing
import CnvVerif.Generated.ExprsCov
import CnvVerif.Generated.ExprsByArm
import CnvVerif.Generated.ExprsBins
import CnvVerif.Generated.ExprsDesc
import CnvVerif.Generated.ExprsStats
import CnvVerif.Generated.ExprsSegFilters
import CnvVerif.Generated.SegFilterConsts
import CnvVerif.Generated.ExprsBoost
import CnvVerif.Generated.VcfDecisions
import CnvVerif.Generated.VcfPedKeys
import CnvVerif.Generated.VcfFilters
import CnvVerif.Generated.VcfChoose
import CnvVerif.Model.Call
import CnvVerif.Driver.Call
import CnvVerif.Model.CallCmd
import CnvVerif.Driver.CallCmd
import CnvVerif.Model.CallCmdCenterExt5c
import CnvVerif.Lemmas.CallCmdCenterExt5c
import CnvVerif.Driver.CallCmdCenterExt5c
import CnvVerif.Model.CallExt5
import CnvVerif.Model.CallExt5Wrap
import CnvVerif.Driver.CallExt5
import CnvVerif.Model.SegFilter
import CnvVerif.Driver.SegFilter
import CnvVerif.Model.SegFilterExt
import CnvVerif.Driver.SegFilterExt
import CnvVerif.Model.SegFilterExt5Vocab
import CnvVerif.Model.SegFilterExt5
import CnvVerif.Generated.ExprsSquash
import CnvVerif.Driver.SegFilterExt5
import CnvVerif.Model.Tile
import CnvVerif.Driver.Tile
import CnvVerif.Model.TileExt
import CnvVerif.Model.TileFallback
import CnvVerif.Model.Center
import CnvVerif.Driver.Center
import CnvVerif.Model.SexExt
import CnvVerif.Driver.SexExt
import CnvVerif.Model.SexExt5
import CnvVerif.Model.SexExt5Py
import CnvVerif.Driver.SexExt5
import CnvVerif.Model.Fix
import CnvVerif.Driver.Fix
import CnvVerif.Model.FixExt5
import CnvVerif.Driver.FixExt5
import CnvVerif.Generated.AccessConsts
import CnvVerif.Generated.AccessCliConsts
import CnvVerif.Model.Access
import CnvVerif.Model.AccessCli
import CnvVerif.Driver.Access
import CnvVerif.Driver.AccessExt5
import CnvVerif.Model.PyPrims
import CnvVerif.Generated.ExprsAccess
import CnvVerif.Generated.AccessProg
import CnvVerif.Model.AccessExt5
import CnvVerif.Model.Genes
import CnvVerif.Driver.Genes
import CnvVerif.Model.PyDictExt5
import CnvVerif.Model.GeneExt
import CnvVerif.Model.SquashExt5
import CnvVerif.Generated.ExprsSquashGenes
import CnvVerif.Generated.ExprsSquashLoop
import CnvVerif.Driver.GeneExt
import CnvVerif.Lemmas.GeneMap
import CnvVerif.Generated.FormatConsts
import CnvVerif.Model.Formats
import CnvVerif.Driver.Formats
import CnvVerif.Model.PyStr
import CnvVerif.Generated.ExprsChromsort
import CnvVerif.Model.FormatsExt
import CnvVerif.Driver.FormatsExt
import CnvVerif.Model.FormatsExt5Label
import CnvVerif.Generated.RegexLabel
import CnvVerif.Generated.RegexSniff
import CnvVerif.Lemmas.FormatsExt5Label
import CnvVerif.Driver.FormatsExt5Label
import CnvVerif.Driver.FormatsExt5cSniff
import CnvVerif.Generated.ExportConsts
import CnvVerif.Model.Export
import CnvVerif.Driver.Export
import CnvVerif.Model.PyRow
import CnvVerif.Generated.ExprsExport
import CnvVerif.Model.ExportExt
import CnvVerif.Driver.ExportExt
import CnvVerif.Generated.ExprsExportCi
import CnvVerif.Generated.ExprsExportSeg
import CnvVerif.Model.ExportCiExt5
import CnvVerif.Driver.ExportCiExt5
import CnvVerif.Model.Descriptives
import CnvVerif.Model.Reference
import CnvVerif.Model.ReferenceExt
import CnvVerif.Generated.RefConsts
import CnvVerif.Generated.RefClusterConsts
import CnvVerif.Driver.Reference
import CnvVerif.Model.ReferenceExt5Cluster
import CnvVerif.Driver.ReferenceExt5
import CnvVerif.Generated.CoverageConsts
import CnvVerif.Model.Coverage
import CnvVerif.Driver.Coverage
import CnvVerif.Generated.CoverageExt
import CnvVerif.Model.CoverageSched
import CnvVerif.Driver.CoverageExt
import CnvVerif.Generated.ExprsCovCols
import CnvVerif.Model.CoverageExt5Cols
import CnvVerif.Lemmas.CoverageExt5Cols
import CnvVerif.Lemmas.SrcCovCols
import CnvVerif.Driver.CoverageExt5Cols
import CnvVerif.Generated.ExprsCovGlue
import CnvVerif.Model.CoverageExt5Glue
import CnvVerif.Driver.CoverageExt5Glue
import CnvVerif.Generated.EffectsConsts
import CnvVerif.Model.Effects
import CnvVerif.Driver.Effects
import CnvVerif.Generated.EffectsRng
import CnvVerif.Generated.EffectsAlias
import CnvVerif.Model.Alias
import CnvVerif.Driver.EffectsExt
import CnvVerif.Model.WritersExt5
import CnvVerif.Generated.EffectsWriters
import CnvVerif.Driver.EffectsWriters
import CnvVerif.Generated.BinsConsts
import CnvVerif.Model.Bins
import CnvVerif.Driver.Bins
import CnvVerif.Model.Vcf
import CnvVerif.Driver.Vcf
import CnvVerif.Generated.VcfConsts
import CnvVerif.Model.VcfExt
import CnvVerif.Model.VcfPairs
import CnvVerif.Driver.VcfExt
import CnvVerif.Generated.DescConsts
import CnvVerif.Model.Smoothing
import CnvVerif.Model.NpVec
import CnvVerif.Driver.Descriptives
import CnvVerif.Generated.ExprsDescLoop
import CnvVerif.Model.DescLoopExt5
import CnvVerif.Driver.DescLoopExt5
import CnvVerif.Model.PadExt5
import CnvVerif.Generated.ExprsPad
import CnvVerif.Generated.HaarConsts
import CnvVerif.Model.Haar
import CnvVerif.Driver.Haar
import CnvVerif.Generated.ExprsHaar
import CnvVerif.Generated.HmmConsts
import CnvVerif.Model.HaarExt
import CnvVerif.Model.HaarExt5Fdr
import CnvVerif.Driver.HaarExt5Fdr
import CnvVerif.Model.HaarExt5Hmm
import CnvVerif.Driver.HaarExt5Hmm
import CnvVerif.Driver.HaarExt
import CnvVerif.Generated.StatsConsts
import CnvVerif.Model.Stats
import CnvVerif.Driver.Stats
import CnvVerif.Model.StatsGlue
import CnvVerif.Driver.StatsGlue
import CnvVerif.Model.StatsExt5
import CnvVerif.Driver.StatsExt5
import CnvVerif.Model.StatsSmallExt5c
import CnvVerif.Driver.StatsSmallExt5c
import CnvVerif.Model.RangesExt
import CnvVerif.Driver.RangesExt
import CnvVerif.Model.RangesExt5
import CnvVerif.Driver.RangesExt5
import CnvVerif.Driver.RangesDualExt5c
import CnvVerif.Model.RangesColExt5c
import CnvVerif.Driver.RangesColExt5c
import CnvVerif.Generated.ExprsRanges
import CnvVerif.Generated.ExprsOutlier
import CnvVerif.Model.TileOutlierExt5
import CnvVerif.Driver.TileOutlierExt5
import CnvVerif.Model.TileBafExt5b
import CnvVerif.Driver.TileBafExt5b
import CnvVerif.Generated.ExprsSegGather
import CnvVerif.Model.TileGatherExt5
import CnvVerif.Model.BinsExt5Prims
import CnvVerif.Generated.ExprsShorten
import CnvVerif.Generated.ExprsGuess
import CnvVerif.Generated.ExprsAccessNone
import CnvVerif.Model.AccessNoneExt5
import CnvVerif.Driver.AccessNoneExt5
import CnvVerif.Model.SmoothIterExt5b
import CnvVerif.Lemmas.SmoothIterExt5b
import CnvVerif.Driver.SmoothIterExt5b
import CnvVerif.Model.SmoothIterPrimExt5b
import CnvVerif.Generated.ExprsCwIter
import CnvVerif.Generated.ExprsWmad
